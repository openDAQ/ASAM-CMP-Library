/-
  Helper lemmas for Props/C08S.lean §4: the clauses of `P_C08` plus "no empty frame" determine the frame layout
  (message type and (flag, length) list of every frame) uniquely.  Pure wire-level reasoning about `SFrame` lists.
-/
import AsamCmp.Tile
namespace AsamCmp.C08S
open AsamCmp

/-- the (flag, length) list of a frame -/
def K (f : SFrame) : List (Nat × Nat) := f.msgs.map fun m => (m.seg, m.body.length)

/-- the layout of a frame: announced message type and (flag, length) of its messages -/
def frameKey (f : SFrame) : Nat × List (Nat × Nat) := (f.mt, K f)

/-- `SFrame.used` from the (flag, length) list -/
def szSum (l : List (Nat × Nat)) : Nat := (l.map fun x => 16 + x.2).sum

theorem used_K (f : SFrame) : f.used = szSum (K f) := by
  simp only [SFrame.used, K, szSum, List.map_map]
  rfl

theorem szSum_append (a b : List (Nat × Nat)) : szSum (a ++ b) = szSum a + szSum b := by
  simp [szSum]

/-- the frame-local clauses -/
structure FOk (cap : Nat) (f : SFrame) : Prop where
  ne : K f ≠ []
  alone : (∀ x ∈ K f, x.1 = 0) ∨ (K f).length = 1
  used : f.used ≤ cap

/-- the expected-message-type sequence -/
def mtsOf (fs : List SFrame) : List Nat := fs.flatMap fun f => (K f).map fun _ => f.mt

theorem greedy_head (cap : Nat) (f g : SFrame) (r : List SFrame) (h : greedyOk cap (f :: g :: r) = true) :
    (∀ x xs, K g = x :: xs → x.1 = 0 → f.mt = g.mt → (∀ z ∈ K f, z.1 = 0) → cap < f.used + (16 + x.2)) ∧
    greedyOk cap (g :: r) = true := by
  unfold greedyOk at h
  simp only [Bool.and_eq_true] at h
  refine ⟨?_, h.2⟩
  intro x xs hx hx0 hmt hall
  have h1 := h.1
  cases hg : g.msgs with
  | nil => simp [K, hg] at hx
  | cons y ys =>
    simp only [K, hg, List.map_cons, List.cons.injEq] at hx
    rw [hg] at h1
    simp only [Bool.or_eq_true, Bool.not_eq_true', SMsg.size] at h1
    rcases h1 with h1 | h1
    · exfalso
      have hy : y.seg = 0 := by rw [← hx.1] at hx0; exact hx0
      have hall' : f.msgs.all (fun x => x.seg == 0) = true := by
        rw [List.all_eq_true]
        intro m hm
        have := hall (m.seg, m.body.length) (by
          simp only [K, List.mem_map]
          exact ⟨m, hm, rfl⟩)
        simpa using this
      simp [hy, hmt, hall'] at h1
    · rw [← hx.1]
      simpa using h1

theorem mtsOf_cons (f : SFrame) (r : List SFrame) : mtsOf (f :: r) = (K f).map (fun _ => f.mt) ++ mtsOf r := by
  simp [mtsOf]

theorem greedyOk_tail (cap : Nat) (f : SFrame) (r : List SFrame) (h : greedyOk cap (f :: r) = true) :
    greedyOk cap r = true := by
  cases r with
  | nil => rfl
  | cons g r2 => exact (greedy_head cap f g r2 h).2

/-- two constant lists that agree, the first not empty, repeat the same value -/
theorem const_eq_of_map {α β : Type} {a b : Nat} {l : List α} {l' : List β} (hne : l ≠ [])
    (h : l.map (fun _ => a) = l'.map (fun _ => b)) : a = b := by
  cases l with
  | nil => exact absurd rfl hne
  | cons x xs =>
    cases l' with
    | nil => simp at h
    | cons y ys => exact (List.cons.inj h).1

/-- the first frame of one layout cannot be a strict prefix of the first frame of another -/
theorem not_strict_prefix (cap : Nat) (f f' : SFrame) (r r' : List SFrame)
    (hf : FOk cap f) (hf' : FOk cap f') (hr : ∀ g ∈ r, FOk cap g) (hg : greedyOk cap (f :: r) = true)
    (x : Nat × Nat) (t : List (Nat × Nat))
    (h1 : K f' = K f ++ x :: t) (h2 : r.flatMap K = (x :: t) ++ r'.flatMap K)
    (hm : mtsOf (f :: r) = mtsOf (f' :: r')) : False := by
  -- the frame behind `f`
  cases r with
  | nil => simp at h2
  | cons g r2 =>
    have hgk := (hr g (by simp)).ne
    cases hkg : K g with
    | nil => exact hgk hkg
    | cons y ys =>
      simp only [List.flatMap_cons, hkg, List.cons_append, List.cons.injEq] at h2
      obtain ⟨hy, _⟩ := h2
      subst hy
      -- `f'` holds at least two messages: all unsegmented
      have hlen : (K f').length ≠ 1 := by
        have : (K f).length ≠ 0 := by
          intro h0; exact hf.ne (List.eq_nil_of_length_eq_zero h0)
        rw [h1, List.length_append, List.length_cons]
        omega
      have hall' : ∀ z ∈ K f', z.1 = 0 := by
        rcases hf'.alone with h | h
        · exact h
        · exact absurd h hlen
      have hallf : ∀ z ∈ K f, z.1 = 0 := fun z hz => hall' z (by rw [h1]; simp [hz])
      have hy0 : y.1 = 0 := hall' y (by rw [h1]; simp)
      -- message types
      rw [mtsOf_cons, mtsOf_cons, mtsOf_cons, hkg, h1] at hm
      simp only [List.map_append, List.map_cons, List.append_assoc, List.cons_append] at hm
      obtain ⟨hm1, hm2⟩ := List.append_inj hm (by simp)
      simp only [List.cons.injEq] at hm2
      have hmt' : g.mt = f'.mt := hm2.1
      have hmt : f.mt = f'.mt := const_eq_of_map hf.ne hm1
      have := (greedy_head cap f g r2 hg).1 y ys hkg hy0 (hmt.trans hmt'.symm) hallf
      have hu' := hf'.used
      rw [used_K, h1, szSum_append] at hu'
      rw [used_K] at this
      have : szSum (y :: t) = 16 + y.2 + szSum t := by simp [szSum]
      omega

theorem unique_aux (cap : Nat) : ∀ (fs fs' : List SFrame),
    (∀ f ∈ fs, FOk cap f) → (∀ f ∈ fs', FOk cap f) →
    greedyOk cap fs = true → greedyOk cap fs' = true →
    fs.flatMap K = fs'.flatMap K → mtsOf fs = mtsOf fs' →
    fs.map frameKey = fs'.map frameKey := by
  intro fs
  induction fs with
  | nil =>
    intro fs' _ hok' _ _ hk _
    cases fs' with
    | nil => rfl
    | cons f' r' =>
      exfalso
      have := (hok' f' (by simp)).ne
      simp only [List.flatMap_nil, List.flatMap_cons] at hk
      have h := (List.append_eq_nil_iff.mp hk.symm).1
      exact this h
  | cons f r ih =>
    intro fs' hok hok' hg hg' hk hm
    have hf := hok f (by simp)
    cases fs' with
    | nil =>
      exfalso
      simp only [List.flatMap_nil, List.flatMap_cons] at hk
      exact hf.ne (List.append_eq_nil_iff.mp hk).1
    | cons f' r' =>
      have hf' := hok' f' (by simp)
      have hr : ∀ g ∈ r, FOk cap g := fun g hg => hok g (by simp [hg])
      have hr' : ∀ g ∈ r', FOk cap g := fun g hg => hok' g (by simp [hg])
      simp only [List.flatMap_cons] at hk
      -- the first frames hold the same messages
      have hK : K f = K f' ∧ r.flatMap K = r'.flatMap K := by
        rcases List.append_eq_append_iff.mp hk with ⟨t, h1, h2⟩ | ⟨t, h1, h2⟩
        · cases t with
          | nil => simp at h1 h2; exact ⟨h1.symm, h2⟩
          | cons x t => exact absurd (not_strict_prefix cap f f' r r' hf hf' hr hg x t h1 h2 hm) id
        · cases t with
          | nil => simp at h1 h2; exact ⟨h1, h2.symm⟩
          | cons x t => exact absurd (not_strict_prefix cap f' f r' r hf' hf hr' hg' x t h1 h2 hm.symm) id
      rw [mtsOf_cons, mtsOf_cons, hK.1] at hm
      obtain ⟨hm1, hm2⟩ := List.append_inj hm (by simp)
      have hmt : f.mt = f'.mt := const_eq_of_map hf'.ne hm1
      simp only [List.map_cons, List.cons.injEq]
      exact ⟨by simp [frameKey, hmt, hK.1],
        ih r' hr hr' (greedyOk_tail cap f r hg) (greedyOk_tail cap f' r' hg') hK.2 hm2⟩

end AsamCmp.C08S
