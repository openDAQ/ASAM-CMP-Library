/-
  The symbolic word operations of `symStep` (Src/BitProg.lean) compute what the concrete operations of `step` compute.
-/
import AsamCmp.Lemmas.BitProgBits
namespace AsamCmp.Src.Bit
open AsamCmp AsamCmp.Src

/-! ### `mapOpt` -/

theorem mapOpt_getElem? {α β : Type} (g : α → Option β) {l : List α} {r : List β} (h : mapOpt g l = some r) (j : Nat) :
    r[j]? = l[j]?.bind g := by
  induction l generalizing r j with
  | nil =>
    simp only [mapOpt, Option.some.injEq] at h
    subst h
    simp
  | cons x xs ih =>
    unfold mapOpt at h
    split at h
    · next y ys hy hys =>
      simp only [Option.some.injEq] at h
      subst h
      cases j with
      | zero => simp [hy]
      | succ j => simpa using ih hys j
    · cases h

theorem mapOpt_length {α β : Type} (g : α → Option β) {l : List α} {r : List β} (h : mapOpt g l = some r) :
    r.length = l.length := by
  induction l generalizing r with
  | nil =>
    simp only [mapOpt, Option.some.injEq] at h
    subst h
    rfl
  | cons x xs ih =>
    unfold mapOpt at h
    split at h
    · next y ys hy hys =>
      simp only [Option.some.injEq] at h
      subst h
      simp [ih hys]
    · cases h

section
variable (obj : Bytes) (args : List Nat)

/-! ### bitwise binary operations -/

theorem SBit.and_eval {x y z : SBit} (h : SBit.and x y = some z) :
    z.eval obj args = (x.eval obj args && y.eval obj args) := by
  cases x <;> cases y <;> simp only [SBit.and, Option.some.injEq] at h <;>
    first
      | (subst h; simp [SBit.eval])
      | (split at h
         · next e => simp only [Option.some.injEq] at h; subst h; rw [← e]; simp
         · cases h)

theorem SBit.or_eval {x y z : SBit} (h : SBit.or x y = some z) :
    z.eval obj args = (x.eval obj args || y.eval obj args) := by
  cases x <;> cases y <;> simp only [SBit.or, Option.some.injEq] at h <;>
    first
      | (subst h; simp [SBit.eval])
      | (split at h
         · next e => simp only [Option.some.injEq] at h; subst h; rw [← e]; simp
         · cases h)

theorem SBit.xor_eval {x y z : SBit} (h : SBit.xor x y = some z) :
    z.eval obj args = (x.eval obj args ^^ y.eval obj args) := by
  cases x <;> cases y <;> simp only [SBit.xor, Option.some.injEq] at h <;>
    first
      | (subst h; simp [SBit.eval])
      | cases h
      | (split at h
         · next e => simp only [Option.some.injEq] at h; subst h; rw [← e]; simp [SBit.eval]
         · cases h)

theorem SBit.not_eval {x z : SBit} (h : SBit.not x = some z) : z.eval obj args = !x.eval obj args := by
  cases x <;> simp only [SBit.not, Option.some.injEq] at h <;>
    first
      | (subst h; simp [SBit.eval])
      | cases h

theorem zipBits_bit {f : SBit → SBit → Option SBit} {g : Bool → Bool → Bool}
    (hf : ∀ x y z, f x y = some z → z.eval obj args = g (x.eval obj args) (y.eval obj args))
    (hg : g false false = false) {a b r : SWord} (h : zipBits f a b = some r) (j : Nat) :
    (bit r j).eval obj args = g ((bit a j).eval obj args) ((bit b j).eval obj args) := by
  unfold zipBits at h
  simp only at h
  have hl := mapOpt_length _ h
  have hj := mapOpt_getElem? _ h j
  simp only [List.length_zip, fit_length, Nat.min_self] at hl
  by_cases hlt : j < max a.length b.length
  · have h1 : ((fit (max a.length b.length) a).zip (fit (max a.length b.length) b))[j]? =
        some (bit (fit (max a.length b.length) a) j, bit (fit (max a.length b.length) b) j) := by
      rw [List.getElem?_eq_getElem (by simp; omega), List.getElem_zip,
        bit_eq_getElem _ _ (by simp; omega), bit_eq_getElem _ _ (by simp; omega)]
    rw [h1, List.getElem?_eq_getElem (by omega)] at hj
    simp only [Option.bind_some] at hj
    rw [bit_fit, bit_fit, if_pos hlt, if_pos hlt] at hj
    rw [bit_eq_getElem r j (by omega)]
    exact hf _ _ _ hj.symm
  · rw [bit_of_le r j (by omega), bit_of_le a j (by omega), bit_of_le b j (by omega)]
    simp [hg]

/-- a bitwise operation `op` on numbers, computed bit by bit by `f` on symbolic words -/
theorem zipBits_eval {f : SBit → SBit → Option SBit} {g : Bool → Bool → Bool} {op : Nat → Nat → Nat}
    (hf : ∀ x y z, f x y = some z → z.eval obj args = g (x.eval obj args) (y.eval obj args)) (hg : g false false = false)
    (hop : ∀ m n j, (op m n).testBit j = g (m.testBit j) (n.testBit j)) {a b r : SWord} (h : zipBits f a b = some r) :
    op (SWord.eval obj args a) (SWord.eval obj args b) = SWord.eval obj args r :=
  eq_eval _ _ fun j => by rw [hop, testBit_eval, testBit_eval, zipBits_bit obj args hf hg h j]

/-! ### complement -/

theorem bnot_sound {n : Nat} {w r : SWord} (h : mapOpt SBit.not (fit n w) = some r)
    (hz : allZero (w.drop n) = true) : bnot n (SWord.eval obj args w) = SWord.eval obj args r := by
  have hlt := allZero_drop_lt obj args hz
  have hl := mapOpt_length _ h
  rw [fit_length] at hl
  apply eq_eval
  intro j
  unfold bnot
  have e : 2 ^ n - 1 - SWord.eval obj args w = 2 ^ n - (SWord.eval obj args w + 1) := by omega
  rw [e, Nat.testBit_two_pow_sub_succ hlt, testBit_eval]
  by_cases hj : j < n
  · have hj' := mapOpt_getElem? _ h j
    rw [List.getElem?_eq_getElem (by omega), List.getElem?_eq_getElem (by simp; omega)] at hj'
    simp only [Option.bind_some] at hj'
    rw [← bit_eq_getElem r j (by omega), ← bit_eq_getElem _ j (by simp; omega), bit_fit, if_pos hj] at hj'
    rw [SBit.not_eval obj args hj'.symm]
    simp [hj]
  · rw [bit_of_le r j (by omega)]
    simp [hj]

/-! ### sign extension and shifts -/

theorem sext_sound {fb tb : Nat} {w : SWord} (hz : allZero (w.drop (fb - 1)) = true) :
    sext fb tb (SWord.eval obj args w) = SWord.eval obj args w := by
  unfold sext
  rw [if_pos (allZero_drop_lt obj args hz)]

theorem ushl_sound {bits n : Nat} (w : SWord) (h : n < bits) :
    ushl bits (SWord.eval obj args w) n =
      some (SWord.eval obj args ((List.replicate n SBit.zero ++ w).take bits)) := by
  unfold ushl
  rw [if_pos h, eval_take, eval_shl]

theorem sshl_sound {bits n : Nat} (w : SWord) (h : n < bits) (hz : allZero (w.drop (bits - 1 - n)) = true) :
    sshl bits (SWord.eval obj args w) n = some (SWord.eval obj args (List.replicate n SBit.zero ++ w)) := by
  have hlt := allZero_drop_lt obj args hz
  unfold sshl
  have h1 : SWord.eval obj args w < 2 ^ (bits - 1) :=
    Nat.lt_of_lt_of_le hlt (Nat.pow_le_pow_right (by decide) (by omega))
  have h2 : SWord.eval obj args w <<< n < 2 ^ (bits - 1) := by
    rw [Nat.shiftLeft_eq, show bits - 1 = bits - 1 - n + n by omega, Nat.pow_add]
    exact Nat.mul_lt_mul_of_pos_right hlt (Nat.two_pow_pos n)
  rw [if_pos ⟨h, h1, h2⟩, eval_shl]

theorem ushr_sound {bits n : Nat} (w : SWord) (h : n < bits) :
    ushr bits (SWord.eval obj args w) n = some (SWord.eval obj args (w.drop n)) := by
  unfold ushr
  rw [if_pos h, eval_drop]

theorem sshr_sound {bits n : Nat} (w : SWord) (h : n < bits) (hz : allZero (w.drop (bits - 1)) = true) :
    sshr bits (SWord.eval obj args w) n = some (SWord.eval obj args (w.drop n)) := by
  unfold sshr
  rw [if_pos ⟨h, allZero_drop_lt obj args hz⟩, eval_drop]

end

end AsamCmp.Src.Bit
