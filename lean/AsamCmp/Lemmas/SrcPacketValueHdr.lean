/-
  Packet value mode, part 4: `Packet::getRawCmpHeader` / `getRawMessageHeader`, translated WITH their calls of the getters that go
  through the owned payload (`Packet_getRawCmpHeader_pv` / `Packet_getRawMessageHeader_pv`), reduced to the parameterised
  translations (`…_obj`, opaque getter values as arguments) that `Props/SrcPacket.lean` is about.
-/
import AsamCmp.Lemmas.SrcPacketValueEq
import AsamCmp.Props.SrcPacket
set_option linter.unusedSimpArgs false
set_option linter.unusedVariables false
namespace AsamCmp.SrcPv
open AsamCmp AsamCmp.Src AsamCmp.SrcGen AsamCmp.SrcTie

theorem pktReg_of_fits (p : Packet) (h : p.Fits) : SrcEnc.PktReg p := by
  obtain ⟨h1, h2, h3, h4, h5, h6, h7, h8, _, _⟩ := h
  exact ⟨h1, h2, h3, h4, h5, h6, h7, h8⟩

/-- the getter-calling translation is the parameterised one at the values of the translated getters -/
theorem rawCmp_bridge (p : Packet) (pl : Payload) (hp : p.payload = some pl) :
    Packet_getRawCmpHeader_pv (repr p) =
      (Packet_getRawCmpHeader_obj (SrcEnc.pktSt p) p.mt).map (fun r => (repr p, r.2)) := by
  unfold Packet_getRawCmpHeader_pv Packet_getRawCmpHeader_obj
  simp only [pk_getVersion, pk_getDeviceId, pk_getStreamId, pk_getSeq, pk_getMt p pl hp, Packet_getVersion_obj,
    Packet_getDeviceId_obj, Packet_getStreamId_obj, Packet_getSequenceCounter_obj, bind, some_bind, pure,
    Option.map_bind, Option.map_some, Function.comp_def]
  simp only [SrcEnc.pktSt, repr]

theorem rawMsg_bridge (p : Packet) (pl : Payload) (hp : p.payload = some pl) :
    Packet_getRawMessageHeader_pv (repr p) =
      (Packet_getRawMessageHeader_obj (SrcEnc.pktSt p) p.mt p.rawType p.payloadLength).map (fun r => (repr p, r.2)) := by
  unfold Packet_getRawMessageHeader_pv Packet_getRawMessageHeader_obj
  simp only [pk_getTs, pk_getIf, pk_getVendor, pk_getFlags, pk_getMt p pl hp, pk_getPt p pl hp, pk_getLen,
    Packet_getTimestamp_obj, Packet_getInterfaceId_obj, Packet_getVendorId_obj, Packet_getCommonFlags_obj, bind,
    some_bind, pure, Option.map_bind, Option.map_some, Function.comp_def, apply_ite (Option.map _)]
  simp only [SrcEnc.pktSt, repr]

theorem rawCmp_pv (p : Packet) (pl : Payload) (hp : p.payload = some pl) (h : p.Fits) :
    Packet_getRawCmpHeader_pv (repr p) = some (repr p, frameHeader p.version p.deviceId p.mt p.streamId p.seq) := by
  rw [rawCmp_bridge p pl hp, SrcEnc.rawCmpHeader_src p (pktReg_of_fits p h)]; rfl

theorem rawMsg_pv (p : Packet) (pl : Payload) (hp : p.payload = some pl) (h : p.Fits) :
    Packet_getRawMessageHeader_pv (repr p) =
      some (repr p, msgHeader p (p.flags &&& 0x0C) p.payloadLength) := by
  rw [rawMsg_bridge p pl hp, SrcEnc.rawMsgHeader_src p (pktReg_of_fits p h)]; rfl

theorem bind_none_right {α β : Type} (x : Option α) : x.bind (fun _ => (none : Option β)) = none := by
  cases x <;> rfl

section
-- normalise the head of each `bind` only: once `getMessageType()` is `none`, what follows it is never looked at
attribute [local congr] SrcTie.bind_head_congr SrcTie.bind_head_congr'

/-- without payload both serialisers are undefined (they call `getMessageType()`) -/
theorem raw_null (p : Packet) (hp : p.payload = none) :
    Packet_getRawCmpHeader_pv (repr p) = none ∧ Packet_getRawMessageHeader_pv (repr p) = none := by
  have hm := (pk_null p hp).1
  constructor
  · unfold Packet_getRawCmpHeader_pv
    simp only [pk_getVersion, pk_getDeviceId, hm, bind, ↓some_bind, ↓none_bind, pure, bind_none_right]
  · unfold Packet_getRawMessageHeader_pv
    simp only [pk_getTs, hm, bind, ↓some_bind, ↓none_bind, pure, bind_none_right]
end

end AsamCmp.SrcPv
