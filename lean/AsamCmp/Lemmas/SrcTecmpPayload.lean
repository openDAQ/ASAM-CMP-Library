/-
  Source-level TECMP path: the payload parsers of `TECMP::Decoder` (`GetCanPayload`, `GetLinPayload`,
  `GetCaptureModulePayload`, `GetDataPayload`, `GetInterfacePayload` with its loop, `HandlePayload`) and the `TECMP::Payload`
  constructor they run, on the payload bytes `p` sitting at address `pre.length` of any memory `pre ++ p ++ post`.
-/
import AsamCmp.Lemmas.SrcTecmpPrim
set_option linter.unusedSimpArgs false
namespace AsamCmp.SrcTec
open AsamCmp AsamCmp.Src AsamCmp.SrcGen AsamCmp.SrcTie

/-! ### `TECMP::PayloadType` values -/

theorem ptype_ne_src (a b : Nat) :
    TECMP_operator_ne_obj a b = some (!(a % 4294967296 == b % 4294967296)) := by
  simp only [TECMP_operator_ne_obj, TECMP_operator_eq_rec_rec_obj, TECMP_PayloadType_getType, rd_leEnc4, bind, pure, some_bind]

theorem ptype_eq_src (a b : Nat) :
    TECMP_operator_eq_rec_rec_obj a b = some (a % 4294967296 == b % 4294967296) := by
  simp only [TECMP_operator_eq_rec_rec_obj, TECMP_PayloadType_getType, rd_leEnc4, bind, pure, some_bind]

theorem payload_isValid_src (p : Bytes) (ty : Nat) :
    TECMP_Payload_isValid_obj ⟨p, ty⟩ = some (ty % 4294967296 != 65535) := by
  simp only [TECMP_Payload_isValid_obj, TECMP_PayloadType_isValid, rd_leEnc4, bind, pure, some_bind]

/-- message type of a payload object: bits 8..15 of its type code -/
theorem payload_mt_src (p : Bytes) (ty : Nat) (h : ty < 65536) :
    TECMP_Payload_getMessageType_obj ⟨p, ty⟩ = some (ty / 256) := by
  have e : ty % 4294967296 = ty := Nat.mod_eq_of_lt (by omega)
  have hm : ty &&& 65280 = (ty >>> 8 % 256) <<< 8 := and_mask1 ty
  simp only [TECMP_Payload_getMessageType_obj, TECMP_PayloadType_getMessageType, rd_leEnc4, bind, pure, some_bind, e, hm]
  rw [ushr_byte 32 (ty >>> 8) 8 8 (by omega) (by omega), some_bind]
  simp only [Nat.sub_self, Nat.shiftLeft_zero, Nat.shiftRight_eq_div_pow, Nat.reducePow]
  congr 1; omega

theorem payload_getType_src (p : Bytes) (ty : Nat) : TECMP_Payload_getType_obj ⟨p, ty⟩ = some ty := rfl

/-! ### the constructor `TECMP::Payload(type, data, size)` -/

theorem payload_ctor_src (pre p post : Bytes) (ty : Nat) (hty : ty % 4294967296 ≠ 65535) :
    TECMP_Payload_ctor_rec_ptr_u64_obj (pre ++ p ++ post) ty pre.length p.length = some ⟨p, ty⟩ := by
  have hne : (ty % 4294967296 == 65535 % 4294967296) = false := by simpa using hty
  simp only [TECMP_Payload_ctor_rec_ptr_u64_obj, TECMP_PayloadType_ctor_u32_obj, ptype_ne_src, bind, pure, some_bind, hne,
    Bool.not_false]
  by_cases h0 : p.length = 0
  · have hp : p = [] := List.length_eq_zero_iff.mp h0
    subst hp
    simp [zeros]
  · have hb : (p.length != 0) = true := by simpa using h0
    simp only [hb, if_true, some_bind]
    rw [wrBytes_eq _ _ _ _ (by simp only [List.append_assoc, List.drop_left, List.length_append]; omega)
      (by rw [zeros_length]; omega), some_bind, List.append_assoc, List.drop_left, List.take_left,
      writeAt_to_end _ _ _ (by rw [zeros_length]; omega)]
    simp

/-! ### the parsers of one payload -/

/-- what a parser with header size `k`, length byte at `i` and type code `ty` returns -/
def parseR (k i ty : Nat) (p : Bytes) : Option TECMP_Payload_St :=
  if p.length < k ∨ p.length - k < byteAt p i then none else some ⟨p, ty⟩

theorem getCanPayload_src (pre p post : Bytes) (hmem : (pre ++ p ++ post).length < 2 ^ 64) :
    TECMP_Decoder_GetCanPayload_obj (pre ++ p ++ post) pre.length p.length = some (parseR 5 4 770 p) := by
  have hb := mid_length_lt pre p post hmem
  unfold TECMP_Decoder_GetCanPayload_obj parseR
  by_cases h5 : p.length < 5
  · simp only [h5, decide_true, if_true, pure, bind, some_bind, true_or]
  · have hrd := rd_mid pre p post 4 1 (by omega)
    simp only [h5, decide_false, Bool.false_eq_true, if_false, nonneg_small 4 (by omega), bind, pure, some_bind, hrd,
      leAt_one, usub_eq p.length 5 (by omega) hb, false_or]
    by_cases hd : p.length - 5 < byteAt p 4
    · simp only [hd, decide_true, if_true]
    · simp only [hd, decide_false, Bool.false_eq_true, if_false, TECMP_CanPayload_ctor_ptr_u64_obj,
        TECMP_PayloadType_ctor_u32_obj, bind, pure, some_bind, payload_ctor_src pre p post 770 (by decide),
        payload_isValid_src]
      rfl

theorem getLinPayload_src (pre p post : Bytes) (hmem : (pre ++ p ++ post).length < 2 ^ 64) :
    TECMP_Decoder_GetLinPayload_obj (pre ++ p ++ post) pre.length p.length = some (parseR 2 1 772 p) := by
  have hb := mid_length_lt pre p post hmem
  unfold TECMP_Decoder_GetLinPayload_obj parseR
  by_cases h2 : p.length < 2
  · simp only [h2, decide_true, if_true, pure, bind, some_bind, true_or]
  · have hrd := rd_mid pre p post 1 1 (by omega)
    simp only [h2, decide_false, Bool.false_eq_true, if_false, nonneg_small 1 (by omega), bind, pure, some_bind, hrd,
      leAt_one, usub_eq p.length 2 (by omega) hb, false_or]
    by_cases hd : p.length - 2 < byteAt p 1
    · simp only [hd, decide_true, if_true]
    · simp only [hd, decide_false, Bool.false_eq_true, if_false, TECMP_LinPayload_ctor_ptr_u64_obj,
        TECMP_PayloadType_ctor_u32_obj, bind, pure, some_bind, payload_ctor_src pre p post 772 (by decide),
        payload_isValid_src]
      rfl

theorem cm_vendorLen_src (p : Bytes) (n : Nat) (h : 6 ≤ p.length) :
    TECMP_CaptureModulePayload_getVendorDataLength p 0 n 0 = some (beAt p 4 2) := by
  unfold TECMP_CaptureModulePayload_getVendorDataLength TECMP_CaptureModulePayload_getHeader_v
    TECMP_CaptureModulePayload_Header_getVendorDataLength
  simp (disch := omega) only [rd_eq, swap16_leAt, bind, some_bind, pure, Nat.zero_add]

theorem if_vendorLen_src (p : Bytes) (n : Nat) (h : 6 ≤ p.length) :
    TECMP_InterfacePayload_getVendorDataLength p 0 n 0 = some (beAt p 4 2) := by
  unfold TECMP_InterfacePayload_getVendorDataLength TECMP_InterfacePayload_getHeader_v
    TECMP_InterfacePayload_Header_getVendorDataLength
  simp (disch := omega) only [rd_eq, swap16_leAt, bind, some_bind, pure, Nat.zero_add]

/-- what `GetCaptureModulePayload` returns: null unless the fields read later (bytes 8..17) are there AND the declared vendor
    data (u16 @4, starting behind the 12 generic bytes) lies inside the payload -/
def cmR (p : Bytes) : Option TECMP_Payload_St :=
  if p.length < 18 ∨ p.length - 12 < beAt p 4 2 then none else some ⟨p, 256⟩

theorem getCmPayload_src (pre p post : Bytes) (hmem : (pre ++ p ++ post).length < 2 ^ 64) :
    TECMP_Decoder_GetCaptureModulePayload_obj (pre ++ p ++ post) pre.length p.length = some (cmR p) := by
  have hb := mid_length_lt pre p post hmem
  unfold TECMP_Decoder_GetCaptureModulePayload_obj cmR
  by_cases h : p.length < 18
  · simp only [h, decide_true, if_true, pure, true_or]
  · simp only [h, decide_false, Bool.false_eq_true, if_false, TECMP_CaptureModulePayload_ctor_ptr_u64_obj,
      TECMP_PayloadType_ctor_u32_obj, bind, pure, some_bind, payload_ctor_src pre p post 256 (by decide),
      payload_isValid_src, cm_vendorLen_src p p.length (by omega), usub_eq p.length 12 (by omega) hb, false_or]
    by_cases hv : p.length - 12 < beAt p 4 2
    · simp only [hv, decide_true, if_true]
    · simp only [hv, decide_false, Bool.false_eq_true, if_false]
      rfl

/-! ### `GetDataPayload`: dispatch on the header's data type, then the re-check of message type and payload type -/

theorem hdr_dataType (H : Bytes) (hH : 28 ≤ H.length) : TECMP_CmpHeader_getDataType H 0 = some (beAt H 6 2) :=
  (tecmp_header_src H hH).2.2.2.1

theorem hdr_messageType (H : Bytes) (hH : 28 ≤ H.length) : TECMP_CmpHeader_getMessageType H 0 = some (byteAt H 5) :=
  (tecmp_header_src H hH).2.2.1

def dataR (H p : Bytes) : Option TECMP_Payload_St :=
  if beAt H 6 2 = 2 ∨ beAt H 6 2 = 3 then parseR 5 4 770 p else if beAt H 6 2 = 4 then parseR 2 1 772 p else none

theorem getDataPayload_src (pre p post H : Bytes) (hmem : (pre ++ p ++ post).length < 2 ^ 64) (hH : 28 ≤ H.length) :
    TECMP_Decoder_GetDataPayload_obj (pre ++ p ++ post) pre.length p.length H = some (dataR H p) := by
  unfold TECMP_Decoder_GetDataPayload_obj dataR
  simp only [hdr_dataType H hH, bind, pure, some_bind]
  by_cases hcan : beAt H 6 2 = 2 ∨ beAt H 6 2 = 3
  · have hc : (beAt H 6 2 == 2 || beAt H 6 2 == 3) = true := by simpa using hcan
    simp only [hc, hcan, if_true, getCanPayload_src pre p post hmem, some_bind, parseR]
    by_cases hp : p.length < 5 ∨ p.length - 5 < byteAt p 4
    · simp only [hp, if_true, Option.isSome_none, Bool.false_eq_true, if_false, some_bind]
    · simp only [hp, if_false, Option.isSome_some, if_true, some_bind, payload_mt_src p 770 (by omega),
        payload_getType_src, TECMP_PayloadType_ctor_u32_obj, ptype_eq_src, bind, pure]
      rfl
  · have hc : (beAt H 6 2 == 2 || beAt H 6 2 == 3) = false := by simpa using hcan
    simp only [hc, hcan, Bool.false_eq_true, if_false]
    by_cases hlin : beAt H 6 2 = 4
    · have hl : (beAt H 6 2 == 4) = true := by simpa using hlin
      simp only [hl, hlin, if_true, getLinPayload_src pre p post hmem, some_bind, parseR]
      by_cases hp : p.length < 2 ∨ p.length - 2 < byteAt p 1
      · simp only [hp, if_true, Option.isSome_none, Bool.false_eq_true, if_false, some_bind]
        rfl
      · simp only [hp, if_false, Option.isSome_some, if_true, some_bind, payload_mt_src p 772 (by omega),
          payload_getType_src, TECMP_PayloadType_ctor_u32_obj, ptype_eq_src, bind, pure]
        rfl
    · have hl : (beAt H 6 2 == 4) = false := by simpa using hlin
      simp only [hl, hlin, Bool.false_eq_true, if_false, ite_self]

/-! ### `GetInterfacePayload`: 12 generic bytes, then one payload object per complete entry of 12 + vendor-data-length bytes -/

/-- the object built for the entry at offset `off`: generic bytes, the entry's 12 counter bytes, the four vendor-data bytes of the
    default object (the entry's own vendor data is skipped, not copied) -/
def busObj (p : Bytes) (off : Nat) : TECMP_Payload_St := ⟨p.take 12 ++ slice p off 12 ++ zeros 4, 512⟩

/-- entries of `12 + v` bytes from offset `off` on -/
def busPl (p : Bytes) (v : Nat) : Nat → Nat → List (Option TECMP_Payload_St)
  | 0, _ => []
  | n + 1, off => if off + (12 + v) ≤ p.length then some (busObj p off) :: busPl p v n (off + (12 + v)) else []

theorem setGenericData_src (pre p post : Bytes) (h12 : 12 ≤ p.length) :
    TECMP_InterfacePayload_setGenericData (zeros 28) 0 28 0 ((pre ++ p ++ post).drop pre.length) = some (p.take 12 ++ zeros 16) := by
  have hx : ((pre ++ p ++ post).drop pre.length).take 12 = p.take 12 := by
    rw [List.append_assoc, List.drop_left, List.take_append_of_le_length h12]
  have hl : (p.take 12).length = 12 := by simp only [List.length_take]; omega
  unfold TECMP_InterfacePayload_setGenericData
  rw [wrBytes_eq _ _ _ _ (by simp only [List.append_assoc, List.drop_left, List.length_append]; omega)
    (by rw [zeros_length]; omega)]
  simp only [bind, pure, some_bind, hx]
  unfold writeAt
  rw [hl]
  simp [zeros]

theorem writeAt_gen (g w : Bytes) (hg : g.length = 12) (hw : w.length = 12) :
    writeAt (g ++ zeros 16) 12 w = g ++ w ++ zeros 4 := by
  have e : g ++ zeros 16 = g ++ zeros 12 ++ zeros 4 := by
    rw [List.append_assoc]; rfl
  have h24 : (g ++ zeros 12).length = 12 + w.length := by simp [zeros, hg, hw]
  unfold writeAt
  rw [List.take_left' hg]
  congr 1
  rw [e, List.drop_left' h24]

theorem setBusData_src (pre p post : Bytes) (off : Nat) (h12 : 12 ≤ p.length) (ho : off + 12 ≤ p.length) :
    TECMP_InterfacePayload_setBusData (p.take 12 ++ zeros 16) 0 (p.take 12 ++ zeros 16).length 0
      ((pre ++ p ++ post).drop (pre.length + off)) 12 = some (p.take 12 ++ slice p off 12 ++ zeros 4) := by
  have hx : ((pre ++ p ++ post).drop (pre.length + off)).take 12 = slice p off 12 := SrcTie.slice_mid pre p post off 12 ho
  have hl : (p.take 12).length = 12 := by simp only [List.length_take]; omega
  have hs : (slice p off 12).length = 12 := slice_length_of_le p off 12 ho
  unfold TECMP_InterfacePayload_setBusData
  simp only [nonneg_small 12 (by omega), bind, pure, some_bind, Nat.zero_add]
  rw [wrBytes_eq _ _ _ _ (by simp only [List.length_drop, List.length_append]; omega)
    (by simp only [List.length_append, hl, zeros_length]; omega)]
  simp only [some_bind, hx, writeAt_gen _ _ hl hs]

theorem bus_loop (pre p post H : Bytes) (v : Nat) (hmem : p.length + 12 + v < 2 ^ 64) (h12 : 12 ≤ p.length) :
    ∀ (n off : Nat) (acc : List (Option TECMP_Payload_St)) (fuel : Nat), n ≤ fuel → off ≤ p.length →
      p.length < off + (12 + v) * n →
      ∃ off', TECMP_Decoder_GetInterfacePayload_loop1 fuel (pre ++ p ++ post) pre.length p.length H acc
          ⟨p.take 12 ++ zeros 16, 512⟩ off (12 + v) = some (acc ++ busPl p v n off, off') := by
  intro n
  induction n with
  | zero => intro off acc fuel _ h1 h2; omega
  | succ n ih =>
    intro off acc fuel hf h1 h2
    obtain ⟨f, rfl⟩ : ∃ f, fuel = f + 1 := ⟨fuel - 1, by omega⟩
    rw [TECMP_Decoder_GetInterfacePayload_loop1]
    simp only [uadd_eq off (12 + v) (by omega), busPl]
    by_cases hc : off + (12 + v) ≤ p.length
    · rw [Nat.mul_succ] at h2
      obtain ⟨off', hoff⟩ := ih (off + (12 + v)) (acc ++ [some (busObj p off)]) f (by omega) hc (by omega)
      refine ⟨off', ?_⟩
      simp only [hc, decide_true, if_true, bind, pure, setBusData_src pre p post off h12 (by omega), some_bind]
      rw [show (⟨p.take 12 ++ slice p off 12 ++ zeros 4, 512⟩ : TECMP_Payload_St) = busObj p off from rfl, hoff,
        List.append_assoc]
      rfl
    · exact ⟨off, by simp only [hc, decide_false, Bool.false_eq_true, if_false, pure, List.append_nil]⟩

def busR (p : Bytes) : List (Option TECMP_Payload_St) :=
  if p.length < 12 then [] else busPl p (beAt p 4 2) (p.length / 12 + 1) 12

theorem beAt_gen (p z : Bytes) (h12 : 12 ≤ p.length) : beAt (p.take 12 ++ z) 4 2 = beAt p 4 2 := by
  unfold beAt slice
  rw [List.drop_append_of_le_length (by simp only [List.length_take]; omega),
    List.take_append_of_le_length (by simp only [List.length_drop, List.length_take]; omega),
    List.drop_take, List.take_take]
  congr 1

/-- `hmem`: the loop computes `busDataOffset + entrySize` in `size_t`; the sum stays below 2^64 exactly when the payload size plus
    one entry (12 + declared vendor data length) does -/
theorem getInterfacePayload_src (pre p post H : Bytes) (fuel : Nat) (hmem : p.length + 12 + beAt p 4 2 < 2 ^ 64)
    (hH : 28 ≤ H.length) (hmt : byteAt H 5 = 2) (hf : p.length / 12 + 1 ≤ fuel) :
    TECMP_Decoder_GetInterfacePayload_obj fuel (pre ++ p ++ post) pre.length p.length H = some (busR p) := by
  unfold TECMP_Decoder_GetInterfacePayload_obj busR
  simp only [hdr_messageType H hH, hmt, bind, pure, some_bind, bne_self_eq_false, Bool.false_eq_true, if_false]
  by_cases h : p.length < 12
  · simp only [h, decide_true, if_true]
  · have h12 : 12 ≤ p.length := by omega
    have hmul : 12 * (p.length / 12 + 1) ≤ (12 + beAt p 4 2) * (p.length / 12 + 1) := Nat.mul_le_mul_right _ (by omega)
    obtain ⟨off', hl⟩ := bus_loop pre p post H (beAt p 4 2) hmem h12 (p.length / 12 + 1) 12 [] fuel hf h12 (by omega)
    have hvl : TECMP_InterfacePayload_getVendorDataLength (p.take 12 ++ zeros 16) 0 (p.take 12 ++ zeros 16).length 0 =
        some (beAt p 4 2) := by
      rw [if_vendorLen_src _ _ (by simp only [List.length_append, List.length_take, zeros_length]; omega), beAt_gen p _ h12]
    simp only [h, decide_false, Bool.false_eq_true, if_false, TECMP_InterfacePayload_ctor_v_obj, TECMP_PayloadType_ctor_u32_obj,
      TECMP_Payload_ctor_rec_u64_obj, bind, pure, some_bind, zeros_length, setGenericData_src pre p post h12, hvl,
      uadd_eq 12 (beAt p 4 2) (by omega)]
    rw [hl]
    rfl

/-! ### `HandlePayload` -/

def handleR (H p : Bytes) : List (Option TECMP_Payload_St) :=
  if byteAt H 5 = 1 then (match cmR p with | none => [] | some x => [some x])
  else if byteAt H 5 = 3 then (match dataR H p with | none => [] | some x => [some x])
  else if byteAt H 5 = 2 then busR p
  else []

theorem dataR_cases (H p : Bytes) : dataR H p = none ∨ dataR H p = some ⟨p, 770⟩ ∨ dataR H p = some ⟨p, 772⟩ := by
  unfold dataR parseR
  by_cases hcan : beAt H 6 2 = 2 ∨ beAt H 6 2 = 3
  · rw [if_pos hcan]
    by_cases hp : p.length < 5 ∨ p.length - 5 < byteAt p 4
    · exact .inl (if_pos hp)
    · exact .inr (.inl (if_neg hp))
  · rw [if_neg hcan]
    by_cases hlin : beAt H 6 2 = 4
    · rw [if_pos hlin]
      by_cases hp : p.length < 2 ∨ p.length - 2 < byteAt p 1
      · exact .inl (if_pos hp)
      · exact .inr (.inr (if_neg hp))
    · exact .inl (if_neg hlin)

theorem cmR_cases (p : Bytes) : cmR p = none ∨ cmR p = some ⟨p, 256⟩ := by
  unfold cmR
  split <;> simp

theorem handlePayload_src (pre p post H : Bytes) (fuel : Nat) (hmem : (pre ++ p ++ post).length < 2 ^ 64)
    (hp12 : byteAt H 5 = 2 → p.length + 12 + beAt p 4 2 < 2 ^ 64) (hH : 28 ≤ H.length) (hf : p.length / 12 + 1 ≤ fuel) :
    TECMP_Decoder_HandlePayload_obj fuel (pre ++ p ++ post) pre.length p.length H = some (handleR H p) := by
  unfold TECMP_Decoder_HandlePayload_obj handleR
  simp only [hdr_messageType H hH, bind, pure, some_bind]
  by_cases h1 : byteAt H 5 = 1
  · simp only [h1, beq_self_eq_true, if_true, getCmPayload_src pre p post hmem, some_bind]
    rcases cmR_cases p with hd | hd
    · simp only [hd, Option.isSome_none, Bool.false_eq_true, if_false, some_bind]
    · simp only [hd, Option.isSome_some, if_true, some_bind, payload_mt_src p 256 (by omega), bind, pure]
      rfl
  · have e1 : (byteAt H 5 == 1) = false := by simpa using h1
    simp only [e1, h1, Bool.false_eq_true, if_false]
    by_cases h3 : byteAt H 5 = 3
    · simp only [h3, beq_self_eq_true, if_true, getDataPayload_src pre p post H hmem hH, some_bind]
      rcases dataR_cases H p with hd | hd | hd
      · simp only [hd, Option.isSome_none, Bool.false_eq_true, if_false, some_bind]
      · simp only [hd, Option.isSome_some, if_true, some_bind, payload_mt_src p 770 (by omega), bind, pure]
        rfl
      · simp only [hd, Option.isSome_some, if_true, some_bind, payload_mt_src p 772 (by omega), bind, pure]
        rfl
    · have e3 : (byteAt H 5 == 3) = false := by simpa using h3
      simp only [e3, h3, Bool.false_eq_true, if_false]
      by_cases h2 : byteAt H 5 = 2
      · have e2 : (byteAt H 5 == 2) = true := by simpa using h2
        simp only [e2, if_true, getInterfacePayload_src pre p post H fuel (hp12 h2) hH h2 hf, some_bind]
        simp only [h2, if_true]
      · have e2 : (byteAt H 5 == 2) = false := by simpa using h2
        simp only [e2, h2, Bool.false_eq_true, if_false, ite_self]

end AsamCmp.SrcTec
