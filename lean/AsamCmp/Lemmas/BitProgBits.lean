/-
  Bit-level facts about symbolic words (Src/BitProg.lean): `SWord.eval` is the little-endian binary value, so every word
  is characterised by `Nat.testBit`; `bit w j` is the j-th symbolic bit with the `zero` default.
-/
import AsamCmp.Src.BitProg
namespace AsamCmp.Src.Bit
open AsamCmp AsamCmp.Src

/-- j-th symbolic bit of a word (zero beyond its length) -/
def bit (w : SWord) (j : Nat) : SBit := w.getD j SBit.zero

theorem bit_def (w : SWord) (j : Nat) : w.getD j SBit.zero = bit w j := rfl

@[simp] theorem bit_nil (j : Nat) : bit [] j = SBit.zero := by simp [bit]
@[simp] theorem bit_cons_zero (b : SBit) (w : SWord) : bit (b :: w) 0 = b := by simp [bit]
@[simp] theorem bit_cons_succ (b : SBit) (w : SWord) (j : Nat) : bit (b :: w) (j + 1) = bit w j := by simp [bit]

theorem bit_of_le (w : SWord) (j : Nat) (h : w.length ≤ j) : bit w j = SBit.zero := by
  simp [bit, List.getD_eq_getElem?_getD, List.getElem?_eq_none h]

theorem bit_eq_getElem (w : SWord) (j : Nat) (h : j < w.length) : bit w j = w[j] := by
  simp [bit, List.getD_eq_getElem?_getD, List.getElem?_eq_getElem h]

theorem bit_append (a b : SWord) (j : Nat) :
    bit (a ++ b) j = if j < a.length then bit a j else bit b (j - a.length) := by
  simp only [bit, List.getD_eq_getElem?_getD, List.getElem?_append]
  split <;> rfl

theorem bit_replicate_zero (n j : Nat) : bit (List.replicate n SBit.zero) j = SBit.zero := by
  simp only [bit, List.getD_eq_getElem?_getD, List.getElem?_replicate]
  split <;> rfl

theorem bit_take (w : SWord) (n j : Nat) : bit (w.take n) j = if j < n then bit w j else SBit.zero := by
  simp only [bit, List.getD_eq_getElem?_getD, List.getElem?_take]
  split <;> rfl

theorem bit_drop (w : SWord) (n j : Nat) : bit (w.drop n) j = bit w (n + j) := by
  simp only [bit, List.getD_eq_getElem?_getD, List.getElem?_drop]

theorem bit_map_range (g : Nat → SBit) (n j : Nat) :
    bit ((List.range n).map g) j = if j < n then g j else SBit.zero := by
  simp only [bit, List.getD_eq_getElem?_getD, List.getElem?_map]
  by_cases h : j < n
  · simp [h]
  · simp [h]

theorem bit_fit (n : Nat) (w : SWord) (j : Nat) : bit (fit n w) j = if j < n then bit w j else SBit.zero := by
  unfold fit
  rw [bit_take, bit_append, bit_replicate_zero]
  by_cases h : j < n
  · by_cases h2 : j < w.length
    · simp [h, h2]
    · simp [h, h2, bit_of_le w j (by omega)]
  · simp [h]

@[simp] theorem fit_length (n : Nat) (w : SWord) : (fit n w).length = n := by
  unfold fit
  simp only [List.length_take, List.length_append, List.length_replicate]
  omega

theorem fit_of_length {n : Nat} {w : SWord} (h : w.length = n) : fit n w = w := by
  unfold fit
  rw [List.take_append_of_le_length (by omega), List.take_of_length_le (by omega)]

/-! ### evaluation -/

section
variable (obj : Bytes) (args : List Nat)

@[simp] theorem eval_nil : SWord.eval obj args [] = 0 := rfl

theorem eval_cons (b : SBit) (w : SWord) :
    SWord.eval obj args (b :: w) = (if b.eval obj args then 1 else 0) + 2 * SWord.eval obj args w := rfl

@[simp] theorem eval_zero_bit : SBit.eval obj args SBit.zero = false := rfl
@[simp] theorem eval_one_bit : SBit.eval obj args SBit.one = true := rfl

/-- `SWord.eval` is the binary value: bit `j` of the value is the value of the `j`-th symbolic bit -/
theorem testBit_eval (w : SWord) (j : Nat) :
    (SWord.eval obj args w).testBit j = (bit w j).eval obj args := by
  induction w generalizing j with
  | nil => simp
  | cons b w ih =>
    rw [eval_cons]
    cases j with
    | zero =>
      rw [Nat.testBit_zero, bit_cons_zero]
      cases hb : b.eval obj args
      · simp
      · simp
    | succ j =>
      rw [Nat.testBit_succ, bit_cons_succ, ← ih]
      congr 1
      cases hb : b.eval obj args
      · simp
      · simp; omega

theorem eval_lt (w : SWord) : SWord.eval obj args w < 2 ^ w.length := by
  induction w with
  | nil => simp
  | cons b w ih =>
    rw [eval_cons, List.length_cons, Nat.pow_succ]
    split <;> omega

theorem eval_lt_of_le (w : SWord) {n : Nat} (h : w.length ≤ n) : SWord.eval obj args w < 2 ^ n :=
  Nat.lt_of_lt_of_le (eval_lt obj args w) (Nat.pow_le_pow_right (by decide) h)

theorem eval_congr {a b : SWord} (h : ∀ j, (bit a j).eval obj args = (bit b j).eval obj args) :
    SWord.eval obj args a = SWord.eval obj args b := by
  apply Nat.eq_of_testBit_eq
  intro j
  rw [testBit_eval, testBit_eval, h]

theorem eq_eval {x : Nat} {w : SWord} (h : ∀ j, x.testBit j = (bit w j).eval obj args) :
    x = SWord.eval obj args w := by
  apply Nat.eq_of_testBit_eq
  intro j
  rw [testBit_eval, h]

theorem eval_append (a b : SWord) :
    SWord.eval obj args (a ++ b) = SWord.eval obj args a + 2 ^ a.length * SWord.eval obj args b := by
  induction a with
  | nil => simp
  | cons x a ih =>
    rw [List.cons_append, eval_cons, eval_cons, ih, List.length_cons, Nat.pow_succ]
    generalize SWord.eval obj args a = A
    generalize SWord.eval obj args b = B
    rw [Nat.mul_add, Nat.mul_comm (2 ^ a.length) 2, Nat.mul_assoc]
    omega

theorem eval_fit (n : Nat) (w : SWord) : SWord.eval obj args (fit n w) = SWord.eval obj args w % 2 ^ n := by
  symm
  apply eq_eval
  intro j
  rw [Nat.testBit_mod_two_pow, testBit_eval, bit_fit]
  by_cases h : j < n <;> simp [h]

theorem eval_take (n : Nat) (w : SWord) : SWord.eval obj args (w.take n) = SWord.eval obj args w % 2 ^ n := by
  symm
  apply eq_eval
  intro j
  rw [Nat.testBit_mod_two_pow, testBit_eval, bit_take]
  by_cases h : j < n <;> simp [h]

theorem eval_drop (n : Nat) (w : SWord) : SWord.eval obj args (w.drop n) = SWord.eval obj args w >>> n := by
  symm
  apply eq_eval
  intro j
  rw [Nat.testBit_shiftRight, testBit_eval, bit_drop]

theorem eval_shl (n : Nat) (w : SWord) :
    SWord.eval obj args (List.replicate n SBit.zero ++ w) = SWord.eval obj args w <<< n := by
  symm
  apply eq_eval
  intro j
  rw [Nat.testBit_shiftLeft, testBit_eval, bit_append, bit_replicate_zero, List.length_replicate]
  by_cases h : j < n
  · have : ¬ j ≥ n := by omega
    simp [h, this]
  · have : j ≥ n := by omega
    simp [h, this]

theorem eval_replicate_zero (n : Nat) : SWord.eval obj args (List.replicate n SBit.zero) = 0 := by
  symm
  apply eq_eval
  intro j
  rw [bit_replicate_zero]
  simp

/-! ### constants, arguments -/

theorem eval_constBits (n c : Nat) : SWord.eval obj args (constBits n c) = c % 2 ^ n := by
  induction n generalizing c with
  | zero => simp [constBits, Nat.mod_one]
  | succ n ih =>
    rw [constBits, eval_cons, ih, Nat.pow_succ, Nat.mul_comm (2 ^ n) 2, Nat.mod_mul]
    split
    · next h => simp; omega
    · next h => simp; omega

@[simp] theorem constBits_length (n c : Nat) : (constBits n c).length = n := by
  induction n generalizing c with
  | zero => rfl
  | succ n ih => simp [constBits, ih]

theorem eval_argWord (k lo hi : Nat) (h1 : args.getD k 0 < 2 ^ hi) (h2 : args.getD k 0 % 2 ^ lo = 0) :
    SWord.eval obj args ((List.range hi).map fun j => if lo ≤ j then SBit.arg k j else SBit.zero) = args.getD k 0 := by
  symm
  apply eq_eval
  intro j
  rw [bit_map_range]
  by_cases h : j < hi
  · rw [if_pos h]
    by_cases hl : lo ≤ j
    · rw [if_pos hl]; rfl
    · rw [if_neg hl]
      have := Nat.testBit_mod_two_pow (args.getD k 0) lo j
      rw [h2] at this
      simp only [Nat.zero_testBit] at this
      have hj : j < lo := by omega
      simp only [hj, decide_true, Bool.true_and] at this
      rw [← this]; rfl
  · rw [if_neg h]
    exact Nat.testBit_lt_two_pow (Nat.lt_of_lt_of_le h1 (Nat.pow_le_pow_right (by decide) (by omega)))

/-! ### known-zero high bits -/

theorem allZero_bit {w : SWord} (h : allZero w = true) (j : Nat) : bit w j = SBit.zero := by
  by_cases hj : j < w.length
  · rw [bit_eq_getElem w j hj]
    unfold allZero at h
    rw [List.all_eq_true] at h
    have := h w[j] (List.getElem_mem hj)
    simpa using this
  · exact bit_of_le w j (by omega)

theorem allZero_drop_lt {w : SWord} {k : Nat} (h : allZero (w.drop k) = true) : SWord.eval obj args w < 2 ^ k := by
  apply Nat.lt_pow_two_of_testBit
  intro i hi
  rw [testBit_eval]
  have := allZero_bit h (i - k)
  rw [bit_drop] at this
  have e : k + (i - k) = i := by omega
  rw [e] at this
  rw [this]; rfl

end

end AsamCmp.Src.Bit
