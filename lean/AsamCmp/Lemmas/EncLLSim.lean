/-
  For the refinement of Props/C07b.lean: the simulation relation between the structured encoder state and the
  low-level one, and the step lemmas for closing a frame, opening a frame and adding a message.
-/
import AsamCmp.Lemmas.EncLLBytes
import AsamCmp.Lemmas.EncStruct
import AsamCmp.Props.C07
namespace AsamCmp.C07b
open AsamCmp

/-- used part of a frame under construction: header and messages -/
def preBytes (f : EFrame) : Bytes :=
  frameHeader f.ver f.dev f.mt f.stream f.seq ++ f.msgs.flatMap EMsg.bytes

/-- the frame being filled, as allocated: used part, then zeros up to `max` -/
def openBytes (c : Ctx) (f : EFrame) : Bytes := preBytes f ++ zeros (c.cap - f.used)

theorem preBytes_snoc (f : EFrame) (m : EMsg) :
    preBytes { f with msgs := f.msgs ++ [m] } = preBytes f ++ m.bytes := by
  simp [preBytes, List.flatMap_append]

theorem used_zero_iff (f : EFrame) : f.used = 0 ↔ f.msgs = [] := by
  unfold EFrame.used
  cases f.msgs with
  | nil => simp
  | cons m ms => simp [EMsg.size]

theorem used_snoc (f : EFrame) (m : EMsg) : ({ f with msgs := f.msgs ++ [m] } : EFrame).used = f.used + m.size := by
  simp [EFrame.used]

/-- simulation relation -/
structure R (c : Ctx) (s : Enc) (l : EncLL) : Prop where
  min : l.min = c.min
  max : l.max = c.max
  dev : l.dev = s.dev
  stream : l.stream = s.stream
  seqc : l.seqc = s.seqc
  mt : l.mt = s.curMt
  tmplN : s.tmpl = none → l.tmpl = []
  tmplS : ∀ t, s.tmpl = some t → ∃ σ, l.tmpl = frameHeader t.1 s.dev t.2 s.stream σ ++ zeros (c.max - 8)
  frames : l.frames = s.closed.map (EFrame.bytes c.min) ++
    (match s.cur with | none => [] | some f => [openBytes c f])
  left : ∀ f, s.cur = some f → l.bytesLeft = c.cap - f.used ∧ f.used ≤ c.cap

/-- between the steps: without an open frame nothing has been closed yet -/
def NoneNil (s : Enc) : Prop := s.cur = none → s.closed = []

theorem noneNil_of_some {s : Enc} (h : s.cur.isSome) : NoneNil s := by
  intro hc; rw [hc] at h; cases h

/-- the frame being filled is `pre` followed by `bytesLeft` zero bytes, behind the frames `init` -/
def Shape (l : EncLL) (init : List Bytes) (pre : Bytes) : Prop := l.frames = init ++ [pre ++ zeros l.bytesLeft]

theorem R.shape {c : Ctx} {s : Enc} {l : EncLL} (h : R c s l) {f : EFrame} (hcur : s.cur = some f) :
    Shape l (s.closed.map (EFrame.bytes c.min)) (preBytes f) := by
  rw [Shape, h.frames, hcur, (h.left f hcur).1]; rfl

/-- on such a state `closeLastFrame` drops the frame if it holds the frame header only, else trims / pads it to `min` -/
theorem closeLastFrame_shape {l : EncLL} {init : List Bytes} {pre : Bytes} (h : Shape l init pre)
    (hmin : l.min ≤ pre.length + l.bytesLeft) :
    l.closeLastFrame =
      if l.bytesLeft = l.max - 8 then { l with frames := init, seqc := (l.seqc + 65535) % 65536 }
      else { l with frames := init ++ [pre ++ zeros (l.min - pre.length)] } := by
  unfold EncLL.closeLastFrame
  rw [h, List.getLast?_concat]
  simp only [EncLL.setLast, show l.frames = _ from h, List.dropLast_concat, resize_eq pre l.bytesLeft l.min hmin]

theorem closeLast_R {c : Ctx} (hc : c.ok = true) {s : Enc} {l : EncLL} (h : R c s l) (hn : NoneNil s) :
    R c s.closeLast l.closeLastFrame := by
  obtain ⟨hcap, hmax, hmin⟩ := Ctx.ok_cap hc
  cases hcur : s.cur with
  | none =>
    have hfr : l.frames = [] := by rw [h.frames, hn hcur, hcur]; rfl
    have e2 : l.closeLastFrame = l := by simp [EncLL.closeLastFrame, hfr]
    rw [Enc.closeLast_none hcur, e2]; exact h
  | some f =>
    obtain ⟨hbl, hu⟩ := h.left f hcur
    have hpre : (preBytes f).length = 8 + f.used := EFrame.raw_length f
    rw [closeLastFrame_shape (h.shape hcur) (by rw [h.min, hpre, hbl]; omega)]
    -- no free byte is used exactly if the frame holds no message
    have hb : l.bytesLeft = l.max - 8 ↔ f.msgs = [] := by rw [hbl, h.max, ← used_zero_iff]; omega
    by_cases hm : f.msgs = []
    · rw [if_pos (hb.mpr hm), Enc.closeLast_empty hcur (by rw [hm]; rfl)]
      exact ⟨h.min, h.max, h.dev, h.stream, by simp [h.seqc], h.mt, h.tmplN, h.tmplS, by simp, fun g hg => by simp at hg⟩
    · have e1 : s.closeLast = { s with closed := s.closed ++ [f], cur := none } := by
        simp [Enc.closeLast, hcur, hm]
      rw [if_neg (fun e => hm (hb.mp e)), e1]
      refine ⟨h.min, h.max, h.dev, h.stream, h.seqc, h.mt, h.tmplN, h.tmplS, ?_, fun g hg => by simp at hg⟩
      rw [h.min, hpre]
      simp [EFrame.bytes_eq, preBytes]

/-- `addNewCMPFrame` behind its `closeLastFrame`, with the template `t` it settles on -/
def llOpen (l : EncLL) (t : Bytes) : EncLL :=
  { l with tmpl := t, frames := l.frames ++ [writeAt t 6 (beEnc 2 ((l.seqc + 1) % 65536))],
           seqc := (l.seqc + 1) % 65536, bytesLeft := l.max - 8 }

theorem addNewCMPFrame_eq (l : EncLL) (p : Packet) :
    l.addNewCMPFrame p = llOpen l.closeLastFrame
      (if l.closeLastFrame.tmpl.isEmpty then l.closeLastFrame.createTemplate p else l.closeLastFrame.tmpl) := by
  unfold EncLL.addNewCMPFrame llOpen
  by_cases h : l.closeLastFrame.tmpl.isEmpty = true <;> simp only [h, if_true, if_false, Bool.false_eq_true]

/-- `addNew` behind its `closeLast` -/
def sOpen (s : Enc) (p : Packet) : Enc :=
  let t := s.tmpl.getD (p.version % 256, p.mt)
  let q := (s.seqc + 1) % 65536
  { s with tmpl := some t, seqc := q, cur := some ⟨t.1, s.dev, t.2, s.stream, q, []⟩ }

theorem open_R {c : Ctx} (hc : c.ok = true) {s : Enc} {l : EncLL} (p : Packet) (h : R c s l)
    (hcur : s.cur = none) :
    R c (sOpen s p) (llOpen l (if l.tmpl.isEmpty then l.createTemplate p else l.tmpl)) := by
  obtain ⟨hcap, hmax, hmin⟩ := Ctx.ok_cap hc
  have hfr : l.frames = s.closed.map (EFrame.bytes c.min) := by rw [h.frames, hcur]; simp
  -- the template after the `isEmpty` check
  obtain ⟨σ, hσ⟩ : ∃ σ, (if l.tmpl.isEmpty then l.createTemplate p else l.tmpl) =
      frameHeader (s.tmpl.getD (p.version % 256, p.mt)).1 s.dev (s.tmpl.getD (p.version % 256, p.mt)).2
        s.stream σ ++ zeros (c.max - 8) := by
    cases ht : s.tmpl with
    | none =>
      refine ⟨p.seq, ?_⟩
      rw [h.tmplN ht, List.isEmpty_nil, if_pos rfl, Option.getD_none]
      unfold EncLL.createTemplate
      rw [h.max, h.dev, h.stream]
      exact template_eq c.max s.dev s.stream p (by omega)
    | some t =>
      obtain ⟨σ, hσ⟩ := h.tmplS t ht
      refine ⟨σ, ?_⟩
      rw [hσ, if_neg (by simp [frameHeader]), Option.getD_some]
  rw [hσ]
  refine ⟨h.min, h.max, h.dev, h.stream, by simp [llOpen, sOpen, h.seqc], h.mt, fun ht => by simp [sOpen] at ht,
    ?_, ?_, ?_⟩
  · intro t ht
    cases ht
    exact ⟨σ, rfl⟩
  · simp only [llOpen, sOpen, hfr, counter_write, h.seqc]
    congr 2
    all_goals simp [openBytes, preBytes, EFrame.used]
  · intro g hg
    cases hg
    simp [llOpen, EFrame.used, h.max]; omega

theorem addNew_R {c : Ctx} (hc : c.ok = true) {s : Enc} {l : EncLL} (p : Packet) (h : R c s l)
    (hn : NoneNil s) : R c (s.addNew p) (l.addNewCMPFrame p) := by
  rw [addNewCMPFrame_eq]
  exact open_R hc p (closeLast_R hc h hn) (Enc.closeLast_cur s)

/-- header write, payload copy and the `bytesLeft` update of one loop iteration -/
def llAdd (l : EncLL) (p : Packet) (n seg pos : Nat) : EncLL :=
  (l.addNewDataHeader p n seg).putData (slice p.data pos n) n

/-- on such a state one loop iteration writes the message header and the payload slice behind `pre` -/
theorem llAdd_shape {l : EncLL} {init : List Bytes} {pre : Bytes} (h : Shape l init pre) (p : Packet) (n seg pos : Nat)
    (hlen : (slice p.data pos n).length = n) :
    llAdd l p n seg pos =
      { l with frames := init ++ [pre ++ msgHeader p seg n ++ slice p.data pos n ++ zeros (l.bytesLeft - 16 - n)],
               bytesLeft := l.bytesLeft - 16 - n } := by
  have hlast : l.frames.getLast? = some (pre ++ zeros l.bytesLeft) := by rw [h, List.getLast?_concat]
  have e1 : l.addNewDataHeader p n seg =
      { l with frames := init ++ [pre ++ msgHeader p seg n ++ zeros (l.bytesLeft - 16)], bytesLeft := l.bytesLeft - 16 } := by
    unfold EncLL.addNewDataHeader
    rw [hlast]
    simp only
    rw [header_eq p n seg, List.length_append, zeros_length, Nat.add_sub_cancel, writeAt_tail, msgHeader_length]
    simp [EncLL.setLast, show l.frames = _ from h]
  unfold llAdd EncLL.putData
  simp only [e1, List.getLast?_concat]
  rw [List.length_append, zeros_length, Nat.add_sub_cancel, writeAt_tail, hlen]
  simp [EncLL.setLast]

theorem add_R {c : Ctx} {s : Enc} {l : EncLL} (h : R c s l) {f : EFrame} (hcur : s.cur = some f)
    (i : Nat) (p : Packet) (n seg pos : Nat) (hfit : f.used + (16 + n) ≤ c.cap)
    (hlen : (slice p.data pos n).length = n) :
    R c (s.add ⟨i, p, seg, slice p.data pos n⟩) (llAdd l p n seg pos) := by
  obtain ⟨hbl, hu⟩ := h.left f hcur
  have hleft : l.bytesLeft - 16 - n = c.cap - (f.used + (16 + n)) := by omega
  rw [llAdd_shape (h.shape hcur) p n seg pos hlen, Enc.add_some s _ f hcur]
  refine ⟨h.min, h.max, h.dev, h.stream, h.seqc, h.mt, h.tmplN, h.tmplS, ?_, ?_⟩
  · simp only [openBytes, preBytes_snoc, used_snoc, EMsg.bytes, EMsg.size, hlen, List.append_assoc, hleft]
  · intro g hg
    cases hg
    rw [used_snoc, EMsg.size, hlen]
    exact ⟨hleft, hfit⟩

theorem add_noneNil (s : Enc) (m : EMsg) (h : s.cur.isSome) : NoneNil (s.add m) :=
  noneNil_of_some (Enc.add_isSome s m h)

end AsamCmp.C07b
