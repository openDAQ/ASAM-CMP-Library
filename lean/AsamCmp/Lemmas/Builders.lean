/-
  Lemmas about the payload builders (C13): fields read from explicitly appended byte strings, the normal forms of the
  `setData` functions, the DLC code range by range, and the layouts of the two status payloads.
-/
import AsamCmp.Access
import AsamCmp.Builders
import AsamCmp.Lemmas.Access
import AsamCmp.Lemmas.ValidSpec
namespace AsamCmp.C13
open AsamCmp

/-! ### reading from explicitly appended byte strings -/

theorem slice_at (pre x post : Bytes) (off len : Nat) (h1 : pre.length = off) (h2 : x.length = len) :
    slice (pre ++ (x ++ post)) off len = x :=
  List.append_assoc pre x post ▸ slice_mid pre x post off len h1 h2

/-- one step of reading `o` piece by piece: the piece `x` starts at `p`; it is found there, and `o` is bracketed in front of
    what follows it, which starts at `p + |x|` -/
theorem piece_at {o pre x r : Bytes} {p : Nat} (ho : o = pre ++ (x ++ r)) (hp : pre.length = p) :
    slice o p x.length = x ∧ o = (pre ++ x) ++ r ∧ (pre ++ x).length = p + x.length :=
  ⟨ho ▸ slice_at _ _ _ _ _ hp rfl, ho.trans (List.append_assoc ..).symm, by rw [List.length_append, hp]⟩

theorem beAt_at (pre post : Bytes) (off w n : Nat) (h1 : pre.length = off) :
    beAt (pre ++ (beEnc w n ++ post)) off w = n % 256 ^ w := by
  unfold beAt
  rw [slice_at _ _ _ _ _ h1 (beEnc_length w n), beDec_beEnc]

theorem beAt2_at (pre post : Bytes) (off n : Nat) (h1 : pre.length = off) (hn : n < 65536) :
    beAt (pre ++ (beEnc 2 n ++ post)) off 2 = n := by
  rw [beAt_at _ _ _ _ _ h1]
  exact Nat.mod_eq_of_lt hn

theorem byteAt_at_ofNat (pre post : Bytes) (n off : Nat) (h1 : pre.length = off) (hn : n < 256) :
    byteAt (pre ++ (UInt8.ofNat n :: post)) off = n := by
  rw [byteAt_mid _ _ _ _ h1, UInt8.toNat_ofNat']
  exact Nat.mod_eq_of_lt hn

/-- a payload laid out as kept header bytes, the field(s) the builder writes, and the data -/
theorem layout_facts {o pre f d : Bytes} {k w : Nat} (ho : o = pre ++ (f ++ d)) (hpre : pre.length = k) (hf : f.length = w) :
    o.length = k + w + d.length ∧ o.take k = pre ∧ o.drop (k + w) = d := by
  subst ho hpre hf
  refine ⟨by rw [List.length_append, List.length_append, Nat.add_assoc], List.take_left' rfl, ?_⟩
  rw [← List.append_assoc]
  exact List.drop_left' List.length_append

/-! ### bytes inside a preserved prefix -/

theorem beAt_of_take (o b : Bytes) (n off w : Nat) (h : o.take n = b.take n) (hw : off + w ≤ n) :
    beAt o off w = beAt b off w := by
  unfold beAt
  rw [← slice_take_of_le o n off w hw, h, slice_take_of_le b n off w hw]

theorem byteAt_of_take (o b : Bytes) (n i : Nat) (h : o.take n = b.take n) (hi : i < n) :
    byteAt o i = byteAt b i := by
  rw [← beAt_one_eq_byteAt, ← beAt_one_eq_byteAt]
  exact beAt_of_take o b n i 1 h (by omega)

/-! ### an object at least as long as its header: `resize`, `setTail`, `writeAt` inside the header -/

theorem take_length_of_le (b : Bytes) (n : Nat) (h : n ≤ b.length) : (b.take n).length = n := by
  simp [h]

theorem resize_take (b : Bytes) (n : Nat) (h : n ≤ b.length) : (resize b n).take n = b.take n := by
  simp [resize, h, List.take_take]

theorem setTail_eq (hdr : Nat) (b d : Bytes) (h : hdr ≤ b.length) : setTail hdr b d = b.take hdr ++ d := by
  simp [setTail, resize, h, List.take_take]

theorem writeAt_setTail (hdr off : Nat) (b d v : Bytes) (hb : hdr ≤ b.length) (hv : off + v.length = hdr) :
    writeAt (setTail hdr b d) off v = b.take off ++ (v ++ d) := by
  have hl : (b.take hdr).length = hdr := by simp [hb]
  have h1 : (b.take hdr ++ d).take off = b.take off := by
    rw [List.take_append_of_le_length (by omega), List.take_take, Nat.min_eq_left (by omega)]
  have h2 : (b.take hdr ++ d).drop (off + v.length) = d := by
    rw [hv]; exact List.drop_left' hl
  rw [setTail_eq hdr b d hb, writeAt, h1, h2, List.append_assoc]

/-! ### `create` on an accepted payload -/

theorem create_of_valid (ty : Nat) (v : Bytes → Bool) (o : Bytes) (hv : validatorOf ty = some v)
    (h : v o = true) : create ty o = ⟨ty, o⟩ := by
  simp [create, hv, h]

/-! ### the DLC code -/

theorem dlcOf_cases (n : Nat) :
    (n ≤ 8 ∧ dlcOf n = n) ∨ (8 < n ∧ n ≤ 12 ∧ dlcOf n = 9) ∨ (12 < n ∧ n ≤ 16 ∧ dlcOf n = 10) ∨
    (16 < n ∧ n ≤ 20 ∧ dlcOf n = 11) ∨ (20 < n ∧ n ≤ 24 ∧ dlcOf n = 12) ∨ (24 < n ∧ n ≤ 32 ∧ dlcOf n = 13) ∨
    (32 < n ∧ n ≤ 48 ∧ dlcOf n = 14) ∨ (48 < n ∧ dlcOf n = 15) := by
  -- a finite table up to the last threshold (`omega` on this disjunction as a goal is very slow to check)
  by_cases h : n ≤ 48
  · revert n; decide
  · have e : dlcOf n = 15 := by
      unfold dlcOf
      rw [if_neg (by omega), if_neg (by omega), if_neg (by omega), if_neg (by omega), if_neg (by omega),
        if_neg (by omega), if_neg (by omega)]
    exact .inr (.inr (.inr (.inr (.inr (.inr (.inr ⟨by omega, e⟩))))))

theorem dlcOf_le (n : Nat) : dlcOf n ≤ 15 := by
  have := dlcOf_cases n
  omega

/-! ### normal forms of the simple builders -/

theorem canSetData_eq (b d : Bytes) (hb : 16 ≤ b.length) :
    canSetData b d =
      b.take 14 ++ ([UInt8.ofNat (dlcOf (d.length % 256)), UInt8.ofNat d.length] ++ d) :=
  writeAt_setTail 16 14 b d _ hb rfl

theorem linSetData_eq (b d : Bytes) (hb : 8 ≤ b.length) :
    linSetData b d = b.take 7 ++ ([UInt8.ofNat d.length] ++ d) :=
  writeAt_setTail 8 7 b d _ hb rfl

theorem ethSetData_eq (b d : Bytes) (hb : 6 ≤ b.length) :
    ethSetData b d = b.take 4 ++ (beEnc 2 d.length ++ d) :=
  writeAt_setTail 6 4 b d _ hb (by simp)

theorem analogSetData_eq (b d : Bytes) (hb : 16 ≤ b.length) :
    analogSetData b d = b.take 16 ++ d :=
  setTail_eq 16 b d hb

/-! ### interface status -/

theorem ifSetData_eq (b ids v : Bytes) (hb : 36 ≤ b.length) :
    ifSetData b ids v =
      b.take 36 ++ (beEnc 2 ids.length ++ (ids ++ (zeros (ids.length % 2) ++ (beEnc 2 v.length ++ v)))) := by
  simp only [ifSetData, resize_take b 36 hb, List.append_assoc]

/-! ### capture-module status -/

/-- length field of a string block: text + NUL, rounded up to even -/
def cmLen (s : Bytes) : Nat := s.length + 1 + (s.length + 1) % 2

theorem cmString_eq (s : Bytes) :
    cmString s = beEnc 2 (cmLen s) ++ (s ++ zeros (cmLen s - s.length)) := by
  simp only [cmString, cmLen, List.append_assoc]

theorem cmString_length (s : Bytes) : (cmString s).length = 2 + cmLen s := by
  rw [cmString_eq]
  simp only [List.length_append, beEnc_length, zeros, List.length_replicate, cmLen]
  omega

theorem takeWhile_text (s : Bytes) (k : Nat) (h0 : (0 : UInt8) ∉ s) :
    (s ++ zeros k).takeWhile (· != 0) = s := by
  rw [List.takeWhile_append_of_pos]
  · simp [zeros]
  · intro a ha
    have : a ≠ 0 := fun h => h0 (h ▸ ha)
    simpa using this

/-- one round of `blocksOk` on a block whose length field is written out: the declared bytes are there, and the walk goes on
    behind them -/
theorem blocksOk_beEnc (k n : Nat) (r : Bytes) :
    blocksOk (k + 1) (beEnc 2 n ++ r) = (decide (n % 65536 ≤ r.length) && blocksOk k (r.drop (n % 65536))) := by
  have h1 : (beEnc 2 n ++ r).take 2 = beEnc 2 n := List.take_left' (beEnc_length 2 n)
  have h2 : (beEnc 2 n ++ r).drop 2 = r := List.drop_left' (beEnc_length 2 n)
  simp only [blocksOk, h1, h2, beDec_beEnc 2 n, List.length_append, beEnc_length]
  rw [if_neg (by omega)]
  by_cases h : n % 65536 ≤ r.length
  · rw [if_neg (by omega), decide_eq_true h, Bool.true_and]
  · rw [if_pos (by omega), decide_eq_false h, Bool.false_and]

theorem blocksOk_cons (k n : Nat) (body rest : Bytes) (hb : body.length = n) (hn : n < 65536) :
    blocksOk (k + 1) (beEnc 2 n ++ (body ++ rest)) = blocksOk k rest := by
  rw [blocksOk_beEnc, Nat.mod_eq_of_lt hn, List.drop_left' hb, decide_eq_true (by rw [List.length_append]; omega),
    Bool.true_and]

theorem cm_blocksOk (k : Nat) (s rest : Bytes) (hs : s.length + 2 < 65536) :
    blocksOk (k + 1) (cmString s ++ rest) = blocksOk k rest := by
  rw [cmString_eq, List.append_assoc]
  exact blocksOk_cons k _ _ rest
    (by simp only [List.length_append, zeros, List.length_replicate, cmLen]; omega)
    (by unfold cmLen; omega)

theorem cmSetData_eq (b s1 s2 s3 s4 v : Bytes) (hb : 26 ≤ b.length) :
    cmSetData b s1 s2 s3 s4 v =
      b.take 26 ++ (cmString s1 ++ (cmString s2 ++ (cmString s3 ++ (cmString s4 ++ (beEnc 2 v.length ++ v))))) := by
  simp only [cmSetData, resize_take b 26 hb, List.append_assoc]

theorem cmAccess_of {b : Bytes} {o1 l1 p1 t1 o2 l2 p2 t2 o3 l3 p3 t3 o4 l4 p4 t4 o5 l5 p5 : Nat} (h : 26 ≤ b.length)
    (e1 : cmBlock b 26 = some (o1, l1, p1)) (r1 : trimNul b o1 l1 = some t1)
    (e2 : cmBlock b p1 = some (o2, l2, p2)) (r2 : trimNul b o2 l2 = some t2)
    (e3 : cmBlock b p2 = some (o3, l3, p3)) (r3 : trimNul b o3 l3 = some t3)
    (e4 : cmBlock b p3 = some (o4, l4, p4)) (r4 : trimNul b o4 l4 = some t4)
    (e5 : cmBlock b p4 = some (o5, l5, p5)) :
    cmAccess b = some [⟨"deviceDescription", some o1, t1⟩, ⟨"serialNumber", some o2, t2⟩, ⟨"hardwareVersion", some o3, t3⟩,
                       ⟨"softwareVersion", some o4, t4⟩, ⟨"vendorData", some o5, l5⟩] := by
  simp only [cmAccess, C03.rd_ok b 0 26 h, bind, Option.bind, pure, e1, r1, e2, r2, e3, r3, e4, r4, e5]

end AsamCmp.C13

/-! ### the capture-module layout, vendor data of any length -/
namespace AsamCmp.C13S
open AsamCmp AsamCmp.C13

theorem block_at_mod (pre post : Bytes) (n pos : Nat) (hpre : pre.length = pos) :
    cmBlock (pre ++ (beEnc 2 n ++ post)) pos = some (pos + 2, n % 65536, pos + 2 + n % 65536) := by
  have hlen : pos + 2 ≤ (pre ++ (beEnc 2 n ++ post)).length := by
    simp only [List.length_append, beEnc_length, hpre]; omega
  rw [C03.cmBlock_ok _ pos hlen, beAt_at pre post pos 2 n hpre]

theorem blocksOk_last (n : Nat) (v : Bytes) (h : n % 65536 ≤ v.length) : blocksOk 1 (beEnc 2 n ++ v) = true := by
  rw [blocksOk_beEnc, decide_eq_true h]
  rfl

theorem cm_len_at (pre s post : Bytes) (pos : Nat) (hpre : pre.length = pos) (hs : s.length + 2 < 65536) :
    beAt (pre ++ (cmString s ++ post)) pos 2 = cmLen s := by
  rw [cmString_eq, List.append_assoc]
  exact beAt2_at pre _ pos (cmLen s) hpre (by unfold cmLen; omega)

theorem cm_pad_at (pre s post : Bytes) (pos : Nat) (hpre : pre.length = pos) :
    slice (pre ++ (cmString s ++ post)) (pos + 2 + s.length) (cmLen s - s.length) = zeros (cmLen s - s.length) := by
  have e : pre ++ (cmString s ++ post) =
      (pre ++ beEnc 2 (cmLen s) ++ s) ++ (zeros (cmLen s - s.length) ++ post) := by
    rw [cmString_eq]; simp only [List.append_assoc]
  rw [e]
  exact slice_at _ _ _ _ _ (by simp only [List.length_append, beEnc_length, hpre]) (by simp [zeros])

/-- one string block at position `pos` of `o`: its length field, its text, its NUL padding, and what the two readers used by
    `cmAccess` return on it -/
theorem cm_shape_facts_aux {o pre s post : Bytes} {pos : Nat} (ho : o = pre ++ (cmString s ++ post)) (hpre : pre.length = pos)
    (hs : s.length + 2 < 65536) (h0 : (0 : UInt8) ∉ s) :
    beAt o pos 2 = cmLen s ∧ slice o (pos + 2) s.length = s ∧
    slice o (pos + 2 + s.length) (cmLen s - s.length) = zeros (cmLen s - s.length) ∧
    cmBlock o pos = some (pos + 2, cmLen s, pos + 2 + cmLen s) ∧ trimNul o (pos + 2) (cmLen s) = some s.length ∧
    o = (pre ++ cmString s) ++ post ∧ (pre ++ cmString s).length = pos + 2 + cmLen s := by
  have hL : cmLen s < 65536 := by unfold cmLen; omega
  have hk : (s ++ zeros (cmLen s - s.length)).length = cmLen s := by
    simp only [List.length_append, zeros, List.length_replicate, cmLen]; omega
  -- the block cut into length field, text and padding; `e2` brackets the length field with what precedes it
  have e : o = pre ++ (beEnc 2 (cmLen s) ++ (s ++ (zeros (cmLen s - s.length) ++ post))) := by
    rw [ho, cmString_eq]; simp only [List.append_assoc]
  have e2 : o = (pre ++ beEnc 2 (cmLen s)) ++ (s ++ (zeros (cmLen s - s.length) ++ post)) :=
    e.trans (List.append_assoc ..).symm
  have hpre2 : (pre ++ beEnc 2 (cmLen s)).length = pos + 2 := by rw [List.length_append, hpre, beEnc_length]
  have hsl : slice o (pos + 2) (cmLen s) = s ++ zeros (cmLen s - s.length) := by
    rw [e2, ← List.append_assoc s]; exact slice_at _ _ _ _ _ hpre2 hk
  have hlen : pos + 2 + cmLen s ≤ o.length := by
    rw [e2, List.length_append, hpre2, ← List.append_assoc s, List.length_append, hk]; omega
  refine ⟨ho ▸ cm_len_at pre s post pos hpre hs, ?_, ho ▸ cm_pad_at pre s post pos hpre, ?_, ?_, (piece_at ho hpre).2.1,
    by rw [List.length_append, hpre, cmString_length, ← Nat.add_assoc]⟩
  · rw [e2]; exact slice_at _ _ _ _ _ hpre2 rfl
  · rw [e, block_at_mod pre _ _ pos hpre, Nat.mod_eq_of_lt hL]
  · rw [C03.trimNul_eq o _ _ hlen, hsl, takeWhile_text s _ h0]

/-- the validator accepts the capture-module shape: five blocks, each inside the payload (no condition on NULs or on `|v|`) -/
theorem cm_shape_valid (P s1 s2 s3 s4 v : Bytes) (hP : P.length = 26)
    (h1 : s1.length + 2 < 65536) (h2 : s2.length + 2 < 65536) (h3 : s3.length + 2 < 65536) (h4 : s4.length + 2 < 65536) :
    cmValid (P ++ (cmString s1 ++ (cmString s2 ++ (cmString s3 ++ (cmString s4 ++ (beEnc 2 v.length ++ v)))))) = true := by
  rw [cmValid_spec, List.drop_left' hP, cm_blocksOk 4 _ _ h1, cm_blocksOk 3 _ _ h2, cm_blocksOk 2 _ _ h3, cm_blocksOk 1 _ _ h4,
    List.length_append, hP]
  exact ⟨Nat.le_add_right _ _, blocksOk_last _ _ (Nat.mod_le _ _)⟩

/-- everything about a byte string of the capture-module shape: 26 header bytes, four string blocks, a length-prefixed tail `v`
    of ANY length (the prefix holds `|v| mod 65536`) -/
theorem cm_shape_facts (P s1 s2 s3 s4 v o : Bytes) (hP : P.length = 26)
    (ho : o = P ++ (cmString s1 ++ (cmString s2 ++ (cmString s3 ++ (cmString s4 ++ (beEnc 2 v.length ++ v))))))
    (h1 : s1.length + 2 < 65536) (h2 : s2.length + 2 < 65536) (h3 : s3.length + 2 < 65536)
    (h4 : s4.length + 2 < 65536)
    (n1 : (0 : UInt8) ∉ s1) (n2 : (0 : UInt8) ∉ s2) (n3 : (0 : UInt8) ∉ s3) (n4 : (0 : UInt8) ∉ s4) :
    let p1 := 26
    let p2 := p1 + 2 + cmLen s1
    let p3 := p2 + 2 + cmLen s2
    let p4 := p3 + 2 + cmLen s3
    let p5 := p4 + 2 + cmLen s4
    o.take 26 = P ∧ o.length = p5 + 2 + v.length ∧
    (beAt o p1 2 = cmLen s1 ∧ beAt o p2 2 = cmLen s2 ∧ beAt o p3 2 = cmLen s3 ∧ beAt o p4 2 = cmLen s4 ∧
      beAt o p5 2 = v.length % 65536) ∧
    (slice o (p1 + 2) s1.length = s1 ∧ slice o (p2 + 2) s2.length = s2 ∧ slice o (p3 + 2) s3.length = s3 ∧
      slice o (p4 + 2) s4.length = s4 ∧ slice o (p5 + 2) v.length = v) ∧
    (slice o (p1 + 2 + s1.length) (cmLen s1 - s1.length) = zeros (cmLen s1 - s1.length) ∧
      slice o (p2 + 2 + s2.length) (cmLen s2 - s2.length) = zeros (cmLen s2 - s2.length) ∧
      slice o (p3 + 2 + s3.length) (cmLen s3 - s3.length) = zeros (cmLen s3 - s3.length) ∧
      slice o (p4 + 2 + s4.length) (cmLen s4 - s4.length) = zeros (cmLen s4 - s4.length)) ∧
    cmAccess o = some [⟨"deviceDescription", some (p1 + 2), s1.length⟩, ⟨"serialNumber", some (p2 + 2), s2.length⟩,
                       ⟨"hardwareVersion", some (p3 + 2), s3.length⟩, ⟨"softwareVersion", some (p4 + 2), s4.length⟩,
                       ⟨"vendorData", some (p5 + 2), v.length % 65536⟩] ∧
    cmValid o = true ∧ create tyCm o = ⟨tyCm, o⟩ := by
  dsimp only
  have h26 : 26 ≤ o.length := by rw [ho, List.length_append, hP]; exact Nat.le_add_right _ _
  -- block by block: each step also brackets `o` in front of the next block and says where that starts
  obtain ⟨l1, c1, z1, e1, t1, ho2, hP2⟩ := cm_shape_facts_aux ho hP h1 n1
  obtain ⟨l2, c2, z2, e2, t2, ho3, hP3⟩ := cm_shape_facts_aux ho2 hP2 h2 n2
  obtain ⟨l3, c3, z3, e3, t3, ho4, hP4⟩ := cm_shape_facts_aux ho3 hP3 h3 n3
  obtain ⟨l4, c4, z4, e4, t4, ho5, hP5⟩ := cm_shape_facts_aux ho4 hP4 h4 n4
  have e5 := block_at_mod _ v v.length _ hP5
  have l5 := beAt_at _ v _ 2 v.length hP5
  rw [← ho5] at e5 l5
  have c5 : slice o (26 + 2 + cmLen s1 + 2 + cmLen s2 + 2 + cmLen s3 + 2 + cmLen s4 + 2) v.length = v := by
    have := slice_at (_ ++ beEnc 2 v.length) v [] _ _ (by rw [List.length_append, hP5, beEnc_length]) rfl
    rwa [List.append_nil, List.append_assoc, ← ho5] at this
  have hlen : o.length = 26 + 2 + cmLen s1 + 2 + cmLen s2 + 2 + cmLen s3 + 2 + cmLen s4 + 2 + v.length := by
    rw [ho5, List.length_append (bs := _ ++ v), hP5, List.length_append, beEnc_length]
    exact (Nat.add_assoc _ 2 _).symm
  have hvalid : cmValid o = true := ho ▸ cm_shape_valid P s1 s2 s3 s4 v hP h1 h2 h3 h4
  refine ⟨by rw [ho]; exact List.take_left' hP, hlen, ⟨l1, l2, l3, l4, l5⟩, ⟨c1, c2, c3, c4, c5⟩, ⟨z1, z2, z3, z4⟩, ?_,
    hvalid, create_of_valid _ _ _ rfl hvalid⟩
  exact cmAccess_of h26 e1 t1 e2 t2 e3 t3 e4 t4 e5

end AsamCmp.C13S
