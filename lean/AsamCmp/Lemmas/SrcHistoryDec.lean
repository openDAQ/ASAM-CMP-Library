/-
  Helper lemmas for Props/SrcHistory.lean, decoder side: a bound on the entries of the pending table that IS inductive over a
  history of `decode` calls.  `SrcDec.TableReg` (every stored payload at least 64 KiB away from 2^64 bytes) is what the single-call
  theorem needs, but one call can add up to 65535 bytes to a stored payload, so `TableReg` alone is not re-established by a call.
  `Bd B t` (every stored counter < 2^16, every stored payload ≤ B bytes) is: a call on a buffer of `n` bytes takes `Bd B` to
  `Bd (B + n)` — a stored payload never holds more bytes than the decoder has been handed so far.
-/
import AsamCmp.Props.C17b
import AsamCmp.Lemmas.SrcDecoderTable
namespace AsamCmp.SrcHist
open AsamCmp AsamCmp.C17b

/-- every pending entry: sequence counter within `uint16_t`, at most `B` payload bytes -/
def Bd (B : Nat) (t : Table) : Prop := ∀ x ∈ t, x.2.seq < 65536 ∧ x.2.payload.length ≤ B

/-- on a table with distinct keys the bound speaks of the entries of the function view -/
theorem bd_iff_abs {B : Nat} {t : Table} (hk : (t.map (·.1)).Nodup) :
    Bd B t ↔ ∀ e q, t.abs e = some q → q.seq < 65536 ∧ q.buf.length ≤ B := by
  constructor
  · intro h e q hq
    rw [abs_apply] at hq
    cases hf : t.find e with
    | none => rw [hf] at hq; cases hq
    | some v =>
      rw [hf] at hq
      cases hq
      exact h _ (find_mem t e v hf)
  · intro h x hx
    exact h x.1 (absP x.2) (by rw [abs_apply, mem_find t hk x hx]; rfl)

/-- one call of the low-level `decode` on a buffer of `n` bytes takes a table within `B` to a table within `B + n`
    (null pointer: `n = 0`): the statement `decodeWith_pending_bounds` about the decoder model, read through `decodeLL_refines` -/
theorem decodeLL_bd (t : Table) (buf : Option Bytes) (B : Nat) (hok : TableOk t) (hb : Bd B t) :
    Bd (B + (buf.map List.length).getD 0) (decodeLL t buf).1 := by
  obtain ⟨hok', habs, _⟩ := decodeLL_refines t buf hok
  rw [bd_iff_abs hok'.1, habs]
  exact decodeWith_pending_bounds tecmpDecode t.abs buf B ((bd_iff_abs hok.1).mp hb)

/-- entries within `B` bytes, `B` 64 KiB away from the end of the address space: the hypothesis `TableReg` of the single-call theorems -/
theorem bd_tableReg {B : Nat} {t : Table} (h : Bd B t) (hB : B + 65536 < 2 ^ 64) : SrcDec.TableReg t :=
  fun x hx => ⟨(h x hx).1, by have := (h x hx).2; omega⟩

end AsamCmp.SrcHist
