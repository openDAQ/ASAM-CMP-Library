/-
  Simp sets of the source-level normalisers and of the bit-program runs (an attribute cannot be used in the module that registers it).
-/
import Lean.Meta.Tactic.Simp.RegisterCommand

/-- rewrite rules of `src_norm` (`Lemmas/SrcNorm.lean`) -/
register_simp_attr src_simp

/-- rewrite rules of `bld_norm` (`Lemmas/SrcBuilders.lean`): every write becomes a `writeAt`, adjacent writes are merged -/
register_simp_attr bld_simp

/-- length rules of `len_omega` (`Lemmas/SrcBuilders.lean`) -/
register_simp_attr len_simp

/-- one equation per `Src.Bit.Op` for a step of `Src.Bit.run`, and the `Option` rearrangements that bring a run into right-nested
    `bind`s (collected in `Props/SrcLeftovers.lean`, used by `prog_norm`) -/
register_simp_attr bit_run
