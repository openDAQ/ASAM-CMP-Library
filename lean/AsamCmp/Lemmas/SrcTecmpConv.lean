/-
  Source-level TECMP path: `TECMP::Converter`.  For a payload object of each supported kind the translated converter builds
  exactly the ASAM CMP payload bytes and packet fields of the TECMP model (`Tecmp.lean`): the ASAM payload objects are the translated
  constructors, setters and `setData` builders of GeneratedSrc.lean run on the local object's own byte vector.
-/
import AsamCmp.Lemmas.SrcTecmpPayload
import AsamCmp.Props.SrcBuilders
import AsamCmp.Lemmas.TecmpWire
set_option linter.unusedSimpArgs false
set_option linter.unusedVariables false
namespace AsamCmp.SrcTec
open AsamCmp AsamCmp.Src AsamCmp.SrcGen AsamCmp.SrcTie

/-- a packet of the model as the translated source represents it: the scalar members of `ASAM::CMP::Packet` and the owned payload
    (type code, bytes) -/
def tRepr (p : Packet) : TPacket_St :=
  { hdr := { f_version := p.version, f_deviceId := p.deviceId, f_streamId := p.streamId, f_sequenceCounter := p.seq,
             f_timestamp := p.ts, f_interfaceId := p.ifId, f_vendorId := p.vendorId, f_commonFlags := p.flags,
             f_segmentType := p.segType },
    payload := p.payload.map fun pl => (pl.ty, pl.data) }

/-- the packet skeleton `GetPackageFromTecmpHeader` makes of the header bytes `H`, with interface id `ifId` and payload -/
def tpkt (H : Bytes) (ifId : Nat) (pl : Option (Nat × Bytes)) : TPacket_St :=
  { hdr := { Packet_default with f_deviceId := byteAt H 1, f_timestamp := beAt H 16 8, f_interfaceId := ifId }, payload := pl }

theorem getPackage_src (H : Bytes) (hH : 28 ≤ H.length) :
    TECMP_Converter_GetPackageFromTecmpHeader_obj H = some (some (tpkt H (beAt H 12 4) none)) := by
  obtain ⟨_, _, _, _, hdev, hif, hts⟩ := tecmp_header_src H hH
  simp only [TECMP_Converter_GetPackageFromTecmpHeader_obj, hdev, hif, hts, Packet_setDeviceId_obj, Packet_setTimestamp_obj,
    Packet_setInterfaceId_obj, bind, pure, some_bind]
  rfl

/-! ### a TECMP payload object read through its own byte vector (memory = the vector, address 0) -/

theorem can_own (p : Bytes) (h64 : p.length < 2 ^ 64) (h5 : 5 ≤ p.length) :
    TECMP_CanPayload_getArbId p 0 p.length 0 = some (beAt p 0 4) ∧
    TECMP_CanPayload_getDlc p 0 p.length 0 = some (byteAt p 4) :=
  have h := tecmp_can_at (at_whole p) 0 h64 h5
  ⟨h.1, h.2.1⟩

theorem can_data_own (p : Bytes) :
    TECMP_CanPayload_getData objBase p.length 0 = some (if 5 < p.length then objBase + 5 else 0) := by
  unfold TECMP_CanPayload_getData
  by_cases h : 5 < p.length <;> simp [h]

theorem can_crc_own (p : Bytes) (h64 : p.length < 2 ^ 64) (h5 : 5 ≤ p.length) :
    TECMP_CanPayload_getCrc p 0 p.length 0 = some (tecmpCanCrc p (byteAt p 4)) := by
  have hd := byteAt_lt_256 p 4
  have hrd : Src.rd p (0 + 4) 1 = some (byteAt p 4) := by rw [rd_eq _ _ _ (by omega), leAt_one]
  simp only [TECMP_CanPayload_getCrc, TECMP_CanPayload_getHeader_v, TECMP_CanPayload_Header_getDlc, swapEndian_u8, hrd, bind, pure,
    some_bind, uadd_eq 5 (byteAt p 4) (by omega), uadd_eq (5 + byteAt p 4) 3 (by omega), tecmpCanCrc, Nat.zero_add]
  by_cases hc : p.length < 5 + byteAt p 4 + 3
  · simp only [hc, decide_true, if_true]
  · simp only [hc, decide_false, Bool.false_eq_true, if_false, cpyToScalar_three p (5 + byteAt p 4) (by omega)]

theorem lin_own (p : Bytes) (h64 : p.length < 2 ^ 64) (h2 : 2 ≤ p.length) :
    TECMP_LinPayload_getPid p 0 p.length 0 = some (byteAt p 0) ∧
    TECMP_LinPayload_getDataLength p 0 p.length 0 = some (byteAt p 1) ∧
    TECMP_LinPayload_getCrc p 0 p.length 0 = some (if p.length ≤ 2 + byteAt p 1 then 0 else byteAt p (2 + byteAt p 1)) :=
  have h := tecmp_lin_at (at_whole p) 0 h64 h2
  ⟨h.1, h.2.1, h.2.2.2⟩

theorem lin_data_own (p : Bytes) : TECMP_LinPayload_getData objBase p.length 0 = some (objBase + 2) := rfl

/-! ### the ASAM CAN / CAN-FD payload object the converter builds -/

theorem canCtor_src : CanPayload_ctor_v_obj = some ⟨zeros 16, 257⟩ := rfl
theorem canFdCtor_src : CanFdPayload_ctor_v_obj = some ⟨zeros 16, 258⟩ := rfl

/-- `setId` on an object whose id word is still 0 -/
theorem can_setId_src (o : Bytes) (id : Nat) (h : 8 ≤ o.length) (hz : leAt o 4 4 = 0) :
    CanPayloadBase_setId o 0 o.length 0 id = some (writeAt o 4 (beEnc 4 id)) := by
  simp only [CanPayloadBase_setId, CanPayloadBase_getHeader_v2, CanPayloadBase_Header_setId, bind, pure, some_bind, Nat.zero_add]
  exact rmw_swap32_zero o 4 _ id (by omega) hz

/-- `CanPayload::setCrc` / `CanFdPayload::setCrc` on an object whose crc word is still 0 -/
theorem can_setCrc_src (o : Bytes) (c : Nat) (h : 12 ≤ o.length) (hz : leAt o 8 4 = 0) :
    CanPayload_setCrc o 0 o.length 0 c = some (writeAt o 8 (beEnc 4 c)) := by
  simp only [CanPayload_setCrc, CanPayloadBase_getHeader_v2, CanPayloadBase_Header_setCrc, bind, pure, some_bind, Nat.zero_add]
  exact rmw_swap32_zero o 8 _ c (by omega) hz

theorem canFd_setCrc_src (o : Bytes) (c : Nat) (h : 12 ≤ o.length) (hz : leAt o 8 4 = 0) :
    CanFdPayload_setCrc o 0 o.length 0 c = some (writeAt o 8 (beEnc 4 c)) := by
  simp only [CanFdPayload_setCrc, CanPayloadBase_getHeader_v2, CanPayloadBase_Header_setCrcSbc, bind, pure, some_bind, Nat.zero_add]
  exact rmw_swap32_zero o 8 _ c (by omega) hz

theorem canObj_crc_zero (id : Nat) (d : Bytes) :
    12 ≤ (canSetData (writeAt (zeros 16) 4 (beEnc 4 id)) d).length ∧ leAt (canSetData (writeAt (zeros 16) 4 (beEnc 4 id)) d) 8 4 = 0 := by
  constructor
  · simp [canSetData, setTail, resize, writeAt, zeros, beEnc, List.replicate]
  · simp [canSetData, setTail, resize, writeAt, zeros, beEnc, List.replicate, leAt, slice, leDec]

/-! ### `ConvertCanFdPayload` / `ConvertCanPayload` -/

def canData (p : Bytes) : Bytes := slice p 5 (byteAt p 4)
/-- the ASAM CAN object after `setId` and `setData` -/
def canBase (p : Bytes) : Bytes := canSetData (writeAt (zeros 16) 4 (beEnc 4 (beAt p 0 4))) (canData p)

/-- the `memcpy` source `getData()` hands to `setData`: the bytes behind the 5-byte header, or nothing at all (null pointer) when
    the payload ends there — in which case the length byte is 0 -/
theorem can_ext (p : Bytes) (h5 : 5 ≤ p.length) (hd : byteAt p 4 ≤ p.length - 5) :
    byteAt p 4 ≤ (ptrBytes p (if 5 < p.length then objBase + 5 else 0)).length ∧
    (ptrBytes p (if 5 < p.length then objBase + 5 else 0)).take (byteAt p 4) = canData p := by
  unfold canData
  by_cases h : 5 < p.length
  · rw [if_pos h, ptrBytes_off]
    exact ⟨by simp only [List.length_drop]; omega, rfl⟩
  · have h0 : byteAt p 4 = 0 := by omega
    rw [if_neg h, ptrBytes_null, h0, slice_zero]
    exact ⟨by simp, rfl⟩

theorem zeros16_id : leAt (zeros 16) 4 4 = 0 := by decide
theorem zeros16_len : 8 ≤ (zeros 16).length := by decide

theorem convertCanFd_src (p : Bytes) (ty : Nat) (pk : TPacket_St) (h64 : p.length < 2 ^ 64) (h5 : 5 ≤ p.length)
    (hd : byteAt p 4 ≤ p.length - 5) :
    TECMP_Converter_ConvertCanFdPayload_obj (some ⟨p, ty⟩) (some pk) =
      some (some (TPacket_setPayload pk ⟨writeAt (canBase p) 8 (beEnc 4 (tecmpCanCrc p (byteAt p 4))), 258⟩)) := by
  obtain ⟨hx1, hx2⟩ := can_ext p h5 hd
  obtain ⟨hz1, hz2⟩ := canObj_crc_zero (beAt p 0 4) (canData p)
  have hdl := byteAt_lt_256 p 4
  simp only [TECMP_Converter_ConvertCanFdPayload_obj, canFdCtor_src, bind, pure, some_bind, (can_own p h64 h5).1,
    (can_own p h64 h5).2, can_setId_src (zeros 16) (beAt p 0 4) zeros16_len zeros16_id, can_data_own p,
    can_setData_src _ _ 0 (byteAt p 4) hx1 hdl, hx2, can_crc_own p h64 h5]
  rw [show canSetData (writeAt (zeros 16) 4 (beEnc 4 (beAt p 0 4))) (canData p) = canBase p from rfl,
    canFd_setCrc_src (canBase p) _ hz1 hz2]
  rfl

theorem convertCan_src (H p : Bytes) (ty : Nat) (hH : 28 ≤ H.length) (h64 : p.length < 2 ^ 64) (h5 : 5 ≤ p.length)
    (hd : byteAt p 4 ≤ p.length - 5) :
    TECMP_Converter_ConvertCanPayload_obj H (some ⟨p, ty⟩) =
      some (some (tpkt H (beAt H 12 4)
        (some (if byteAt p 4 > 8 then (258, writeAt (canBase p) 8 (beEnc 4 (tecmpCanCrc p (byteAt p 4))))
               else (257, writeAt (canBase p) 8 (beEnc 4 (tecmpCanCrc p (byteAt p 4) % 65536))))))) := by
  obtain ⟨hx1, hx2⟩ := can_ext p h5 hd
  obtain ⟨hz1, hz2⟩ := canObj_crc_zero (beAt p 0 4) (canData p)
  have hdl := byteAt_lt_256 p 4
  have hslt : slt 32 8 (byteAt p 4) = decide (8 < byteAt p 4) := by
    unfold slt; rw [toInt_small 8 (by omega), toInt_small _ (by omega)]; simp only [Int.ofNat_lt]
  simp only [TECMP_Converter_ConvertCanPayload_obj, getPackage_src H hH, bind, pure, some_bind, (can_own p h64 h5).2, hslt]
  by_cases hfd : 8 < byteAt p 4
  · simp only [hfd, decide_true, if_true, convertCanFd_src p ty _ h64 h5 hd, some_bind, gt_iff_lt]
    rfl
  · simp only [hfd, decide_false, Bool.false_eq_true, if_false, canCtor_src, some_bind, (can_own p h64 h5).1,
      can_setId_src (zeros 16) (beAt p 0 4) zeros16_len zeros16_id, can_data_own p,
      can_setData_src _ _ 0 (byteAt p 4) hx1 hdl, hx2, can_crc_own p h64 h5, gt_iff_lt]
    rw [show canSetData (writeAt (zeros 16) 4 (beEnc 4 (beAt p 0 4))) (canData p) = canBase p from rfl,
      can_setCrc_src (canBase p) _ hz1 hz2]
    rfl

/-! ### `convertLinPayload` -/

theorem linCtor_src : LinPayload_ctor_v_obj = some ⟨zeros 8, 259⟩ := rfl

theorem lin_setLinId_src (id : Nat) :
    LinPayload_setLinId (zeros 8) 0 (zeros 8).length 0 id = some (writeAt (zeros 8) 4 [UInt8.ofNat (id &&& 63)]) := by
  have hl : (writeAt (zeros 8) 4 (leEnc 1 0)).length = 8 := by decide
  simp only [LinPayload_setLinId, LinPayload_getHeader_v2, LinPayload_Header_setLinId, bind, pure, some_bind, Nat.zero_add]
  rw [rd_eq _ _ _ (by decide), show leAt (zeros 8) 4 1 = 0 from by decide, some_bind, Nat.zero_and, Nat.zero_mod,
    wr_eq _ _ _ _ (by decide), some_bind, rd_eq _ _ _ (by rw [hl]; omega), some_bind,
    leAt_writeAt_same _ _ _ _ (by decide), Nat.zero_mod, Nat.zero_or, wr_eq _ _ _ _ (by rw [hl]; omega),
    writeAt_writeAt_of_length_eq _ _ _ _ (by decide) (by simp [leEnc_length]), leEnc_one, u8_ofNat_mod]

theorem lin_setChecksum_src (o : Bytes) (c : Nat) (h : 7 ≤ o.length) :
    LinPayload_setChecksum o 0 o.length 0 c = some (writeAt o 6 [UInt8.ofNat c]) := by
  simp only [LinPayload_setChecksum, LinPayload_getHeader_v2, LinPayload_Header_setChecksum, bind, pure, some_bind, Nat.zero_add]
  rw [wr_eq _ _ _ _ (by omega), leEnc_one]

/-- the ASAM LIN payload object of the model, for the TECMP LIN payload `p` -/
def linObjOf (p : Bytes) : Bytes :=
  linSetData (writeAt (writeAt (zeros 8) 4 [UInt8.ofNat (byteAt p 0 &&& 0x3F)]) 6
      [UInt8.ofNat (if p.length ≤ 2 + byteAt p 1 then 0 else byteAt p (2 + byteAt p 1))]) (slice p 2 (byteAt p 1))

theorem convertLin_src (H p : Bytes) (ty : Nat) (hH : 28 ≤ H.length) (h64 : p.length < 2 ^ 64) (h2 : 2 ≤ p.length)
    (hd : byteAt p 1 ≤ p.length - 2) :
    TECMP_Converter_convertLinPayload_obj H (some ⟨p, ty⟩) = some (some (tpkt H (beAt H 12 4) (some (259, linObjOf p)))) := by
  obtain ⟨hpid, hlen, hcrc⟩ := lin_own p h64 h2
  have hdl := byteAt_lt_256 p 1
  have hx1 : byteAt p 1 ≤ (ptrBytes p (objBase + 2)).length := by rw [ptrBytes_off, List.length_drop]; omega
  have hx2 : (ptrBytes p (objBase + 2)).take (byteAt p 1) = slice p 2 (byteAt p 1) := by rw [ptrBytes_off]; rfl
  have hw : 7 ≤ (writeAt (zeros 8) 4 [UInt8.ofNat (byteAt p 0 &&& 63)]).length := by
    rw [writeAt_length_of_le _ _ _ (by simp [zeros])]; decide
  simp only [TECMP_Converter_convertLinPayload_obj, getPackage_src H hH, linCtor_src, bind, pure, some_bind, hpid, hlen, hcrc,
    lin_setLinId_src, lin_setChecksum_src _ _ hw, lin_data_own, lin_setData_src _ _ 0 (byteAt p 1) hx1 hdl, hx2]
  rfl

/-! ### `ConvertCaptureModulePayload` -/

theorem cmCtor_src : CaptureModulePayload_ctor_v_obj = some ⟨zeros 36, 769⟩ := rfl

theorem cm_own (p : Bytes) (h18 : 18 ≤ p.length) :
    TECMP_CaptureModulePayload_getSerialNumber p 0 p.length 0 = some (beAt p 8 4) ∧
    TECMP_CaptureModulePayload_getHwVersion p 0 p.length 0 =
      some ([chr 'v'] ++ decimal (byteAt p 16) ++ [chr '.'] ++ decimal (byteAt p 17)) ∧
    TECMP_CaptureModulePayload_getSwVersion p 0 p.length 0 =
      some ([chr 'v'] ++ decimal (byteAt p 13) ++ [chr '.'] ++ decimal (byteAt p 14) ++ [chr '.'] ++ decimal (byteAt p 15)) := by
  have hb : ∀ i, byteAt p i < 2 ^ 31 := fun i => Nat.lt_trans (byteAt_lt_256 p i) (by decide)
  refine ⟨?_, ?_, ?_⟩
  · simp only [TECMP_CaptureModulePayload_getSerialNumber, TECMP_CaptureModulePayload_getHeader_v,
      TECMP_CaptureModulePayload_Header_getSerialNumber, bind, pure, some_bind, Nat.zero_add]
    rw [rd_eq _ _ _ (by omega), some_bind, swap32_leAt _ _ (by omega)]
  · simp only [TECMP_CaptureModulePayload_getHwVersion, TECMP_CaptureModulePayload_getHeader_v,
      TECMP_CaptureModulePayload_Header_getHwVersionMajor, TECMP_CaptureModulePayload_Header_getHwVersionMinor, swapEndian_u8,
      bind, pure, some_bind, Nat.zero_add, Nat.reduceAdd, rd_eq p 16 1 (by omega), rd_eq p 17 1 (by omega), leAt_one,
      toStringInt_small _ (hb _)]
    rfl
  · simp only [TECMP_CaptureModulePayload_getSwVersion, TECMP_CaptureModulePayload_getHeader_v,
      TECMP_CaptureModulePayload_Header_getSwVersionMajor, TECMP_CaptureModulePayload_Header_getSwVersionMinor,
      TECMP_CaptureModulePayload_Header_getSwVersionPatch, swapEndian_u8,
      bind, pure, some_bind, Nat.zero_add, Nat.reduceAdd, rd_eq p 13 1 (by omega), rd_eq p 14 1 (by omega),
      rd_eq p 15 1 (by omega), leAt_one, toStringInt_small _ (hb _)]
    rfl

/-- the ASAM capture-module payload object of the model, for the TECMP capture-module payload `p` -/
def cmObjOf (p : Bytes) : Bytes :=
  cmSetData (zeros 36) [] (decimal (beAt p 8 4))
    ([chr 'v'] ++ decimal (byteAt p 16) ++ [chr '.'] ++ decimal (byteAt p 17))
    ([chr 'v'] ++ decimal (byteAt p 13) ++ [chr '.'] ++ decimal (byteAt p 14) ++ [chr '.'] ++ decimal (byteAt p 15)) []

theorem convertCm_src (H p : Bytes) (ty : Nat) (hH : 28 ≤ H.length) (h18 : 18 ≤ p.length) :
    TECMP_Converter_ConvertCaptureModulePayload_obj H (some ⟨p, ty⟩) =
      some (some (tpkt H (beAt H 12 4) (some (769, cmObjOf p)))) := by
  obtain ⟨hser, hhw, hsw⟩ := cm_own p h18
  have hs : (decimal (beAt p 8 4)).length ≤ 10 :=
    C15.decimal_length_le _ 10 (by decide) (Nat.lt_trans (beAt_lt_pow p 8 4) (by decide))
  have hbyte : ∀ i, (decimal (byteAt p i)).length ≤ 3 := fun i =>
    C15.decimal_length_le _ 3 (by decide) (Nat.lt_trans (byteAt_lt_256 p i) (by decide))
  have h13 := hbyte 13; have h14 := hbyte 14; have h15 := hbyte 15; have h16 := hbyte 16; have h17 := hbyte 17
  simp only [TECMP_Converter_ConvertCaptureModulePayload_obj, getPackage_src H hH, cmCtor_src, bind, pure, some_bind, hser, hhw,
    hsw]
  rw [cm_setData_src (zeros 36) [] _ _ _ [] 0 (by simp) (by omega)
    (by simp only [List.length_append, List.length_singleton]; omega)
    (by simp only [List.length_append, List.length_singleton]; omega) (by simp)]
  rfl

/-! ### `ConvertInterfacePayload` -/

theorem ifCtor_src : InterfacePayload_ctor_v_obj = some ⟨zeros 40, 770⟩ := rfl

theorem rd_swap32_own (p : Bytes) (i : Nat) (h : i + 4 ≤ p.length) :
    (Src.rd p i 4).bind swapEndian_u32 = some (beAt p i 4) := rd_swap32 p i h

theorem if_own (q : Bytes) (h24 : 24 ≤ q.length) :
    TECMP_InterfacePayload_getInterfaceId q 0 q.length 0 = some (beAt q 12 4) ∧
    TECMP_InterfacePayload_getMessagesTotal q 0 q.length 0 = some (beAt q 16 4) ∧
    TECMP_InterfacePayload_getErrorsTotal q 0 q.length 0 = some (beAt q 20 4) := by
  refine ⟨?_, ?_, ?_⟩
  · simp only [TECMP_InterfacePayload_getInterfaceId, TECMP_InterfacePayload_getHeader_v,
      TECMP_InterfacePayload_Header_getInterfaceId, bind, pure, some_bind, Nat.zero_add]
    rw [rd_eq _ _ _ (by omega), some_bind, swap32_leAt _ _ (by omega)]
  · simp only [TECMP_InterfacePayload_getMessagesTotal, TECMP_InterfacePayload_getHeader_v,
      TECMP_InterfacePayload_Header_getMessagesTotal, bind, pure, some_bind, Nat.zero_add, Nat.reduceAdd]
    rw [rd_eq _ _ _ (by omega), some_bind, swap32_leAt _ _ (by omega)]
  · simp only [TECMP_InterfacePayload_getErrorsTotal, TECMP_InterfacePayload_getHeader_v,
      TECMP_InterfacePayload_Header_getErrorsTotal, bind, pure, some_bind, Nat.zero_add, Nat.reduceAdd]
    rw [rd_eq _ _ _ (by omega), some_bind, swap32_leAt _ _ (by omega)]

theorem if_setters_src (o : Bytes) (v : Nat) (h : 24 ≤ o.length) :
    InterfacePayload_setInterfaceId o 0 o.length 0 v = some (writeAt o 0 (beEnc 4 v)) ∧
    InterfacePayload_setMsgTotalRx o 0 o.length 0 v = some (writeAt o 4 (beEnc 4 v)) ∧
    InterfacePayload_setErrorsTotalRx o 0 o.length 0 v = some (writeAt o 20 (beEnc 4 v)) := by
  refine ⟨?_, ?_, ?_⟩
  · simp only [InterfacePayload_setInterfaceId, InterfacePayload_getHeader_v2, InterfacePayload_Header_setInterfaceId, bind, pure,
      some_bind]
    exact wr_swap32 o 0 v (by omega)
  · simp only [InterfacePayload_setMsgTotalRx, InterfacePayload_getHeader_v2, InterfacePayload_Header_setMsgTotalRx, bind, pure,
      some_bind, Nat.zero_add]
    exact wr_swap32 o 4 v (by omega)
  · simp only [InterfacePayload_setErrorsTotalRx, InterfacePayload_getHeader_v2, InterfacePayload_Header_setErrorsTotalRx, bind,
      pure, some_bind, Nat.zero_add]
    exact wr_swap32 o 20 v (by omega)

/-- the ASAM interface status payload object of the model, for the TECMP interface payload object `q` (28 bytes) -/
def ifObjOf (q : Bytes) : Bytes :=
  writeAt (writeAt (writeAt (zeros 40) 0 (beEnc 4 (beAt q 12 4))) 4 (beEnc 4 (beAt q 16 4))) 20 (beEnc 4 (beAt q 20 4))

theorem convertIf_src (H q : Bytes) (ty : Nat) (hH : 28 ≤ H.length) (h24 : 24 ≤ q.length) :
    TECMP_Converter_ConvertInterfacePayload_obj H (some ⟨q, ty⟩) =
      some (some (tpkt H (beAt q 12 4) (some (770, ifObjOf q)))) := by
  obtain ⟨hid, hmsg, herr⟩ := if_own q h24
  have l0 : 24 ≤ (zeros 40).length := by decide
  have l1 : 24 ≤ (writeAt (zeros 40) 0 (beEnc 4 (beAt q 12 4))).length := by
    rw [writeAt_length_of_le _ _ _ (by simp [zeros])]; decide
  have l2 : 24 ≤ (writeAt (writeAt (zeros 40) 0 (beEnc 4 (beAt q 12 4))) 4 (beEnc 4 (beAt q 16 4))).length := by
    rw [writeAt_length_of_le _ _ _ (by rw [beEnc_length]; omega)]; exact l1
  simp only [TECMP_Converter_ConvertInterfacePayload_obj, getPackage_src H hH, ifCtor_src, bind, pure, some_bind, hid, hmsg, herr,
    (if_setters_src _ _ l0).1, (if_setters_src _ _ l1).2.1, (if_setters_src _ _ l2).2.2, Packet_setInterfaceId_obj]
  rfl

/-! ### validity of the packets the converter builds, `ConvertDataPayload`, `ConvertPacket` -/

theorem tpkt_valid (H : Bytes) (i ty : Nat) (o : Bytes) (h : ty = 257 ∨ ty = 258 ∨ ty = 259 ∨ ty = 769 ∨ ty = 770) :
    TPacket_isValid (tpkt H i (some (ty, o))) = some true := by
  rcases h with h | h | h | h | h <;> subst h <;>
    simp only [TPacket_isValid, tpkt, Payload_isValid_obj, PayloadType_isValid, rd_leEnc4, bind, pure, some_bind] <;> decide

theorem convertData_src (H : Bytes) (x : TECMP_Payload_St) (hH : 28 ≤ H.length) :
    TECMP_Converter_ConvertDataPayload_obj H (some x) =
      if beAt H 6 2 = 2 ∨ beAt H 6 2 = 3 then TECMP_Converter_ConvertCanPayload_obj H (some x)
      else if beAt H 6 2 = 4 then TECMP_Converter_convertLinPayload_obj H (some x) else some none := by
  unfold TECMP_Converter_ConvertDataPayload_obj
  simp only [hdr_dataType H hH, bind, pure, some_bind]
  by_cases hcan : beAt H 6 2 = 2 ∨ beAt H 6 2 = 3
  · have hc : (beAt H 6 2 == 2 || beAt H 6 2 == 3) = true := by simpa using hcan
    simp only [hc, hcan, if_true]
    try (cases TECMP_Converter_ConvertCanPayload_obj H (some x) <;> rfl)
  · have hc : (beAt H 6 2 == 2 || beAt H 6 2 == 3) = false := by simpa using hcan
    simp only [hc, hcan, Bool.false_eq_true, if_false]
    by_cases hlin : beAt H 6 2 = 4
    · have hl : (beAt H 6 2 == 4) = true := by simpa using hlin
      simp only [hl, if_pos hlin, if_true]
      try (cases TECMP_Converter_convertLinPayload_obj H (some x) <;> rfl)
    · have hl : (beAt H 6 2 == 4) = false := by simpa using hlin
      simp only [hl, if_neg hlin, Bool.false_eq_true, if_false, ite_self]

/-- the tail of every branch of `ConvertPacket`: a non-null, valid packet is handed back -/
theorem convert_tail (r : Option (Option TPacket_St)) (H : Bytes) (i ty : Nat) (o : Bytes)
    (hr : r = some (some (tpkt H i (some (ty, o))))) (hty : ty = 257 ∨ ty = 258 ∨ ty = 259 ∨ ty = 769 ∨ ty = 770) :
    (r.bind fun t => (if t.isSome = true then t.bind fun p => TPacket_isValid p else some false).bind
      fun ok => if ok = true then some t else some none) = some (some (tpkt H i (some (ty, o)))) := by
  subst hr
  simp only [some_bind, Option.isSome_some, if_true, tpkt_valid H i ty o hty]

theorem convertPacket_cm (H p : Bytes) (ty : Nat) (hH : 28 ≤ H.length) (hmt : byteAt H 5 = 1) (h18 : 18 ≤ p.length) :
    TECMP_Converter_ConvertPacket_obj H (some ⟨p, ty⟩) = some (some (tpkt H (beAt H 12 4) (some (769, cmObjOf p)))) := by
  unfold TECMP_Converter_ConvertPacket_obj
  simp only [hdr_messageType H hH, hmt, bind, pure, some_bind, beq_self_eq_true, if_true]
  exact convert_tail _ H _ 769 _ (convertCm_src H p ty hH h18) (by decide)

theorem convertPacket_if (H q : Bytes) (ty : Nat) (hH : 28 ≤ H.length) (hmt : byteAt H 5 = 2) (h24 : 24 ≤ q.length) :
    TECMP_Converter_ConvertPacket_obj H (some ⟨q, ty⟩) = some (some (tpkt H (beAt q 12 4) (some (770, ifObjOf q)))) := by
  unfold TECMP_Converter_ConvertPacket_obj
  simp only [hdr_messageType H hH, hmt, bind, pure, some_bind, Nat.reduceBEq, Bool.false_eq_true, if_false, beq_self_eq_true,
    if_true]
  exact convert_tail _ H _ 770 _ (convertIf_src H q ty hH h24) (by decide)

/-- the ASAM payload (type code, bytes) of the model for the TECMP CAN payload `p` -/
def canPl (p : Bytes) : Nat × Bytes :=
  if byteAt p 4 > 8 then (258, writeAt (canBase p) 8 (beEnc 4 (tecmpCanCrc p (byteAt p 4))))
  else (257, writeAt (canBase p) 8 (beEnc 4 (tecmpCanCrc p (byteAt p 4) % 65536)))

theorem convertPacket_can (H p : Bytes) (ty : Nat) (hH : 28 ≤ H.length) (hmt : byteAt H 5 = 3)
    (hdt : beAt H 6 2 = 2 ∨ beAt H 6 2 = 3) (h64 : p.length < 2 ^ 64) (h5 : 5 ≤ p.length) (hd : byteAt p 4 ≤ p.length - 5) :
    TECMP_Converter_ConvertPacket_obj H (some ⟨p, ty⟩) = some (some (tpkt H (beAt H 12 4) (some (canPl p)))) := by
  unfold TECMP_Converter_ConvertPacket_obj
  simp only [hdr_messageType H hH, hmt, bind, pure, some_bind, Nat.reduceBEq, Bool.false_eq_true, if_false, beq_self_eq_true,
    if_true]
  have hc := convertCan_src H p ty hH h64 h5 hd
  have hconv : TECMP_Converter_ConvertDataPayload_obj H (some ⟨p, ty⟩) = some (some (tpkt H (beAt H 12 4) (some (canPl p)))) := by
    rw [convertData_src H _ hH, if_pos hdt, hc]; rfl
  unfold canPl at hconv ⊢
  by_cases hfd : byteAt p 4 > 8
  · rw [if_pos hfd] at hconv ⊢
    exact convert_tail _ H _ 258 _ hconv (by decide)
  · rw [if_neg hfd] at hconv ⊢
    exact convert_tail _ H _ 257 _ hconv (by decide)

theorem convertPacket_lin (H p : Bytes) (ty : Nat) (hH : 28 ≤ H.length) (hmt : byteAt H 5 = 3)
    (hdt : beAt H 6 2 = 4) (h64 : p.length < 2 ^ 64) (h2 : 2 ≤ p.length) (hd : byteAt p 1 ≤ p.length - 2) :
    TECMP_Converter_ConvertPacket_obj H (some ⟨p, ty⟩) = some (some (tpkt H (beAt H 12 4) (some (259, linObjOf p)))) := by
  unfold TECMP_Converter_ConvertPacket_obj
  simp only [hdr_messageType H hH, hmt, bind, pure, some_bind, Nat.reduceBEq, Bool.false_eq_true, if_false, beq_self_eq_true,
    if_true]
  have hconv : TECMP_Converter_ConvertDataPayload_obj H (some ⟨p, ty⟩) =
      some (some (tpkt H (beAt H 12 4) (some (259, linObjOf p)))) := by
    rw [convertData_src H _ hH, if_neg (by omega), if_pos hdt, convertLin_src H p ty hH h64 h2 hd]
  exact convert_tail _ H _ 259 _ hconv (by decide)

/-! ### `ConvertPacketsToAsam`: the range-for over the payload objects -/

/-- the loop over the objects `l.map g`, each `g x` converted to the packet `f x` -/
theorem convert_loop {α : Type} (H : Bytes) (g : α → Option TECMP_Payload_St) (f : α → TPacket_St)
    (a : List (Option TECMP_Payload_St)) :
    ∀ (l : List α) (acc : List (Option TPacket_St)),
      (∀ x ∈ l, TECMP_Converter_ConvertPacket_obj H (g x) = some (some (f x))) →
      TECMP_Decoder_ConvertPacketsToAsam_loop1 (l.map g) a H acc = some (acc ++ l.map fun x => some (f x)) := by
  intro l
  induction l with
  | nil => intro acc _; simp [TECMP_Decoder_ConvertPacketsToAsam_loop1]
  | cons x xs ih =>
    intro acc h
    rw [List.map_cons, TECMP_Decoder_ConvertPacketsToAsam_loop1]
    simp only [h x (List.mem_cons_self), bind, pure, some_bind, Option.isSome_some, if_true]
    rw [ih _ (fun y hy => h y (List.mem_cons_of_mem _ hy))]
    simp

theorem convertPackets_map {α : Type} (H : Bytes) (g : α → Option TECMP_Payload_St) (f : α → TPacket_St) (l : List α)
    (h : ∀ x ∈ l, TECMP_Converter_ConvertPacket_obj H (g x) = some (some (f x))) :
    TECMP_Decoder_ConvertPacketsToAsam_obj (l.map g) H = some (l.map fun x => some (f x)) := by
  unfold TECMP_Decoder_ConvertPacketsToAsam_obj
  simp only [bind, pure, convert_loop H g f (l.map g) l [] h, some_bind, List.nil_append]

theorem convertPackets_src (H : Bytes) (f : Option TECMP_Payload_St → TPacket_St) (l : List (Option TECMP_Payload_St))
    (h : ∀ x ∈ l, TECMP_Converter_ConvertPacket_obj H x = some (some (f x))) :
    TECMP_Decoder_ConvertPacketsToAsam_obj l H = some (l.map fun x => some (f x)) := by
  have := convertPackets_map H id f l h
  rwa [List.map_id] at this

end AsamCmp.SrcTec
