/-
  C04 helper lemmas: parse ∘ serialise for the protocol's message / frame layout written down
  independently of the encoder model.  The layout is given by a "view" of an arbitrary message
  type, so that `Props/C04.lean` can instantiate it with its own `WMsg`.
-/
import AsamCmp.Tecmp
import AsamCmp.Lemmas.TileBytes
import AsamCmp.Lemmas.WalkBytes
import AsamCmp.Lemmas.LayerB
namespace AsamCmp.C04
open AsamCmp

/-- a type of messages together with its wire layout: timestamp u64 @0, id word u32 @8, flags u8
    @12, payload type u8 @13, payload length u16 @14, payload -/
structure MsgView (α : Type) where
  bytes : α → Bytes
  ts : α → Nat
  idw : α → Nat
  flags : α → Nat
  ptype : α → Nat
  body : α → Bytes
  bytes_eq : ∀ a, bytes a =
    beEnc 8 (ts a) ++ beEnc 4 (idw a) ++ [UInt8.ofNat (flags a), UInt8.ofNat (ptype a)] ++
      beEnc 2 (body a).length ++ body a

namespace MsgView
variable {α : Type} (V : MsgView α)

def WF (a : α) : Prop :=
  V.ts a < 2 ^ 64 ∧ V.idw a < 2 ^ 32 ∧ V.flags a < 256 ∧ V.flags a &&& 0x4C = 0 ∧ 1 ≤ V.ptype a ∧
    V.ptype a < 256 ∧ (V.body a).length < 65536

/-- the packet the decoder must report -/
def pkt (ver dev mt stream : Nat) (a : α) : Packet :=
  { payload := some (create (mt * 256 + V.ptype a) (V.body a)), version := ver, deviceId := dev,
    streamId := stream, seq := 0, ts := V.ts a, ifId := if mt = 1 then V.idw a else 0,
    vendorId := if mt = 3 ∨ mt = 0xFF then V.idw a % 65536 else 0, flags := V.flags a, segType := 0 }

end MsgView

theorem flags_bits {x : Nat} (h : x &&& 0x4C = 0) : x &&& 0x40 = 0 ∧ x &&& 0x0C = 0 :=
  have e : ∀ m, x &&& (0x4C &&& m) = 0 := fun m => by rw [← Nat.and_assoc, h, Nat.zero_and]
  ⟨e 0x40, e 0x0C⟩

section one
variable {α : Type} (V : MsgView α) (a : α) (rest : Bytes)

/-- a message of the view is a `msgHdr` in front of its body -/
theorem MsgView.bytes_hdr :
    V.bytes a = msgHdr (V.ts a) (V.idw a) (V.flags a) (V.ptype a) (V.body a).length ++ V.body a := V.bytes_eq a

theorem MsgView.WF.hdrOk {V : MsgView α} {a : α} (h : V.WF a) : MsgHdrOk (V.ts a) (V.idw a) (V.flags a) (V.ptype a) :=
  ⟨h.1, h.2.1, h.2.2.1, (flags_bits h.2.2.2.1).1, h.2.2.2.2.1, h.2.2.2.2.2.1⟩

theorem msg_bytes_length : (V.bytes a).length = 16 + (V.body a).length := by
  rw [V.bytes_hdr, List.length_append, msgHdr_length]

theorem msg_lenField (h : V.WF a) : beAt (V.bytes a ++ rest) 14 2 = (V.body a).length := by
  rw [V.bytes_hdr]; exact (msgHdr_reads h.hdrOk h.2.2.2.2.2.2 rest).2.2.2.2.2.1

/-- the flags byte and the payload type byte need only their own range (the message may be one the walk rejects) -/
theorem msg_flags_of_lt (h : V.flags a < 256) : byteAt (V.bytes a ++ rest) 12 = V.flags a := by
  rw [V.bytes_hdr, List.append_assoc]
  exact (msgHdr_fields ..).2.2.2.1.trans (Nat.mod_eq_of_lt h)

theorem msg_ptype_of_lt (h : V.ptype a < 256) : byteAt (V.bytes a ++ rest) 13 = V.ptype a := by
  rw [V.bytes_hdr, List.append_assoc]
  exact (msgHdr_fields ..).2.2.2.2.1.trans (Nat.mod_eq_of_lt h)

theorem walk_cons (h : V.WF a) (ver dev mt stream : Nat) :
    walk (dev, stream) ver mt (V.bytes a ++ rest) =
      (V.pkt ver dev mt stream a :: (walk (dev, stream) ver mt rest).1, (walk (dev, stream) ver mt rest).2) := by
  rw [V.bytes_hdr]
  exact walk_msgHdr_unseg h.hdrOk h.2.2.2.2.2.2 rest (flags_bits h.2.2.2.1).2 (dev, stream) ver mt

/-- the remains of a message cut after `k` bytes, followed by `j` zero bytes, end the walk when the padded remains are
    shorter than a message header, or when the header (with its length field) survived and the padding does not make up
    for the missing payload bytes -/
theorem walk_cut_pad (h : V.WF a) (ep : Ep) (ver mt k j : Nat)
    (hcut : k + j < 16 ∨ (16 ≤ k ∧ k + j < 16 + (V.body a).length)) :
    ∃ t, (t = Term.done ∨ t = Term.invalid) ∧ walk ep ver mt ((V.bytes a).take k ++ zeros j) = ([], t) := by
  have hlen := msg_bytes_length V a
  have hrl : ((V.bytes a).take k ++ zeros j).length = k + j := by
    rw [List.length_append, List.length_take, zeros_length, hlen]; omega
  by_cases h0 : k + j = 0
  · refine ⟨.done, Or.inl rfl, ?_⟩
    rw [List.eq_nil_of_length_eq_zero (hrl.trans h0)]
    exact walk_nil_eq ep ver mt
  · refine ⟨.invalid, Or.inr rfl, walk_invalid_eq ep ver mt _ (by rw [hrl]; exact h0) ?_⟩
    rcases hcut with h16 | ⟨h16, hkj⟩
    · simp only [msgValid, hrl, Nat.not_le.mpr h16, decide_false, Bool.false_and]
    · -- the length field is intact and asks for more than is left
      have hl : beAt ((V.bytes a).take k ++ zeros j) 14 2 = (V.body a).length := by
        have := msg_lenField V a [] h
        rw [List.append_nil] at this
        rw [← this]
        unfold beAt slice
        rw [List.drop_append_of_le_length (by rw [List.length_take]; omega),
          List.take_append_of_le_length (by rw [List.length_drop, List.length_take]; omega),
          List.drop_take, List.take_take, Nat.min_eq_left (by omega)]
      simp only [msgValid, hrl, hl, Bool.and_eq_false_iff, decide_eq_false_iff_not]
      left; left; right
      omega

end one

section many
variable {α : Type} (V : MsgView α) (ver dev mt stream : Nat)

theorem walk_msgs (l : List α) (hl : ∀ a ∈ l, V.WF a) (tail : Bytes) :
    walk (dev, stream) ver mt (l.flatMap V.bytes ++ tail) =
      (l.map (V.pkt ver dev mt stream) ++ (walk (dev, stream) ver mt tail).1,
        (walk (dev, stream) ver mt tail).2) := by
  induction l with
  | nil => simp
  | cons a l ih =>
    simp only [List.flatMap_cons, List.append_assoc, List.map_cons, List.cons_append]
    rw [walk_cons V a _ (hl a (by simp)), ih (fun x hx => hl x (by simp [hx]))]

/-- the messages cut after `k` bytes: exactly those wholly inside are delivered.  `fc` is any
    function satisfying the equations of `fitCount` -/
theorem walk_take (fc : Nat → List α → Nat) (h0 : ∀ n, fc n [] = 0)
    (h1 : ∀ n a l, fc n (a :: l) =
      if 16 + (V.body a).length ≤ n then 1 + fc (n - (16 + (V.body a).length)) l else 0) :
    ∀ (l : List α), (∀ a ∈ l, V.WF a) → ∀ k, ∃ t, (t = Term.done ∨ t = Term.invalid) ∧
      walk (dev, stream) ver mt ((l.flatMap V.bytes).take k) =
        ((l.take (fc k l)).map (V.pkt ver dev mt stream), t) := by
  intro l
  induction l with
  | nil =>
    intro _ k
    exact ⟨.done, Or.inl rfl, by simp [walk_nil_eq, h0]⟩
  | cons a l ih =>
    intro hl k
    have ha := hl a (by simp)
    have hlen := msg_bytes_length V a
    simp only [List.flatMap_cons]
    by_cases hk : 16 + (V.body a).length ≤ k
    · obtain ⟨t, ht, hw⟩ := ih (fun x hx => hl x (by simp [hx])) (k - (16 + (V.body a).length))
      refine ⟨t, ht, ?_⟩
      rw [List.take_append, List.take_of_length_le (by omega), hlen, walk_cons V a _ ha, hw, h1, if_pos hk,
        Nat.add_comm 1, List.take_succ_cons]
      simp
    · -- the first message is cut short: the walk ends at it
      obtain ⟨t, ht, hw⟩ := walk_cut_pad V a ha (dev, stream) ver mt k 0 (by omega)
      rw [zeros, List.replicate_zero, List.append_nil,
        ← List.take_append_of_le_length (l₂ := l.flatMap V.bytes) (by omega)] at hw
      refine ⟨t, ht, ?_⟩
      rw [hw, h1, if_neg hk]
      simp

end many

/-- in-range header values -/
def HdrWF (ver reserved dev mt stream seq : Nat) : Prop :=
  1 ≤ ver ∧ ver < 256 ∧ reserved < 256 ∧ dev < 65536 ∧ mt < 256 ∧ stream < 256 ∧ seq < 65536

theorem decode_hdr (d : DecState) {ver reserved dev mt stream seq : Nat}
    (h : HdrWF ver reserved dev mt stream seq) (body : Bytes) :
    decode d (some (hdr8 ver reserved dev mt stream seq ++ body)) =
      step d { ep := (dev, stream), ver := ver, mt := mt, seq := seq,
               unseg := (walk (dev, stream) ver mt body).1, term := (walk (dev, stream) ver mt body).2 } := by
  obtain ⟨h1, h2, _, h4, h5, h6, h7⟩ := h
  have hl : ¬ (hdr8 ver reserved dev mt stream seq ++ body).length < 8 := by
    rw [List.length_append, hdr8_length]; omega
  have hb : ¬ byteAt (hdr8 ver reserved dev mt stream seq ++ body) 0 = 0 := by
    rw [(hdr8_fields ver reserved dev mt stream seq body).1, Nat.mod_eq_of_lt h2]; omega
  unfold decode decodeWith
  simp only [hl, hb, if_false, parseFrame_hdr8 reserved h2 h4 h5 h6 h7]

theorem step_unseg_only (d : DecState) (f : PFrame) (h : f.term = Term.done ∨ f.term = Term.invalid) :
    (step d f).2 = f.unseg := by
  show (localStep (d f.ep) f).2 = f.unseg
  unfold localStep
  rcases h with h | h <;> simp [h]

section final
variable {α : Type} (V : MsgView α) {ver reserved dev mt stream seq : Nat}
  (h : HdrWF ver reserved dev mt stream seq) (l : List α) (hl : ∀ a ∈ l, V.WF a) (d : DecState)
include h hl

theorem wire_tail (tail : Bytes) {t : Term} (ht : t = Term.done ∨ t = Term.invalid)
    (hw : walk (dev, stream) ver mt tail = ([], t)) :
    (decode d (some (hdr8 ver reserved dev mt stream seq ++ l.flatMap V.bytes ++ tail))).2 =
      l.map (V.pkt ver dev mt stream) := by
  rw [List.append_assoc, decode_hdr d h, step_unseg_only]
  · simp only [walk_msgs V ver dev mt stream l hl, hw, List.append_nil]
  · simp only [walk_msgs V ver dev mt stream l hl, hw]
    exact ht

theorem wire_truncate (fc : Nat → List α → Nat) (h0 : ∀ n, fc n [] = 0)
    (h1 : ∀ n a l, fc n (a :: l) =
      if 16 + (V.body a).length ≤ n then 1 + fc (n - (16 + (V.body a).length)) l else 0) (n : Nat) :
    (decode d (some ((hdr8 ver reserved dev mt stream seq ++ l.flatMap V.bytes).take n))).2 =
      (l.take (fc (n - 8) l)).map (V.pkt ver dev mt stream) := by
  by_cases hn : n < 8
  · have hlen : ((hdr8 ver reserved dev mt stream seq ++ l.flatMap V.bytes).take n).length < 8 := by
      rw [List.length_take]; omega
    have hz : n - 8 = 0 := by omega
    have hfc : fc 0 l = 0 := by
      cases l with
      | nil => exact h0 0
      | cons a l => rw [h1]; simp
    unfold decode decodeWith
    simp only [hlen, if_true, hz, hfc, List.take_zero, List.map_nil]
  · obtain ⟨t, ht, hw⟩ := walk_take V ver dev mt stream fc h0 h1 l hl (n - 8)
    rw [List.take_append, List.take_of_length_le (by rw [hdr8_length]; omega), hdr8_length,
      decode_hdr d h, step_unseg_only]
    · rw [hw]
    · rw [hw]; exact ht

end final
end AsamCmp.C04
