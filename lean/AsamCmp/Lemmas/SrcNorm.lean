/-
  Normalisation of a translated function body that works on an object `b` inside a memory (`At m a b`, Lemmas/SrcPrim.lean; most
  often `b` at address `pre.length` of `pre ++ b ++ post`).

  `src_norm` (rules: the simp set `src_simp`, listed by group below) pushes `bind` through `if`, resolves every read that the
  accumulated branch conditions prove to be inside `b` (side conditions by `omega`), removes `size_t` arithmetic that provably
  does not wrap, and leaves a tree of `if`s over linear conditions with `some _` leaves.  `src_finish` folds such a tree with
  Boolean leaves into one Boolean expression and compares it with the model's by `bool_omega` (`some x = some y` for Boolean
  combinations of linear facts).  `bind_head_congr` makes `simp` evaluate a `do` block statement by statement.
-/
import AsamCmp.Lemmas.SrcSwap
import AsamCmp.Lemmas.SrcSimpAttr
namespace AsamCmp.SrcTie
open AsamCmp AsamCmp.Src AsamCmp.SrcGen

theorem mid_length_lt (pre b post : Bytes) (h : (pre ++ b ++ post).length < 2 ^ 64) : b.length < 2 ^ 64 :=
  (at_mid pre b post).length_lt h

theorem bind_ite {α β : Type} (c : Prop) [Decidable c] (a b : Option α) (f : α → Option β) :
    (if c then a else b).bind f = if c then a.bind f else b.bind f := by
  split <;> rfl

/-- One step of a `do` block whose first statement has a known value.  Used with `hx := rfl` for calls that return their
    argument or a constant (`to_underlying`, the `getHeader` overloads): the translator numbers such overloads, so the proofs
    do not name them and let `rfl` find the value. -/
theorem bind_of_eq {α β : Type} {x : Option α} {a : α} {f : α → Option β} {r : Option β} (hx : x = some a)
    (hr : f a = r) : x.bind f = r := by
  rw [hx]; exact hr

theorem umod_of_ne_zero (w x y : Nat) (h : y ≠ 0) : umod w x y = some (x % y) := by
  unfold umod; rw [if_neg h]

theorem and_mod_256 (x c : Nat) (h : c < 256) : (x &&& c) % 256 = x &&& c :=
  Nat.mod_eq_of_lt (Nat.lt_of_le_of_lt Nat.and_le_right h)

/-- Congruence for `simp`: in `x.bind f` normalise `x` only.  Once `x` is `some a` the step `some_bind` (tried before the
    subterms are visited, `↓`) substitutes `a`, and the body of `f` is normalised as a closed term.  Otherwise `simp` also goes
    through the body with the result of `x` a free variable, where no side condition about it can be proved, and every attempt
    is a failing `omega` call.  Opt in with `attribute [local congr] bind_head_congr bind_head_congr'`.  It pays where side
    conditions are discharged by `omega` or a head becomes `none`; it costs where the head stays symbolic or a rule such as
    `Option.map_bind` has to work inside the bodies. -/
theorem bind_head_congr {α β : Type} {x x' : Option α} {f : α → Option β} (h : x = x') : x.bind f = x'.bind f := by
  rw [h]

theorem bind_head_congr' {α β : Type} {x x' : Option α} {f : α → Option β} (h : x = x') : (x >>= f) = (x' >>= f) := by
  rw [h]

/-! ### the rule set `src_simp`, by group -/

-- `Option` steps: a `do` block is evaluated statement by statement, `bind` goes into the branches of an `if`
attribute [src_simp ↓] some_bind none_bind
attribute [src_simp] bind pure bind_ite
-- reads inside the object `b` at address `pre.length` of `pre ++ b ++ post` (for an object given by `hA : At m a b`, pass `hA.rd`,
-- `hA.rd0` as extra rules); a member read followed by `swapEndian` is the big-endian value of the object's bytes
attribute [src_simp] rd_mid rd_mid0 leAt_one swap16_leAt swap32_leAt swap64_leAt
-- `size_t` arithmetic that provably does not wrap; two bytes put together by shift and or
attribute [src_simp] usub_eq uadd_eq umod_of_ne_zero ushl_byteAt or_byteAt and_mod_256
-- conditions: `decide`, Boolean connectives and negations become propositions over `=`, `≤`, `<`; an `if` on a negated condition
-- is turned round, so that `if (!c) A else B` and `if (c) B else A` in the C++ have one normal form
attribute [src_simp] ite_true ite_false if_true if_false eq_self Bool.false_eq_true Bool.true_eq_false
  decide_eq_true_eq decide_eq_false_iff_not Bool.not_eq_true' Bool.not_eq_true Bool.not_eq_false Bool.not_true Bool.not_false
  Bool.or_eq_true Bool.and_eq_true beq_iff_eq bne_iff_ne beq_eq_false_iff_ne bne_eq_false_iff_eq ne_eq Decidable.not_not
  ge_iff_le gt_iff_lt Nat.not_lt Nat.not_le ite_not not_true_eq_false not_false_eq_true
-- a file that reads the members of a state record through an image function (`stOf`, `pkOf` of the encoder) adds those reads

/-- Normal form of a translated body: the rules `src_simp` and the extra rewrite rules given in brackets (callees' equations,
    `hA.rd` for an object `At m a b`, facts of the case at hand); side conditions by `omega` from the context, to which `simp` adds
    the branch conditions met on the way.  A decided `if` is reduced before its branches are visited (`↓reduceIte`): in the dead
    branch the reads cannot be shown to be in bounds.  What is left is a tree of `if`s over linear conditions with `some _`
    leaves. -/
syntax "src_norm" (" [" Lean.Parser.Tactic.simpLemma,* "]")? : tactic
macro_rules
  | `(tactic| src_norm) => `(tactic| simp (disch := omega) only [src_simp, ↓reduceIte, Nat.reduceAdd, Nat.reduceSub])
  | `(tactic| src_norm [$ls,*]) =>
    `(tactic| simp (disch := omega) only [src_simp, ↓reduceIte, Nat.reduceAdd, Nat.reduceSub, $ls,*])

/-- a goal `some x = some y` between Boolean combinations of linear facts -/
macro "bool_omega" : tactic =>
  `(tactic| (refine congrArg some (Bool.eq_iff_iff.mpr ?_); simp only [Bool.and_eq_true, Bool.or_eq_true,
      Bool.not_eq_true', Bool.not_eq_true, decide_eq_true_eq, decide_eq_false_iff_not, beq_iff_eq, bne_iff_ne,
      beq_eq_false_iff_ne, bne_eq_false_iff_eq, Bool.false_eq_true, Bool.true_eq_false, ne_eq, false_iff, true_iff,
      iff_false, iff_true] <;> omega))

theorem ite_some {α : Type} (c : Prop) [Decidable c] (x y : α) :
    (if c then some x else some y) = some (if c then x else y) := by
  split <;> rfl

/-- a tree of `if`s with Boolean leaves is one Boolean expression (`if c then false else x` is `!c && x`, …); then `bool_omega` -/
macro "src_finish" : tactic =>
  `(tactic| ((try simp only [ite_some, Bool.if_false_left, Bool.if_false_right, Bool.if_true_left, Bool.if_true_right])
             <;> bool_omega))

end AsamCmp.SrcTie
