/-
  Helper lemmas for `Props/C02b.lean`: a field read depends only on a prefix of the bytes, the field tables of the
  status and analog classes lie inside the prefix their builder keeps, and the two shapes a validator with checked
  reads is made of.
-/
import AsamCmp.DecodeM
import AsamCmp.Access
import AsamCmp.Layout
import AsamCmp.Builders
import AsamCmp.Lemmas.DecodeM
import AsamCmp.Lemmas.Access
import AsamCmp.Lemmas.Builders
namespace AsamCmp.C02b
open AsamCmp

theorem getField_of_take (f : Field) (o b : Bytes) (k : Nat) (hk : f.off + f.w ≤ k)
    (h : o.take k = b.take k) : getField f o = getField f b := by
  unfold getField
  rw [C13.beAt_of_take o b k f.off f.w h hk]

/-- a builder's output `b.take k ++ rest` reads like `b` in every field inside the first `k` bytes, the part of the
    header the builder does not own -/
theorem getField_of_prefix (f : Field) (o b rest : Bytes) (k : Nat) (ho : o = b.take k ++ rest)
    (hk : f.off + f.w ≤ k) (hb : k ≤ b.length) : getField f o = getField f b :=
  getField_of_take f o b k hk (by rw [ho]; exact List.take_left' (C13.take_length_of_le b k hb))

/-! ### the status / analog tables lie inside the fixed header -/

theorem analog_bound : ∀ f ∈ Layout.c_analog.fields, f.off + f.w ≤ 16 := by decide
theorem cm_bound : ∀ f ∈ Layout.c_cm.fields, f.off + f.w ≤ 26 := by decide
theorem if_bound : ∀ f ∈ Layout.c_if.fields, f.off + f.w ≤ 36 := by decide

/-! ### the shape of a validator with checked reads -/

/-- the size guard in front: `false` on a short buffer, otherwise the verdict `r` of the checks behind it, which may
    rely on the size -/
theorem verdict_behind_size_guard (len n : Nat) (x : Option Bool) (r : Bool) (h : n ≤ len → x = some r) :
    (if len < n then some false else x) = some (decide (n ≤ len) && r) := by
  by_cases hl : len < n
  · rw [if_pos hl, decide_eq_false (Nat.not_le.mpr hl)]; rfl
  · rw [if_neg hl, h (Nat.le_of_not_lt hl), decide_eq_true (Nat.le_of_not_lt hl)]; rfl

/-- an early `return false` when the check `p` fails, otherwise the verdict `r` of the rest, which may rely on `¬p` -/
theorem verdict_behind_check (p : Prop) [Decidable p] (x : Option Bool) (r : Bool) (h : ¬p → x = some r) :
    (if p then pure false else x) = some (!decide p && r) := by
  by_cases hp : p
  · rw [if_pos hp, decide_eq_true hp]; rfl
  · rw [if_neg hp, h hp, decide_eq_false hp]; rfl

theorem not_decide_lt (a c : Nat) : (!decide (a < c)) = decide (c ≤ a) := by
  rw [← decide_not]; exact decide_eq_decide.mpr Nat.not_lt

/-! ### the plain block walk -/

theorem blocksOk_zero (r : Bytes) : blocksOk 0 r = true := rfl

end AsamCmp.C02b
