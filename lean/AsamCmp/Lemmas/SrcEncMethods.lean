/-
  Source-level encoder: the translated private methods of `Encoder` (GeneratedSrcObj.lean), one lemma each: from a state
  that satisfies the invariant the method is defined and is the corresponding function of the low-level model (EncoderLL.lean);
  next to it the model-level lemma that the invariant is kept.
-/
import AsamCmp.Lemmas.SrcEncPrim
import AsamCmp.Lemmas.EncLLBytes
set_option linter.unusedSimpArgs false
namespace AsamCmp.SrcEnc
open AsamCmp AsamCmp.Src AsamCmp.SrcGen

/-- the model state as the record of data members (`ofLL` of Props/SrcEncoder.lean, which imports this file) -/
def stOf (l : EncLL) : Encoder_St :=
  { f_minBytesPerMessage := l.min, f_maxBytesPerMessage := l.max, f_deviceId := l.dev, f_streamId := l.stream,
    f_cmpFrameTemplate := l.tmpl, f_bytesLeft := l.bytesLeft, f_sequenceCounter := l.seqc, f_messageType := l.mt,
    f_cmpFrames := l.frames }

/-- what the encoder reads from a packet of the model (`pktIn` of Props/SrcEncoder.lean) -/
def pkOf (p : Packet) : PktIn :=
  { messageType := p.mt, payloadLength := p.payloadLength, rawPayload := p.data,
    rawCmpHeader := frameHeader (p.version % 256) p.deviceId p.mt p.streamId p.seq,
    rawMsgHeader := msgHeader p (p.flags % 256 &&& 0x0C) p.payloadLength }

theorem stOf_min (l : EncLL) : (stOf l).f_minBytesPerMessage = l.min := rfl
theorem stOf_max (l : EncLL) : (stOf l).f_maxBytesPerMessage = l.max := rfl
theorem stOf_dev (l : EncLL) : (stOf l).f_deviceId = l.dev := rfl
theorem stOf_stream (l : EncLL) : (stOf l).f_streamId = l.stream := rfl
theorem stOf_tmpl (l : EncLL) : (stOf l).f_cmpFrameTemplate = l.tmpl := rfl
theorem stOf_bytesLeft (l : EncLL) : (stOf l).f_bytesLeft = l.bytesLeft := rfl
theorem stOf_seqc (l : EncLL) : (stOf l).f_sequenceCounter = l.seqc := rfl
theorem stOf_mt (l : EncLL) : (stOf l).f_messageType = l.mt := rfl
theorem stOf_frames (l : EncLL) : (stOf l).f_cmpFrames = l.frames := rfl
theorem pkOf_mt (p : Packet) : (pkOf p).messageType = p.mt := rfl
theorem pkOf_len (p : Packet) : (pkOf p).payloadLength = p.payloadLength := rfl
theorem pkOf_data (p : Packet) : (pkOf p).rawPayload = p.data := rfl
theorem pkOf_fh (p : Packet) : (pkOf p).rawCmpHeader = frameHeader (p.version % 256) p.deviceId p.mt p.streamId p.seq := rfl
theorem pkOf_mh (p : Packet) : (pkOf p).rawMsgHeader = msgHeader p (p.flags % 256 &&& 0x0C) p.payloadLength := rfl

/-- a state written field by field is `stOf` of the model state with these fields -/
theorem mk_eq_stOf (a b c d : Nat) (e : Bytes) (f g h : Nat) (i : List Bytes) :
    ({ f_minBytesPerMessage := a, f_maxBytesPerMessage := b, f_deviceId := c, f_streamId := d, f_cmpFrameTemplate := e,
       f_bytesLeft := f, f_sequenceCounter := g, f_messageType := h, f_cmpFrames := i } : Encoder_St) =
    stOf { min := a, max := b, dev := c, stream := d, tmpl := e, bytesLeft := f, seqc := g, mt := h, frames := i } := rfl

/-! ### the invariant

  Closed frames (all but the last) are unconstrained; so are the ids, the counter and the message type. -/

/-- a valid configuration; the template is empty or allocated at `max` bytes -/
structure Cfg (l : EncLL) : Prop where
  max_ge : 25 ≤ l.max
  max_lt : l.max < 2 ^ 32
  min_le : l.min ≤ l.max
  tmpl : l.tmpl = [] ∨ l.tmpl.length = l.max

/-- the frame being filled is allocated at `max` bytes and `bytesLeft` lies inside its payload area -/
def Last (l : EncLL) : Prop := (lastD l.frames).length = l.max ∧ l.bytesLeft ≤ l.max - 8

/-- between public calls -/
structure Inv (l : EncLL) : Prop where
  cfg : Cfg l
  last : l.frames = [] ∨ Last l

/-- with a frame being filled (inside `putPacket`, and after it) -/
structure Open (l : EncLL) : Prop where
  cfg : Cfg l
  ne : l.frames ≠ []
  last : Last l

theorem Open.inv {l : EncLL} (h : Open l) : Inv l := ⟨h.cfg, Or.inr h.last⟩

-- `simp` enters the continuation of a `bind` only once its head is `some _` (see `SrcTie.bind_head_congr`)
attribute [local congr] SrcTie.bind_head_congr SrcTie.bind_head_congr'

attribute [src_simp] stOf_min stOf_max stOf_dev stOf_stream stOf_tmpl stOf_bytesLeft stOf_seqc stOf_mt stOf_frames pkOf_mt pkOf_len
  pkOf_data pkOf_fh pkOf_mh

theorem closeLastFrame_src (l : EncLL) (h : Inv l) :
    Encoder_closeLastFrame_obj (stOf l) = some (stOf l.closeLastFrame, ()) := by
  obtain ⟨⟨h1, h2, h3, h4⟩, h5⟩ := h
  unfold Encoder_closeLastFrame_obj EncLL.closeLastFrame
  by_cases hf : l.frames = []
  · src_norm [hf, List.isEmpty_nil, List.getLast?_nil]
  · obtain ⟨h6, h7⟩ := h5.resolve_left hf
    rw [getLast?_of_ne hf]
    by_cases hb : l.bytesLeft = l.max - 8
    · src_norm [isEmpty_of_ne hf, nonEmpty_of_ne hf, hb]
      rfl
    · src_norm [isEmpty_of_ne hf, nonEmpty_of_ne hf, hb]
      rfl

theorem closeLastFrame_cfg {l : EncLL} (h : Cfg l) : Cfg l.closeLastFrame := by
  obtain ⟨e1, e2, e3, _, _⟩ := EncLL.closeLastFrame_keeps l
  exact ⟨by rw [e2]; exact h.max_ge, by rw [e2]; exact h.max_lt, by rw [e1, e2]; exact h.min_le, by rw [e2, e3]; exact h.tmpl⟩

theorem createTemplate_length (l : EncLL) (p : Packet) (h : 8 ≤ l.max) : (l.createTemplate p).length = l.max := by
  have hfh := frameHeader_length (p.version % 256) p.deviceId p.mt p.streamId p.seq
  unfold EncLL.createTemplate
  len_omega

theorem createTemplate_src (l : EncLL) (p : Packet) (hc : Cfg l) (ht : l.tmpl = []) :
    Encoder_createCmpFrameTemplate_obj (stOf l) (pkOf p) = some (stOf { l with tmpl := l.createTemplate p }, ()) := by
  have h1 := hc.max_ge
  have h2 := hc.max_lt
  have hfh := frameHeader_length (p.version % 256) p.deviceId p.mt p.streamId p.seq
  unfold Encoder_createCmpFrameTemplate_obj EncLL.createTemplate
  src_norm [ht, SrcTie.resize_nil]
  simp (disch := len_omega) only [SrcTie.wrBytes_eq, CmpHeader_setDeviceId_eq, CmpHeader_setStreamId_eq, SrcTie.take_all, SrcTie.some_bind, Nat.zero_add]
  rfl

theorem addNewCMPFrame_src (l : EncLL) (p : Packet) (h : Inv l) :
    Encoder_addNewCMPFrame_obj (stOf l) (pkOf p) = some (stOf (l.addNewCMPFrame p), ()) := by
  have hc := closeLastFrame_cfg h.cfg
  unfold Encoder_addNewCMPFrame_obj EncLL.addNewCMPFrame
  rw [closeLastFrame_src l h]
  generalize l.closeLastFrame = l1 at hc ⊢
  have h1 := hc.max_ge
  have h2 := hc.max_lt
  cases hte : l1.tmpl.isEmpty with
  | true =>
    have ht : l1.tmpl = [] := List.isEmpty_iff.mp hte
    have hl := createTemplate_length l1 p (by omega)
    src_norm [hte, createTemplate_src l1 p hc ht, nonEmpty_of_ne (concat_ne _ _), lastD_concat, setLast_concat]
    simp (disch := len_omega) only [CmpHeader_setSequenceCounter_eq, SrcTie.some_bind, Nat.zero_add]
    rfl
  | false =>
    have ht : l1.tmpl ≠ [] := by intro e; rw [e] at hte; exact absurd hte (by decide)
    have hl := hc.tmpl.resolve_left ht
    src_norm [hte, nonEmpty_of_ne (concat_ne _ _), lastD_concat, setLast_concat]
    simp (disch := len_omega) only [CmpHeader_setSequenceCounter_eq, SrcTie.some_bind, Nat.zero_add]
    rfl

theorem addNewCMPFrame_open (l : EncLL) (p : Packet) (h : Cfg l) :
    Open (l.addNewCMPFrame p) ∧ (l.addNewCMPFrame p).bytesLeft = l.max - 8 ∧ (l.addNewCMPFrame p).max = l.max ∧ (l.addNewCMPFrame p).min = l.min := by
  have hc := closeLastFrame_cfg h
  obtain ⟨e1, e2, _⟩ := EncLL.closeLastFrame_keeps l
  unfold EncLL.addNewCMPFrame
  generalize l.closeLastFrame = l1 at hc e1 e2 ⊢
  have h1 := hc.max_ge
  cases hte : l1.tmpl.isEmpty with
  | true =>
    have hl := createTemplate_length l1 p (by omega)
    simp only [hte, if_true]
    refine ⟨⟨⟨hc.max_ge, hc.max_lt, hc.min_le, Or.inr hl⟩, concat_ne _ _, ?_, Nat.le_refl _⟩, by rw [e2], e2, e1⟩
    simp only [lastD_concat]
    len_omega
  | false =>
    have ht : l1.tmpl ≠ [] := by intro e; rw [e] at hte; exact absurd hte (by decide)
    have hl := hc.tmpl.resolve_left ht
    simp only [hte, Bool.false_eq_true, if_false]
    refine ⟨⟨⟨hc.max_ge, hc.max_lt, hc.min_le, hc.tmpl⟩, concat_ne _ _, ?_, Nat.le_refl _⟩, by rw [e2], e2, e1⟩
    simp only [lastD_concat]
    len_omega

theorem addNewCMPFrame_mt (l : EncLL) (p : Packet) : (l.addNewCMPFrame p).mt = l.mt := by
  have e : l.closeLastFrame.mt = l.mt := by
    unfold EncLL.closeLastFrame
    split
    · rfl
    · split <;> rfl
  unfold EncLL.addNewCMPFrame
  simp only
  split <;> exact e

theorem retype_inv {l : EncLL} (h : Inv l) (mt : Nat) : Inv { l with mt := mt, tmpl := [] } :=
  ⟨⟨h.cfg.max_ge, h.cfg.max_lt, h.cfg.min_le, Or.inl rfl⟩, h.last⟩

theorem setMessageType_src (l : EncLL) (p : Packet) (h : Inv l) :
    Encoder_setMessageType_obj (stOf l) (pkOf p) = some (stOf (l.setMessageType p), ()) := by
  unfold Encoder_setMessageType_obj EncLL.setMessageType
  src_norm [mk_eq_stOf, addNewCMPFrame_src _ p (retype_inv h p.mt)]

theorem setMessageType_open (l : EncLL) (p : Packet) (h : Inv l) : Open (l.setMessageType p) :=
  (addNewCMPFrame_open _ p (retype_inv h p.mt).cfg).1

theorem setMessageType_mt (l : EncLL) (p : Packet) : (l.setMessageType p).mt = p.mt := by
  unfold EncLL.setMessageType
  rw [addNewCMPFrame_mt]

theorem addNewDataHeader_src (l : EncLL) (p : Packet) (n seg : Nat) (h : Open l) (hb : 16 ≤ l.bytesLeft) :
    Encoder_addNewDataHeader_obj (stOf l) (pkOf p) n seg = some (stOf (l.addNewDataHeader p n seg), ()) := by
  obtain ⟨hc, hne, h6, h7⟩ := h
  have h1 := hc.max_ge
  have h2 := hc.max_lt
  have hh := msgHeader_length p (p.flags % 256 &&& 0x0C) p.payloadLength
  unfold Encoder_addNewDataHeader_obj EncLL.addNewDataHeader
  rw [getLast?_of_ne hne]
  src_norm [nonEmpty_of_ne hne, lastD_setLast, setLast_setLast]
  simp (disch := len_omega) only [SrcTie.wrBytes_eq, MessageHeader_setPayloadLength_eq, setSegmentType_eq, SrcTie.take_all, SrcTie.some_bind]
  rw [dataHeader_bytes _ _ _ _ _ hh (by omega)]
  rfl

theorem addNewDataHeader_open (l : EncLL) (p : Packet) (n seg : Nat) (h : Open l) (hb : 16 ≤ l.bytesLeft) :
    Open (l.addNewDataHeader p n seg) ∧ (l.addNewDataHeader p n seg).bytesLeft = l.bytesLeft - 16 ∧
      (l.addNewDataHeader p n seg).max = l.max := by
  obtain ⟨hc, hne, h6, h7⟩ := h
  have hh := msgHeader_length p (p.flags % 256 &&& 0x0C) p.payloadLength
  unfold EncLL.addNewDataHeader
  rw [getLast?_of_ne hne]
  simp only [EncLL.setLast]
  refine ⟨⟨⟨hc.max_ge, hc.max_lt, hc.min_le, hc.tmpl⟩, concat_ne _ _, ?_, ?_⟩, ?_⟩
  · simp only [lastD_concat]
    rw [writeAt_length_of_le]
    · exact h6
    · len_omega
  · show l.bytesLeft - 16 ≤ l.max - 8
    omega
  · trivial

theorem payloadLength_lt (p : Packet) : p.payloadLength < 65536 := by
  unfold Packet.payloadLength; split <;> omega

theorem payloadLength_le_data (p : Packet) : p.payloadLength ≤ p.data.length := by
  unfold Packet.payloadLength Packet.data
  split
  · exact Nat.zero_le _
  · exact Nat.mod_le _ _

theorem checkIfSegmented_src (l : EncLL) (p : Packet) (h : Inv l) :
    Encoder_checkIfSegmented_obj (stOf l) (pkOf p) = some (stOf (l.checkIfSegmented p).1, (l.checkIfSegmented p).2) := by
  have hl := payloadLength_lt p
  unfold Encoder_checkIfSegmented_obj EncLL.checkIfSegmented
  simp (disch := omega) only [stOf_frames, stOf_bytesLeft, pkOf_len, SrcTie.uadd_eq]
  generalize (!l.frames.isEmpty && decide (l.bytesLeft < 16 + p.payloadLength)) = b
  cases b with
  | false => src_norm
  | true => src_norm [addNewCMPFrame_src l p h] <;> rfl

theorem checkIfSegmented_open (l : EncLL) (p : Packet) (h : Open l) :
    Open (l.checkIfSegmented p).1 ∧ (0 < p.payloadLength → 17 ≤ (l.checkIfSegmented p).1.bytesLeft) := by
  have h1 := h.cfg.max_ge
  unfold EncLL.checkIfSegmented
  simp only [isEmpty_of_ne h.ne, Bool.not_false, Bool.true_and, decide_eq_true_eq]
  by_cases hb : l.bytesLeft < 16 + p.payloadLength
  · obtain ⟨ho, e, _⟩ := addNewCMPFrame_open l p h.cfg
    simp only [hb, if_true]
    exact ⟨ho, fun _ => by rw [e]; omega⟩
  · simp only [hb, if_false]
    exact ⟨h, fun _ => by omega⟩

theorem buildSegmentationFlag_src (s : Encoder_St) (isSeg : Bool) (segInd n len pos : Nat) (h : pos + n < 2 ^ 64) :
    Encoder_buildSegmentationFlag_obj s isSeg segInd n len pos = some (s, EncLL.segFlag isSeg segInd n len pos) := by
  unfold Encoder_buildSegmentationFlag_obj EncLL.segFlag
  cases isSeg with
  | false => src_norm
  | true =>
    by_cases h0 : segInd = 0
    · src_norm [h0]
    · by_cases hl : pos + n = len
      · src_norm [h0, hl]
      · src_norm [h0, hl]

end AsamCmp.SrcEnc
