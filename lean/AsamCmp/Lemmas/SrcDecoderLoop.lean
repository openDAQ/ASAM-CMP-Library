/-
  Source-level decoder: the translated `while (curSize > 0)` loop of `Decoder::decode` against the low-level model.
-/
import AsamCmp.Lemmas.SrcDecoderMsg
import AsamCmp.Props.SrcTie
namespace AsamCmp.SrcDec
open AsamCmp AsamCmp.Src AsamCmp.SrcGen AsamCmp.SrcTie AsamCmp.C17b

-- the normalisation lists name what each stage of the generated loop body may need, whatever shape the translator gives it
set_option linter.unusedSimpArgs false

/-! ### the non-first-segment branch of the model, by cases -/

theorem segBlock_absent (k : Ep) (r : Bytes) (ver mt seq : Nat) (t : Table) (acc : List Packet)
    (hf : t.find k = none) (hver : ver ≠ 0) : segBlock k r ver mt seq t acc = (t.erase k, acc) := by
  unfold segBlock
  rw [index_none t k hf]
  dsimp only
  rw [addSegment_default r ver mt seq hver]
  simp only [Bool.not_false, if_true, erase_set]

theorem segBlock_found (k : Ep) (r : Bytes) (ver mt seq : Nat) (t : Table) (acc : List Packet) (sp : SegPkt)
    (hf : t.find k = some sp) :
    segBlock k r ver mt seq t acc =
      if (sp.addSegment r ver mt seq).2 = false then (t.erase k, acc)
      else if (sp.addSegment r ver mt seq).1.segType = 12 then
        (t.erase k, acc ++ [{ tagPacket k (sp.addSegment r ver mt seq).1.ver (sp.addSegment r ver mt seq).1.getPacket with
                              version := (sp.addSegment r ver mt seq).1.ver }])
      else (t.set k (sp.addSegment r ver mt seq).1, acc) := by
  unfold segBlock
  rw [index_some t k sp hf]
  dsimp only
  generalize sp.addSegment r ver mt seq = res
  obtain ⟨sp', ok⟩ := res
  cases ok with
  | false => simp only [Bool.not_false, if_true]
  | true =>
    simp only [Bool.not_true, Bool.false_eq_true, if_false, index_some _ k _ (find_set_same t k sp'), erase_set,
      Bool.true_eq_false]

theorem index_set (t : Table) (k : Ep) (v : SegPkt) : (t.index k).1.set k v = t.set k v := by
  cases hf : t.find k with
  | none =>
    rw [index_none t k hf, Table.set, erase_set]
    rfl
  | some sp => rw [index_some t k sp hf]

theorem set_set (t : Table) (k : Ep) (v w : SegPkt) : (t.set k v).set k w = t.set k w := by
  rw [Table.set, erase_set]
  rfl

/-- after an accepted segment the stored header declares a length that fits the stored bytes: `getPacket` is defined -/
theorem addSegment_fit (sp : SegPkt) (r : Bytes) (ver mt seq : Nat) (hg : GoodEntry sp) (hv : msgValid r = true)
    (hacc : (sp.addSegment r ver mt seq).2 = true) :
    16 ≤ (sp.addSegment r ver mt seq).1.payload.length ∧
    16 + beAt (sp.addSegment r ver mt seq).1.payload 14 2 ≤ (sp.addSegment r ver mt seq).1.payload.length := by
  rw [addSegment_spec sp r ver mt seq hg hv] at hacc ⊢
  split at hacc
  · rename_i hc
    rw [if_pos hc]
    have hl : 16 ≤ (sp.payload ++ slice r 16 (beAt r 14 2)).length := by
      rw [List.length_append]; have := hg.2; omega
    obtain ⟨h1, h2⟩ := C02.fixLen_read _ hl
    dsimp only
    rw [h1]
    exact ⟨hl, h2⟩
  · cases hacc

/-- **`curSize -= packetSize` never wraps.**  Both are `std::size_t` (the remaining size is not narrowed to `int`).
    For a message `r` (the `curSize` remaining bytes) that `Packet::isValidPacket` accepted, the stride
    `packet->getPayloadLength() + sizeof(MessageHeader)` of the packet constructed from it is 16 + the DECLARED length (the
    constructor copies exactly the declared bytes), which the validator guarantees to be at most `curSize`: the unsigned
    subtraction is the true difference, for every `curSize` below 2^64 — no 2^31 bound -/
theorem curSize_sub_no_wrap (r : Bytes) (mt ver dev stream : Nat) (hv : msgValid r = true) (h64 : r.length < 2 ^ 64) :
    uadd 64 (pktPayloadLength
      ({ mt := mt, msg := r.take (16 + beAt r 14 2), version := ver, deviceId := dev, streamId := stream } : PktOut)) 16 =
      beAt r 14 2 + 16 ∧
    beAt r 14 2 + 16 ≤ r.length ∧
    usub 64 r.length (beAt r 14 2 + 16) = r.length - (beAt r 14 2 + 16) := by
  have hb16 := msgValid_bound r hv
  have hlen16 : beAt r 14 2 < 65536 := beAt_two_lt_65536 r 14
  refine ⟨?_, by omega, usub_eq _ _ (by omega) h64⟩
  rw [pktLen_take, uadd_eq _ _ (by omega)]

/-- a message of `n + 16` bytes uses up one unit of the loop's fuel -/
theorem fuel_after_msg {len n fuel : Nat} (hf : len / 16 + 1 ≤ fuel + 1) (hn : n + 16 ≤ len) :
    (len - (n + 16)) / 16 + 1 ≤ fuel := by omega

/-- the translated loop against `decodeLoopLL`: `M` is the memory, `r` the `curSize` bytes still to walk (they start at
    `pre'.length` in `M` and at `pos` in the buffer `b`), `outs` the packets pushed so far; `hdr` is the address of the frame
    header the loop reads version, message type and counter from -/
theorem loop_src {F : Type} (b post M : Bytes) (adata asize dataPtr hdr dev stream ver mt seq : Nat)
    (hV : CmpHeader_getVersion M hdr = some ver) (hMT : CmpHeader_getMessageType M hdr = some mt)
    (hSeq : CmpHeader_getSequenceCounter M hdr = some seq) (hver : ver ≠ 0) (hMlen : M.length < 2 ^ 63) :
    ∀ (fuel fuelLL : Nat) (t : Table) (pos : Nat) (outs : List PktOut) (r pre' : Bytes) (pkt : PktOut),
      M = pre' ++ r ++ post → b.drop pos = r → r.length / 16 + 1 ≤ fuel →
      r.length / 16 + 1 ≤ fuelLL → Ok t → TableReg t →
      ∃ res, ∃ outs' : List PktOut,
        Decoder_decode_loop1 fuel ⟨tmap t⟩ M adata asize dataPtr (outs.map (Sum.inl : PktOut → PktOut ⊕ F)) hdr dev stream
            pre'.length r.length pkt = some res ∧
        res.1 = ⟨tmap (decodeLoopLL b dev stream ver mt seq fuelLL t pos r.length (outs.map toPacket)).1⟩ ∧
        res.2.1 = outs'.map Sum.inl ∧
        outs'.map toPacket = (decodeLoopLL b dev stream ver mt seq fuelLL t pos r.length (outs.map toPacket)).2 := by
  intro fuel
  induction fuel with
  | zero => intro fuelLL t pos outs r pre' pkt _ _ hf; omega
  | succ fuel ih =>
    intro fuelLL t pos outs r pre' pkt hM hr hfuel hfuelLL hok hreg
    cases fuelLL with
    | zero => omega
    | succ fuelLL =>
      rw [Decoder_decode_loop1]
      by_cases hnil : r.length = 0
      · -- curSize = 0: the loop ends
        rw [hnil, loop_zero_cur]
        simp only [gt_iff_lt, Nat.lt_irrefl, decide_false, Bool.false_eq_true, if_false, pure]
        exact ⟨_, outs, rfl, rfl, rfl, rfl⟩
      · have hpos : 0 < r.length := Nat.pos_of_ne_zero hnil
        have hslice : slice b pos r.length = r := by
          unfold slice; rw [hr, List.take_length]
        have hM64 : (pre' ++ r ++ post).length < 2 ^ 64 := by rw [← hM]; omega
        have hr64 : r.length < 2 ^ 64 := by
          have := hM64; simp only [List.length_append] at this; omega
        have hvp : Packet_isValidPacket M pre'.length r.length = some (msgValid r) := by
          rw [hM]; exact isValidPacket_src pre' r post hM64
        rw [loop_succ _ _ _ _ _ _ _ _ _ _ _ hnil, hslice]
        by_cases hv : msgValid r = true
        · have hb16 := msgValid_bound r hv
          have h16 : 16 ≤ r.length := by omega
          have hc : ¬ (!msgValid r) = true := by rw [hv]; simp
          have hsegd : Decoder_isSegmentedPacket M pre'.length r.length = some ((byteAt r 12 &&& 0x0C) != 0) := by
            rw [hM]; exact isSegmented_at (at_mid pre' r post) _ (by omega)
          have hfirst : Decoder_isFirstSegment M pre'.length r.length = some ((byteAt r 12 &&& 0x0C) == 4) := by
            rw [hM]; exact isFirstSegment_at (at_mid pre' r post) _ (by omega)
          have hlen16 : beAt r 14 2 < 65536 := beAt_two_lt_65536 r 14
          rw [if_neg hc]
          by_cases h0 : byteAt r 12 &&& 0x0C = 0
          · -- an unsegmented message
            obtain ⟨hstride, hle, hsub⟩ := curSize_sub_no_wrap r mt ver dev stream hv hr64
            have hmk : mkPacket mt (M.drop pre'.length) = some { mt := mt, msg := r.take (16 + beAt r 14 2) } := by
              rw [hM]; exact mkPacket_mid mt pre' r post hb16
            have hM2 : M = (pre' ++ r.take (16 + beAt r 14 2)) ++ r.drop (16 + beAt r 14 2) ++ post := by
              rw [hM]; simp only [List.append_assoc, List.take_append_drop]
            have hl1 : (pre' ++ r.take (16 + beAt r 14 2)).length = pre'.length + (beAt r 14 2 + 16) := by
              rw [List.length_append, List.length_take_of_le hb16, Nat.add_comm 16]
            have hl2 : (r.drop (16 + beAt r 14 2)).length = r.length - (beAt r 14 2 + 16) := by
              rw [List.length_drop, Nat.add_comm 16]
            have hdrop : b.drop (pos + (beAt r 14 2 + 16)) = r.drop (16 + beAt r 14 2) := by
              rw [← hr, List.drop_drop, Nat.add_comm 16]
            have hih := ih fuelLL (t.erase (dev, stream)) (pos + (beAt r 14 2 + 16))
              (outs ++ [{ mt := mt, msg := r.take (16 + beAt r 14 2), version := ver, deviceId := dev, streamId := stream }])
              (r.drop (16 + beAt r 14 2)) (pre' ++ r.take (16 + beAt r 14 2))
              { mt := mt, msg := r.take (16 + beAt r 14 2), version := ver, deviceId := dev, streamId := stream }
              hM2 hdrop (hl2 ▸ fuel_after_msg hfuel hle) (hl2 ▸ fuel_after_msg hfuelLL hle) (ok_erase t _ hok)
              (tableReg_erase t _ hreg)
            rw [hl1, hl2] at hih
            simp only [List.map_append, List.map_singleton, toPacket_unseg] at hih
            rw [if_pos h0, ofMsg_payloadLength _ _ _ r hv]
            simp only [gt_iff_lt, hpos, decide_true, if_true, hvp, hv, bind, pure,
              some_bind, Bool.not_true, Bool.false_eq_true, if_false, hsegd, h0, bne_self_eq_false, Bool.not_false,
              map_erase, hMT, hmk, hV, hstride, hsub]
            exact hih
          · have hseg1 : ((byteAt r 12 &&& 0x0C) != 0) = true := by simpa using h0
            rw [if_neg h0]
            -- the iteration up to the test for a first segment, the same for every kind of segment
            simp only [gt_iff_lt, hpos, decide_true, if_true, hvp, hv, bind, pure, some_bind, Bool.not_true,
              Bool.false_eq_true, if_false, hsegd, hseg1, hfirst, hV, hMT, hSeq, map_index]
            by_cases h4 : byteAt r 12 &&& 0x0C = 4
            · -- a first segment
              have hctor : Decoder_SegmentedPacket_SegmentedPacket_ctor_obj Decoder_SegmentedPacket_default M
                  pre'.length r.length ver mt seq = some (spSt (SegPkt.first r ver mt seq), ()) := by
                rw [hM]; exact ctor_src _ pre' r post ver mt seq h16 hM64
              rw [if_pos h4]
              simp only [h4, beq_self_eq_true, if_true, hctor, some_bind, map_put, index_set]
              exact ⟨_, outs, rfl, rfl, rfl, rfl⟩
            · -- an intermediary or last segment
              have hfirst0 : ((byteAt r 12 &&& 0x0C) == 4) = false := by simpa using h4
              rw [if_neg h4]
              simp only [hfirst0, Bool.false_eq_true, if_false]
              cases hfind : t.find (dev, stream) with
              | none =>
                have hadd : Decoder_SegmentedPacket_addSegment_obj (spSt {}) M pre'.length r.length ver mt seq =
                    some (spSt {}, false) := addSegment_default_src M _ _ ver mt seq hver
                rw [segBlock_absent _ r ver mt seq t _ hfind hver]
                simp only [index_none t _ hfind, hadd, some_bind, map_put, Bool.not_false, if_true, map_erase, erase_set]
                exact ⟨_, outs, rfl, rfl, rfl, rfl⟩
              | some sp =>
                have hg := ok_find t _ sp hok hfind
                have hrg := hreg _ (find_mem t _ sp hfind)
                have hadd : Decoder_SegmentedPacket_addSegment_obj (spSt sp) M pre'.length r.length ver mt seq =
                    some (spSt (sp.addSegment r ver mt seq).1, (sp.addSegment r ver mt seq).2) := by
                  rw [hM]; exact addSegment_src sp pre' r post ver mt seq h16 hM64 hg.1 hg.2 hrg.2 hrg.1
                have hfit := addSegment_fit sp r ver mt seq hg hv
                rw [segBlock_found _ r ver mt seq t _ sp hfind]
                generalize sp.addSegment r ver mt seq = X at hadd hfit
                obtain ⟨sp', okb⟩ := X
                simp only [index_some t _ sp hfind, hadd, some_bind, map_put]
                cases okb with
                | false =>
                  simp only [Bool.not_false, if_true, some_bind, map_erase, erase_set]
                  exact ⟨_, outs, rfl, rfl, rfl, rfl⟩
                | true =>
                  obtain ⟨hp16, hpfit⟩ := hfit rfl
                  have hidx : (t.set (dev, stream) sp').index (dev, stream) = (t.set (dev, stream) sp', sp') :=
                    index_some _ _ _ (find_set_same t _ sp')
                  simp only [Bool.not_true, Bool.false_eq_true, Bool.true_eq_false, if_false, map_index, hidx,
                    isAssembled_src, some_bind, map_put, set_set]
                  by_cases h12 : sp'.segType = 12
                  · have hasm : (sp'.segType == 12) = true := by simpa using h12
                    simp only [hasm, h12, if_true, map_index, hidx, getPacket_src sp' hp16 hpfit, some_bind, map_put,
                      set_set, map_erase, erase_set]
                    refine ⟨_, outs ++ [(⟨sp'.mt, sp'.payload.take (16 + beAt sp'.payload 14 2), sp'.ver, dev, stream⟩ : PktOut)],
                      rfl, rfl, ?_, ?_⟩
                    · simp only [List.map_append, List.map_singleton]
                    · simp only [List.map_append, List.map_singleton, toPacket_assembled]
                  · have hasm : (sp'.segType == 12) = false := by simpa using h12
                    simp only [hasm, h12, Bool.false_eq_true, if_false, some_bind]
                    exact ⟨_, outs, rfl, rfl, rfl, rfl⟩
        · have hv' : msgValid r = false := by simpa using hv
          have hc : (!msgValid r) = true := by rw [hv']; rfl
          rw [if_pos hc]
          simp only [gt_iff_lt, hpos, decide_true, if_true, hvp, hv', bind, pure, some_bind,
            Bool.not_false, map_erase]
          exact ⟨_, outs, rfl, rfl, rfl, rfl⟩

end AsamCmp.SrcDec
