/-
  Source-level TECMP path: the model and the translated decoder meet.  `GetHeader`; the bus-status entry lists of both sides in
  closed form (`busPl_eq_map`, `busR_eq_map`, beside `C15.tecmpBus_eq_map`); and the main step `tecmpDecode_shape`: on an accepted
  buffer the model's packets (`tecmpDecode`) and the payload objects of `HandlePayload` (`handleR`) are the two projections of
  one list of pairs, and `ConvertPacket` turns each object into its packet (`Paired`).  The case tree over message and data type
  is walked once, there.
-/
import AsamCmp.Lemmas.SrcTecmpConv
set_option linter.unusedSimpArgs false
namespace AsamCmp.SrcTec
open AsamCmp AsamCmp.Src AsamCmp.SrcGen AsamCmp.SrcTie

/-! ### the first 28 bytes of the buffer, as the local `CmpHeader` the decoder copies them into -/

theorem beAt_take (b : Bytes) (n o w : Nat) (h : o + w ≤ n) : beAt (b.take n) o w = beAt b o w :=
  beAt_take_of_le b n o w h

theorem beAt_drop (b : Bytes) (k o w : Nat) : beAt (b.drop k) o w = beAt b (k + o) w :=
  beAt_drop_add b k o w

theorem byteAt_take (b : Bytes) (n i : Nat) (h : i < n) : byteAt (b.take n) i = byteAt b i :=
  byteAt_take_of_lt b n i h

theorem tpkt_take (b : Bytes) (i : Nat) (pl : Option (Nat × Bytes)) : tpkt (b.take 28) i pl = tpkt b i pl := by
  unfold tpkt
  rw [byteAt_take_of_lt b 28 1 (by omega), beAt_take b 28 16 8 (by omega)]

theorem tRepr_tecmpPacket (b : Bytes) (i ty : Nat) (o : Bytes) :
    tRepr (tecmpPacket b i ⟨ty, o⟩) = tpkt b i (some (ty, o)) := rfl

/-! ### the three single-packet kinds -/

theorem tecmpCm_shape (b p : Bytes) :
    tecmpCm b p = if p.length < 18 ∨ p.length - 12 < beAt p 4 2 then [] else [tecmpPacket b (beAt b 12 4) ⟨769, cmObjOf p⟩] :=
  C15.tecmpCm_shape b p

theorem tecmpLin_shape (b p : Bytes) :
    tecmpLin b p = if p.length < 2 ∨ p.length - 2 < byteAt p 1 then [] else [tecmpPacket b (beAt b 12 4) ⟨259, linObjOf p⟩] :=
  C15.tecmpLin_shape b p

theorem tecmpCan_shape (b p : Bytes) :
    tecmpCan b p = if p.length < 5 ∨ p.length - 5 < byteAt p 4 then []
      else [tecmpPacket b (beAt b 12 4) ⟨(canPl p).1, (canPl p).2⟩] := by
  rw [C15.tecmpCan_shape, canPl]
  by_cases hfd : byteAt p 4 > 8
  · simp only [if_pos hfd]; rfl
  · simp only [if_neg hfd]; rfl

/-! ### bus status: one object per entry -/

theorem slice_slice (p : Bytes) (off i w : Nat) (h : i + w ≤ 12) : slice (slice p off 12) i w = slice p (off + i) w := by
  unfold slice
  rw [List.drop_take, List.take_take, List.drop_drop]
  congr 1; omega

theorem busObj_beAt (p : Bytes) (off i : Nat) (h12 : 12 ≤ p.length) (ho : off + 12 ≤ p.length) (hi : i + 4 ≤ 12) :
    beAt (p.take 12 ++ slice p off 12 ++ zeros 4) (12 + i) 4 = beAt p (off + i) 4 := by
  have hl : (p.take 12).length = 12 := by simp only [List.length_take]; omega
  have hs : (slice p off 12).length = 12 := slice_length_of_le p off 12 ho
  unfold beAt
  have := SrcTie.slice_mid (p.take 12) (slice p off 12) (zeros 4) i 4 (by omega)
  rw [hl] at this
  rw [this, slice_slice p off i 4 hi]

theorem busPl_eq_map (p : Bytes) (v n off : Nat) :
    busPl p v n off = (List.range (min n ((p.length - off) / (12 + v)))).map fun k => some (busObj p (off + k * (12 + v))) :=
  stride_eq_map _ (fun o => some (busObj p o)) p.length (12 + v) (by omega) (fun _ => rfl) (fun _ _ => rfl) n off

theorem busR_eq_map (p : Bytes) :
    busR p = (List.range ((p.length - 12) / (12 + beAt p 4 2))).map fun k => some (busObj p (12 + k * (12 + beAt p 4 2))) := by
  have hle := C15.entries_le_fuel p (beAt p 4 2)
  unfold busR
  split
  · rw [show p.length - 12 = 0 by omega, Nat.zero_div]; rfl
  · rw [busPl_eq_map, Nat.min_eq_right (by omega)]

/-! ### `GetHeader` -/

/-- a default-initialised `TECMP::CmpHeader` (message type 0xFF, data type word FF 00: invalid) -/
def hdrDefault : Bytes := [0, 0, 0, 0, 0, 255, 255, 0, 0, 0, 0, 0, 0, 0, 0, 0, 0, 0, 0, 0, 0, 0, 0, 0, 0, 0, 0, 0]

theorem hdrDefault_invalid : TECMP_CmpHeader_isValid hdrDefault 0 = some false := by decide

/-- the header is rejected: too short, declared payload length 0, or declared payload not inside the buffer -/
def hdrRej (b : Bytes) : Prop := b.length < 28 ∨ beAt b 24 2 = 0 ∨ b.length < 28 + beAt b 24 2

instance (b : Bytes) : Decidable (hdrRej b) := by unfold hdrRej; infer_instance

theorem getHeader_spec (pre b post : Bytes) (hmem : (pre ++ b ++ post).length < 2 ^ 64) :
    TECMP_Decoder_GetHeader_obj (pre ++ b ++ post) pre.length b.length =
      some (if hdrRej b then (hdrDefault, 0) else (b.take 28, pre.length + 28)) := by
  have hb := mid_length_lt pre b post hmem
  unfold TECMP_Decoder_GetHeader_obj hdrRej
  by_cases h28 : b.length < 28
  · simp only [h28, decide_true, if_true, pure, true_or]; rfl
  · have hx : ((pre ++ b ++ post).drop pre.length).take 28 = b.take 28 := by
      rw [List.append_assoc, List.drop_left, List.take_append_of_le_length (by omega)]
    have hl : (b.take 28).length = 28 := by simp only [List.length_take]; omega
    have hw : wrBytes ([0, 0, 0, 0, 0, 255, 255, 0, 0, 0, 0, 0, 0, 0, 0, 0, 0, 0, 0, 0, 0, 0, 0, 0, 0, 0, 0, 0] : Bytes) 0
        ((pre ++ b ++ post).drop pre.length) 28 = some (b.take 28) := by
      rw [wrBytes_eq _ _ _ _ (by simp only [List.append_assoc, List.drop_left, List.length_append]; omega) (by decide), hx]
      unfold writeAt; rw [hl]; simp
    have hpl : TECMP_CmpHeader_getPayloadLength (b.take 28) 0 = some (beAt b 24 2) := by
      rw [(tecmp_header_src (b.take 28) (by omega)).2.1, beAt_take b 28 24 2 (by omega)]
    have hlt : beAt b 24 2 < 65536 := beAt_lt_pow b 24 2
    simp only [h28, decide_false, Bool.false_eq_true, if_false, hw, hpl, bind, pure, some_bind, false_or,
      uadd_eq 28 (beAt b 24 2) (by omega)]
    by_cases h0 : beAt b 24 2 = 0
    · simp only [h0, bne_self_eq_false, Bool.not_false, if_true, true_or]; rfl
    · have hn : (beAt b 24 2 != 0) = true := by simpa using h0
      simp only [hn, Bool.not_true, Bool.false_eq_true, if_false, h0, false_or]
      by_cases hfit : b.length < 28 + beAt b 24 2
      · simp only [hfit, decide_true, if_true]; rfl
      · simp only [hfit, decide_false, Bool.false_eq_true, if_false]

theorem tecmpDecode_rej (b : Bytes) (h : hdrRej b) : tecmpDecode b = [] := C15.tecmpDecode_rej b h

theorem tecmpDecode_invalid (b : Bytes) (h : byteAt b 5 = 0xFF ∨ (byteAt b 6 = 0xFF ∧ byteAt b 7 = 0)) : tecmpDecode b = [] :=
  C15.tecmpDecode_invalid b h

/-- what `tecmpDecode_shape` says of a buffer: the model's packets `ps` and the payload objects `os` of `HandlePayload` are the two
    projections of one list of pairs, and `ConvertPacket` under the header `H` turns each object into its packet -/
def Paired (H : Bytes) (ps : List Packet) (os : List (Option TECMP_Payload_St)) : Prop :=
  ∃ l : List (Packet × TECMP_Payload_St), ps = l.map (·.1) ∧ os = l.map (fun x => some x.2) ∧
    ∀ x ∈ l, TECMP_Converter_ConvertPacket_obj H (some x.2) = some (some (tRepr x.1))

theorem paired_nil (H : Bytes) : Paired H [] [] := ⟨[], rfl, rfl, fun _ hx => absurd hx List.not_mem_nil⟩

/-- a single-packet kind: nothing on a misfit `c`, otherwise the one packet `q` made from the object `y` -/
theorem paired_one (H : Bytes) (c : Prop) [Decidable c] (q : Packet) (y : TECMP_Payload_St)
    (h : ¬ c → TECMP_Converter_ConvertPacket_obj H (some y) = some (some (tRepr q))) :
    Paired H (if c then [] else [q]) (match (if c then none else some y) with | none => [] | some x => [some x]) := by
  by_cases hc : c
  · rw [if_pos hc, if_pos hc]; exact paired_nil H
  · rw [if_neg hc, if_neg hc]
    exact ⟨[(q, y)], rfl, rfl, fun x hx => by rw [List.mem_singleton.mp hx]; exact h hc⟩

/-- bus status: entry by entry -/
theorem tecmpBus_shape (b : Bytes) (h28 : 28 ≤ b.length) (h2 : byteAt b 5 = 2) :
    Paired (b.take 28) (tecmpBus b (b.drop 28)) (busR (b.drop 28)) := by
  have hH : 28 ≤ (b.take 28).length := by simp only [List.length_take]; omega
  rw [C15.tecmpBus_eq_map, busR_eq_map]
  refine ⟨(List.range (((b.drop 28).length - 12) / (12 + beAt (b.drop 28) 4 2))).map fun k =>
    (C15.busPkt b (b.drop 28) (12 + k * (12 + beAt (b.drop 28) 4 2)),
      busObj (b.drop 28) (12 + k * (12 + beAt (b.drop 28) 4 2))), by rw [List.map_map]; rfl, by rw [List.map_map]; rfl,
    fun x hx => ?_⟩
  obtain ⟨k, hk, rfl⟩ := List.mem_map.mp hx
  have ho : 12 + k * (12 + beAt (b.drop 28) 4 2) + 12 ≤ (b.drop 28).length := by
    have := stride_fits (List.mem_range.mp hk); omega
  generalize 12 + k * (12 + beAt (b.drop 28) 4 2) = o at ho ⊢
  have hl : 24 ≤ (busObj (b.drop 28) o).f_payloadData.length := by
    have := slice_length_of_le (b.drop 28) o 12 ho
    simp only [busObj, List.length_append, List.length_take, this, zeros_length]; omega
  have e0 := busObj_beAt (b.drop 28) o 0 (by omega) ho (by omega)
  have e4 := busObj_beAt (b.drop 28) o 4 (by omega) ho (by omega)
  have e8 := busObj_beAt (b.drop 28) o 8 (by omega) ho (by omega)
  simp only [Nat.add_zero, Nat.reduceAdd] at e0 e4 e8
  show TECMP_Converter_ConvertPacket_obj (b.take 28) (some ⟨(busObj _ _).f_payloadData, 512⟩) = _
  rw [convertPacket_if _ _ _ hH ((byteAt_take_of_lt b 28 5 (by omega)).trans h2) hl, tpkt_take]
  simp only [busObj, ifObjOf, e0, e4, e8]
  rfl

/-- the decoder on an accepted buffer, model and source side by side: the model's packets, each paired with the TECMP payload
    object `HandlePayload` builds for it and `ConvertPacket` turns into it -/
theorem tecmpDecode_shape (b : Bytes) (hacc : ¬ hdrRej b)
    (hv : ¬ (byteAt b 5 = 0xFF ∨ (byteAt b 6 = 0xFF ∧ byteAt b 7 = 0))) (h64 : (b.drop 28).length < 2 ^ 64) :
    Paired (b.take 28) (tecmpDecode b) (handleR (b.take 28) (b.drop 28)) := by
  have h28 : 28 ≤ b.length := by unfold hdrRej at hacc; omega
  have hH : 28 ≤ (b.take 28).length := by simp only [List.length_take]; omega
  have e5 : byteAt (b.take 28) 5 = byteAt b 5 := byteAt_take_of_lt b 28 5 (by omega)
  have e6 : beAt (b.take 28) 6 2 = beAt b 6 2 := beAt_take b 28 6 2 (by omega)
  have e12 : beAt (b.take 28) 12 4 = beAt b 12 4 := beAt_take b 28 12 4 (by omega)
  rw [C15.tecmpDecode_accepted b hacc hv]
  unfold C15.tecmpKind handleR
  rw [e5]
  by_cases h1 : byteAt b 5 = 1
  · rw [if_pos h1, if_pos h1, tecmpCm_shape]
    refine paired_one _ _ _ ⟨_, 256⟩ fun hf => ?_
    rw [convertPacket_cm _ _ _ hH (e5.trans h1) (by omega), tpkt_take, e12]
    rfl
  · rw [if_neg h1, if_neg h1]
    by_cases h3 : byteAt b 5 = 3
    · rw [if_pos h3, if_pos h3]
      unfold dataR
      rw [e6]
      by_cases hcan : beAt b 6 2 = 2 ∨ beAt b 6 2 = 3
      · rw [if_pos hcan, if_pos hcan, tecmpCan_shape]
        refine paired_one _ _ _ ⟨_, 770⟩ fun hf => ?_
        rw [convertPacket_can _ _ _ hH (e5.trans h3) (by rw [e6]; exact hcan) h64 (by omega) (by omega), tpkt_take, e12]
        rfl
      · rw [if_neg hcan, if_neg hcan]
        by_cases hlin : beAt b 6 2 = 4
        · rw [if_pos hlin, if_pos hlin, tecmpLin_shape]
          refine paired_one _ _ _ ⟨_, 772⟩ fun hf => ?_
          rw [convertPacket_lin _ _ _ hH (e5.trans h3) (e6.trans hlin) h64 (by omega) (by omega), tpkt_take, e12]
          rfl
        · rw [if_neg hlin, if_neg hlin]
          exact paired_nil _
    · rw [if_neg h3, if_neg h3]
      by_cases h2 : byteAt b 5 = 2
      · rw [if_pos h2, if_pos h2]
        exact tecmpBus_shape b h28 h2
      · rw [if_neg h2, if_neg h2]
        exact paired_nil _

/-- every payload object `HandlePayload` returns is converted — defined, non-null — to one of the model's packets -/
theorem convert_all (b : Bytes) (hacc : ¬ hdrRej b)
    (hv : ¬ (byteAt b 5 = 0xFF ∨ (byteAt b 6 = 0xFF ∧ byteAt b 7 = 0))) (h64 : (b.drop 28).length < 2 ^ 64) :
    ∀ x ∈ handleR (b.take 28) (b.drop 28), ∃ q ∈ tecmpDecode b,
      TECMP_Converter_ConvertPacket_obj (b.take 28) x = some (some (tRepr q)) := by
  obtain ⟨l, hps, hos, hconv⟩ := tecmpDecode_shape b hacc hv h64
  intro x hx
  rw [hos] at hx
  obtain ⟨y, hy, rfl⟩ := List.mem_map.mp hx
  exact ⟨y.1, hps ▸ List.mem_map_of_mem hy, hconv y hy⟩

end AsamCmp.SrcTec
