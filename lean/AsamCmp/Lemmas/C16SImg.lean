/-
  The translated status tracker against the model, for every packet image (used by `AsamCmp/Props/SrcStatus.lean` and
  `AsamCmp/Props/C16S.lean` §4).

  * `Obs img`: a packet image `img : Packet → OPkt` keeps the three values the translated tracker reads; for EVERY such image
    each translated method, run on the image of a model state, is defined and computes the image of the model's operation
    (`*_img`).  The 3-entry table `SrcSt.oPkt` is one such image (`obs_oPkt`), `fullImg` another;
  * `fullImg`: an injective image (every member, every payload byte), `fullImg_injective`, `stSt_fullImg_injective`;
  * `Small n s`: all vectors of the model state have at most `n` elements; one operation adds at most one (`small_step`).
-/
import AsamCmp.Lemmas.SrcStatus
import AsamCmp.Lemmas.SrcNorm
import AsamCmp.Lemmas.Status
set_option linter.unusedSimpArgs false
set_option linter.unusedVariables false
namespace AsamCmp.C16S
open AsamCmp AsamCmp.C16 AsamCmp.Src AsamCmp.SrcGen AsamCmp.SrcSt
attribute [local congr] SrcTie.bind_head_congr SrcTie.bind_head_congr'

/-- `img` keeps the three values the tracker reads from a packet -/
structure Obs (img : Packet → OPkt) : Prop where
  dev : ∀ p, opq (img p) "getDeviceId" = p.deviceId
  ty : ∀ p, opq (img p) "getPayload.getType" = p.pty
  ifid : ∀ p, opq (img p) "getPayload.as_InterfacePayload.getInterfaceId" = p.payloadIfId

/-- the three entries of the table `oPkt`, as lookups: the string keys are compared here and nowhere else (slow to check) -/
theorem oPkt_lookup (p : Packet) :
    (oPkt p).lookup "getDeviceId" = some p.deviceId ∧ (oPkt p).lookup "getPayload.getType" = some p.pty ∧
    (oPkt p).lookup "getPayload.as_InterfacePayload.getInterfaceId" = some p.payloadIfId := by
  simp only [oPkt, List.lookup, String.reduceBEq, and_self]

theorem obs_of_lookup {img : Packet → OPkt}
    (h : ∀ p, (img p).lookup "getDeviceId" = some p.deviceId ∧ (img p).lookup "getPayload.getType" = some p.pty ∧
      (img p).lookup "getPayload.as_InterfacePayload.getInterfaceId" = some p.payloadIfId) : Obs img :=
  ⟨fun p => by rw [opq, (h p).1]; rfl, fun p => by rw [opq, (h p).2.1]; rfl, fun p => by rw [opq, (h p).2.2]; rfl⟩

theorem obs_oPkt : Obs oPkt := obs_of_lookup oPkt_lookup

variable {img : Packet → OPkt}

theorem devSt_ifs' (d : DevSt) : (devSt img d).f_interfaces = d.ifs.map (ifSt img) := rfl
theorem devSt_pkt' (d : DevSt) : (devSt img d).f_devicePacket = img d.pkt := rfl
theorem stSt_devs' (s : StatusSt) : (stSt img s).f_devices = s.map (devSt img) := rfl
theorem ifSt_id' (i : IfSt) : (ifSt img i).f_interfaceId = i.id := rfl

/-- normal form of a translated method body on `stSt img s` / `devSt img d`: the rules `src_simp` of `src_norm` with the member
    reads and the values read from the packet (through `H : Obs img`), extra rewrite rules in brackets — but no discharger: the
    `size_t` arithmetic of these bodies (`size() - 1`) is rewritten by the facts of the case at hand given in brackets, and must
    stay as it is where they are not given -/
macro "si_norm" H:ident " [" ls:Lean.Parser.Tactic.simpLemma,* "]" : tactic =>
  `(tactic| simp only [src_simp, ↓reduceIte, devSt_ifs', devSt_pkt', stSt_devs', ifSt_id', Obs.dev $H, Obs.ty $H, Obs.ifid $H,
      findIdxD_map, List.length_map, $ls,*])

theorem indexOfIf_img (H : Obs img) (d : DevSt) (iid : Nat) :
    DeviceStatus_getIndexByInterfaceId_obj (devSt img d) iid = some (devSt img d, d.indexOfIf iid) := by
  unfold DeviceStatus_getIndexByInterfaceId_obj DevSt.indexOfIf
  si_norm H []

theorem indexOfDev_img (H : Obs img) (s : StatusSt) (id : Nat) :
    Status_getIndexByDeviceId_obj (stSt img s) id = some (stSt img s, indexOfDev s id) := by
  unfold Status_getIndexByDeviceId_obj indexOfDev
  si_norm H []

theorem ifCount_img (H : Obs img) (d : DevSt) :
    DeviceStatus_getInterfaceStatusCount_obj (devSt img d) = some (devSt img d, d.ifs.length) := by
  unfold DeviceStatus_getInterfaceStatusCount_obj
  si_norm H []

theorem devCount_img (H : Obs img) (s : StatusSt) :
    Status_getDeviceStatusCount_obj (stSt img s) = some (stSt img s, s.length) := by
  unfold Status_getDeviceStatusCount_obj
  si_norm H []

theorem ifUpdate_img (H : Obs img) (i : InterfaceStatus_St) (p : Packet) :
    InterfaceStatus_update_obj i (img p) = some (ifSt img ⟨p.payloadIfId, p⟩, ()) := by
  unfold InterfaceStatus_update_obj
  si_norm H []
  rfl

theorem updateIfs_img (H : Obs img) (d : DevSt) (p : Packet) :
    DeviceStatus_updateInterfaces_obj (devSt img d) (img p) = some (devSt img (d.updateIfs p), ()) := by
  unfold DeviceStatus_updateInterfaces_obj DevSt.updateIfs
  si_norm H [indexOfIf_img H, ifCount_img H]
  by_cases h : d.indexOfIf p.payloadIfId = d.ifs.length
  · si_norm H [h, ifUpdate_img H]
    simp only [devSt, List.map_append, List.map_cons, List.map_nil]
  · have hlt : d.indexOfIf p.payloadIfId < d.ifs.length := (findIdx_ne_length _ _).1 h
    si_norm H [h, getIdx_map _ _ _ hlt, ifUpdate_img H, set_map_eq]
    rfl

theorem devUpdate_img (H : Obs img) (d : DevSt) (p : Packet) :
    DeviceStatus_update_obj (devSt img d) (img p) = some (devSt img (d.update p), ()) := by
  unfold DeviceStatus_update_obj DevSt.update tyIf tyCm
  si_norm H []
  by_cases h1 : p.pty = 770 <;> by_cases h2 : p.pty = 769
  · omega
  · si_norm H [h1, h2, updateIfs_img H, Nat.reduceEqDiff]
  · si_norm H [h1, h2, Nat.reduceEqDiff]
    rfl
  · si_norm H [h1, h2]

theorem defaultDev_img (H : Obs img) (p : Packet) (h : p.pty = 769) :
    DeviceStatus_update_obj DeviceStatus_default (img p) =
      some (devSt img (({ pkt := Packet.mk none 1 0 0 0 0 0 0 0 0, ifs := [] } : DevSt).update p), ()) := by
  unfold DeviceStatus_update_obj DevSt.update DeviceStatus_default tyIf tyCm
  si_norm H [h, Nat.reduceEqDiff]
  rfl

theorem update_img (H : Obs img) (s : StatusSt) (p : Packet) :
    Status_update_obj (stSt img s) (img p) = some (stSt img (statusUpdate s p), ()) := by
  unfold Status_update_obj statusUpdate tyCm
  si_norm H [indexOfDev_img H, devCount_img H]
  by_cases h : indexOfDev s p.deviceId < s.length
  · si_norm H [h, getIdx_map _ _ _ h, devUpdate_img H, set_map_eq, modify_eq_set_getElem _ _ _ h]
    rfl
  · by_cases h2 : p.pty = 769
    · si_norm H [h, h2, defaultDev_img H p h2]
      simp only [stSt, List.map_append, List.map_cons, List.map_nil]
    · si_norm H [h, h2]

theorem removeDev_img (H : Obs img) (s : StatusSt) (id : Nat) (h64 : s.length < 2 ^ 64) :
    Status_removeDeviceById_obj (stSt img s) id = some (stSt img (statusRemoveDev s id), ()) := by
  unfold Status_removeDeviceById_obj statusRemoveDev
  si_norm H [indexOfDev_img H, devCount_img H]
  by_cases h : indexOfDev s id = s.length
  · si_norm H [h]
  · have hlt : indexOfDev s id < s.length := (findIdx_ne_length _ _).1 h
    obtain ⟨t, e1, e2, e3⟩ := swapPop_map (devSt img) s _ hlt h64
    si_norm H [h, e1, e2, e3]
    rfl

theorem removeIf_img (H : Obs img) (d : DevSt) (id : Nat) (h64 : d.ifs.length < 2 ^ 64) :
    DeviceStatus_removeInterfaceById_obj (devSt img d) id = some (devSt img (d.removeIf id), ()) := by
  unfold DeviceStatus_removeInterfaceById_obj DevSt.removeIf
  si_norm H [indexOfIf_img H, ifCount_img H]
  by_cases h : d.indexOfIf id = d.ifs.length
  · si_norm H [h]
  · have hlt : d.indexOfIf id < d.ifs.length := (findIdx_ne_length _ _).1 h
    obtain ⟨t, e1, e2, e3⟩ := swapPop_map (ifSt img) d.ifs _ hlt h64
    si_norm H [h, e1, e2, e3]
    rfl

/-- an INJECTIVE image: the three observed values, then every member of the packet, whether it owns a payload, the payload type
    and every payload byte -/
def fullImg (p : Packet) : OPkt :=
  oPkt p ++ [("version", p.version), ("streamId", p.streamId), ("sequenceCounter", p.seq), ("timestamp", p.ts),
    ("interfaceId", p.ifId), ("vendorId", p.vendorId), ("commonFlags", p.flags), ("segmentType", p.segType),
    ("hasPayload", if p.payload.isSome then 1 else 0)] ++ p.data.map (fun b => ("payloadByte", b.toNat))

/-- entries appended to the table `oPkt` do not change what the tracker reads -/
theorem obs_oPkt_append (ext : Packet → OPkt) : Obs fun p => oPkt p ++ ext p :=
  obs_of_lookup fun p => by simp only [List.lookup_append, oPkt_lookup p, Option.some_or, and_self]

theorem obs_fullImg : Obs fullImg := by
  unfold fullImg
  simp only [List.append_assoc]
  exact obs_oPkt_append _

theorem fullImg_injective (p q : Packet) (h : fullImg p = fullImg q) : p = q := by
  simp only [fullImg, oPkt, List.cons_append, List.nil_append, List.cons.injEq, Prod.mk.injEq, true_and] at h
  obtain ⟨hdev, hty, _, hver, hstr, hseq, hts, hif, hven, hfl, hseg, hhas, hdata⟩ := h
  have hd : p.data = q.data := (List.map_inj_right fun a b hab => by
    simp only [Prod.mk.injEq, true_and] at hab
    exact UInt8.toNat_inj.1 hab).1 hdata
  cases p with
  | mk pp v1 d1 s1 q1 t1 i1 ve1 f1 g1 =>
  cases q with
  | mk pq v2 d2 s2 q2 t2 i2 ve2 f2 g2 =>
  simp only at hdev hver hstr hseq hts hif hven hfl hseg
  subst hdev hver hstr hseq hts hif hven hfl hseg
  congr 1
  cases pp with
  | none =>
    cases pq with
    | none => rfl
    | some b => simp at hhas
  | some a =>
    cases pq with
    | none => simp at hhas
    | some b =>
      simp only [Packet.pty, Packet.data] at hty hd
      cases a; cases b
      simp only at hty hd
      subst hty hd
      rfl

theorem stSt_fullImg_injective (s t : StatusSt) (h : stSt fullImg s = stSt fullImg t) : s = t := by
  have hif : ∀ a b : IfSt, ifSt fullImg a = ifSt fullImg b → a = b := by
    intro a b hab
    simp only [ifSt, InterfaceStatus_St.mk.injEq] at hab
    cases a; cases b
    simp only at hab
    rw [fullImg_injective _ _ hab.1, hab.2]
  have hdev : ∀ a b : DevSt, devSt fullImg a = devSt fullImg b → a = b := by
    intro a b hab
    simp only [devSt, DeviceStatus_St.mk.injEq] at hab
    cases a; cases b
    simp only at hab
    rw [fullImg_injective _ _ hab.2, (List.map_inj_right hif).1 hab.1]
  simp only [stSt, Status_St.mk.injEq] at h
  exact (List.map_inj_right hdev).1 h

/-- all vectors have at most `n` elements (the budget that keeps every `size()` below 2^64 along a source-level run,
    `srcRun_img_partial`) -/
def Small (n : Nat) (s : StatusSt) : Prop := s.length ≤ n ∧ ∀ d ∈ s, d.ifs.length ≤ n

theorem update_ifs_length (d : DevSt) (p : Packet) : (d.update p).ifs.length ≤ d.ifs.length + 1 := by
  rw [update_ifs]
  split
  · rw [updateIfs_ifs]
    split
    · rw [List.length_modify]; omega
    · rw [List.length_append]; exact Nat.le_refl _
  · omega

theorem removeIf_ifs_length (d : DevSt) (id : Nat) : (d.removeIf id).ifs.length ≤ d.ifs.length := by
  rw [removeIf_ifs]
  split
  · exact length_swapRemove_le _ _
  · exact Nat.le_refl _

theorem length_statusStep_le (s : StatusSt) (op : StOp) : (statusStep s op).length ≤ s.length + 1 := by
  cases op with
  | update p =>
    show (statusUpdate s p).length ≤ _
    by_cases hlt : indexOfDev s p.deviceId < s.length
    · rw [statusUpdate_found s p hlt, List.length_modify]; omega
    · rw [statusUpdate_new s p hlt]
      split
      · rw [List.length_append]; exact Nat.le_refl _
      · omega
  | rmDev id =>
    show (statusRemoveDev s id).length ≤ _
    rw [statusRemoveDev_eq]
    split
    · exact Nat.le_succ_of_le (length_swapRemove_le _ _)
    · omega
  | rmIf dev id =>
    show (statusRemoveIf s dev id).length ≤ _
    rw [statusRemoveIf_eq]
    split
    · rw [List.length_modify]; omega
    · omega
  | clear => exact Nat.zero_le _

theorem small_step (n : Nat) (s : StatusSt) (op : StOp) (h : Small n s) : Small (n + 1) (statusStep s op) :=
  ⟨Nat.le_trans (length_statusStep_le s op) (Nat.succ_le_succ h.1),
   forall_statusStep (P := fun d => d.ifs.length ≤ n) (Q := fun d => d.ifs.length ≤ n + 1) s op
     (fun _ hd => Nat.le_succ_of_le hd) (fun d p hd => Nat.le_trans (update_ifs_length d p) (Nat.succ_le_succ hd))
     (fun d id hd => Nat.le_succ_of_le (Nat.le_trans (removeIf_ifs_length d id) hd)) (fun _ => Nat.zero_le _) h.2⟩

end AsamCmp.C16S
