/-
  Helper lemmas for Props/C08S.lean: the greedy-fill invariant of Lemmas/EncOpen.lean (`Open.step_greedy`)
  folded over batches that may contain empty payloads — provided an empty payload has the message type of
  the packet in front of it (or is the first of the batch).
-/
import AsamCmp.Lemmas.EncStruct
namespace AsamCmp.C08S
open AsamCmp

/-- "an empty payload has the message type of its predecessor": over the batch given as
    (message type, payload length) per packet, as `P_C08` takes it; `prev` is the message type of the
    packet in front (`none` at the start of the batch: a leading empty payload is harmless) -/
def emptyFollows : Option Nat → List (Nat × Nat) → Bool
  | _, [] => true
  | prev, (mt, len) :: r =>
    (decide (len ≠ 0) || prev == none || prev == some mt) && emptyFollows (some mt) r

/-- a batch without empty payloads satisfies `emptyFollows` trivially -/
theorem emptyFollows_of_pos : ∀ (b : List (Nat × Nat)) (prev : Option Nat),
    (∀ x ∈ b, 1 ≤ x.2) → emptyFollows prev b = true := by
  intro b
  induction b with
  | nil => intro _ _; rfl
  | cons x r ih =>
    intro prev h
    obtain ⟨mt, len⟩ := x
    have h1 : 1 ≤ len := h (mt, len) (by simp)
    have h2 : decide (len ≠ 0) = true := decide_eq_true (by omega)
    simp only [emptyFollows, h2, Bool.true_or, Bool.true_and]
    exact ih _ (fun y hy => h y (by simp [hy]))

theorem foldl_greedyE {c : Ctx} (hcap : 17 ≤ c.cap) (ib : List (Nat × Packet)) :
    ∀ x : Open, GreedyE c x.out → Open.Btw c x →
      emptyFollows (some x.2.mt) (ib.map fun ip => (ip.2.mt, ip.2.payloadLength)) = true →
      GreedyE c (ib.foldl (Open.step c) x).out := by
  induction ib with
  | nil => intro x h _ _; exact h
  | cons ip ib ih =>
    intro x hg h hef
    simp only [List.map_cons, emptyFollows, Bool.and_eq_true, Bool.or_eq_true, decide_eq_true_eq,
      beq_iff_eq] at hef
    have hstep := Open.step_greedy hcap ip (by
      intro h0
      rcases hef.1 with (h1 | h1) | h1
      · exact absurd h0 h1
      · cases h1
      · exact Option.some.inj h1) hg h
    rw [List.foldl_cons]
    exact ih _ hstep.1 hstep.2 (by rw [Open.step_mt]; exact hef.2)

/-- the greedy chain of the frames of one `encode` call, for batches with empty payloads that keep the
    message type of their predecessor -/
theorem encode_greedyE (e : Enc) (batch : List Packet) (c : Ctx) (hcap : 17 ≤ c.cap)
    (hef : emptyFollows none (batch.map fun p => (p.mt, p.payloadLength)) = true) :
    GreedyE c (e.encode batch c).2 := by
  cases batch with
  | nil => rw [(encode_nil e c).1]; trivial
  | cons p ps =>
    obtain ⟨_, hg, hb⟩ := Open.first_ok c e p
    rw [Open.encode_open_frames]
    refine foldl_greedyE hcap _ _ hg hb ?_
    have : ((List.range (p :: ps).length).zip (p :: ps)).map (fun ip => (ip.2.mt, ip.2.payloadLength)) =
        (((List.range (p :: ps).length).zip (p :: ps)).map Prod.snd).map (fun p => (p.mt, p.payloadLength)) := by
      rw [List.map_map]; rfl
    rw [this, zip_snd]
    simp only [List.map_cons, emptyFollows, Bool.and_eq_true, Bool.or_eq_true, decide_eq_true_eq, beq_iff_eq] at hef ⊢
    exact ⟨Or.inr rfl, hef.2⟩

end AsamCmp.C08S
