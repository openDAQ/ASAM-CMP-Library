/-
  Table algebra for the low-level decoder model (DecoderLL.lean): `erase`, `find`, `set`, `index`,
  the function view `abs`, and the table invariant.
-/
import AsamCmp.DecoderLL
import AsamCmp.Lemmas.LayerB
namespace AsamCmp.C17b
open AsamCmp

/-- the pending reassembly an entry stands for -/
def absP (sp : SegPkt) : Pending := ⟨sp.payload, sp.segType, sp.ver, sp.mt, sp.seq⟩

theorem abs_apply (t : Table) (e : Ep) : t.abs e = (t.find e).map absP := rfl

/-! ### `find` after `erase` / `set` -/

theorem find_erase_same (t : Table) (k : Ep) : (t.erase k).find k = none := by
  unfold Table.find Table.erase
  rw [List.find?_filter]
  have : List.find? (fun a => decide ((a.1 != k) = true ∧ (a.1 == k) = true)) t = none := by
    rw [List.find?_eq_none]
    intro x _
    simp
  rw [this]; rfl

theorem find_erase_other (t : Table) (k e : Ep) (h : e ≠ k) : (t.erase k).find e = t.find e := by
  unfold Table.find Table.erase
  rw [List.find?_filter]
  congr 2
  funext a
  by_cases ha : a.1 = e
  · simp [ha, h]
  · simp [ha]

theorem find_cons_same (t : Table) (k : Ep) (v : SegPkt) : Table.find ((k, v) :: t) k = some v := by
  simp [Table.find]

theorem find_cons_other (t : Table) (k e : Ep) (v : SegPkt) (h : e ≠ k) :
    Table.find ((k, v) :: t) e = Table.find t e := by
  have : ((k, v).1 == e) = false := by simpa using Ne.symm h
  simp only [Table.find, List.find?_cons, this]

theorem find_set_same (t : Table) (k : Ep) (v : SegPkt) : (t.set k v).find k = some v :=
  find_cons_same _ k v

theorem find_set_other (t : Table) (k e : Ep) (v : SegPkt) (h : e ≠ k) :
    (t.set k v).find e = t.find e := by
  unfold Table.set
  rw [find_cons_other _ k e v h, find_erase_other t k e h]

/-! ### the function view -/

theorem abs_erase (t : Table) (k : Ep) : (t.erase k).abs = t.abs.set k none := by
  funext e
  by_cases h : e = k
  · subst h
    rw [abs_apply, find_erase_same, DecState.set_same]; rfl
  · rw [abs_apply, find_erase_other t k e h, DecState.set_other _ _ _ _ h]; rfl

theorem abs_set (t : Table) (k : Ep) (v : SegPkt) : (t.set k v).abs = t.abs.set k (some (absP v)) := by
  funext e
  by_cases h : e = k
  · subst h
    rw [abs_apply, find_set_same, DecState.set_same]; rfl
  · rw [abs_apply, find_set_other t k e v h, DecState.set_other _ _ _ _ h]; rfl

theorem set_set (s : DecState) (k : Ep) (v w : Option Pending) : (s.set k v).set k w = s.set k w := by
  funext e
  by_cases h : e = k
  · subst h; rw [DecState.set_same, DecState.set_same]
  · rw [DecState.set_other _ _ _ _ h, DecState.set_other _ _ _ _ h, DecState.set_other _ _ _ _ h]

/-! ### `erase` absorbs -/

theorem erase_erase (t : Table) (k : Ep) : (t.erase k).erase k = t.erase k := by
  unfold Table.erase
  rw [List.filter_filter]
  congr 1
  funext a
  simp

theorem erase_set (t : Table) (k : Ep) (v : SegPkt) : (t.set k v).erase k = t.erase k := by
  have : ((k, v).1 != k) = false := by simp
  show List.filter (fun x => x.1 != k) ((k, v) :: t.erase k) = t.erase k
  rw [List.filter_cons, this]
  exact erase_erase t k

/-! ### `operator[]` -/

theorem index_some (t : Table) (k : Ep) (v : SegPkt) (h : t.find k = some v) : t.index k = (t, v) := by
  simp [Table.index, h]

theorem index_none (t : Table) (k : Ep) (h : t.find k = none) : t.index k = (t.set k {}, {}) := by
  simp [Table.index, h]

theorem find_mem (t : Table) (k : Ep) (v : SegPkt) (h : t.find k = some v) : (k, v) ∈ t := by
  unfold Table.find at h
  cases hf : List.find? (fun x => x.1 == k) t with
  | none => rw [hf] at h; cases h
  | some x =>
    rw [hf] at h
    have hv : x.2 = v := Option.some.inj h
    have hk : x.1 = k := by simpa using List.find?_some hf
    have hm := List.mem_of_find?_eq_some hf
    rw [← hv, ← hk]
    exact hm

theorem mem_find (t : Table) (h : (t.map (·.1)).Nodup) (x : Ep × SegPkt) (hx : x ∈ t) :
    t.find x.1 = some x.2 := by
  induction t with
  | nil => cases hx
  | cons y t ih =>
    simp only [List.map_cons, List.nodup_cons] at h
    rcases List.mem_cons.mp hx with rfl | hx'
    · exact find_cons_same t x.1 x.2
    · have hne : x.1 ≠ y.1 := fun he => h.1 (he ▸ List.mem_map_of_mem hx')
      rw [find_cons_other t y.1 x.1 y.2 hne]
      exact ih h.2 hx'

theorem mem_keys_iff (t : Table) (k : Ep) : k ∈ t.map (·.1) ↔ (t.find k).isSome = true := by
  unfold Table.find
  rw [Option.isSome_map, List.find?_isSome]
  simp only [List.mem_map, beq_iff_eq]

/-! ### the invariant (this is `TableOk` of Props/C17b.lean) -/

def GoodEntry (sp : SegPkt) : Prop := (sp.segType = 4 ∨ sp.segType = 8) ∧ 16 ≤ sp.payload.length

def Ok (t : Table) : Prop := (t.map (·.1)).Nodup ∧ ∀ x ∈ t, GoodEntry x.2

theorem ok_nil : Ok [] := ⟨List.nodup_nil, fun _ h => by cases h⟩

theorem ok_erase (t : Table) (k : Ep) (h : Ok t) : Ok (t.erase k) := by
  refine ⟨List.Nodup.sublist (List.Sublist.map _ List.filter_sublist) h.1, ?_⟩
  intro x hx
  exact h.2 x (List.mem_filter.mp hx).1

theorem not_mem_keys_erase (t : Table) (k : Ep) : k ∉ (t.erase k).map (·.1) := by
  rw [mem_keys_iff, find_erase_same]
  simp

theorem ok_set (t : Table) (k : Ep) (v : SegPkt) (h : Ok t) (hv : GoodEntry v) : Ok (t.set k v) := by
  have he := ok_erase t k h
  refine ⟨?_, ?_⟩
  · show ((k, v).1 :: (t.erase k).map (·.1)).Nodup
    exact List.nodup_cons.mpr ⟨not_mem_keys_erase t k, he.1⟩
  · intro x hx
    rcases List.mem_cons.mp hx with rfl | hx
    · exact hv
    · exact he.2 x hx

theorem ok_find (t : Table) (k : Ep) (v : SegPkt) (h : Ok t) (hf : t.find k = some v) : GoodEntry v :=
  h.2 _ (find_mem t k v hf)

end AsamCmp.C17b
