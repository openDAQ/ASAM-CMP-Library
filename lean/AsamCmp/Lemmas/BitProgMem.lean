/-
  Symbolic memory (Src/BitProg.lean): `memEval`, little-endian member reads / writes on it, the initial memory.
-/
import AsamCmp.Lemmas.BitProgBits
import AsamCmp.Lemmas.FieldArith
import AsamCmp.Lemmas.SrcPrim
namespace AsamCmp.Src.Bit
open AsamCmp AsamCmp.Src

/-! ### byte lists -/

/-- a store into the block `b` of `pre ++ b ++ post` is a store into `b` -/
theorem writeAt_inside (pre b post x : Bytes) (i : Nat) (h : i + x.length ≤ b.length) :
    writeAt (pre ++ b ++ post) (pre.length + i) x = pre ++ writeAt b i x ++ post := by
  unfold writeAt
  have e1 : (pre ++ b ++ post).take (pre.length + i) = pre ++ b.take i := by
    rw [List.append_assoc, List.take_length_add_append, List.take_append_of_le_length (by omega)]
  have e2 : (pre ++ b ++ post).drop (pre.length + i + x.length) = b.drop (i + x.length) ++ post := by
    rw [List.append_assoc, Nat.add_assoc, List.drop_length_add_append, List.drop_append_of_le_length (by omega)]
  rw [e1, e2]
  simp only [List.append_assoc]

/-- a store inside a stored block is the store of the updated block -/
theorem writeAt_writeAt_inner {M X Y : Bytes} {this off : Nat} (hX : this + X.length ≤ M.length)
    (hY : off + Y.length ≤ X.length) :
    writeAt (writeAt M this X) (this + off) Y = writeAt M this (writeAt X off Y) := by
  have e := writeAt_inside (M.take this) X (M.drop (this + X.length)) Y off hY
  rw [List.length_take_of_le (by omega)] at e
  show _ = M.take this ++ writeAt X off Y ++ M.drop (this + (writeAt X off Y).length)
  rw [writeAt_length_of_le _ _ _ hY]
  exact e

theorem writeAt_eq_append (M X : Bytes) (this : Nat) :
    writeAt M this X = M.take this ++ X ++ M.drop (this + X.length) := rfl

theorem leEnc_mod (w v : Nat) : leEnc w (v % 2 ^ (8 * w)) = leEnc w v := by
  induction w generalizing v with
  | zero => rfl
  | succ w ih =>
    have e : 2 ^ (8 * (w + 1)) = 256 * 2 ^ (8 * w) := by
      rw [Nat.mul_succ, Nat.pow_add, Nat.mul_comm]
    simp only [leEnc]
    rw [e, Nat.mod_mul_right_div_self, ih, Nat.mod_mul_right_mod]

section
variable (obj : Bytes) (args : List Nat)

@[simp] theorem memEval_length (sm : List SWord) : (memEval obj args sm).length = sm.length := by
  simp [memEval]

theorem memEval_append (a b : List SWord) : memEval obj args (a ++ b) = memEval obj args a ++ memEval obj args b := by
  simp [memEval]

theorem memEval_take (a : List SWord) (n : Nat) : memEval obj args (a.take n) = (memEval obj args a).take n := by
  simp [memEval, List.map_take]

theorem memEval_drop (a : List SWord) (n : Nat) : memEval obj args (a.drop n) = (memEval obj args a).drop n := by
  simp [memEval, List.map_drop]

theorem memEval_cons (w : SWord) (a : List SWord) :
    memEval obj args (w :: a) = UInt8.ofNat (SWord.eval obj args (fit 8 w)) :: memEval obj args a := rfl

/-! ### reads -/

theorem leDec_memEval {L : List SWord} (h : ∀ w ∈ L, w.length = 8) :
    leDec (memEval obj args L) = SWord.eval obj args L.flatten := by
  induction L with
  | nil => rfl
  | cons w L ih =>
    have hw : w.length = 8 := h w (by simp)
    rw [memEval_cons, leDec, List.flatten_cons, eval_append, ih (fun x hx => h x (by simp [hx])), fit_of_length hw, hw]
    have := eval_lt obj args w
    rw [hw] at this
    have e : (UInt8.ofNat (SWord.eval obj args w)).toNat = SWord.eval obj args w := by
      simp; omega
    rw [e]

/-! ### writes -/

theorem chunks_length (w : Nat) (bits : SWord) : (chunks w bits).length = w := by
  induction w generalizing bits with
  | zero => rfl
  | succ w ih => simp [chunks, ih]

theorem chunks_len8 (w : Nat) (bits : SWord) (h : bits.length = 8 * w) : ∀ c ∈ chunks w bits, c.length = 8 := by
  induction w generalizing bits with
  | zero => intro c hc; simp [chunks] at hc
  | succ w ih =>
    intro c hc
    simp only [chunks, List.mem_cons] at hc
    rcases hc with hc | hc
    · subst hc
      rw [List.length_take]
      omega
    · exact ih (bits.drop 8) (by rw [List.length_drop]; omega) c hc

theorem memEval_chunks (w : Nat) (bits : SWord) :
    memEval obj args (chunks w bits) = leEnc w (SWord.eval obj args bits) := by
  induction w generalizing bits with
  | zero => rfl
  | succ w ih =>
    simp only [chunks, leEnc]
    rw [memEval_cons, ih, eval_drop, Nat.shiftRight_eq_div_pow, eval_fit, eval_take]
    have : SWord.eval obj args bits % 2 ^ 8 % 2 ^ 8 = SWord.eval obj args bits % 256 := by
      omega
    rw [this]

/-! ### the initial memory -/

theorem initMem_length (size : Nat) : (initMem size).length = size := by simp [initMem]

theorem initMem_len8 (size : Nat) : ∀ w ∈ initMem size, w.length = 8 := by
  intro w hw
  simp only [initMem, List.mem_map, List.mem_range] at hw
  obtain ⟨i, _, rfl⟩ := hw
  simp

theorem eval_memByte (i : Nat) :
    SWord.eval obj args ((List.range 8).map fun j => SBit.mem i j) = byteAt obj i := by
  symm
  apply eq_eval
  intro j
  rw [bit_map_range]
  by_cases h : j < 8
  · rw [if_pos h]; rfl
  · rw [if_neg h]
    exact Nat.testBit_lt_two_pow
      (Nat.lt_of_lt_of_le (byteAt_lt_256 obj i) (Nat.pow_le_pow_right (n := 2) (by decide) (by omega : 8 ≤ j)))

theorem memEval_initMem (size : Nat) (h : obj.length = size) : memEval obj args (initMem size) = obj := by
  apply List.ext_getElem
  · simp [initMem, h]
  · intro i h1 h2
    simp only [memEval, initMem, List.getElem_map, List.getElem_range]
    rw [fit_of_length (by simp), eval_memByte]
    simp [byteAt, List.getD_eq_getElem?_getD, List.getElem?_eq_getElem h2]

end

end AsamCmp.Src.Bit
