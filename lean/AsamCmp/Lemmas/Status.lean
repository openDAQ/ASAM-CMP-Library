/-
  Lemmas for property C16 (status tracker = latest-message map): the vectors of `Status.lean` against the map specification of
  `Lemmas/StatusSpec.lean`.

  The device vector and the interface vector of a device are the same structure: a list of entries, found by key with `findIdx`,
  changed in place with `modify`, extended at the end, shrunk by `swapRemove`.  The list facts are therefore stated once, for a key
  function `k` and a value function `v` (`absL k v l`: the list read as a partial map), and used at both levels (`kD vD`, `kI vI`).
  Then `DevSt.update / updateIfs / removeIf`, and the device vector under one operation: where its entries come from
  (`mem_statusStep`), the invariant, the abstraction.
-/
import AsamCmp.Lemmas.StatusSpec
namespace AsamCmp.C16
open AsamCmp

section generic
variable {α : Type}

theorem findIdx_cons_pos (f : α → Bool) (a : α) (l : List α) (h : f a = true) :
    findIdx f (a :: l) = 0 := by
  simp [findIdx, h]

theorem findIdx_cons_neg (f : α → Bool) (a : α) (l : List α) (h : ¬ f a = true) :
    findIdx f (a :: l) = findIdx f l + 1 := by
  simp [findIdx, h]

/-- the model's `find_if` + `distance` is core's `List.findIdx` -/
theorem findIdx_eq (f : α → Bool) (l : List α) : findIdx f l = l.findIdx f := by
  induction l with
  | nil => rfl
  | cons a l ih => rw [findIdx, List.findIdx_cons, ih]; cases f a <;> rfl

theorem findIdx_le (f : α → Bool) (l : List α) : findIdx f l ≤ l.length :=
  findIdx_eq f l ▸ List.findIdx_le_length

/-- the C++ tests `index != size`; the index never exceeds the size -/
theorem findIdx_ne_length (f : α → Bool) (l : List α) : findIdx f l ≠ l.length ↔ findIdx f l < l.length := by
  have := findIdx_le f l
  omega

theorem set_eq_modify (l : List α) (i : Nat) (y : α) : l.set i y = l.modify i (fun _ => y) := by
  induction l generalizing i with
  | nil => simp
  | cons a l ih =>
    cases i with
    | zero => simp
    | succ i => simp [ih]

theorem mem_modify (g : α → α) (l : List α) (i : Nat) (y : α) (h : y ∈ l.modify i g) :
    y ∈ l ∨ ∃ a, l[i]? = some a ∧ y = g a := by
  obtain ⟨j, hj⟩ := List.mem_iff_getElem?.1 h
  rw [List.getElem?_modify] at hj
  cases ha : l[j]? with
  | none => rw [ha] at hj; cases hj
  | some a =>
    rw [ha] at hj
    simp only [Option.map_eq_map, Option.map_some, Option.some.injEq] at hj
    by_cases hij : i = j
    · rw [if_pos hij] at hj
      exact Or.inr ⟨a, hij ▸ ha, hj.symm⟩
    · rw [if_neg hij] at hj
      exact Or.inl (hj ▸ List.mem_of_getElem? ha)

variable (k : α → Nat)

theorem find?_modify (id : Nat) (g : α → α) (hk : ∀ x, k x = id → k (g x) = id) (l : List α)
    (id' : Nat) :
    (l.modify (findIdx (fun x => k x == id) l) g).find? (fun x => k x == id') =
      if id' = id then (l.find? (fun x => k x == id)).map g else l.find? (fun x => k x == id') := by
  induction l with
  | nil => simp [findIdx]
  | cons a l ih =>
    by_cases ha : k a = id
    · have hga := hk a ha
      rw [findIdx_cons_pos _ a l (by simp [ha]), List.modify_zero_cons]
      by_cases hid : id' = id
      · rw [if_pos hid, List.find?_cons_of_pos (by simp [hga, hid]),
          List.find?_cons_of_pos (by simp [ha])]
        rfl
      · rw [if_neg hid, List.find?_cons_of_neg (by simp [hga]; exact fun h => hid h.symm),
          List.find?_cons_of_neg (by simp [ha]; exact fun h => hid h.symm)]
    · rw [findIdx_cons_neg _ a l (by simp [ha]), List.modify_succ_cons]
      by_cases ha' : k a = id'
      · have hne : id' ≠ id := fun h => ha (ha'.trans h)
        rw [if_neg hne, List.find?_cons_of_pos (by simp [ha']),
          List.find?_cons_of_pos (by simp [ha'])]
      · rw [List.find?_cons_of_neg (by simp [ha']), ih,
          List.find?_cons_of_neg (p := fun x => k x == id) (by simp [ha])]
        split
        · rfl
        · rw [List.find?_cons_of_neg (by simp [ha'])]

theorem map_modify (id : Nat) (g : α → α) (hk : ∀ x, k x = id → k (g x) = id) (l : List α) :
    (l.modify (findIdx (fun x => k x == id) l) g).map k = l.map k := by
  induction l with
  | nil => simp
  | cons a l ih =>
    by_cases ha : k a = id
    · rw [findIdx_cons_pos _ a l (by simp [ha]), List.modify_zero_cons]
      simp [hk a ha, ha]
    · rw [findIdx_cons_neg _ a l (by simp [ha]), List.modify_succ_cons]
      simp [ih]

theorem find?_some_iff (l : List α) (hnd : (l.map k).Nodup) (id : Nat) (x : α) :
    l.find? (fun y => k y == id) = some x ↔ x ∈ l ∧ k x = id := by
  induction l with
  | nil => simp
  | cons a l ih =>
    rw [List.map_cons, List.nodup_cons] at hnd
    obtain ⟨hna, hnd'⟩ := hnd
    by_cases ha : k a = id
    · rw [List.find?_cons_of_pos (by simp [ha])]
      constructor
      · intro h
        injection h with h
        subst h
        exact ⟨List.mem_cons_self .., ha⟩
      · intro ⟨hx, hkx⟩
        rcases List.mem_cons.1 hx with rfl | hx
        · rfl
        · exact absurd (List.mem_map.2 ⟨x, hx, hkx.trans ha.symm⟩) hna
    · rw [List.find?_cons_of_neg (by simp [ha]), ih hnd']
      constructor
      · intro ⟨hx, hkx⟩; exact ⟨List.mem_cons_of_mem _ hx, hkx⟩
      · intro ⟨hx, hkx⟩
        rcases List.mem_cons.1 hx with rfl | hx
        · exact absurd hkx ha
        · exact ⟨hx, hkx⟩

theorem nodup_append_single (l : List α) (y : α) (hnd : (l.map k).Nodup)
    (hy : ∀ x ∈ l, k x ≠ k y) : ((l ++ [y]).map k).Nodup := by
  rw [List.map_append, List.nodup_append]
  refine ⟨hnd, by simp, ?_⟩
  intro a ha b hb
  simp only [List.map_cons, List.map_nil, List.mem_singleton] at hb
  obtain ⟨x, hx, rfl⟩ := List.mem_map.1 ha
  rw [hb]; exact hy x hx

end generic

section swap
variable {α : Type}

/-- the vector after `std::swap(v[i], v.back())` -/
def swapped (l : List α) (i : Nat) (h : i < l.length) : List α :=
  (l.set i (l[l.length - 1]'(by omega))).set (l.length - 1) l[i]

theorem length_swapped (l : List α) (i : Nat) (h : i < l.length) : (swapped l i h).length = l.length := by
  simp only [swapped, List.length_set]

theorem dropLast_set_last (l : List α) (a : α) : (l.set (l.length - 1) a).dropLast = l.dropLast := by
  rw [List.dropLast_eq_take, List.dropLast_eq_take, List.length_set, List.take_set,
    List.set_eq_of_length_le (by rw [List.length_take]; omega)]

/-- `pop_back` after the swap is the model's `swapRemove` -/
theorem dropLast_swapped (l : List α) (i : Nat) (h : i < l.length) : (swapped l i h).dropLast = swapRemove l i := by
  have := dropLast_set_last (l.set i (l[l.length - 1]'(by omega))) l[i]
  rw [List.length_set] at this
  unfold swapRemove
  rw [List.getLast?_eq_getElem?, List.getElem?_eq_getElem (by omega)]
  exact this

/-- `swapRemove l i` is `l` without `l[i]`, up to order: the swap permutes `l` and moves `l[i]` to the end, `pop_back` drops it -/
theorem swapRemove_perm (l : List α) (i : Nat) (a : α) (ha : l[i]? = some a) :
    l.Perm (a :: swapRemove l i) := by
  obtain ⟨hi, rfl⟩ := List.getElem?_eq_some_iff.1 ha
  have hne : swapped l i hi ≠ [] := fun e => by have := length_swapped l i hi; rw [e] at this; simp at this; omega
  have hlast : (swapped l i hi).getLast hne = l[i] := by
    rw [List.getLast_eq_getElem]
    simp only [swapped, List.length_set, List.getElem_set_self]
  have := List.dropLast_concat_getLast hne
  rw [hlast, dropLast_swapped] at this
  exact (List.set_set_perm hi (by omega)).symm.trans (this ▸ List.perm_append_comm)

theorem length_swapRemove_le (l : List α) (i : Nat) : (swapRemove l i).length ≤ l.length := by
  unfold swapRemove
  split
  · exact Nat.le_refl _
  · simp only [List.length_dropLast, List.length_set]; omega

theorem mem_of_mem_swapRemove (l : List α) (i : Nat) (x : α) (hx : x ∈ swapRemove l i) : x ∈ l := by
  unfold swapRemove at hx
  split at hx
  · exact hx
  · next b hb =>
    rcases List.mem_or_eq_of_mem_set (List.dropLast_subset _ hx) with h | h
    · exact h
    · exact h ▸ List.mem_of_getLast? hb

variable (k : α → Nat)

theorem nodup_swapRemove (l : List α) (i : Nat) (a : α) (ha : l[i]? = some a)
    (hnd : (l.map k).Nodup) :
    k a ∉ (swapRemove l i).map k ∧ ((swapRemove l i).map k).Nodup := by
  have := ((swapRemove_perm l i a ha).map k).nodup_iff.1 hnd
  rw [List.map_cons, List.nodup_cons] at this
  exact this

end swap

theorem setMap_apply {β : Type} (m : Nat → Option β) (k : Nat) (v : Option β) (x : Nat) :
    setMap m k v x = if x = k then v else m x := rfl

theorem setMap_self {β : Type} (m : Nat → Option β) (id : Nat) (o : Option β) (h : m id = o) :
    setMap m id o = m := by
  funext x
  unfold setMap
  split
  · next hx => rw [hx, h]
  · rfl

section absL
variable {α β : Type} (k : α → Nat) (v : α → β)

/-- a vector of entries read as a partial map: at `id`, the value `v` of the first entry whose key `k` is `id` (with unique keys:
    of THE entry).  `absIfs` is `absL kI vI`, `absSt` is `absL kD vD`. -/
def absL (l : List α) : Nat → Option β := fun id => (l.find? (fun x => k x == id)).map v

theorem absL_found (l : List α) (id : Nat) (h : findIdx (fun x => k x == id) l < l.length) :
    ∃ a, l[findIdx (fun x => k x == id) l]? = some a ∧ k a = id ∧ a ∈ l ∧
      l.find? (fun x => k x == id) = some a ∧ absL k v l id = some (v a) := by
  rw [findIdx_eq] at h ⊢
  have ha := List.getElem?_eq_getElem h
  have hfind := List.find?_eq_getElem?_findIdx.trans ha
  refine ⟨_, ha, by simpa using List.findIdx_getElem (w := h), List.getElem_mem h, hfind, ?_⟩
  unfold absL
  rw [hfind]; rfl

theorem absL_notfound (l : List α) (id : Nat) (h : ¬ findIdx (fun x => k x == id) l < l.length) :
    findIdx (fun x => k x == id) l = l.length ∧ l.find? (fun x => k x == id) = none ∧
      absL k v l id = none ∧ ∀ x ∈ l, k x ≠ id := by
  have hle := findIdx_le (fun x => k x == id) l
  have h1 : findIdx (fun x => k x == id) l = l.length := by omega
  have hne : ∀ x ∈ l, k x ≠ id := fun x hx =>
    ne_of_beq_false (List.findIdx_eq_length.1 (findIdx_eq _ l ▸ h1) x hx)
  have h2 : l.find? (fun x => k x == id) = none := List.find?_eq_none.2 fun x hx => by simpa using hne x hx
  refine ⟨h1, h2, ?_, hne⟩
  unfold absL; rw [h2]; rfl

theorem absL_lookup (l : List α) (id : Nat) :
    (findIdx (fun x => k x == id) l < l.length ∧ ∃ a, l[findIdx (fun x => k x == id) l]? = some a ∧ k a = id ∧
        absL k v l id = some (v a) ∧ ∀ j, j < findIdx (fun x => k x == id) l → ∀ e, l[j]? = some e → k e ≠ id) ∨
    (findIdx (fun x => k x == id) l = l.length ∧ absL k v l id = none ∧ ∀ e ∈ l, k e ≠ id) := by
  by_cases hlt : findIdx (fun x => k x == id) l < l.length
  · obtain ⟨a, ha, hka, _, _, habs⟩ := absL_found k v l id hlt
    refine Or.inl ⟨hlt, a, ha, hka, habs, fun j hj e he hke => ?_⟩
    obtain ⟨hj', rfl⟩ := List.getElem?_eq_some_iff.1 he
    exact ne_of_beq_false (List.not_of_lt_findIdx (p := fun x => k x == id) (findIdx_eq _ l ▸ hj)) hke
  · obtain ⟨h1, _, h3, h4⟩ := absL_notfound k v l id hlt
    exact Or.inr ⟨h1, h3, h4⟩

theorem absL_of_getElem? (l : List α) (id : Nat) (a : α) (h : l[findIdx (fun x => k x == id) l]? = some a) :
    k a = id ∧ absL k v l id = some (v a) := by
  obtain ⟨a', ha', hk, _, _, habs⟩ := absL_found k v l id (List.getElem?_eq_some_iff.1 h).1
  cases ha'.symm.trans h
  exact ⟨hk, habs⟩

theorem absL_isSome_iff (l : List α) (id : Nat) : (absL k v l id).isSome ↔ id ∈ l.map k := by
  unfold absL
  rw [Option.isSome_map, List.find?_isSome, List.mem_map]
  simp only [beq_iff_eq]

theorem findIdx_lt_iff_isSome (l : List α) (id : Nat) :
    findIdx (fun x => k x == id) l < l.length ↔ (absL k v l id).isSome := by
  rw [findIdx_eq, List.findIdx_lt_length, absL_isSome_iff, List.mem_map]
  simp only [beq_iff_eq]

theorem findIdx_eq_length_iff (l : List α) (id : Nat) :
    findIdx (fun x => k x == id) l = l.length ↔ absL k v l id = none := by
  have hle := findIdx_le (fun x => k x == id) l
  rw [← Option.not_isSome_iff_eq_none, ← findIdx_lt_iff_isSome]
  omega

theorem absL_eq_some_iff (l : List α) (hnd : (l.map k).Nodup) (id : Nat) (b : β) :
    absL k v l id = some b ↔ ∃ a ∈ l, k a = id ∧ v a = b := by
  unfold absL
  rw [Option.map_eq_some_iff]
  simp only [find?_some_iff k l hnd, and_assoc]

theorem absL_of_mem (l : List α) (hnd : (l.map k).Nodup) (a : α) (ha : a ∈ l) : absL k v l (k a) = some (v a) :=
  (absL_eq_some_iff k v l hnd (k a) (v a)).2 ⟨a, ha, rfl, rfl⟩

/-- with unique keys the entry count is the number of keys of the map (`ks` any duplicate-free enumeration of them) -/
theorem length_eq_of_keys (l : List α) (hnd : (l.map k).Nodup) (ks : List Nat) (hks : ks.Nodup)
    (h : ∀ id, id ∈ ks ↔ (absL k v l id).isSome) : l.length = ks.length := by
  have hp : (l.map k).Perm ks := (List.perm_ext_iff_of_nodup hnd hks).2 fun id => by rw [h, absL_isSome_iff]
  rw [← hp.length_eq, List.length_map]

theorem absL_modify (l : List α) (id : Nat) (g : α → α) (hk : ∀ x, k x = id → k (g x) = id) (a : α)
    (ha : l.find? (fun x => k x == id) = some a) :
    absL k v (l.modify (findIdx (fun x => k x == id) l) g) = setMap (absL k v l) id (some (v (g a))) := by
  funext id'
  unfold absL setMap
  rw [find?_modify k id g hk l id']
  split
  · rw [ha]; rfl
  · rfl

theorem absL_append (l : List α) (id : Nat) (y : α) (hy : k y = id)
    (hnone : l.find? (fun x => k x == id) = none) :
    absL k v (l ++ [y]) = setMap (absL k v l) id (some (v y)) := by
  funext id'
  unfold absL setMap
  rw [List.find?_append]
  by_cases hid : id' = id
  · subst hid
    rw [if_pos rfl, hnone, Option.none_or, List.find?_cons_of_pos (by simp [hy])]; rfl
  · rw [if_neg hid, List.find?_cons_of_neg (by simp [hy]; exact fun h => hid h.symm), List.find?_nil, Option.or_none]

/-- with unique keys, removing the entry at `i`: its key is gone, every other key reads as before -/
theorem absL_swapRemove (l : List α) (i : Nat) (a : α) (ha : l[i]? = some a) (hnd : (l.map k).Nodup) :
    absL k v (swapRemove l i) = setMap (absL k v l) (k a) none := by
  obtain ⟨hna, hnd'⟩ := nodup_swapRemove k l i a ha hnd
  have hperm := swapRemove_perm l i a ha
  funext id'
  unfold absL setMap
  by_cases hid : id' = k a
  · rw [if_pos hid, List.find?_eq_none.2 fun x hx hkx => hna (List.mem_map.2 ⟨x, hx, (by simpa using hkx : k x = id').trans hid⟩)]
    rfl
  · rw [if_neg hid]
    congr 1
    apply Option.ext
    intro x
    rw [find?_some_iff k _ hnd', find?_some_iff k _ hnd]
    constructor
    · intro ⟨hx, hkx⟩; exact ⟨hperm.mem_iff.2 (List.mem_cons_of_mem _ hx), hkx⟩
    · intro ⟨hx, hkx⟩
      rcases List.mem_cons.1 (hperm.mem_iff.1 hx) with rfl | hx'
      · exact absurd hkx.symm hid
      · exact ⟨hx', hkx⟩

end absL

/-- key and value read from an interface entry (`absIfs = absL kI vI`) -/
abbrev kI : IfSt → Nat := fun i => i.id
abbrev vI : IfSt → Packet := fun i => i.pkt

/-- key and value read from a device entry (`absSt = absL kD vD`) -/
abbrev kD : DevSt → Nat := fun d => d.pkt.deviceId
abbrev vD : DevSt → Packet × IfMap := fun d => (d.pkt, absIfs d.ifs)

theorem absIfs_eq (l : List IfSt) : absIfs l = absL kI vI l := rfl

theorem absSt_eq (s : StatusSt) :
    absSt s = absL (fun d : DevSt => d.pkt.deviceId) (fun d => (d.pkt, absIfs d.ifs)) s := rfl

/-- every interface entry is keyed by the id inside its packet -/
def KeyOk (l : List IfSt) : Prop := ∀ x ∈ l, x.id = x.pkt.payloadIfId

theorem updateIfs_pkt (d : DevSt) (p : Packet) : (d.updateIfs p).pkt = d.pkt := by
  unfold DevSt.updateIfs
  simp only
  split <;> rfl

theorem updateIfs_ifs (d : DevSt) (p : Packet) :
    (d.updateIfs p).ifs =
      if findIdx (fun i : IfSt => i.id == p.payloadIfId) d.ifs < d.ifs.length then
        d.ifs.modify (findIdx (fun i : IfSt => i.id == p.payloadIfId) d.ifs) (fun _ => ⟨p.payloadIfId, p⟩)
      else d.ifs ++ [⟨p.payloadIfId, p⟩] := by
  unfold DevSt.updateIfs DevSt.indexOfIf
  simp only [findIdx_ne_length, set_eq_modify]
  split <;> rfl

theorem absIfs_updateIfs (d : DevSt) (p : Packet) :
    absIfs (d.updateIfs p).ifs = setMap (absIfs d.ifs) p.payloadIfId (some p) := by
  rw [updateIfs_ifs, absIfs_eq, absIfs_eq]
  split
  · next h =>
    obtain ⟨a, _, _, _, hfind, _⟩ := absL_found kI vI d.ifs _ h
    exact absL_modify kI vI d.ifs p.payloadIfId _ (fun _ _ => rfl) a hfind
  · next h =>
    obtain ⟨_, hnone, _, _⟩ := absL_notfound kI vI d.ifs _ h
    exact absL_append kI vI d.ifs p.payloadIfId _ rfl hnone

theorem nodup_updateIfs (d : DevSt) (p : Packet) (h : (d.ifs.map (·.id)).Nodup) :
    ((d.updateIfs p).ifs.map (·.id)).Nodup := by
  rw [updateIfs_ifs]
  split
  · rw [map_modify kI p.payloadIfId _ (fun _ _ => rfl)]; exact h
  · next hn =>
    obtain ⟨_, _, _, hne⟩ := absL_notfound kI vI d.ifs _ hn
    exact nodup_append_single kI d.ifs _ h hne

theorem keyOk_updateIfs (d : DevSt) (p : Packet) (h : KeyOk d.ifs) : KeyOk (d.updateIfs p).ifs := by
  rw [updateIfs_ifs]
  intro x hx
  split at hx
  · rcases mem_modify _ _ _ _ hx with hx | ⟨_, _, rfl⟩
    · exact h x hx
    · rfl
  · rcases List.mem_append.1 hx with hx | hx
    · exact h x hx
    · simp only [List.mem_singleton] at hx
      rw [hx]

theorem removeIf_pkt (d : DevSt) (id : Nat) : (d.removeIf id).pkt = d.pkt := by
  unfold DevSt.removeIf
  simp only
  split <;> rfl

theorem removeIf_key (id dev : Nat) (d : DevSt) (h : d.pkt.deviceId = dev) : (d.removeIf id).pkt.deviceId = dev := by
  rw [removeIf_pkt]; exact h

theorem removeIf_ifs (d : DevSt) (id : Nat) :
    (d.removeIf id).ifs =
      if findIdx (fun i : IfSt => i.id == id) d.ifs < d.ifs.length then
        swapRemove d.ifs (findIdx (fun i : IfSt => i.id == id) d.ifs)
      else d.ifs := by
  unfold DevSt.removeIf DevSt.indexOfIf
  simp only [findIdx_ne_length]
  split <;> rfl

theorem absIfs_removeIf (d : DevSt) (id : Nat) (hnd : (d.ifs.map (·.id)).Nodup) :
    absIfs (d.removeIf id).ifs = setMap (absIfs d.ifs) id none := by
  rw [removeIf_ifs, absIfs_eq, absIfs_eq]
  split
  · next h =>
    obtain ⟨a, ha, hka, _, _, _⟩ := absL_found kI vI d.ifs _ h
    rw [absL_swapRemove kI vI d.ifs _ a ha hnd, hka]
  · next h =>
    obtain ⟨_, _, hnone, _⟩ := absL_notfound kI vI d.ifs _ h
    exact (setMap_self _ id none hnone).symm

theorem nodup_removeIf (d : DevSt) (id : Nat) (hnd : (d.ifs.map (·.id)).Nodup) :
    ((d.removeIf id).ifs.map (·.id)).Nodup := by
  rw [removeIf_ifs]
  split
  · next h =>
    obtain ⟨a, ha, _⟩ := absL_found kI vI d.ifs _ h
    exact (nodup_swapRemove kI d.ifs _ a ha hnd).2
  · exact hnd

theorem keyOk_removeIf (d : DevSt) (id : Nat) (h : KeyOk d.ifs) : KeyOk (d.removeIf id).ifs := by
  rw [removeIf_ifs]
  split
  · exact fun x hx => h x (mem_of_mem_swapRemove d.ifs _ x hx)
  · exact h

theorem tyIf_ne_tyCm : tyIf ≠ tyCm := by decide

theorem update_pkt (d : DevSt) (p : Packet) :
    (d.update p).pkt = if p.pty = tyCm then p else d.pkt := by
  unfold DevSt.update
  by_cases h1 : p.pty = tyCm
  · simp only [if_pos h1]
  · by_cases h2 : p.pty = tyIf
    · simp only [if_neg h1, if_pos h2, updateIfs_pkt]
    · simp only [if_neg h1, if_neg h2]

theorem update_ifs (d : DevSt) (p : Packet) :
    (d.update p).ifs = if p.pty = tyIf then (d.updateIfs p).ifs else d.ifs := by
  unfold DevSt.update
  by_cases h1 : p.pty = tyCm
  · by_cases h2 : p.pty = tyIf
    · simp only [if_pos h1, if_pos h2]
    · simp only [if_pos h1, if_neg h2]
  · by_cases h2 : p.pty = tyIf
    · simp only [if_neg h1, if_pos h2]
    · simp only [if_neg h1, if_neg h2]

theorem update_key (p : Packet) (d : DevSt) (h : d.pkt.deviceId = p.deviceId) :
    (d.update p).pkt.deviceId = p.deviceId := by
  rw [update_pkt]
  split
  · rfl
  · exact h

theorem nodup_update (d : DevSt) (p : Packet) (h : (d.ifs.map (·.id)).Nodup) :
    ((d.update p).ifs.map (·.id)).Nodup := by
  rw [update_ifs]
  split
  · exact nodup_updateIfs d p h
  · exact h

theorem keyOk_update (d : DevSt) (p : Packet) (h : KeyOk d.ifs) : KeyOk (d.update p).ifs := by
  rw [update_ifs]
  split
  · exact keyOk_updateIfs d p h
  · exact h

/-- the entry appended for a new device -/
theorem blank_update (p : Packet) (h : p.pty = tyCm) :
    ({ pkt := Packet.mk none 1 0 0 0 0 0 0 0 0, ifs := [] } : DevSt).update p = ⟨p, []⟩ := by
  have h2 : p.pty ≠ tyIf := fun h' => tyIf_ne_tyCm (h'.symm.trans h)
  unfold DevSt.update
  simp only [if_pos h, if_neg h2]

theorem dev_found (s : StatusSt) (id : Nat) (h : indexOfDev s id < s.length) :
    ∃ a, s[indexOfDev s id]? = some a ∧ a.pkt.deviceId = id ∧ a ∈ s ∧
      s.find? (fun d => d.pkt.deviceId == id) = some a ∧ absSt s id = some (a.pkt, absIfs a.ifs) :=
  absL_found kD vD s id h

theorem dev_notfound (s : StatusSt) (id : Nat) (h : ¬ indexOfDev s id < s.length) :
    indexOfDev s id = s.length ∧ s.find? (fun d => d.pkt.deviceId == id) = none ∧
      absSt s id = none ∧ ∀ x ∈ s, x.pkt.deviceId ≠ id :=
  absL_notfound kD vD s id h

theorem statusUpdate_found (s : StatusSt) (p : Packet) (h : indexOfDev s p.deviceId < s.length) :
    statusUpdate s p = s.modify (indexOfDev s p.deviceId) (fun d => d.update p) := by
  unfold statusUpdate
  simp only
  rw [if_pos h]

theorem statusUpdate_new (s : StatusSt) (p : Packet) (h : ¬ indexOfDev s p.deviceId < s.length) :
    statusUpdate s p = if p.pty = tyCm then s ++ [⟨p, []⟩] else s := by
  unfold statusUpdate
  simp only
  rw [if_neg h]
  split
  · next h1 => rw [blank_update p h1]
  · rfl

theorem statusRemoveDev_eq (s : StatusSt) (id : Nat) :
    statusRemoveDev s id =
      if indexOfDev s id < s.length then swapRemove s (indexOfDev s id) else s := by
  unfold statusRemoveDev indexOfDev
  simp only [findIdx_ne_length]

theorem statusRemoveIf_eq (s : StatusSt) (dev id : Nat) :
    statusRemoveIf s dev id =
      if indexOfDev s dev < s.length then s.modify (indexOfDev s dev) (fun d => d.removeIf id) else s := rfl

theorem mem_statusStep (s : StatusSt) (op : StOp) (d : DevSt) (hd : d ∈ statusStep s op) :
    d ∈ s ∨ (∃ a ∈ s, ∃ p, d = a.update p) ∨ (∃ a ∈ s, ∃ id, d = a.removeIf id) ∨ ∃ p, d = ⟨p, []⟩ := by
  cases op with
  | update p =>
    change d ∈ statusUpdate s p at hd
    by_cases hlt : indexOfDev s p.deviceId < s.length
    · rw [statusUpdate_found s p hlt] at hd
      rcases mem_modify _ s _ d hd with hd | ⟨a, ha, rfl⟩
      · exact Or.inl hd
      · exact Or.inr (Or.inl ⟨a, List.mem_of_getElem? ha, p, rfl⟩)
    · rw [statusUpdate_new s p hlt] at hd
      split at hd
      · rcases List.mem_append.1 hd with hd | hd
        · exact Or.inl hd
        · exact Or.inr (Or.inr (Or.inr ⟨p, List.mem_singleton.1 hd⟩))
      · exact Or.inl hd
  | rmDev id =>
    change d ∈ statusRemoveDev s id at hd
    rw [statusRemoveDev_eq] at hd
    split at hd
    · exact Or.inl (mem_of_mem_swapRemove s _ d hd)
    · exact Or.inl hd
  | rmIf dev id =>
    change d ∈ statusRemoveIf s dev id at hd
    rw [statusRemoveIf_eq] at hd
    split at hd
    · rcases mem_modify _ s _ d hd with hd | ⟨a, ha, rfl⟩
      · exact Or.inl hd
      · exact Or.inr (Or.inr (Or.inl ⟨a, List.mem_of_getElem? ha, id, rfl⟩))
    · exact Or.inl hd
  | clear => cases hd

/-- a property of every device entry is carried through one operation if `update` and `removeIf` carry it and the entry of a
    new device has it (`Q` may be weaker than `P`: a bound that grows) -/
theorem forall_statusStep {P Q : DevSt → Prop} (s : StatusSt) (op : StOp) (hPQ : ∀ d, P d → Q d)
    (hupd : ∀ d p, P d → Q (d.update p)) (hrm : ∀ d id, P d → Q (d.removeIf id)) (hnew : ∀ p, Q ⟨p, []⟩)
    (h : ∀ d ∈ s, P d) : ∀ d ∈ statusStep s op, Q d := by
  intro d hd
  rcases mem_statusStep s op d hd with hd | ⟨a, ha, p, rfl⟩ | ⟨a, ha, id, rfl⟩ | ⟨p, rfl⟩
  · exact hPQ d (h d hd)
  · exact hupd a p (h a ha)
  · exact hrm a id (h a ha)
  · exact hnew p

theorem nodup_keys_statusStep (s : StatusSt) (op : StOp) (h : (s.map kD).Nodup) : ((statusStep s op).map kD).Nodup := by
  cases op with
  | update p =>
    show ((statusUpdate s p).map kD).Nodup
    by_cases hlt : indexOfDev s p.deviceId < s.length
    · rw [statusUpdate_found s p hlt]
      exact map_modify kD p.deviceId _ (update_key p) s ▸ h
    · rw [statusUpdate_new s p hlt]
      split
      · exact nodup_append_single kD s ⟨p, []⟩ h (dev_notfound s p.deviceId hlt).2.2.2
      · exact h
  | rmDev id =>
    show ((statusRemoveDev s id).map kD).Nodup
    rw [statusRemoveDev_eq]
    split
    · next hlt =>
      obtain ⟨a, ha, _⟩ := dev_found s id hlt
      exact (nodup_swapRemove kD s _ a ha h).2
    · exact h
  | rmIf dev id =>
    show ((statusRemoveIf s dev id).map kD).Nodup
    rw [statusRemoveIf_eq]
    split
    · exact map_modify kD dev _ (removeIf_key id dev) s ▸ h
    · exact h
  | clear => exact List.nodup_nil

theorem inv_statusStep (s : StatusSt) (op : StOp) (h : Inv s) : Inv (statusStep s op) :=
  ⟨nodup_keys_statusStep s op h.1,
   forall_statusStep (P := fun d => (d.ifs.map (·.id)).Nodup) s op (fun _ hd => hd) (fun d p => nodup_update d p)
     (fun d id => nodup_removeIf d id) (fun _ => List.nodup_nil) h.2⟩

theorem absSt_modify (s : StatusSt) (id : Nat) (g : DevSt → DevSt)
    (hk : ∀ x : DevSt, x.pkt.deviceId = id → (g x).pkt.deviceId = id) (a : DevSt)
    (ha : s.find? (fun d => d.pkt.deviceId == id) = some a) :
    absSt (s.modify (indexOfDev s id) g) = setMap (absSt s) id (some ((g a).pkt, absIfs (g a).ifs)) :=
  absL_modify kD vD s id g hk a ha

theorem abs_update (s : StatusSt) (p : Packet) :
    absSt (statusUpdate s p) = specStep (absSt s) (.update p) := by
  by_cases hlt : indexOfDev s p.deviceId < s.length
  · obtain ⟨a, _, _, _, hfind, habs⟩ := dev_found s p.deviceId hlt
    rw [statusUpdate_found s p hlt, absSt_modify s p.deviceId _ (update_key p) a hfind]
    simp only [specStep, habs]
    rw [update_pkt, update_ifs]
    by_cases h2 : p.pty = tyIf
    · have h1 : p.pty ≠ tyCm := fun h => tyIf_ne_tyCm (h2.symm.trans h)
      simp only [if_pos h2, if_neg h1, absIfs_updateIfs]
    · by_cases h1 : p.pty = tyCm
      · simp only [if_pos h1, if_neg h2]
      · simp only [if_neg h1, if_neg h2]
        exact setMap_self _ _ _ habs
  · obtain ⟨_, hnone, habs, _⟩ := dev_notfound s p.deviceId hlt
    rw [statusUpdate_new s p hlt]
    simp only [specStep, habs]
    split
    · exact absL_append kD vD s p.deviceId ⟨p, []⟩ rfl hnone
    · rfl

theorem abs_rmDev (s : StatusSt) (id : Nat) (h : Inv s) :
    absSt (statusRemoveDev s id) = specStep (absSt s) (.rmDev id) := by
  rw [statusRemoveDev_eq]
  simp only [specStep]
  split
  · next hlt =>
    obtain ⟨a, ha, hka, _⟩ := dev_found s id hlt
    have := absL_swapRemove kD vD s _ a ha h.1
    rw [show kD a = id from hka] at this
    exact this
  · next hlt =>
    obtain ⟨_, _, habs, _⟩ := dev_notfound s id hlt
    exact (setMap_self _ _ _ habs).symm

theorem abs_rmIf (s : StatusSt) (dev id : Nat) (h : Inv s) :
    absSt (statusRemoveIf s dev id) = specStep (absSt s) (.rmIf dev id) := by
  rw [statusRemoveIf_eq]
  split
  · next hlt =>
    obtain ⟨a, _, _, ham, hfind, habs⟩ := dev_found s dev hlt
    rw [absSt_modify s dev _ (removeIf_key id dev) a hfind]
    simp only [specStep, habs]
    rw [removeIf_pkt, absIfs_removeIf a id (h.2 a ham)]
  · next hlt =>
    obtain ⟨_, _, habs, _⟩ := dev_notfound s dev hlt
    simp only [specStep, habs]

theorem abs_statusStep (s : StatusSt) (op : StOp) (h : Inv s) :
    absSt (statusStep s op) = specStep (absSt s) op := by
  cases op with
  | update p => exact abs_update s p
  | rmDev id => exact abs_rmDev s id h
  | rmIf dev id => exact abs_rmIf s dev id h
  | clear => rfl

theorem refines_from (ops : List StOp) : ∀ s : StatusSt, Inv s →
    absSt (statusRun s ops) = specRun (absSt s) ops ∧ Inv (statusRun s ops) := by
  induction ops with
  | nil => intro s h; exact ⟨rfl, h⟩
  | cons op ops ih =>
    intro s h
    have := ih (statusStep s op) (inv_statusStep s op h)
    rw [abs_statusStep s op h] at this
    exact this

/-- `KeyOk` for the interfaces of every device entry (`C16.if_key_is_payload_id`) -/
def AllKeyOk (s : StatusSt) : Prop := ∀ d ∈ s, KeyOk d.ifs

theorem allKeyOk_statusStep (s : StatusSt) (op : StOp) (h : AllKeyOk s) : AllKeyOk (statusStep s op) :=
  forall_statusStep (P := fun d => KeyOk d.ifs) s op (fun _ hd => hd) (fun d p => keyOk_update d p)
    (fun d id => keyOk_removeIf d id) (fun _ x hx => by cases hx) h

theorem allKeyOk_run (ops : List StOp) : ∀ s : StatusSt, AllKeyOk s → AllKeyOk (statusRun s ops) := by
  induction ops with
  | nil => intro s h; exact h
  | cons op ops ih => intro s h; exact ih _ (allKeyOk_statusStep s op h)

end AsamCmp.C16
