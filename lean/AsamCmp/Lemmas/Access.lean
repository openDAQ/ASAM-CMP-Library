/-
  Lemmas for C03 (validators imply in-bounds accessors): what each accessor set returns on a buffer that holds what it
  reads; per class, that the validator accepting a buffer keeps the accessors inside it (for the capture-module class
  through its five length-prefixed blocks); the class table that `kindOfTy`, `validatorOf`, `kindValid` and `kindAccess`
  are four readings of; and, at the end, where the packets of the message loop and of a reassembly come from.
-/
import AsamCmp.Access
import AsamCmp.Decoder
import AsamCmp.Lemmas.ValidSpec
import AsamCmp.Lemmas.LayerB
namespace AsamCmp.C03
open AsamCmp

/-! ### checked reads -/

theorem rd_ok (b : Bytes) (pos w : Nat) (h : pos + w ≤ b.length) : rd b pos w = some (beAt b pos w) := by
  simp [rd, h]

/-! ### the accessor sets on a buffer that holds what they read -/

theorem canAccess_eq (b : Bytes) (h : 16 ≤ b.length) : canAccess b = some [dataView "data" 16 (byteAt b 15)] := by
  simp only [canAccess, rd_ok b 0 16 h, rd_ok b 15 1 h, beAt_one_eq_byteAt, bind, Option.bind, pure]

theorem linAccess_eq (b : Bytes) (h : 8 ≤ b.length) : linAccess b = some [dataView "data" 8 (byteAt b 7)] := by
  simp only [linAccess, rd_ok b 0 8 h, rd_ok b 7 1 h, beAt_one_eq_byteAt, bind, Option.bind, pure]

theorem ethAccess_eq (b : Bytes) (h : 6 ≤ b.length) : ethAccess b = some [dataView "data" 6 (beAt b 4 2)] := by
  simp only [ethAccess, rd_ok b 0 6 h, rd_ok b 4 2 h, bind, Option.bind, pure]

/-- the sample width `w` (here) and the stream-id count `c` (in `ifAccess_eq`) are arguments given by their defining
    equation: the statement names them once, and a caller can go on with them as plain numbers -/
theorem analogAccess_eq (b : Bytes) (h : 16 ≤ b.length) (w : Nat) (hw : (if byteAt b 1 &&& 3 = 0 then 2 else 4) = w) :
    analogAccess b = some [⟨"samples", if (b.length - 16) / w = 0 then none else some 16, (b.length - 16) / w * w⟩] := by
  simp only [analogAccess, rd_ok b 0 16 h, rd_ok b 1 1 (by omega), beAt_one_eq_byteAt, bind, Option.bind, pure, hw]

theorem ifAccess_eq (b : Bytes) (c : Nat) (hc : beAt b 36 2 = c) (h : 38 + (c + c % 2) + 2 ≤ b.length) :
    ifAccess b = some [dataView "streamIds" 38 c,
      dataView "vendorData" (38 + (c + c % 2) + 2) (beAt b (38 + (c + c % 2)) 2)] := by
  simp only [ifAccess, rd_ok b 0 36 (by omega), rd_ok b 36 2 (by omega), hc, rd_ok b _ 2 h, bind, Option.bind, pure]

/-! ### per class: validator accepts ⇒ accessors stay inside -/

/-- no accessor of the set `a` reads outside `b`, and every view it reports lies inside `b` -/
def AccessInBounds (a : Bytes → Option (List View)) (b : Bytes) : Prop :=
  ∃ vs, a b = some vs ∧ ∀ x ∈ vs, x.inBounds b.length = true

theorem dataView_inBounds (name : String) (off len n : Nat) (h : off + len ≤ n) :
    (dataView name off len).inBounds n = true := by
  by_cases h0 : len = 0
  · simp only [dataView, View.inBounds, if_pos h0]
  · simp only [dataView, View.inBounds, if_neg h0, decide_eq_true h]

theorem can_inBounds (b : Bytes) (hv : canValid b = true) : AccessInBounds canAccess b := by
  obtain ⟨h16, _, _, hn⟩ := (canValid_spec b).mp hv
  exact ⟨_, canAccess_eq b h16, List.forall_mem_singleton.mpr (dataView_inBounds _ _ _ _ (by omega))⟩

theorem lin_inBounds (b : Bytes) (hv : linValid b = true) : AccessInBounds linAccess b := by
  obtain ⟨h8, hn⟩ := (linValid_spec b).mp hv
  exact ⟨_, linAccess_eq b h8, List.forall_mem_singleton.mpr (dataView_inBounds _ _ _ _ (by omega))⟩

theorem eth_inBounds (b : Bytes) (hv : ethValid b = true) : AccessInBounds ethAccess b := by
  obtain ⟨h6, _, hn⟩ := (ethValid_spec b).mp hv
  exact ⟨_, ethAccess_eq b h6, List.forall_mem_singleton.mpr (dataView_inBounds _ _ _ _ (by omega))⟩

theorem analog_inBounds (b : Bytes) (hv : analogValid b = true) : AccessInBounds analogAccess b := by
  obtain ⟨h16, _⟩ := (analogValid_spec b).mp hv
  refine ⟨_, analogAccess_eq b h16 _ rfl, List.forall_mem_singleton.mpr ?_⟩
  generalize (if byteAt b 1 &&& 3 = 0 then 2 else 4) = w
  have hdiv := Nat.div_mul_le_self (b.length - 16) w
  by_cases h0 : (b.length - 16) / w = 0
  · simp only [View.inBounds, if_pos h0]
  · simp only [View.inBounds, if_neg h0, decide_eq_true_eq]
    omega

theorem if_inBounds (b : Bytes) (hv : ifValid b = true) : AccessInBounds ifAccess b := by
  obtain ⟨h40, _, hc, hvl⟩ := (ifValid_spec b).mp hv
  generalize hcdef : beAt b 36 2 = c at hc hvl
  have hle : c ≤ c + c % 2 := Nat.le_add_right _ _
  refine ⟨_, ifAccess_eq b c hcdef (by omega), ?_⟩
  -- from here on the padded count is just a number `cp ≥ c`
  generalize c + c % 2 = cp at hc hvl hle ⊢
  intro x hx
  simp only [List.mem_cons, List.not_mem_nil, or_false] at hx
  rcases hx with rfl | rfl
  · exact dataView_inBounds _ _ _ _ (by omega)
  · exact dataView_inBounds _ _ _ _ (by omega)

/-! ### capture-module status: the five blocks -/

theorem cmBlock_ok (b : Bytes) (pos : Nat) (h : pos + 2 ≤ b.length) :
    cmBlock b pos = some (pos + 2, beAt b pos 2, pos + 2 + beAt b pos 2) := by
  simp [cmBlock, rd_ok b pos 2 h]

theorem trimNul_eq (b : Bytes) (off len : Nat) (h : off + len ≤ b.length) :
    trimNul b off len = some ((slice b off len).takeWhile (· != 0)).length :=
  if_pos h

theorem trimmed_le (b : Bytes) (off len : Nat) : ((slice b off len).takeWhile (· != 0)).length ≤ len := by
  refine Nat.le_trans (List.takeWhile_prefix _).length_le ?_
  simp only [slice, List.length_take]; omega

/-- the length-prefixed block at `pos` lies inside `b`: `l` is its declared length, `p` its end (where the next
    block starts).  Length and end stay variables so that five blocks in a row do not nest. -/
structure Blk (b : Bytes) (pos l p : Nat) : Prop where
  len : beAt b pos 2 = l
  next : pos + 2 + l = p
  lt : l < 65536
  inside : p ≤ b.length

theorem blocksOk_blk (n : Nat) (b : Bytes) (pos : Nat) (h : blocksOk (n + 1) (b.drop pos) = true) :
    ∃ l p, Blk b pos l p ∧ blocksOk n (b.drop p) = true := by
  obtain ⟨_, h1, h2⟩ := (blocksOk_succ_iff n b pos).mp h
  exact ⟨_, _, ⟨rfl, rfl, beAt_two_lt_65536 b pos, h1⟩, h2⟩

namespace Blk
variable {b : Bytes} {pos l p : Nat}

/-- `initStringView` on the block -/
theorem cmBlock_eq (B : Blk b pos l p) : cmBlock b pos = some (pos + 2, l, p) := by
  have := B.inside; have := B.next
  rw [cmBlock_ok b pos (by omega), B.len, B.next]

/-- `removeTrailingNulls` on the block's view -/
theorem trimNul_view (B : Blk b pos l p) :
    trimNul b (pos + 2) l = some ((slice b (pos + 2) l).takeWhile (· != 0)).length :=
  C03.trimNul_eq b _ _ (by have := B.inside; have := B.next; omega)

theorem trimmed_inside (B : Blk b pos l p) : pos + 2 + ((slice b (pos + 2) l).takeWhile (· != 0)).length ≤ p := by
  have := C03.trimmed_le b (pos + 2) l
  have := B.next
  omega

end Blk

theorem cm_blocks (b : Bytes) (hv : cmValid b = true) :
    ∃ l1 p2 l2 p3 l3 p4 l4 p5 l5 p6, 26 ≤ b.length ∧
      Blk b 26 l1 p2 ∧ Blk b p2 l2 p3 ∧ Blk b p3 l3 p4 ∧ Blk b p4 l4 p5 ∧ Blk b p5 l5 p6 ∧
      cmAccess b = some
        [⟨"deviceDescription", some (26 + 2), ((slice b (26 + 2) l1).takeWhile (· != 0)).length⟩,
         ⟨"serialNumber", some (p2 + 2), ((slice b (p2 + 2) l2).takeWhile (· != 0)).length⟩,
         ⟨"hardwareVersion", some (p3 + 2), ((slice b (p3 + 2) l3).takeWhile (· != 0)).length⟩,
         ⟨"softwareVersion", some (p4 + 2), ((slice b (p4 + 2) l4).takeWhile (· != 0)).length⟩,
         ⟨"vendorData", some (p5 + 2), l5⟩] := by
  obtain ⟨h26, hb⟩ := (cmValid_spec b).mp hv
  obtain ⟨l1, p2, B1, hb⟩ := blocksOk_blk 4 b 26 hb
  obtain ⟨l2, p3, B2, hb⟩ := blocksOk_blk 3 b p2 hb
  obtain ⟨l3, p4, B3, hb⟩ := blocksOk_blk 2 b p3 hb
  obtain ⟨l4, p5, B4, hb⟩ := blocksOk_blk 1 b p4 hb
  obtain ⟨l5, p6, B5, _⟩ := blocksOk_blk 0 b p5 hb
  refine ⟨l1, p2, l2, p3, l3, p4, l4, p5, l5, p6, h26, B1, B2, B3, B4, B5, ?_⟩
  simp only [cmAccess, rd_ok b 0 26 h26, B1.cmBlock_eq, B1.trimNul_view, B2.cmBlock_eq, B2.trimNul_view, B3.cmBlock_eq,
    B3.trimNul_view, B4.cmBlock_eq, B4.trimNul_view, B5.cmBlock_eq, bind, Option.bind, pure]

theorem cm_inBounds (b : Bytes) (hv : cmValid b = true) : AccessInBounds cmAccess b := by
  obtain ⟨l1, p2, l2, p3, l3, p4, l4, p5, l5, p6, _, B1, B2, B3, B4, B5, hacc⟩ := cm_blocks b hv
  refine ⟨_, hacc, ?_⟩
  intro x hx
  simp only [List.mem_cons, List.not_mem_nil, or_false] at hx
  rcases hx with rfl | rfl | rfl | rfl | rfl
  · exact decide_eq_true (Nat.le_trans B1.trimmed_inside B1.inside)
  · exact decide_eq_true (Nat.le_trans B2.trimmed_inside B2.inside)
  · exact decide_eq_true (Nat.le_trans B3.trimmed_inside B3.inside)
  · exact decide_eq_true (Nat.le_trans B4.trimmed_inside B4.inside)
  · exact decide_eq_true (Nat.le_trans (Nat.le_of_eq B5.next) B5.inside)

/-! ### the class table

`kindOfTy`, `validatorOf`, `kindValid` and `kindAccess` are four readings of one table with seven rows. -/

/-- a row of the class table: payload type, class name, the class's validator and its accessor set -/
inductive KindRow : Nat → String → (Bytes → Bool) → (Bytes → Option (List View)) → Prop
  | can : KindRow tyCan "can" canValid canAccess
  | canfd : KindRow tyCanFd "canfd" canValid canAccess
  | lin : KindRow tyLin "lin" linValid linAccess
  | analog : KindRow tyAnalog "analog" analogValid analogAccess
  | eth : KindRow tyEth "eth" ethValid ethAccess
  | cm : KindRow tyCm "cm" cmValid cmAccess
  | «if» : KindRow tyIf "if" ifValid ifAccess

namespace KindRow
variable {ty : Nat} {k : String} {v : Bytes → Bool} {a : Bytes → Option (List View)}

theorem kindOfTy_eq (r : KindRow ty k v a) : kindOfTy ty = some k := by cases r <;> rfl
theorem validatorOf_eq (r : KindRow ty k v a) : validatorOf ty = some v := by cases r <;> rfl
theorem kindValid_eq (r : KindRow ty k v a) : kindValid k = some v := by cases r <;> rfl
theorem kindAccess_eq (r : KindRow ty k v a) : kindAccess k = some a := by cases r <;> rfl

theorem inBounds (r : KindRow ty k v a) (b : Bytes) (hv : v b = true) : AccessInBounds a b := by
  cases r
  · exact can_inBounds b hv
  · exact can_inBounds b hv
  · exact lin_inBounds b hv
  · exact analog_inBounds b hv
  · exact eth_inBounds b hv
  · exact cm_inBounds b hv
  · exact if_inBounds b hv

end KindRow

theorem row_or_none_of_ty (ty : Nat) :
    (∃ k v a, KindRow ty k v a) ∨ (kindOfTy ty = none ∧ validatorOf ty = none) :=
  validatorOf_cases (P := fun ty o => (∃ k v a, KindRow ty k v a) ∨ (kindOfTy ty = none ∧ o = none))
    (.inl ⟨_, _, _, .can⟩) (.inl ⟨_, _, _, .canfd⟩) (.inl ⟨_, _, _, .lin⟩) (.inl ⟨_, _, _, .analog⟩) (.inl ⟨_, _, _, .eth⟩)
    (.inl ⟨_, _, _, .cm⟩) (.inl ⟨_, _, _, .if⟩)
    (fun ty ⟨h1, h2, h3, h4, h5, h6, h7⟩ => .inr ⟨by
      simp only [kindOfTy, tyCan, tyCanFd, tyLin, tyAnalog, tyEth, tyCm, tyIf, h1, h2, h3, h4, h5, h6, h7, if_false], rfl⟩) ty

theorem row_or_none_of_name (k : String) :
    (∃ ty v a, KindRow ty k v a) ∨
      (k ∉ ["can", "canfd", "lin", "eth", "analog", "cm", "if"] ∧ kindValid k = none ∧ kindAccess k = none) := by
  by_cases h1 : k = "can"; · subst h1; exact .inl ⟨_, _, _, .can⟩
  by_cases h2 : k = "canfd"; · subst h2; exact .inl ⟨_, _, _, .canfd⟩
  by_cases h3 : k = "lin"; · subst h3; exact .inl ⟨_, _, _, .lin⟩
  by_cases h4 : k = "eth"; · subst h4; exact .inl ⟨_, _, _, .eth⟩
  by_cases h5 : k = "analog"; · subst h5; exact .inl ⟨_, _, _, .analog⟩
  by_cases h6 : k = "cm"; · subst h6; exact .inl ⟨_, _, _, .cm⟩
  by_cases h7 : k = "if"; · subst h7; exact .inl ⟨_, _, _, .if⟩
  exact .inr (by simp only [kindValid, kindAccess, List.mem_cons, List.not_mem_nil, Bool.or_eq_true, beq_iff_eq, h1, h2,
    h3, h4, h5, h6, h7, or_self, if_false, not_false_eq_true, and_self])

theorem row_of_kindValid {k : String} {v : Bytes → Bool} (h : kindValid k = some v) :
    ∃ ty a, KindRow ty k v a := by
  rcases row_or_none_of_name k with ⟨ty, v', a, r⟩ | ⟨_, hn, _⟩
  · cases h.symm.trans r.kindValid_eq; exact ⟨ty, a, r⟩
  · cases h.symm.trans hn

theorem create_cases (ty : Nat) (d : Bytes) :
    (create ty d = ⟨ty, d⟩ ∧ ∀ v, validatorOf ty = some v → v d = true) ∨ create ty d = ⟨0, zeros d.length⟩ := by
  by_cases h : ∀ v, validatorOf ty = some v → v d = true
  · by_cases h0 : ty = 0
    · exact .inr (by subst h0; rfl)
    · exact .inl ⟨create_of_accepted h0 h, h⟩
  · exact .inr (create_of_not_accepted h)

end AsamCmp.C03

/-! ### where delivered packets come from (stated in `C03S`, whose decoder theorems use them) -/

namespace AsamCmp.C03S
open AsamCmp

/-- every packet of the message loop was built from a suffix of the buffer that `isValidPacket` accepted -/
theorem walk_source (ep : Ep) (ver mt : Nat) (r : Bytes) :
    ∀ p ∈ (walk ep ver mt r).1, ∃ off, off ≤ r.length ∧ msgValid (r.drop off) = true ∧
      p = tagPacket ep ver (Packet.ofMsg mt (r.drop off)) := by
  intro p hp
  obtain ⟨off, h1, h2, _, h4⟩ := walk_mem ep ver mt r p hp
  exact ⟨off, h1, h2, h4⟩

/-- what a segment-handling step delivers: the frame's unsegmented packets, and on a last segment the packet built
    from the reassembly buffer -/
theorem localStep_source (q : Option Pending) (f : PFrame) :
    ∀ p ∈ (localStep q f).2, p ∈ f.unseg ∨
      ∃ q' seg, q = some q' ∧ f.term = .seg seg ∧
        p = tagPacket f.ep q'.ver (Packet.ofMsg q'.mt (fixLen (q'.buf ++ seg.drop 16))) := by
  have hs := localStep_spec q f
  generalize localStep q f = r at hs ⊢
  intro p hp
  cases hs with
  | noseg _ => exact .inl hp
  | first _ _ _ => exact .inl hp
  | abort _ _ _ _ => exact .inl hp
  | cont m q' hm _ hq _ _ =>
    split at hp
    · exact .inr ⟨q', m, hq, hm, List.mem_singleton.mp hp⟩
    · cases hp

end AsamCmp.C03S
