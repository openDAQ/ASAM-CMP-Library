/-
  The history form of property C16 (`AsamCmp/Props/C16S.lean` §2): what the map specification `C16.specRun` holds for a device
  is a function of the operation sequence alone.

  * one operation seen from a device / an interface: `resetsB`, `cmOf`, `ifOf`, `rmIfB`;
  * the closed form over the history MOST RECENT FIRST: `cmHist`, `ifHist`, `closed`.  Both are scans (`Scan`: stop at a reset,
    answer at the first hit, pass over the rest); the specification read entry by entry obeys the same equations
    (`specStep_fst`, `specStep_snd`), and the equations determine the function: `specRun_closed`;
  * a scan answers iff the history splits at the hit (`Scan.eq_some_iff`); in the order of time and in the words of `NoReset`,
    `NoCm`, `NoIf`: `cmHist_reverse_eq_some_iff`, `cmHist_reverse_isSome_iff`, `ifHist_reverse_eq_some_iff`.
-/
import AsamCmp.Lemmas.Status
set_option linter.unusedSimpArgs false
set_option linter.unusedVariables false
namespace AsamCmp.C16S
open AsamCmp AsamCmp.C16

/-- `op` ends the life of device `dev`'s entry ("removed or cleared") -/
def resetsB (dev : Nat) : StOp → Bool
  | .update _ => false
  | .rmDev id => id == dev
  | .rmIf _ _ => false
  | .clear => true

/-- `op` is a capture-module status message of device `dev`: that message -/
def cmOf (dev : Nat) : StOp → Option Packet
  | .update p => if p.pty = tyCm ∧ p.deviceId = dev then some p else none
  | .rmDev _ => none
  | .rmIf _ _ => none
  | .clear => none

/-- `op` is an interface status message of device `dev` for interface `id`: that message -/
def ifOf (dev id : Nat) : StOp → Option Packet
  | .update p => if p.pty = tyIf ∧ p.deviceId = dev ∧ p.payloadIfId = id then some p else none
  | .rmDev _ => none
  | .rmIf _ _ => none
  | .clear => none

/-- `op` is `removeInterfaceById(id)` on device `dev` -/
def rmIfB (dev id : Nat) : StOp → Bool
  | .update _ => false
  | .rmDev _ => false
  | .rmIf d i => d == dev && i == id
  | .clear => false

theorem resetsB_false_iff (dev : Nat) (op : StOp) : resetsB dev op = false ↔ op ≠ .clear ∧ op ≠ .rmDev dev := by
  cases op <;> simp [resetsB]
theorem rmIfB_false_iff (dev id : Nat) (op : StOp) : rmIfB dev id op = false ↔ op ≠ .rmIf dev id := by
  cases op <;> simp [rmIfB]
theorem cmOf_some_iff (dev : Nat) (op : StOp) (p : Packet) :
    cmOf dev op = some p ↔ op = .update p ∧ p.pty = tyCm ∧ p.deviceId = dev := by
  cases op with
  | update q =>
    simp only [cmOf, Option.ite_none_right_eq_some, Option.some.injEq, StOp.update.injEq]
    exact ⟨fun ⟨hc, he⟩ => ⟨he, he ▸ hc⟩, fun ⟨he, hc⟩ => ⟨he ▸ hc, he⟩⟩
  | _ => simp [cmOf]
theorem cmOf_none_iff (dev : Nat) (op : StOp) :
    cmOf dev op = none ↔ ∀ q, op = .update q → ¬ (q.pty = tyCm ∧ q.deviceId = dev) := by
  cases op <;> simp [cmOf]
theorem ifOf_some_iff (dev id : Nat) (op : StOp) (p : Packet) :
    ifOf dev id op = some p ↔ op = .update p ∧ p.pty = tyIf ∧ p.deviceId = dev ∧ p.payloadIfId = id := by
  cases op with
  | update q =>
    simp only [ifOf, Option.ite_none_right_eq_some, Option.some.injEq, StOp.update.injEq]
    exact ⟨fun ⟨hc, he⟩ => ⟨he, he ▸ hc⟩, fun ⟨he, hc⟩ => ⟨he ▸ hc, he⟩⟩
  | _ => simp [ifOf]
theorem ifOf_none_iff (dev id : Nat) (op : StOp) :
    ifOf dev id op = none ↔ ∀ q, op = .update q → ¬ (q.pty = tyIf ∧ q.deviceId = dev ∧ q.payloadIfId = id) := by
  cases op <;> simp [ifOf]

/-- the latest capture-module message of `dev` since its last removal / clear; history MOST RECENT FIRST -/
def cmHist (dev : Nat) : List StOp → Option Packet
  | [] => none
  | op :: older =>
    match resetsB dev op, cmOf dev op with
    | true, _ => none
    | false, some p => some p
    | false, none => cmHist dev older

/-- the latest interface message of (`dev`, `id`) since the last removal / clear of `dev`, since the last removal of the interface,
    and received while the device was known; history most recent first -/
def ifHist (dev id : Nat) : List StOp → Option Packet
  | [] => none
  | op :: older =>
    match resetsB dev op || rmIfB dev id op, ifOf dev id op with
    | true, _ => none
    | false, some p => if (cmHist dev older).isSome then some p else none
    | false, none => ifHist dev id older

/-- the entry of `dev` in the map after the history `r` (most recent first): the latest capture-module packet, and per interface
    the latest interface packet — nothing if the device is not known -/
def closed (dev : Nat) (r : List StOp) : Option (Packet × IfMap) :=
  (cmHist dev r).map fun cm => (cm, fun id => ifHist dev id r)

theorem cmHist_reset (dev : Nat) (op : StOp) (older : List StOp) (h : resetsB dev op = true) :
    cmHist dev (op :: older) = none := by simp only [cmHist, h]
theorem cmHist_cm (dev : Nat) (op : StOp) (older : List StOp) (p : Packet) (h : resetsB dev op = false)
    (hc : cmOf dev op = some p) : cmHist dev (op :: older) = some p := by simp only [cmHist, h, hc]
theorem cmHist_skip (dev : Nat) (op : StOp) (older : List StOp) (h : resetsB dev op = false)
    (hc : cmOf dev op = none) : cmHist dev (op :: older) = cmHist dev older := by simp only [cmHist, h, hc]

theorem ifHist_reset (dev id : Nat) (op : StOp) (older : List StOp) (h : (resetsB dev op || rmIfB dev id op) = true) :
    ifHist dev id (op :: older) = none := by simp only [ifHist, h]
theorem ifHist_if (dev id : Nat) (op : StOp) (older : List StOp) (p : Packet) (h : (resetsB dev op || rmIfB dev id op) = false)
    (hi : ifOf dev id op = some p) :
    ifHist dev id (op :: older) = if (cmHist dev older).isSome then some p else none := by
  simp only [ifHist, h, hi]
theorem ifHist_skip (dev id : Nat) (op : StOp) (older : List StOp) (h : (resetsB dev op || rmIfB dev id op) = false)
    (hi : ifOf dev id op = none) : ifHist dev id (op :: older) = ifHist dev id older := by
  simp only [ifHist, h, hi]

section scan
variable {α β γ : Type}

/-- `h` is a scan of a history, most recent entry first, with stop condition `R`, hit test `P` and answer `V`: `none` at the first
    entry with `R`; `V p older` at the first entry with `P = some p` (the answer may look at what is older than the hit); every
    other entry is passed over.  `cmHist` and `ifHist` are scans (`scan_cmHist`, `scan_ifHist`), and so is the specification read
    component by component (`scan_spec_fst`, `scan_spec_snd`); the four equations determine `h` (`Scan.unique`). -/
structure Scan (R : α → Bool) (P : α → Option γ) (V : γ → List α → Option β) (h : List α → Option β) : Prop where
  nil : h [] = none
  stop : ∀ x older, R x = true → h (x :: older) = none
  hit : ∀ x older p, R x = false → P x = some p → h (x :: older) = V p older
  skip : ∀ x older, R x = false → P x = none → h (x :: older) = h older

variable {R : α → Bool} {P : α → Option γ} {V : γ → List α → Option β} {h : List α → Option β}

/-- the scan answers `b` iff the history splits at an entry `x` that is a hit with answer `b`, and every entry more recent than
    `x` is skipped -/
theorem Scan.eq_some_iff (hs : Scan R P V h) (l : List α) (b : β) :
    h l = some b ↔ ∃ newer x older p, l = newer ++ x :: older ∧ (∀ y ∈ newer, R y = false ∧ P y = none) ∧
      R x = false ∧ P x = some p ∧ V p older = some b := by
  constructor
  · induction l with
    | nil => intro he; rw [hs.nil] at he; cases he
    | cons y l ih =>
      intro he
      cases hr : R y with
      | true => rw [hs.stop y l hr] at he; cases he
      | false =>
        cases hp : P y with
        | some p => exact ⟨[], y, l, p, rfl, (fun _ hz => by cases hz), hr, hp, hs.hit y l p hr hp ▸ he⟩
        | none =>
          obtain ⟨newer, x, older, p, rfl, hn, hx⟩ := ih (hs.skip y l hr hp ▸ he)
          exact ⟨y :: newer, x, older, p, rfl, List.forall_mem_cons.2 ⟨⟨hr, hp⟩, hn⟩, hx⟩
  · rintro ⟨newer, x, older, p, rfl, hn, hr, hp, hv⟩
    induction newer with
    | nil => rw [List.nil_append, hs.hit x older p hr hp]; exact hv
    | cons y n ih =>
      obtain ⟨hy, hn⟩ := List.forall_mem_cons.1 hn
      rw [List.cons_append, hs.skip y _ hy.1 hy.2]
      exact ih hn

theorem Scan.unique {h' : List α → Option β} (hs : Scan R P V h) (hs' : Scan R P V h') : h = h' := by
  funext l
  induction l with
  | nil => rw [hs.nil, hs'.nil]
  | cons x l ih =>
    cases hr : R x with
    | true => rw [hs.stop x l hr, hs'.stop x l hr]
    | false =>
      cases hp : P x with
      | some p => rw [hs.hit x l p hr hp, hs'.hit x l p hr hp]
      | none => rw [hs.skip x l hr hp, hs'.skip x l hr hp, ih]

theorem reverse_eq_append_cons_iff (ops newer older : List α) (x : α) :
    ops.reverse = newer ++ x :: older ↔ ops = older.reverse ++ x :: newer.reverse := by
  rw [List.reverse_eq_iff]; simp

/-- … and in the order of time (`ops` oldest first): `before` is what the hit's answer may depend on, `after` is skipped -/
theorem Scan.reverse_eq_some_iff (hs : Scan R P V h) (ops : List α) (b : β) :
    h ops.reverse = some b ↔ ∃ before x after p, ops = before ++ x :: after ∧
      (∀ y ∈ after, R y = false ∧ P y = none) ∧ R x = false ∧ P x = some p ∧ V p before.reverse = some b := by
  rw [hs.eq_some_iff]
  constructor
  · rintro ⟨newer, x, older, p, he, hn, hx⟩
    exact ⟨older.reverse, x, newer.reverse, p, (reverse_eq_append_cons_iff ..).1 he, fun y hy => hn y (List.mem_reverse.1 hy),
      by rwa [List.reverse_reverse]⟩
  · rintro ⟨before, x, after, p, he, hn, hx⟩
    exact ⟨after.reverse, x, before.reverse, p, (reverse_eq_append_cons_iff ..).2 (by simpa using he),
      fun y hy => hn y (List.mem_reverse.1 hy), hx⟩
end scan

theorem scan_cmHist (dev : Nat) : Scan (resetsB dev) (cmOf dev) (fun p _ => some p) (cmHist dev) :=
  ⟨rfl, cmHist_reset dev, cmHist_cm dev, cmHist_skip dev⟩

theorem scan_ifHist (dev id : Nat) : Scan (fun op => resetsB dev op || rmIfB dev id op) (ifOf dev id)
    (fun p older => if (cmHist dev older).isSome then some p else none) (ifHist dev id) :=
  ⟨rfl, ifHist_reset dev id, ifHist_if dev id, ifHist_skip dev id⟩

/-! The specification computes the closed form, component by component: the packet the map holds at `dev`, and the packet it
  holds for interface `id` of `dev`, read after each operation (history most recent first), obey the scan equations of `cmHist`
  and `ifHist`. -/

/-- an operation on another device leaves the entry of `dev` alone -/
theorem specStep_other (a : Abs) (op : StOp) (dev : Nat)
    (h : match op with | .update p => p.deviceId ≠ dev | .rmDev i => i ≠ dev | .rmIf d _ => d ≠ dev | .clear => False) :
    specStep a op dev = a dev := by
  have hs : ∀ k v, k ≠ dev → setMap a k v dev = a dev := fun k v hk => if_neg fun e => hk e.symm
  cases op with
  | clear => exact h.elim
  | rmDev i => exact hs i _ h
  | rmIf d i => cases hd : a d <;> simp only [specStep, hd, hs d _ h]
  | update p =>
    cases hd : a p.deviceId <;> simp only [specStep, hd] <;> (repeat' split) <;> first | exact hs _ _ h | rfl

/-- the packet component of one step of the specification follows the recursion of `cmHist` -/
theorem specStep_fst (a : Abs) (op : StOp) (dev : Nat) :
    (specStep a op dev).map (·.1) = if resetsB dev op then none else (cmOf dev op).or ((a dev).map (·.1)) := by
  cases op with
  | clear => rfl
  | rmDev i =>
    by_cases h : i = dev
    · subst h; simp [specStep, setMap_apply, resetsB]
    · rw [specStep_other a _ dev h]; simp [resetsB, cmOf, h]
  | rmIf d i =>
    by_cases h : d = dev
    · subst h; cases hd : a d <;> simp [specStep, setMap_apply, resetsB, cmOf, hd]
    · rw [specStep_other a _ dev h]; simp [resetsB, cmOf]
  | update p =>
    by_cases h : p.deviceId = dev
    · subst h
      by_cases h1 : p.pty = tyCm
      · have h2 : p.pty ≠ tyIf := fun e => tyIf_ne_tyCm (e.symm.trans h1)
        cases hd : a p.deviceId <;> simp [specStep, setMap_apply, resetsB, cmOf, hd, h1, h2, tyIf_ne_tyCm, tyIf_ne_tyCm.symm]
      · cases hd : a p.deviceId <;> by_cases h2 : p.pty = tyIf <;> simp [specStep, setMap_apply, resetsB, cmOf, hd, h1, h2, tyIf_ne_tyCm, tyIf_ne_tyCm.symm]
    · rw [specStep_other a _ dev h]; simp [resetsB, cmOf, h]

/-- the interface component follows the recursion of `ifHist` (an interface message counts only while the device is known) -/
theorem specStep_snd (a : Abs) (op : StOp) (dev id : Nat) :
    (specStep a op dev).bind (·.2 id) = if resetsB dev op || rmIfB dev id op then none else
      match ifOf dev id op with
      | some p => if ((a dev).map (·.1)).isSome then some p else none
      | none => (a dev).bind (·.2 id) := by
  cases op with
  | clear => rfl
  | rmDev i =>
    by_cases h : i = dev
    · subst h; simp [specStep, setMap_apply, resetsB]
    · rw [specStep_other a _ dev h]; simp [resetsB, rmIfB, ifOf, h]
  | rmIf d i =>
    by_cases h : d = dev
    · subst h
      cases hd : a d <;> by_cases hi : i = id <;> simp [specStep, setMap_apply, resetsB, rmIfB, ifOf, hd, hi, @eq_comm Nat id i]
    · rw [specStep_other a _ dev h]; simp [resetsB, rmIfB, ifOf, h]
  | update p =>
    by_cases h : p.deviceId = dev
    · subst h
      by_cases h2 : p.pty = tyIf
      · have h1 : p.pty ≠ tyCm := fun e => tyIf_ne_tyCm (h2.symm.trans e)
        cases hd : a p.deviceId <;> by_cases hi : p.payloadIfId = id <;>
          simp [specStep, setMap_apply, resetsB, rmIfB, ifOf, hd, h1, h2, hi, tyIf_ne_tyCm, tyIf_ne_tyCm.symm, @eq_comm Nat id p.payloadIfId]
      · cases hd : a p.deviceId <;> by_cases h1 : p.pty = tyCm <;>
          simp [specStep, setMap_apply, resetsB, rmIfB, ifOf, hd, h1, h2, tyIf_ne_tyCm, tyIf_ne_tyCm.symm]
    · rw [specStep_other a _ dev h]; simp [resetsB, rmIfB, ifOf, h]

theorem specRun_snoc (a : Abs) (ops : List StOp) (op : StOp) : specRun a (ops ++ [op]) = specStep (specRun a ops) op := by
  simp only [specRun, List.foldl_append, List.foldl_cons, List.foldl_nil]

theorem scan_spec_fst (dev : Nat) : Scan (resetsB dev) (cmOf dev) (fun p _ => some p)
    fun r => (specRun (fun _ => none) r.reverse dev).map (·.1) :=
  ⟨rfl, fun x o hr => by simp only [List.reverse_cons, specRun_snoc, specStep_fst, hr, if_true],
    fun x o p hr hp => by simp only [List.reverse_cons, specRun_snoc, specStep_fst, hr, hp]; rfl,
    fun x o hr hp => by simp only [List.reverse_cons, specRun_snoc, specStep_fst, hr, hp]; rfl⟩

theorem specRun_fst (ops : List StOp) (dev : Nat) : (specRun (fun _ => none) ops dev).map (·.1) = cmHist dev ops.reverse := by
  have := congrFun ((scan_spec_fst dev).unique (scan_cmHist dev)) ops.reverse
  rwa [List.reverse_reverse] at this

theorem scan_spec_snd (dev id : Nat) : Scan (fun op => resetsB dev op || rmIfB dev id op) (ifOf dev id)
    (fun p older => if (cmHist dev older).isSome then some p else none)
    fun r => (specRun (fun _ => none) r.reverse dev).bind (·.2 id) :=
  ⟨rfl, fun x o hr => by simp only [List.reverse_cons, specRun_snoc, specStep_snd, hr, if_true],
    fun x o p hr hp => by
      simp only [List.reverse_cons, specRun_snoc, specStep_snd, specRun_fst, List.reverse_reverse, hr, hp]; rfl,
    fun x o hr hp => by simp only [List.reverse_cons, specRun_snoc, specStep_snd, hr, hp]; rfl⟩

theorem specRun_snd (ops : List StOp) (dev id : Nat) :
    (specRun (fun _ => none) ops dev).bind (·.2 id) = ifHist dev id ops.reverse := by
  have := congrFun ((scan_spec_snd dev id).unique (scan_ifHist dev id)) ops.reverse
  rwa [List.reverse_reverse] at this

/-- CLOSED FORM of the specification: the map after `ops` from the empty map, at `dev`, is a function of the history alone -/
theorem specRun_closed (ops : List StOp) (dev : Nat) :
    specRun (fun _ => none) ops dev = closed dev ops.reverse := by
  unfold closed
  simp only [← specRun_fst, ← specRun_snd]
  cases specRun (fun _ => none) ops dev <;> rfl

/-- no `clear` and no `removeDeviceById(dev)` among `l`: "since it was last removed or cleared" -/
def NoReset (dev : Nat) (l : List StOp) : Prop := StOp.clear ∉ l ∧ StOp.rmDev dev ∉ l
/-- no capture-module status message of `dev` among `l` -/
def NoCm (dev : Nat) (l : List StOp) : Prop := ∀ q, StOp.update q ∈ l → ¬ (q.pty = tyCm ∧ q.deviceId = dev)
/-- no interface status message of `dev` for interface `id` among `l` -/
def NoIf (dev id : Nat) (l : List StOp) : Prop :=
  ∀ q, StOp.update q ∈ l → ¬ (q.pty = tyIf ∧ q.deviceId = dev ∧ q.payloadIfId = id)

theorem noReset_iff (dev : Nat) (l : List StOp) : NoReset dev l ↔ ∀ op ∈ l, resetsB dev op = false := by
  constructor
  · intro h op hop
    rw [resetsB_false_iff]
    exact ⟨fun he => h.1 (he ▸ hop), fun he => h.2 (he ▸ hop)⟩
  · intro h
    exact ⟨fun hm => absurd (h _ hm) (by simp [resetsB]), fun hm => absurd (h _ hm) (by simp [resetsB])⟩

theorem noRmIf_iff (dev id : Nat) (l : List StOp) : StOp.rmIf dev id ∉ l ↔ ∀ op ∈ l, rmIfB dev id op = false := by
  constructor
  · intro h op hop
    rw [rmIfB_false_iff]
    exact fun he => h (he ▸ hop)
  · intro h hm
    exact absurd (h _ hm) (by simp [rmIfB])

theorem noCm_iff (dev : Nat) (l : List StOp) : NoCm dev l ↔ ∀ op ∈ l, cmOf dev op = none :=
  ⟨fun h op hop => (cmOf_none_iff dev op).2 fun q hq => h q (hq ▸ hop), fun h q hq => (cmOf_none_iff dev _).1 (h _ hq) q rfl⟩

theorem noIf_iff (dev id : Nat) (l : List StOp) : NoIf dev id l ↔ ∀ op ∈ l, ifOf dev id op = none :=
  ⟨fun h op hop => (ifOf_none_iff dev id op).2 fun q hq => h q (hq ▸ hop),
   fun h q hq => (ifOf_none_iff dev id _).1 (h _ hq) q rfl⟩

/-- `p` is the latest capture-module message of `dev` since its last removal / clear, in the order of time -/
theorem cmHist_reverse_eq_some_iff (dev : Nat) (p : Packet) (ops : List StOp) :
    cmHist dev ops.reverse = some p ↔ ∃ before after, ops = before ++ .update p :: after ∧
      (p.pty = tyCm ∧ p.deviceId = dev) ∧ NoReset dev after ∧ NoCm dev after := by
  rw [(scan_cmHist dev).reverse_eq_some_iff]
  simp only [noReset_iff, noCm_iff, cmOf_some_iff, ← forall_and]
  constructor
  · rintro ⟨before, x, after, q, he, hn, _, ⟨rfl, hcm⟩, hq⟩
    cases hq
    exact ⟨before, after, he, hcm, hn⟩
  · rintro ⟨before, after, he, hcm, hn⟩
    exact ⟨before, _, after, p, he, hn, rfl, ⟨rfl, hcm⟩, rfl⟩

/-- some capture-module message of `dev` (not necessarily the latest) with no removal / clear after it -/
theorem cmHist_reverse_isSome_iff (dev : Nat) (ops : List StOp) :
    (cmHist dev ops.reverse).isSome ↔ ∃ before p after, ops = before ++ .update p :: after ∧
      (p.pty = tyCm ∧ p.deviceId = dev) ∧ NoReset dev after := by
  constructor
  · intro h
    obtain ⟨p, hp⟩ := Option.isSome_iff_exists.1 h
    obtain ⟨before, after, he, hcm, hnr, _⟩ := (cmHist_reverse_eq_some_iff dev p ops).1 hp
    exact ⟨before, p, after, he, hcm, hnr⟩
  · rintro ⟨before, p, after, rfl, hcm, hnr⟩
    have hn : ∀ op ∈ after.reverse, resetsB dev op = false := fun op hop => (noReset_iff ..).1 hnr op (List.mem_reverse.1 hop)
    simp only [List.reverse_append, List.reverse_cons, List.append_assoc, List.singleton_append]
    -- through the operations after `p`, most recent first, up to the first capture-module message of `dev` (`p` at the latest)
    generalize after.reverse = newer at hn
    induction newer with
    | nil => rw [List.nil_append, cmHist_cm _ _ _ p rfl ((cmOf_some_iff ..).2 ⟨rfl, hcm⟩)]; rfl
    | cons op n ih =>
      have hr := hn op (List.mem_cons_self ..)
      rw [List.cons_append]
      cases hc : cmOf dev op with
      | some q => rw [cmHist_cm _ _ _ q hr hc]; rfl
      | none => rw [cmHist_skip _ _ _ hr hc]; exact ih fun x hx => hn x (List.mem_cons_of_mem _ hx)

/-- `p` is the latest interface message of (`dev`, `id`), received while the device was known, with no removal of the device or
    the interface and no clear after it -/
theorem ifHist_reverse_eq_some_iff (dev id : Nat) (p : Packet) (ops : List StOp) :
    ifHist dev id ops.reverse = some p ↔ ∃ before after, ops = before ++ .update p :: after ∧
      (p.pty = tyIf ∧ p.deviceId = dev ∧ p.payloadIfId = id) ∧ (cmHist dev before.reverse).isSome ∧
      NoReset dev after ∧ StOp.rmIf dev id ∉ after ∧ NoIf dev id after := by
  rw [(scan_ifHist dev id).reverse_eq_some_iff]
  simp only [noReset_iff, noRmIf_iff, noIf_iff, ifOf_some_iff, Bool.or_eq_false_iff]
  constructor
  · rintro ⟨before, x, after, q, he, hn, _, ⟨rfl, hif⟩, hq⟩
    split at hq
    · next hs =>
      cases hq
      exact ⟨before, after, he, hif, hs, fun y hy => (hn y hy).1.1, fun y hy => (hn y hy).1.2, fun y hy => (hn y hy).2⟩
    · cases hq
  · rintro ⟨before, after, he, hif, hs, h1, h2, h3⟩
    exact ⟨before, _, after, p, he, fun y hy => ⟨⟨h1 y hy, h2 y hy⟩, h3 y hy⟩, ⟨rfl, rfl⟩, ⟨rfl, hif⟩, if_pos hs⟩

end AsamCmp.C16S
