/-
  Source-level C03, capture-module status: `initStringView` / `removeTrailingNulls` on a payload `b` inside a memory (`At m a b`),
  at any position inside `b` and on a block that `cmValid` accepts (`C03.Blk`, Lemmas/Access.lean).
-/
import AsamCmp.Lemmas.SrcAccess
import AsamCmp.Lemmas.Access
namespace AsamCmp.SrcTie
open AsamCmp AsamCmp.Src AsamCmp.SrcGen
attribute [local congr] bind_head_congr bind_head_congr'

/-- a 16-bit value used as a signed pointer offset (`int` promotion) is non-negative -/
theorem nonneg_u16 (x : Nat) (h : x < 65536) : nonneg 32 x = some x := by
  unfold nonneg; rw [if_pos]; omega

section
variable {m b : Bytes} {a : Nat} (hA : At m a b)
include hA

/-- `initStringView(ptr, str)` at offset `pos` of the object: `str` becomes the `l` bytes behind the 16-bit length `l`,
    `ptr` moves behind them — the model's `cmBlock b pos = (pos + 2, l, pos + 2 + l)` -/
theorem initStringView_src (pos : Nat) (sv : Nat × Nat) (h : pos + 2 ≤ b.length) :
    CaptureModulePayload_initStringView m (a + pos) sv
      = some (a + (pos + 2 + beAt b pos 2), (a + (pos + 2), beAt b pos 2)) := by
  have hl := beAt_two_lt_65536 b pos
  simp only [CaptureModulePayload_initStringView]
  src_norm [hA.rd]
  simp (disch := omega) only [nonneg_u16, some_bind, Nat.add_assoc]

/-- `initStringView` on an accepted block: the view is the block's bytes, the pointer moves to the block's end -/
theorem initStringView_blk {pos l p : Nat} (B : C03.Blk b pos l p) (sv : Nat × Nat) :
    CaptureModulePayload_initStringView m (a + pos) sv = some (a + p, (a + (pos + 2), l)) := by
  have := B.inside; have := B.next
  rw [initStringView_src hA pos sv (by omega), B.len, B.next]

end

theorem u8_bne_zero (x : UInt8) : (x.toNat != 0 % 256) = (x != 0) := by
  have e : x.toNat = 0 ↔ x = 0 := by
    constructor
    · intro h0; exact UInt8.toNat_inj.mp (by rw [h0]; rfl)
    · intro h0; rw [h0]; rfl
  rw [Bool.eq_iff_iff]
  simp only [bne_iff_ne, ne_eq, Nat.reduceMod]
  exact not_congr e

section
variable {m b : Bytes} {a : Nat} (hA : At m a b)
include hA

/-- `removeTrailingNulls(str)` on a view inside the object: the view is cut at its first NUL — the model's `trimNul` -/
theorem removeTrailingNulls_src (off len : Nat) (hb : b.length < 2 ^ 64) (h : off + len ≤ b.length) :
    CaptureModulePayload_removeTrailingNulls m (a + off, len)
      = some (a + off, ((slice b off len).takeWhile (· != 0)).length) := by
  have hk := C03.trimmed_le b off len
  have hm : a + off + len ≤ m.length := by have := hA.le; omega
  have hf : (fun x : UInt8 => x.toNat != 0 % 256) = (· != 0) := funext u8_bne_zero
  simp only [CaptureModulePayload_removeTrailingNulls, svFind, svRemoveSuffix, if_pos hm, hA.slice off len h, hf]
  src_norm
  generalize ((slice b off len).takeWhile (· != 0)).length = k at hk ⊢
  by_cases hlt : k < len
  · have hne : ¬ k = 18446744073709551615 := by omega
    have hsub : len - (len - k) = k := by omega
    simp (disch := omega) only [hlt, hne, if_true, if_false, usub_eq, Nat.sub_le, hsub]
  · simp only [hlt, if_false, if_true]
    congr 2; omega

/-- `removeTrailingNulls` on the view of an accepted block -/
theorem removeTrailingNulls_blk {pos l p : Nat} (B : C03.Blk b pos l p) (hb : b.length < 2 ^ 64) :
    CaptureModulePayload_removeTrailingNulls m (a + (pos + 2), l)
      = some (a + (pos + 2), ((slice b (pos + 2) l).takeWhile (· != 0)).length) :=
  removeTrailingNulls_src hA (pos + 2) l hb (by have := B.inside; have := B.next; omega)

end

end AsamCmp.SrcTie
