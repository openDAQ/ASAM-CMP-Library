/-
  ASCII strings, read off their UTF-8 bytes.

  A `String` is its UTF-8 `ByteArray`; `String.toList` decodes it by well-founded recursion, which the kernel evaluates very slowly
  on a literal, while `s.toByteArray.data.toList` is cheap there.  Table checks that look into strings (Props/C12S.lean:
  `isFieldItem` tests whether a name starts with `"field "`, `dfltBytes` parses hex strings) are therefore evaluated on the bytes;
  the two theorems that justify it are `take_toList_eq_iff` (the first characters of ANY string are given ASCII characters iff its
  first bytes are their codes) and `toList_of_ascii` (a string whose bytes are all below 0x80 is the list of these bytes as
  characters).  Both rest on the first byte of `String.utf8EncodeChar`: the code itself for an ASCII character, at least 0x80 otherwise.
-/
namespace AsamCmp.Ascii

theorem utf8EncodeChar_ascii {c : Char} (h : c.toNat ≤ 127) : String.utf8EncodeChar c = [UInt8.ofNat c.toNat] := by
  have h' : c.val.toNat ≤ 127 := h
  simp only [String.utf8EncodeChar, h', ite_true]
  rfl

theorem utf8EncodeChar_non_ascii {c : Char} (h : 127 < c.toNat) :
    ∃ b t, String.utf8EncodeChar c = b :: t ∧ 128 ≤ b.toNat := by
  have h' : ¬ c.val.toNat ≤ 127 := Nat.not_le.mpr h
  simp only [String.utf8EncodeChar, h', ite_false]
  split
  · exact ⟨_, _, rfl, by rw [UInt8.toNat_ofNat']; omega⟩
  · split
    · exact ⟨_, _, rfl, by rw [UInt8.toNat_ofNat']; omega⟩
    · exact ⟨_, _, rfl, by rw [UInt8.toNat_ofNat']; omega⟩

theorem take_encode_iff (a : List Char) (ha : ∀ c ∈ a, c.toNat ≤ 127) (l : List Char) :
    (l.flatMap String.utf8EncodeChar).take a.length = a.map (fun c => UInt8.ofNat c.toNat) ↔ l.take a.length = a := by
  induction a generalizing l with
  | nil => simp
  | cons c a ih =>
    have hc : c.toNat ≤ 127 := ha c (List.mem_cons_self ..)
    cases l with
    | nil => simp
    | cons d l =>
      simp only [List.flatMap_cons, List.length_cons, List.map_cons, List.take_succ_cons, List.cons.injEq]
      by_cases hd : d.toNat ≤ 127
      · rw [utf8EncodeChar_ascii hd, List.singleton_append, List.take_succ_cons, List.cons.injEq,
          ih (fun x hx => ha x (List.mem_cons_of_mem _ hx))]
        refine and_congr_left fun _ => ⟨fun e => ?_, fun e => e ▸ rfl⟩
        have := congrArg UInt8.toNat e
        rw [UInt8.toNat_ofNat', UInt8.toNat_ofNat'] at this
        exact Char.ext (UInt32.toNat_inj.mp (by show d.toNat = c.toNat; omega))
      · obtain ⟨b, t, e, hb⟩ := utf8EncodeChar_non_ascii (Nat.not_le.mp hd)
        rw [e, List.cons_append, List.take_succ_cons, List.cons.injEq]
        constructor
        · rintro ⟨rfl, -⟩
          rw [UInt8.toNat_ofNat'] at hb
          omega
        · rintro ⟨rfl, -⟩
          exact absurd hc hd

theorem bytes_eq_flatMap (s : String) : s.toByteArray.data.toList = s.toList.flatMap String.utf8EncodeChar := by
  conv => lhs; rw [← String.ofList_toList (s := s), String.toByteArray_ofList]
  simp [List.utf8Encode]

theorem take_toList_eq_iff (s : String) (a : List Char) (ha : ∀ c ∈ a, c.toNat ≤ 127) :
    s.toList.take a.length = a ↔ s.toByteArray.data.toList.take a.length = a.map (fun c => UInt8.ofNat c.toNat) := by
  rw [← take_encode_iff a ha, bytes_eq_flatMap]

theorem decode_encode (l : List Char) (h : (l.flatMap String.utf8EncodeChar).all (· < 128) = true) :
    l = (l.flatMap String.utf8EncodeChar).map fun b => Char.ofNat b.toNat := by
  induction l with
  | nil => rfl
  | cons d l ih =>
    rw [List.flatMap_cons, List.all_append, Bool.and_eq_true] at h
    by_cases hd : d.toNat ≤ 127
    · rw [List.flatMap_cons, utf8EncodeChar_ascii hd, List.singleton_append, List.map_cons, ← ih h.2, UInt8.toNat_ofNat',
        Nat.mod_eq_of_lt (by omega), Char.ofNat_toNat]
    · obtain ⟨b, t, e, hb⟩ := utf8EncodeChar_non_ascii (Nat.not_le.mp hd)
      rw [e, List.all_cons, Bool.and_eq_true, decide_eq_true_eq, UInt8.lt_iff_toNat_lt] at h
      exact absurd h.1.1 (by simp; omega)

theorem toList_of_ascii (s : String) (h : s.toByteArray.data.toList.all (· < 128) = true) :
    s.toList = s.toByteArray.data.toList.map fun b => Char.ofNat b.toNat := by
  rw [bytes_eq_flatMap] at h ⊢
  exact decode_encode _ h

end AsamCmp.Ascii
