/-
  C06 on bytes, part 2: the abstract sent stream (`SStream`) of what the encoder model emits.
-/
import AsamCmp.Lemmas.FaultBytesRun
namespace AsamCmp.C06b
open AsamCmp AsamCmp.C01

/-- everything known about the frames of one `encode` call -/
structure Setup where
  c : Ctx
  min : Nat
  dev : Nat
  stream : Nat
  v : Nat
  ib : List (Nat × Packet)
  fs : List EFrame
  hcap : 17 ≤ c.cap
  hdev : dev < 65536
  hstream : stream < 256
  hv1 : 1 ≤ v
  hv : v < 256
  hwf : ∀ ip ∈ ib, ip.2.WF
  hver : ∀ ip ∈ ib, ip.2.version = v
  hg : GoodL dev stream v fs
  hflat : fs.flatMap (·.msgs) = ib.flatMap (fun ip => pieces c ip.1 ip.2)
  hN : fs.length < 65536

/-- segment flag of the first message of frame `i` (0 if there is none) -/
def headSegAt (fs : List EFrame) (i : Nat) : Nat :=
  match fs[i]? with
  | some f => (match f.msgs with | m :: _ => m.seg | [] => 0)
  | none => 0

/-- position of frame `i` in its run: frames since the last first-segment -/
def kOf (fs : List EFrame) : Nat → Nat
  | 0 => 0
  | i+1 => if headSegAt fs (i+1) = 4 then 0 else kOf fs i + 1

/-- number of segments of the packet of `m` -/
def nOf (c : Ctx) (m : EMsg) : Nat := (chunks (c.cap - 16) m.pkt.data).length

theorem chunks_len2 (n : Nat) (hn : 0 < n) (l : Bytes) (hl : n < l.length) : 2 ≤ (chunks n l).length := by
  have hne : l ≠ [] := by intro e; simp [e] at hl
  have hd : l.drop n ≠ [] := by
    intro e
    have := congrArg List.length e
    simp at this; omega
  rw [chunks_cons n l hn hne, chunks_cons n _ hn hd]
  simp

theorem segCode_ne_zero (k n : Nat) : segCode k n ≠ 0 := by
  rcases segCode_cases k n with h | h | h <;> rw [h] <;> decide

theorem headSegAt_run {c : Ctx} {fs : List EFrame} {i0 : Nat} {ip : Nat × Packet}
    (h : InRun c fs i0 ip) (j : Nat) (hj : j < (chunks (c.cap - 16) ip.2.data).length) :
    headSegAt fs (i0 + j) = segCode j (chunks (c.cap - 16) ip.2.data).length := by
  have : ∃ x, (segMsgs ip.1 ip.2 true (chunks (c.cap - 16) ip.2.data))[j]? = some x := by
    rw [← segMsgs_length ip.1 ip.2 true] at hj
    exact ⟨_, List.getElem?_eq_getElem hj⟩
  obtain ⟨m, hm⟩ := this
  obtain ⟨f, hf, hfm⟩ := h.2 j m hm
  obtain ⟨x, _, hx⟩ := segMsgs_true_get _ _ _ _ _ hm
  simp [headSegAt, hf, hfm, hx]

theorem kOf_run {c : Ctx} {fs : List EFrame} {i0 : Nat} {ip : Nat × Packet}
    (h : InRun c fs i0 ip) : ∀ j, j < (chunks (c.cap - 16) ip.2.data).length → kOf fs (i0 + j) = j := by
  intro j
  induction j with
  | zero =>
    intro hj
    cases i0 with
    | zero => rfl
    | succ i =>
      have := headSegAt_run h 0 hj
      simp only [Nat.add_zero] at this ⊢
      simp [kOf, this, segCode]
  | succ j ih =>
    intro hj
    have := headSegAt_run h (j + 1) hj
    have h4 : segCode (j + 1) (chunks (c.cap - 16) ip.2.data).length ≠ 4 := by
      rw [segCode_succ]
      split <;> decide
    rw [← Nat.add_assoc] at this ⊢
    simp only [kOf, this, h4, if_false, ih (Nat.lt_of_succ_lt hj)]

def sentOf (X : Setup) (i : Nat) : Option Sent :=
  match X.fs[i]? with
  | none => none
  | some f =>
    match f.msgs with
    | m :: _ =>
      if m.seg = 0 then some (.unsegF (PF X.min f).unseg (PF X.min f).term)
      else some (.segF ⟨X.v, f.mt, m.idx, kOf X.fs i, nOf X.c m, msgHeader m.pkt m.seg m.body.length, m.body⟩)
    | [] => some (.unsegF (PF X.min f).unseg (PF X.min f).term)

theorem sentOf_isSome (X : Setup) (i : Nat) : (sentOf X i).isSome ↔ i < X.fs.length := by
  unfold sentOf
  constructor
  · intro h
    cases hf : X.fs[i]? with
    | none => simp [hf] at h
    | some f => exact (List.getElem?_eq_some_iff.mp hf).1
  · intro h
    rw [List.getElem?_eq_getElem h]
    simp only
    split
    · split <;> rfl
    · rfl

theorem sentOf_seg (X : Setup) {i : Nat} {f : EFrame} {m : EMsg} {ms : List EMsg}
    (hf : X.fs[i]? = some f) (hm : f.msgs = m :: ms) (hs : m.seg ≠ 0) :
    sentOf X i = some (.segF ⟨X.v, f.mt, m.idx, kOf X.fs i, nOf X.c m,
      msgHeader m.pkt m.seg m.body.length, m.body⟩) := by
  simp [sentOf, hf, hm, hs]

theorem sentOf_unseg (X : Setup) {i : Nat} {f : EFrame}
    (hf : X.fs[i]? = some f) (hall : ∀ m ∈ f.msgs, m.seg = 0) :
    sentOf X i = some (.unsegF (PF X.min f).unseg (PF X.min f).term) := by
  unfold sentOf
  rw [hf]
  simp only
  split
  · rename_i m ms hm
    rw [if_pos (hall m (by rw [hm]; simp))]
  · rfl

theorem frame_mem (X : Setup) {i : Nat} {f : EFrame} (hf : X.fs[i]? = some f) : f ∈ X.fs :=
  List.mem_of_getElem? hf

theorem sentOf_unseg_inv (X : Setup) {i : Nat} {pkts : List Packet} {t : Term}
    (h : sentOf X i = some (.unsegF pkts t)) :
    ∃ f, X.fs[i]? = some f ∧ (∀ m ∈ f.msgs, m.seg = 0) ∧ pkts = (PF X.min f).unseg ∧ t = (PF X.min f).term := by
  unfold sentOf at h
  cases hf : X.fs[i]? with
  | none => simp [hf] at h
  | some f =>
    have hfo := X.hg.1 f (frame_mem X hf)
    rw [hf] at h
    simp only at h
    split at h
    · rename_i m ms hm
      by_cases hs : m.seg = 0
      · rw [if_pos hs] at h
        simp only [Option.some.injEq, Sent.unsegF.injEq] at h
        exact ⟨f, rfl, head_unseg hfo hm hs, h.1.symm, h.2.symm⟩
      · rw [if_neg hs] at h
        simp at h
    · rename_i hm
      exact absurd hm hfo.ne

/-- a segment entry of the stream: the frame, its message, and the run it lies in -/
theorem sentOf_seg_inv (X : Setup) {i : Nat} {sf : SF} (h : sentOf X i = some (.segF sf)) :
    ∃ f ip i0 j x, X.fs[i]? = some f ∧ ip ∈ X.ib ∧ i = i0 + j ∧ InRun X.c X.fs i0 ip ∧
      2 ≤ (chunks (X.c.cap - 16) ip.2.data).length ∧
      (chunks (X.c.cap - 16) ip.2.data)[j]? = some x ∧
      f.msgs = [⟨ip.1, ip.2, segCode j (chunks (X.c.cap - 16) ip.2.data).length, x⟩] ∧
      f.mt = ip.2.mt ∧
      sf = ⟨X.v, ip.2.mt, ip.1, j, (chunks (X.c.cap - 16) ip.2.data).length,
        msgHeader ip.2 (segCode j (chunks (X.c.cap - 16) ip.2.data).length) x.length, x⟩ := by
  cases hf : X.fs[i]? with
  | none => simp [sentOf, hf] at h
  | some f =>
    have hfo := X.hg.1 f (frame_mem X hf)
    cases hm : f.msgs with
    | nil => exact absurd hm hfo.ne
    | cons m ms =>
      by_cases hs : m.seg = 0
      · rw [sentOf_unseg X hf (head_unseg hfo hm hs)] at h
        simp at h
      · have hms : ms = [] := head_seg hfo hm hs
        subst hms
        rw [sentOf_seg X hf hm hs] at h
        simp only [Option.some.injEq, Sent.segF.injEq] at h
        obtain ⟨ip, hip, i0, j, hij, hrun, hj⟩ := segFrame_inRun X.c X.ib X.hwf X.fs X.hg X.hflat i f m [] hf hm hs
        obtain ⟨x, hx, hmx⟩ := segMsgs_true_get _ _ _ _ _ hj
        have hjn : j < (chunks (X.c.cap - 16) ip.2.data).length := (List.getElem?_eq_some_iff.mp hx).1
        have hk := kOf_run hrun j hjn
        have hmt : f.mt = ip.2.mt := by
          have := hfo.mts m (by rw [hm]; simp)
          rw [← this, hmx]
        have hd := wf_data (X.hwf ip hip)
        have h2 := chunks_len2 (X.c.cap - 16) (Nat.sub_pos_of_lt X.hcap) ip.2.data
          (Nat.sub_lt_left_of_lt_add (Nat.le_of_succ_le X.hcap) (Nat.lt_of_not_le hrun.1))
        refine ⟨f, ip, i0, j, x, rfl, hip, hij, hrun, h2, hx, by rw [hm, hmx], hmt, ?_⟩
        rw [← h, hij, hk, hmt, hmx]
        simp [nOf]

theorem sentOf_run (X : Setup) {i0 : Nat} {ip : Nat × Packet}
    (hrun : InRun X.c X.fs i0 ip) (j : Nat) (x : Bytes)
    (hx : (chunks (X.c.cap - 16) ip.2.data)[j]? = some x) :
    sentOf X (i0 + j) = some (.segF ⟨X.v, ip.2.mt, ip.1, j, (chunks (X.c.cap - 16) ip.2.data).length,
        msgHeader ip.2 (segCode j (chunks (X.c.cap - 16) ip.2.data).length) x.length, x⟩) := by
  have hjn : j < (chunks (X.c.cap - 16) ip.2.data).length := (List.getElem?_eq_some_iff.mp hx).1
  have : ∃ m, (segMsgs ip.1 ip.2 true (chunks (X.c.cap - 16) ip.2.data))[j]? = some m := by
    rw [← segMsgs_length ip.1 ip.2 true] at hjn
    exact ⟨_, List.getElem?_eq_getElem hjn⟩
  obtain ⟨m, hm⟩ := this
  obtain ⟨x', hx', hmx⟩ := segMsgs_true_get _ _ _ _ _ hm
  rw [hx] at hx'
  cases hx'
  obtain ⟨f, hf, hfm⟩ := hrun.2 j m hm
  have hfo := X.hg.1 f (frame_mem X hf)
  have hmt : f.mt = ip.2.mt := by
    have := hfo.mts m (by rw [hfm]; simp)
    rw [← this, hmx]
  rw [sentOf_seg X hf hfm (by rw [hmx]; exact segCode_ne_zero _ _), kOf_run hrun j hjn, hmt, hmx]
  simp [nOf]

/-- counter of the first frame -/
def s0Of (fs : List EFrame) : Nat := match fs with | f :: _ => f.seq | [] => 0

theorem chain_seq : ∀ (fs : List EFrame), Chain fs → (∀ f ∈ fs, f.seq < 65536) →
    ∀ i f, fs[i]? = some f → f.seq = (s0Of fs + i) % 65536 := by
  intro fs
  induction fs with
  | nil => intro _ _ i f h; simp at h
  | cons f1 fs ih =>
    intro hc hlt i f hi
    cases i with
    | zero =>
      cases hi
      exact (Nat.mod_eq_of_lt (hlt f1 (List.mem_cons_self ..))).symm
    | succ i =>
      rw [List.getElem?_cons_succ] at hi
      rw [ih hc.tail (fun g hg => hlt g (List.mem_cons_of_mem _ hg)) i f hi]
      cases fs with
      | nil => cases hi
      | cons f2 r =>
        show (f2.seq + i) % 65536 = (f1.seq + (i + 1)) % 65536
        rw [show f2.seq = (f1.seq + 1) % 65536 from hc.1, Nat.mod_add_mod, Nat.add_assoc, Nat.add_comm 1 i]

namespace Setup

def S (X : Setup) : SStream where
  ep := (X.dev, X.stream)
  N := X.fs.length
  s0 := s0Of X.fs
  at_ := sentOf X
  hN := X.hN
  dom := sentOf_isSome X
  unsegT := by
    intro i pkts t h m hm
    obtain ⟨f, hf, hall, _, ht⟩ := sentOf_unseg_inv X h
    have hfo := X.hg.1 f (frame_mem X hf)
    obtain ⟨t', ht', hp⟩ := parse_unseg X.min f hfo.toHdrOk X.hdev X.hstream X.hv
      (fun m hm => ⟨(hfo.msgs m hm).wf, hfo.mts m hm, hall m hm, (hfo.msgs m hm).whole (hall m hm)⟩)
    have : t = t' := by rw [ht]; unfold PF; rw [hp]
    subst this
    rcases ht' with rfl | rfl <;> cases hm
  next := by
    intro i sf h hk
    obtain ⟨f, ip, i0, j, x, hf, hip, hij, hrun, h2, hx, hfm, hmt, rfl⟩ := sentOf_seg_inv X h
    simp only at hk
    have : ∃ y, (chunks (X.c.cap - 16) ip.2.data)[j + 1]? = some y :=
      ⟨_, List.getElem?_eq_getElem hk⟩
    obtain ⟨y, hy⟩ := this
    have := sentOf_run X hrun (j + 1) y hy
    rw [← Nat.add_assoc, ← hij] at this
    exact ⟨_, this, rfl, rfl, rfl, rfl, rfl⟩
  kn := by
    intro i sf h
    obtain ⟨f, ip, i0, j, x, hf, hip, hij, hrun, h2, hx, hfm, hmt, rfl⟩ := sentOf_seg_inv X h
    exact ⟨(List.getElem?_eq_some_iff.mp hx).1, h2⟩
  hdrOk := by
    intro i sf h
    obtain ⟨f, ip, i0, j, x, hf, hip, hij, hrun, h2, hx, hfm, hmt, rfl⟩ := sentOf_seg_inv X h
    refine ⟨msgHeader_length .., ?_⟩
    apply segTypeOf_hdr
    rcases segCode_cases j (chunks (X.c.cap - 16) ip.2.data).length with h | h | h <;> simp [h]

end Setup

end AsamCmp.C06b
