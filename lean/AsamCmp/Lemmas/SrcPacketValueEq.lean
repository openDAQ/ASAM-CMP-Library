/-
  Packet value mode, part 3: the byte loop of the translated `operator==(const Payload&, const Payload&)` (recursion on fuel, a
  `return` inside the loop), the two `operator==`, `swap`, and the getters of `Packet` that go through the owned payload.
-/
import AsamCmp.Lemmas.SrcPacketValue
set_option linter.unusedSimpArgs false
set_option linter.unusedVariables false
namespace AsamCmp.SrcPv
open AsamCmp AsamCmp.Src AsamCmp.SrcGen AsamCmp.SrcTie

theorem rd_byte (b : Bytes) (i : Nat) (h : i < b.length) : Src.rd b (0 + i) 1 = some (byteAt b i) := by
  rw [Nat.zero_add, rd_eq b i 1 (by omega), leAt_one]

theorem drop_eq_iff (a b : Bytes) (i : Nat) (ha : i < a.length) (hb : i < b.length) :
    a.drop i = b.drop i ↔ byteAt a i = byteAt b i ∧ a.drop (i + 1) = b.drop (i + 1) := by
  rw [List.drop_eq_getElem_cons ha, List.drop_eq_getElem_cons hb, List.cons.injEq]
  unfold byteAt
  rw [UInt8.toNat_inj, List.getD_eq_getElem?_getD, List.getD_eq_getElem?_getD, List.getElem?_eq_getElem ha,
    List.getElem?_eq_getElem hb, Option.getD_some, Option.getD_some]

/-- the loop test fails at the end of the left vector: the loop is left without an answer -/
theorem loop_end (a b : Payload_St) (g : Bool) (i fuel : Nat) (h : a.f_payloadData.length ≤ i) :
    opEq_Payload_pv_loop1 (fuel + 1) g a b 0 0 i = some (none, i) := by
  unfold opEq_Payload_pv_loop1
  simp only [Payload_getLength_pv, bind, some_bind, pure, Nat.not_lt.mpr h, decide_false, Bool.false_eq_true, if_false]

/-- one round at an index inside both vectors: `return false` on differing bytes, else the next round
    (`h64`: the counter is a `size_t`) -/
theorem loop_step (a b : Payload_St) (g : Bool) (i fuel : Nat) (ha : i < a.f_payloadData.length)
    (hb : i < b.f_payloadData.length) (h64 : a.f_payloadData.length < 2 ^ 64) :
    opEq_Payload_pv_loop1 (fuel + 1) g a b 0 0 i =
      if byteAt a.f_payloadData i = byteAt b.f_payloadData i then opEq_Payload_pv_loop1 fuel g a b 0 0 (i + 1)
      else some (some false, i) := by
  have hu : uadd 64 i 1 = i + 1 := uadd_eq i 1 (by omega)
  conv => lhs; unfold opEq_Payload_pv_loop1
  simp only [Payload_getLength_pv, bind, some_bind, pure, ha, decide_true, if_true, rd_byte _ i ha, rd_byte _ i hb,
    bne_iff_ne, ne_eq, hu, ite_not]

/-- from index `i` on: `none` (loop ran to the end) iff the remaining bytes agree, `some false` at the first difference -/
theorem loop_eq (a b : Payload_St) (g : Bool) (hlen : a.f_payloadData.length = b.f_payloadData.length)
    (h64 : a.f_payloadData.length < 2 ^ 64) (fuel : Nat) :
    ∀ i, a.f_payloadData.length - i < fuel →
      ∃ j, opEq_Payload_pv_loop1 fuel g a b 0 0 i =
        some (if a.f_payloadData.drop i = b.f_payloadData.drop i then none else some false, j) := by
  induction fuel with
  | zero => exact fun i hf => (Nat.not_lt_zero _ hf).elim
  | succ f ih =>
    intro i hf
    by_cases ha : i < a.f_payloadData.length
    · have hb : i < b.f_payloadData.length := hlen ▸ ha
      rw [loop_step a b g i f ha hb h64]
      by_cases hbyte : byteAt a.f_payloadData i = byteAt b.f_payloadData i
      · obtain ⟨j, hj⟩ := ih (i + 1) (by omega)
        exact ⟨j, by simp only [hbyte, if_true, hj, drop_eq_iff _ _ i ha hb, true_and]⟩
      · exact ⟨i, by simp only [hbyte, if_false, drop_eq_iff _ _ i ha hb, false_and]⟩
    · have hle := Nat.le_of_not_lt ha
      rw [loop_end a b g i f hle, List.drop_eq_nil_of_le hle, List.drop_eq_nil_of_le (hlen ▸ hle), if_pos rfl]
      exact ⟨i, rfl⟩

/-- one `if (x != y) return false;` in front of a comparison that answers `m` once `x = y` is known -/
theorem opEq_step (x y : Nat) (r : Option Bool) (m : Bool) (h : x = y → r = some m) :
    (if ¬ x = y then some false else r) = some ((x == y) && m) := by
  by_cases hxy : x = y
  · rw [if_neg (not_not_intro hxy), h hxy, beq_iff_eq.mpr hxy, Bool.true_and]
  · rw [if_pos hxy, beq_eq_false_iff_ne.mpr hxy, Bool.false_and]

/-- `operator==(const Payload&, const Payload&)`; `g` answers the pointer comparison `lhsRaw == rhsRaw` -/
theorem plEq (a b : Payload) (g : Bool) (fuel : Nat) (hg : g = true → a.data = b.data) (h64 : a.data.length < 2 ^ 64)
    (hf : a.data.length < fuel) :
    opEq_Payload_pv fuel g (plRepr a) (plRepr b) = some (payloadEq a b) := by
  unfold opEq_Payload_pv
  simp only [pl_getType, pl_getLength, pt_opNe, bind, some_bind, pure, bne_iff_ne, ne_eq, payloadEq, Bool.and_assoc]
  refine opEq_step _ _ _ _ fun _ => opEq_step _ _ _ _ fun hl => ?_
  cases g with
  | true => rw [if_pos rfl, hg rfl, beq_self_eq_true]
  | false =>
    obtain ⟨j, hj⟩ := loop_eq (plRepr a) (plRepr b) false hl h64 fuel 0 hf
    rw [if_neg Bool.false_ne_true, hj]
    by_cases hd : a.data = b.data
    · simp only [plRepr, List.drop_zero, hd, if_true, some_bind, beq_self_eq_true]
    · simp only [plRepr, List.drop_zero, hd, if_false, some_bind, beq_eq_false_iff_ne.mpr hd]

theorem swap_eq (a b : PacketV_St) : swap_Packet_pv a b = some (b, a) := by
  cases a; cases b; rfl

theorem pk_getVersion (s : PacketV_St) : Packet_getVersion_pv s = some (s, s.f_version) := rfl
theorem pk_getDeviceId (s : PacketV_St) : Packet_getDeviceId_pv s = some (s, s.f_deviceId) := rfl
theorem pk_getStreamId (s : PacketV_St) : Packet_getStreamId_pv s = some (s, s.f_streamId) := rfl
theorem pk_getSeq (s : PacketV_St) : Packet_getSequenceCounter_pv s = some (s, s.f_sequenceCounter) := rfl
theorem pk_getTs (s : PacketV_St) : Packet_getTimestamp_pv s = some (s, s.f_timestamp) := rfl
theorem pk_getIf (s : PacketV_St) : Packet_getInterfaceId_pv s = some (s, s.f_interfaceId) := rfl
theorem pk_getVendor (s : PacketV_St) : Packet_getVendorId_pv s = some (s, s.f_vendorId) := rfl
theorem pk_getFlags (s : PacketV_St) : Packet_getCommonFlags_pv s = some (s, s.f_commonFlags) := rfl
theorem pk_getSeg (s : PacketV_St) : Packet_getSegmentType_pv s = some (s, s.f_segmentType) := rfl

theorem pk_getMt (p : Packet) (pl : Payload) (hp : p.payload = some pl) :
    Packet_getMessageType_pv (repr p) = some (repr p, p.mt) := by
  unfold Packet_getMessageType_pv
  simp only [repr, hp, Option.map_some, bind, some_bind, pure, pl_getMessageType, Packet.mt]

theorem pk_getPt (p : Packet) (pl : Payload) (hp : p.payload = some pl) :
    Packet_getPayloadType_pv (repr p) = some (repr p, p.rawType) := by
  unfold Packet_getPayloadType_pv
  simp only [repr, hp, Option.map_some, bind, some_bind, pure, pl_getRaw, Packet.rawType]

theorem pk_getPayload (p : Packet) (pl : Payload) (hp : p.payload = some pl) :
    Packet_getPayload_pv (repr p) = some (repr p, plRepr pl) := by
  unfold Packet_getPayload_pv
  simp only [repr, hp, Option.map_some, bind, some_bind, pure]

theorem pk_getLen (p : Packet) : Packet_getPayloadLength_pv (repr p) = some (repr p, p.payloadLength) := by
  unfold Packet_getPayloadLength_pv
  cases hp : p.payload with
  | none => simp only [repr, hp, Option.map_none, Option.isSome_none, Bool.false_eq_true, if_false, bind, some_bind, pure,
      Packet.payloadLength, Nat.zero_mod]
  | some pl => simp only [repr, hp, Option.map_some, Option.isSome_some, if_true, bind, some_bind, pure, pl_getLength,
      Packet.payloadLength, Nat.mod_mod]

theorem pk_isValid (p : Packet) : Packet_isValid_pv (repr p) = some (repr p, p.isValid) := by
  unfold Packet_isValid_pv
  cases hp : p.payload with
  | none => simp only [repr, hp, Option.map_none, Option.isSome_none, Bool.false_eq_true, if_false, bind, some_bind, pure,
      Packet.isValid]
  | some pl => simp only [repr, hp, Option.map_some, Option.isSome_some, if_true, bind, some_bind, pure, pl_isValid,
      Packet.isValid]

/-- without payload the three getters that dereference the pointer are undefined -/
theorem pk_null (p : Packet) (hp : p.payload = none) :
    Packet_getMessageType_pv (repr p) = none ∧ Packet_getPayloadType_pv (repr p) = none ∧
    Packet_getPayload_pv (repr p) = none := by
  unfold Packet_getMessageType_pv Packet_getPayloadType_pv Packet_getPayload_pv
  simp only [repr, hp, Option.map_none, bind, none_bind, and_self]

theorem pkEq (a b : Packet) (g : Bool) (fuel : Nat)
    (hg : ∀ x y, a.payload = some x → b.payload = some y → g = true → x.data = y.data)
    (h64 : a.fullLength < 2 ^ 64) (hf : a.fullLength < fuel) :
    opEq_Packet_pv fuel g (repr a) (repr b) = some (packetEq a b) := by
  unfold opEq_Packet_pv packetEq
  simp only [pk_getVersion, pk_getDeviceId, pk_getStreamId, pk_getSeq, pk_getTs, pk_getIf, pk_getVendor, pk_getFlags,
    pk_getSeg, bind, some_bind, pure, bne_iff_ne, ne_eq, Bool.and_assoc]
  refine opEq_step _ _ _ _ fun _ => ?_
  refine opEq_step _ _ _ _ fun _ => ?_
  refine opEq_step _ _ _ _ fun _ => ?_
  refine opEq_step _ _ _ _ fun _ => ?_
  refine opEq_step _ _ _ _ fun _ => ?_
  refine opEq_step _ _ _ _ fun _ => ?_
  refine opEq_step _ _ _ _ fun _ => ?_
  refine opEq_step _ _ _ _ fun _ => ?_
  refine opEq_step _ _ _ _ fun _ => ?_
  -- the payload part: the real sizes, then the payloads if there is something to compare
  unfold Packet_getPayload_pv
  cases ha : a.payload with
  | none =>
    -- the left size is 0: no payload comparison, the answer is whether the right size is 0 too
    cases hb : b.payload <;>
      simp only [repr_payload, ha, hb, Packet.fullLength, Option.map_none, Option.map_some, Option.isSome_none,
        Option.isSome_some, Bool.false_eq_true, if_false, if_true, bind, some_bind, pure, pl_getLength, gt_iff_lt,
        Nat.lt_irrefl, decide_false, Bool.and_false, and_false]
  | some x =>
    cases hb : b.payload with
    | none =>
      simp only [repr_payload, ha, hb, Packet.fullLength, Option.map_none, Option.map_some,
        Option.isSome_none, Option.isSome_some, Bool.false_eq_true, if_false, if_true, bind, some_bind, pure,
        pl_getLength, gt_iff_lt, Bool.and_eq_true, beq_iff_eq, decide_eq_true_eq]
      split
      · omega
      · rfl
    | some y =>
      simp only [Packet.fullLength, ha] at h64 hf
      simp only [repr_payload, ha, hb, Packet.fullLength, Option.map_some, Option.isSome_some, if_true,
        bind, some_bind, pure, pl_getLength, gt_iff_lt, plEq x y g fuel (hg x y ha hb) h64 hf, Bool.and_eq_true,
        beq_iff_eq, decide_eq_true_eq]
      split <;> rfl

end AsamCmp.SrcPv
