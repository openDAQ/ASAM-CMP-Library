/-
  C06 on bytes, part 1: where the segments of one packet sit in the encoder's frame list.
  Every segment frame belongs to a run of consecutive frames holding, one each and in order, the
  segments `segMsgs idx p true (chunks …)` of one packet of the batch.
-/
import AsamCmp.Lemmas.RoundTrip
import AsamCmp.Lemmas.Fault
namespace AsamCmp.C06b
open AsamCmp AsamCmp.C01

theorem goodL_drop {dev stream v : Nat} : ∀ (n : Nat) (fs : List EFrame),
    GoodL dev stream v fs → GoodL dev stream v (fs.drop n) := by
  intro n
  induction n with
  | zero => intro fs h; simpa using h
  | succ n ih =>
    intro fs h
    cases fs with
    | nil => simpa using h
    | cons f fs => simpa using ih fs h.tail

/-- segments at the head of the flattened messages sit one per frame at the head of the frames -/
theorem segs_one_per_frame {dev stream v : Nat} : ∀ (ms : List EMsg), (∀ m ∈ ms, m.seg ≠ 0) →
    ∀ (fs : List EFrame) (rest : List EMsg), GoodL dev stream v fs →
      fs.flatMap (·.msgs) = ms ++ rest →
      (∀ (j : Nat) (m : EMsg), ms[j]? = some m → ∃ f : EFrame, fs[j]? = some f ∧ f.msgs = [m]) ∧
      (fs.drop ms.length).flatMap (·.msgs) = rest := by
  intro ms
  induction ms with
  | nil => intro _ fs rest _ h; exact ⟨by simp, by simpa using h⟩
  | cons m ms ih =>
    intro hseg fs rest hg hflat
    rw [List.cons_append] at hflat
    obtain ⟨f, fs', ms0, rfl, hm, hrest⟩ := flat_cons hg hflat
    have hf := hg.1 f (by simp)
    have h0 : ms0 = [] := head_seg hf hm (hseg m (by simp))
    subst h0
    obtain ⟨h1, h2⟩ := ih (fun x hx => hseg x (by simp [hx])) fs' rest hg.tail (by simpa using hrest.symm)
    refine ⟨?_, by simpa using h2⟩
    intro j x hj
    cases j with
    | zero =>
      simp only [List.getElem?_cons_zero, Option.some.injEq] at hj
      subst hj
      exact ⟨f, by simp, hm⟩
    | succ j =>
      simp only [List.getElem?_cons_succ] at hj ⊢
      exact h1 j x hj

theorem segMsgs_seg_ne (idx : Nat) (p : Packet) (b : Bool) (cs : List Bytes) :
    ∀ m ∈ segMsgs idx p b cs, m.seg ≠ 0 := by
  intro m hm
  rcases (segMsgs_mem idx p b cs m hm).2.2.1 with h | h | h <;> rw [h] <;> decide

theorem segMsgs_length (idx : Nat) (p : Packet) (b : Bool) (cs : List Bytes) :
    (segMsgs idx p b cs).length = cs.length := by
  have := congrArg List.length (segMsgs_body idx p b cs)
  simpa using this

theorem segMsgs_false_get (idx : Nat) (p : Packet) : ∀ (cs : List Bytes) (j : Nat) (m : EMsg),
    (segMsgs idx p false cs)[j]? = some m →
    ∃ x, cs[j]? = some x ∧ m = ⟨idx, p, if j + 1 = cs.length then 12 else 8, x⟩
  | [], _, _, h => nomatch h
  | [c], 0, _, h => by cases h; exact ⟨c, rfl, rfl⟩
  | [_], _ + 1, _, h => nomatch h
  | c :: _ :: cs', 0, _, h => by
    cases h
    exact ⟨c, rfl, by rw [if_neg (show ¬ 0 + 1 = (c :: _ :: cs').length from
      Nat.ne_of_lt (Nat.succ_lt_succ (Nat.succ_pos cs'.length)))]⟩
  | _ :: c' :: cs', j + 1, m, h => by
    obtain ⟨x, hx, hm⟩ := segMsgs_false_get idx p (c' :: cs') j m h
    refine ⟨x, hx, ?_⟩
    rw [hm]
    simp only [List.length_cons, Nat.add_right_cancel_iff]

theorem segMsgs_true_get (idx : Nat) (p : Packet) (cs : List Bytes) (j : Nat) (m : EMsg)
    (h : (segMsgs idx p true cs)[j]? = some m) :
    ∃ x, cs[j]? = some x ∧ m = ⟨idx, p, segCode j cs.length, x⟩ := by
  match cs, j, h with
  | [], _, h => nomatch h
  | c :: cs, 0, h => cases h; exact ⟨c, rfl, rfl⟩
  | c :: cs, j + 1, h =>
    obtain ⟨x, hx, hm⟩ := segMsgs_false_get idx p cs j m h
    refine ⟨x, hx, ?_⟩
    have e : (j + 2 = cs.length + 1) = (j + 1 = cs.length) := propext ⟨Nat.succ.inj, congrArg Nat.succ⟩
    rw [hm, segCode_succ, List.length_cons]
    simp only [e]

/-- the segments of the packet `ip` (which does not fit a frame) sit, one per frame and in order, in
    the frames from index `i0` on -/
def InRun (c : Ctx) (fs : List EFrame) (i0 : Nat) (ip : Nat × Packet) : Prop :=
  ¬ (16 + ip.2.data.length ≤ c.cap) ∧
  ∀ (j : Nat) (m : EMsg), (segMsgs ip.1 ip.2 true (chunks (c.cap - 16) ip.2.data))[j]? = some m →
    ∃ f : EFrame, fs[i0 + j]? = some f ∧ f.msgs = [m]

/-- every segment frame lies in a run -/
theorem segFrame_inRun {dev stream v : Nat} (c : Ctx) :
    ∀ (ib : List (Nat × Packet)), (∀ ip ∈ ib, ip.2.WF) → ∀ (fs : List EFrame),
      GoodL dev stream v fs →
      fs.flatMap (·.msgs) = ib.flatMap (fun ip => pieces c ip.1 ip.2) →
      ∀ i f m ms, fs[i]? = some f → f.msgs = m :: ms → m.seg ≠ 0 →
        ∃ ip ∈ ib, ∃ i0 j, i = i0 + j ∧ InRun c fs i0 ip ∧
          (segMsgs ip.1 ip.2 true (chunks (c.cap - 16) ip.2.data))[j]? = some m := by
  intro ib
  induction ib with
  | nil =>
    intro _ fs hg hflat i f m ms hi hm _
    cases fs with
    | nil => simp at hi
    | cons g fs' =>
      have := (hg.1 g (List.mem_cons_self ..)).ne
      simp at hflat
      exact absurd hflat.1 this
  | cons ip ib' ih =>
    intro hwf fs hg hflat i f m ms hi hm hseg
    obtain ⟨idx, p⟩ := ip
    have hp : p.WF := hwf (idx, p) (List.mem_cons_self ..)
    have ih' := ih (fun x hx => hwf x (List.mem_cons_of_mem _ hx))
    simp only [List.flatMap_cons] at hflat
    rw [pieces_eq c idx p hp] at hflat
    by_cases hfit : 16 + p.data.length ≤ c.cap
    · rw [if_pos hfit, List.singleton_append] at hflat
      obtain ⟨f1, fs', ms0, rfl, hm1, hrest⟩ := flat_cons hg hflat
      have hf1 := hg.1 f1 (List.mem_cons_self ..)
      have hall := head_unseg hf1 hm1 rfl
      cases i with
      | zero =>
        simp only [List.getElem?_cons_zero, Option.some.injEq] at hi
        subst hi
        exact absurd (hall m (by rw [hm]; simp)) hseg
      | succ i' =>
        simp only [List.getElem?_cons_succ] at hi
        by_cases hms0 : ms0 = []
        · subst hms0
          obtain ⟨ip, hip, i0, j, hij, hrun, hj⟩ :=
            ih' fs' hg.tail (by simpa using hrest.symm) i' f m ms hi hm hseg
          refine ⟨ip, List.mem_cons_of_mem _ hip, i0 + 1, j, by rw [hij, Nat.add_right_comm], ⟨hrun.1, ?_⟩, hj⟩
          intro j' m' hj'
          obtain ⟨g, hg1, hg2⟩ := hrun.2 j' m' hj'
          refine ⟨g, ?_, hg2⟩
          rw [Nat.add_right_comm i0 1 j', List.getElem?_cons_succ]
          exact hg1
        · have hg' := hg.dropMsg hm1 hall hms0
          obtain ⟨ip, hip, i0, j, hij, hrun, hj⟩ :=
            ih' ({ f1 with msgs := ms0 } :: fs') hg' (by simpa using hrest.symm) (i' + 1) f m ms
              (by simpa using hi) hm hseg
          refine ⟨ip, List.mem_cons_of_mem _ hip, i0, j, hij, ⟨hrun.1, ?_⟩, hj⟩
          intro j' m' hj'
          obtain ⟨g, hg1, hg2⟩ := hrun.2 j' m' hj'
          have hm'seg : m'.seg ≠ 0 := segMsgs_seg_ne _ _ _ _ m' (List.mem_of_getElem? hj')
          cases hpos : i0 + j' with
          | zero =>
            rw [hpos] at hg1
            simp only [List.getElem?_cons_zero, Option.some.injEq] at hg1
            subst hg1
            simp only at hg2
            exact absurd (hall m' (by rw [hm1, hg2]; simp)) hm'seg
          | succ k =>
            rw [hpos] at hg1
            exact ⟨g, by simpa using hg1, hg2⟩
    · rw [if_neg hfit] at hflat
      obtain ⟨h1, h2⟩ := segs_one_per_frame _ (segMsgs_seg_ne _ _ _ _) fs _ hg hflat
      generalize hn : (segMsgs idx p true (chunks (c.cap - 16) p.data)).length = n at h2
      by_cases hin : i < n
      · have : ∃ x, (segMsgs idx p true (chunks (c.cap - 16) p.data))[i]? = some x := by
          rw [← hn] at hin
          exact ⟨_, List.getElem?_eq_getElem hin⟩
        obtain ⟨x, hx⟩ := this
        obtain ⟨g, hg1, hg2⟩ := h1 i x hx
        rw [hi] at hg1
        cases hg1
        rw [hm] at hg2
        simp only [List.cons.injEq] at hg2
        obtain ⟨rfl, _⟩ := hg2
        refine ⟨(idx, p), List.mem_cons_self .., 0, i, (Nat.zero_add i).symm, ⟨hfit, ?_⟩, hx⟩
        intro j' m' hj'
        simpa using h1 j' m' hj'
      · have hi' : (fs.drop n)[i - n]? = some f := by
          rw [List.getElem?_drop, Nat.add_sub_cancel' (Nat.le_of_not_lt hin)]; exact hi
        obtain ⟨ip, hip, i0, j, hij, hrun, hj⟩ :=
          ih' (fs.drop n) (goodL_drop n fs hg) h2 (i - n) f m ms hi' hm hseg
        refine ⟨ip, List.mem_cons_of_mem _ hip, n + i0, j,
          by rw [Nat.add_assoc, ← hij, Nat.add_sub_cancel' (Nat.le_of_not_lt hin)], ⟨hrun.1, ?_⟩, hj⟩
        intro j' m' hj'
        obtain ⟨g, hg1, hg2⟩ := hrun.2 j' m' hj'
        refine ⟨g, ?_, hg2⟩
        rw [List.getElem?_drop] at hg1
        rw [Nat.add_assoc n i0 j']
        exact hg1

end AsamCmp.C06b
