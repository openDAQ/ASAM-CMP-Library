/-
  Packet value mode, part 2: the payload constructors `Packet::create` reaches, `Packet::create` itself and the wire constructor
  `Packet(msgType, data, size)`, translated from the source (GeneratedSrcObj.lean), on a memory `pre ++ d ++ post`.
-/
import AsamCmp.Lemmas.SrcPacketValue
import AsamCmp.Props.SrcTie
import AsamCmp.Lemmas.Builders
set_option linter.unusedSimpArgs false
set_option linter.unusedVariables false
namespace AsamCmp.SrcPv
open AsamCmp AsamCmp.Src AsamCmp.SrcGen AsamCmp.SrcTie

/-! ### the constructors of the payload classes: all end in `Payload(type, data, size)` -/

theorem pl_ctor_typed (ty : Nat) (h : ty ≠ 0) (pre d post : Bytes) :
    Payload_ctor_PayloadType_ptr_u64_pv (pre ++ d ++ post) ty pre.length d.length = some (plRepr ⟨ty, d⟩) := by
  rw [pl_ctor, if_neg h]

theorem pl_ctor_invalid (pre d post : Bytes) :
    Payload_ctor_PayloadType_ptr_u64_pv (pre ++ d ++ post) 0 pre.length d.length = some (plRepr ⟨0, zeros d.length⟩) := by
  rw [pl_ctor, if_pos rfl]

theorem can_ctor (pre d post : Bytes) :
    CanPayload_ctor_ptr_u64_pv (pre ++ d ++ post) pre.length d.length = some (plRepr ⟨tyCan, d⟩) := by
  unfold CanPayload_ctor_ptr_u64_pv CanPayloadBase_ctor_PayloadType_ptr_u64_pv
  simp only [pt_ctor32, bind, some_bind, pure, pl_ctor_typed 257 (by decide), tyCan]

theorem canFd_ctor (pre d post : Bytes) :
    CanFdPayload_ctor_ptr_u64_pv (pre ++ d ++ post) pre.length d.length = some (plRepr ⟨tyCanFd, d⟩) := by
  unfold CanFdPayload_ctor_ptr_u64_pv CanPayloadBase_ctor_PayloadType_ptr_u64_pv
  simp only [pt_ctor32, bind, some_bind, pure, pl_ctor_typed 258 (by decide), tyCanFd]

theorem lin_ctor (pre d post : Bytes) :
    LinPayload_ctor_ptr_u64_pv (pre ++ d ++ post) pre.length d.length = some (plRepr ⟨tyLin, d⟩) := by
  unfold LinPayload_ctor_ptr_u64_pv
  simp only [pt_ctor32, bind, some_bind, pure, pl_ctor_typed 259 (by decide), tyLin]

theorem analog_ctor (pre d post : Bytes) :
    AnalogPayload_ctor_ptr_u64_pv (pre ++ d ++ post) pre.length d.length = some (plRepr ⟨tyAnalog, d⟩) := by
  unfold AnalogPayload_ctor_ptr_u64_pv
  simp only [pt_ctor32, bind, some_bind, pure, pl_ctor_typed 263 (by decide), tyAnalog]

theorem eth_ctor (pre d post : Bytes) :
    EthernetPayload_ctor_ptr_u64_pv (pre ++ d ++ post) pre.length d.length = some (plRepr ⟨tyEth, d⟩) := by
  unfold EthernetPayload_ctor_ptr_u64_pv
  simp only [pt_ctor32, bind, some_bind, pure, pl_ctor_typed 264 (by decide), tyEth]

theorem cm_ctor (pre d post : Bytes) :
    CaptureModulePayload_ctor_ptr_u64_pv (pre ++ d ++ post) pre.length d.length = some (plRepr ⟨tyCm, d⟩) := by
  unfold CaptureModulePayload_ctor_ptr_u64_pv
  simp only [pt_ctor32, bind, some_bind, pure, pl_ctor_typed 769 (by decide), tyCm]

theorem if_ctor (pre d post : Bytes) :
    InterfacePayload_ctor_ptr_u64_pv (pre ++ d ++ post) pre.length d.length = some (plRepr ⟨tyIf, d⟩) := by
  unfold InterfacePayload_ctor_ptr_u64_pv
  simp only [pt_ctor32, bind, some_bind, pure, pl_ctor_typed 770 (by decide), tyIf]

theorem create_typed (ty : Nat) (v : Bytes → Bool) (d : Bytes) (hv : validatorOf ty = some v) :
    create ty d = if v d then ⟨ty, d⟩ else ⟨0, zeros d.length⟩ := by
  unfold create; rw [hv]

theorem create_generic (ty : Nat) (d : Bytes) (hv : validatorOf ty = none) :
    create ty d = if ty = 0 then ⟨0, zeros d.length⟩ else ⟨ty, d⟩ := by
  unfold create; rw [hv]

/-- one `case` of the switch: validator, then the typed constructor or the fall-through to `PayloadType::invalid` -/
theorem create_case (s : PacketV_St) (b : Bool) (x y : Payload) :
    (if b = true then some (s, some (plRepr x)) else some (s, some (plRepr y))) =
      some (s, some (plRepr (if b = true then x else y))) := by
  cases b <;> rfl

theorem create_eq (s : PacketV_St) (ty : Nat) (pre d post : Bytes) (hmem : (pre ++ d ++ post).length < 2 ^ 64) :
    Packet_create_pv s (pre ++ d ++ post) ty pre.length d.length = some (s, some (plRepr (create ty d))) := by
  unfold Packet_create_pv
  simp only [pt_getType, pt_ctor32, bind, some_bind, pure, beq_iff_eq, pl_ctor_invalid]
  by_cases h1 : ty = 257
  · subst h1
    simp only [↓reduceIte, can_validator_src pre d post hmem, some_bind, can_ctor, create_case,
      create_typed 257 canValid d rfl, tyCan]
  rw [if_neg h1]
  by_cases h2 : ty = 258
  · subst h2
    simp only [↓reduceIte, can_validator_src pre d post hmem, some_bind, canFd_ctor, create_case,
      create_typed 258 canValid d rfl, tyCanFd, Nat.reduceEqDiff]
  rw [if_neg h2]
  by_cases h3 : ty = 259
  · subst h3
    simp only [↓reduceIte, lin_validator_src pre d post hmem, some_bind, lin_ctor, create_case,
      create_typed 259 linValid d rfl, tyLin, Nat.reduceEqDiff]
  rw [if_neg h3]
  by_cases h4 : ty = 263
  · subst h4
    simp only [↓reduceIte, analog_validator_src pre d post hmem, some_bind, analog_ctor, create_case,
      create_typed 263 analogValid d rfl, tyAnalog, Nat.reduceEqDiff]
  rw [if_neg h4]
  by_cases h5 : ty = 264
  · subst h5
    simp only [↓reduceIte, eth_validator_src pre d post hmem, some_bind, eth_ctor, create_case,
      create_typed 264 ethValid d rfl, tyEth, Nat.reduceEqDiff]
  rw [if_neg h5]
  by_cases h6 : ty = 769
  · subst h6
    simp only [↓reduceIte, cm_validator_src pre d post hmem, some_bind, cm_ctor, create_case,
      create_typed 769 cmValid d rfl, tyCm, Nat.reduceEqDiff]
  rw [if_neg h6]
  by_cases h7 : ty = 770
  · subst h7
    simp only [↓reduceIte, if_validator_src pre d post hmem, some_bind, if_ctor, create_case,
      create_typed 770 ifValid d rfl, tyIf, Nat.reduceEqDiff]
  have hv : validatorOf ty = none := by
    simp only [validatorOf, tyCan, tyCanFd, tyLin, tyAnalog, tyEth, tyCm, tyIf, h1, h2, h3, h4, h5, h6, h7, if_false]
  rw [if_neg h7, pl_ctor, create_generic ty d hv]
  rfl

/-- `Packet::setMessageHeader(msgType, header)` on the 16 header bytes (a by-value copy) -/
theorem setMessageHeader_eq (s : PacketV_St) (mt : Nat) (h : Bytes) (hl : 16 ≤ h.length) :
    Packet_setMessageHeader_pv s mt h =
      some ({ s with f_timestamp := beAt h 0 8,
                     f_interfaceId := if mt = 1 then beAt h 8 4 else s.f_interfaceId,
                     f_vendorId := if mt = 3 ∨ mt = 255 then beAt h 10 2 else s.f_vendorId,
                     f_commonFlags := byteAt h 12 }, ()) := by
  obtain ⟨e1, e2, e3, e4, -⟩ := SrcTie.msg_header_at (SrcTie.at_whole h) hl
  unfold Packet_setMessageHeader_pv
  simp only [e1, e2, e3, e4, Packet_setTimestamp_pv, Packet_setInterfaceId_pv, Packet_setVendorId_pv,
    Packet_setCommonFlags_pv, bind, some_bind, pure, beq_iff_eq, Bool.or_eq_true]
  by_cases h1 : mt = 1
  · subst h1; simp only [↓reduceIte, Nat.reduceEqDiff, or_self]
  · by_cases h3 : mt = 3 ∨ mt = 255
    · simp only [h1, h3, ↓reduceIte]
    · by_cases h2 : mt = 2
      · simp only [h1, h3, h2, ↓reduceIte, Nat.reduceEqDiff, or_self]
      · simp only [h1, h3, h2, ↓reduceIte]

/-- the message `m` at address `pre.length`: its payload bytes sit behind `pre` and the 16 header bytes -/
theorem mem_split (pre m post : Bytes) (len : Nat) (h : 16 + len ≤ m.length) :
    pre ++ m ++ post = (pre ++ m.take 16) ++ slice m 16 len ++ (m.drop (16 + len) ++ post) := by
  have e : m = m.take 16 ++ (slice m 16 len ++ m.drop (16 + len)) := by
    unfold slice
    rw [← List.drop_drop, List.take_append_drop, List.take_append_drop]
  conv => lhs; rw [e]
  simp only [List.append_assoc]

theorem takeExact_mid (pre m post : Bytes) (h16 : 16 ≤ m.length) :
    takeExact ((pre ++ m ++ post).drop pre.length) 16 = some (m.take 16) := by
  rw [SrcDec.drop_mid]
  unfold takeExact
  rw [if_pos (by rw [List.length_append]; omega), List.take_append_of_le_length h16]

theorem wire_ctor_eq (mt : Nat) (pre m post : Bytes) (size : Nat) (hmt : mt < 256) (h16 : 16 ≤ m.length)
    (hlen : 16 + beAt m 14 2 ≤ m.length) (hmem : (pre ++ m ++ post).length < 2 ^ 64) :
    Packet_ctor_u8_ptr_u64_pv (pre ++ m ++ post) mt pre.length size = some (repr (Packet.ofMsg mt m)) := by
  have ht16 : (m.take 16).length = 16 := List.length_take_of_le h16
  have hh : 16 ≤ (m.take 16).length := Nat.le_of_eq ht16.symm
  have hsl : (slice m 16 (beAt m 14 2)).length = beAt m 14 2 := slice_length_of_le m 16 _ hlen
  have hpl : (pre ++ m.take 16).length = pre.length + 16 := by rw [List.length_append, ht16]
  have hcr := create_eq
    { f_payload := none, f_version := 1, f_deviceId := 0, f_streamId := 0, f_sequenceCounter := 0,
      f_timestamp := beAt (m.take 16) 0 8,
      f_interfaceId := if mt = 1 then beAt (m.take 16) 8 4 else 0,
      f_vendorId := if mt = 3 ∨ mt = 255 then beAt (m.take 16) 10 2 else 0,
      f_commonFlags := byteAt (m.take 16) 12, f_segmentType := 0 }
    (mt * 256 + byteAt m 13) (pre ++ m.take 16) (slice m 16 (beAt m 14 2)) (m.drop (16 + beAt m 14 2) ++ post)
    (by rw [← mem_split pre m post _ hlen]; exact hmem)
  rw [← mem_split pre m post _ hlen, hpl, hsl] at hcr
  have ht : ∀ off w, off + w ≤ 16 → beAt (m.take 16) off w = beAt m off w :=
    fun off w h => C13.beAt_of_take _ m 16 off w (by rw [List.take_take, Nat.min_self]) h
  have hb : byteAt (m.take 16) 12 = byteAt m 12 :=
    C13.byteAt_of_take _ m 16 12 (by rw [List.take_take, Nat.min_self]) (by omega)
  unfold Packet_ctor_u8_ptr_u64_pv
  simp only [bind, some_bind, pure, takeExact_mid pre m post h16, setMessageHeader_eq _ mt _ hh,
    (SrcTie.msg_header_at (SrcTie.at_mid pre m post) h16).2.2.2.2, pt_ctor8 mt _ hmt (byteAt_lt_256 m 13),
    SrcTie.payloadLength_at (SrcTie.at_mid pre m post) h16, hcr]
  simp only [repr, Packet.ofMsg, Option.map_some, ht 0 8 (by omega), ht 8 4 (by omega), ht 10 2 (by omega), hb]

end AsamCmp.SrcPv
