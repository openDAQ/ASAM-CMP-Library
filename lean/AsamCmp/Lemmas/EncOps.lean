/-
  The encoder model's operations: chunking, the messages a packet contributes (`pieces`), the state operations field by
  field, `putPacket` as three cases behind its two checks (`st1`, `st2`, `putPacket_eqS`, `putPacket_keeps`), the per-frame
  and greedy-fill predicates on structured frames (`FrameOk`, `GreedyE`), and the start state of `encode`.  The invariants
  of the fold are in Lemmas/EncOpen.lean.
-/
import AsamCmp.Tile
import AsamCmp.Lemmas.TileBytes
namespace AsamCmp

/-! ### `chunks` and `segMsgs` -/

theorem chunks_nil (n : Nat) : chunks n [] = [] := by
  rw [chunks]; simp

theorem chunks_cons (n : Nat) (l : Bytes) (hn : 0 < n) (hl : l ≠ []) :
    chunks n l = l.take n :: chunks n (l.drop n) := by
  rw [chunks]
  have : ¬ (n = 0 ∨ l = []) := by
    intro h; rcases h with h | h
    · omega
    · exact hl h
  simp [this]

theorem chunks_flatten (n : Nat) (hn : 0 < n) (l : Bytes) : (chunks n l).flatten = l := by
  fun_induction chunks n l with
  | case1 l h =>
    rcases h with h | h
    · omega
    · simp [h]
  | case2 l h ih => simp [ih]

theorem chunks_mem (n : Nat) (hn : 0 < n) (l : Bytes) :
    ∀ x ∈ chunks n l, 1 ≤ x.length ∧ x.length ≤ n := by
  fun_induction chunks n l with
  | case1 l h => simp
  | case2 l h ih =>
    intro x hx
    rcases List.mem_cons.mp hx with hx | hx
    · subst hx
      have : l ≠ [] := fun e => h (Or.inr e)
      have : 0 < l.length := List.length_pos_iff.mpr this
      simp [List.length_take]; omega
    · exact ih x hx

theorem chunks_ne_nil (n : Nat) (hn : 0 < n) (l : Bytes) (hl : l ≠ []) : chunks n l ≠ [] := by
  rw [chunks_cons n l hn hl]; simp

theorem segMsgs_false_cons (i : Nat) (p : Packet) (x : Bytes) (cs : List Bytes) (h : cs ≠ []) :
    segMsgs i p false (x :: cs) = ⟨i, p, 8, x⟩ :: segMsgs i p false cs := by
  cases cs with
  | nil => exact absurd rfl h
  | cons y ys => rfl

theorem segMsgs_body (i : Nat) (p : Packet) (b : Bool) (cs : List Bytes) :
    (segMsgs i p b cs).map (·.body) = cs := by
  induction cs generalizing b with
  | nil => cases b <;> rfl
  | cons x xs ih =>
    cases b with
    | true => simp [segMsgs, ih]
    | false =>
      cases xs with
      | nil => rfl
      | cons y ys => rw [segMsgs_false_cons _ _ _ _ (by simp)]; simp [ih]

theorem segMsgs_mem (i : Nat) (p : Packet) (b : Bool) (cs : List Bytes) :
    ∀ m ∈ segMsgs i p b cs, m.idx = i ∧ m.pkt = p ∧ (m.seg = 4 ∨ m.seg = 8 ∨ m.seg = 12) ∧ m.body ∈ cs := by
  induction cs generalizing b with
  | nil => cases b <;> simp [segMsgs]
  | cons x xs ih =>
    cases b with
    | true =>
      intro m hm
      simp only [segMsgs, List.mem_cons] at hm
      rcases hm with hm | hm
      · subst hm; simp
      · have := ih false m hm
        simp [this]
    | false =>
      cases xs with
      | nil =>
        intro m hm
        simp only [segMsgs, List.mem_singleton] at hm
        subst hm; simp
      | cons y ys =>
        rw [segMsgs_false_cons _ _ _ _ (by simp)]
        intro m hm
        rcases List.mem_cons.mp hm with hm | hm
        · subst hm; simp
        · have := ih false m hm
          simp [this]

theorem drop_ne_nil (n : Nat) (l : Bytes) (h : n < l.length) : l.drop n ≠ [] := by
  intro e
  have := congrArg List.length e
  simp at this; omega

/-- one step of `segMsgs` over `chunks`: the next segment holds the next `w` bytes and is flagged first, or last if it
    holds all that is left, or intermediary; the rest is cut up in the same way -/
theorem segMsgs_chunks (i : Nat) (p : Packet) (first : Bool) (w : Nat) (hw : 0 < w) (d : Bytes) (hd : d ≠ []) :
    segMsgs i p first (chunks w d) =
      ⟨i, p, if first = true then 4 else if d.length ≤ w then 12 else 8, d.take w⟩ ::
        segMsgs i p false (chunks w (d.drop w)) := by
  rw [chunks_cons w d hw hd]
  cases first with
  | true => rfl
  | false =>
    by_cases hle : d.length ≤ w
    · rw [List.drop_eq_nil_of_le hle, chunks_nil, if_neg Bool.false_ne_true, if_pos hle]; rfl
    · rw [if_neg Bool.false_ne_true, if_neg hle]
      exact segMsgs_false_cons _ _ _ _ (chunks_ne_nil w hw _ (drop_ne_nil w d (by omega)))

/-- one full chunk less: the number of full chunks drops by one, the length of the last chunk stays -/
theorem div_step (n L : Nat) (hn : 0 < n) (h : n < L) :
    (L - 1) / n = (L - n - 1) / n + 1 ∧ L - ((L - 1) / n) * n = (L - n) - ((L - n - 1) / n) * n := by
  have h1 : (L - 1) / n = (L - n - 1) / n + 1 := by
    have : L - 1 = (L - n - 1) + n := by omega
    rw [this, Nat.add_div_right _ hn]
  refine ⟨h1, ?_⟩
  rw [h1, Nat.succ_mul]
  generalize ((L - n - 1) / n) * n = z
  omega

/-- the flags of `q + 1` full segments: first, then intermediary -/
theorem range_flags (q w : Nat) :
    (List.range (q + 1)).map (fun j => (if j = 0 then 4 else 8, w)) = (4, w) :: List.replicate q (8, w) := by
  rw [List.range_succ_eq_map, List.map_cons, List.map_map, ← List.length_range (n := q), ← List.map_const']
  simp

theorem segShapeF (i : Nat) (p : Packet) (n : Nat) (hn : 0 < n) (l : Bytes) (hl : l ≠ []) :
    (segMsgs i p false (chunks n l)).map (fun m => (m.seg, m.body.length)) =
      List.replicate ((l.length - 1) / n) (8, n) ++ [(12, l.length - ((l.length - 1) / n) * n)] := by
  fun_induction chunks n l with
  | case1 l h =>
    rcases h with h | h
    · omega
    · exact absurd h hl
  | case2 l h ih =>
    have hpos : 0 < l.length := List.length_pos_iff.mpr hl
    rw [← chunks_cons n l hn hl, segMsgs_chunks i p false n hn l hl, if_neg Bool.false_ne_true, List.map_cons]
    by_cases hle : l.length ≤ n
    · have hq : (l.length - 1) / n = 0 := Nat.div_eq_of_lt (by omega)
      rw [if_pos hle, List.drop_eq_nil_of_le hle, chunks_nil, hq]
      simp [segMsgs, List.length_take]
      omega
    · have hlt : n < l.length := by omega
      rw [if_neg hle, ih (drop_ne_nil n l hlt), List.length_take, List.length_drop,
        Nat.min_eq_left (Nat.le_of_lt hlt), (div_step n l.length hn hlt).2, (div_step n l.length hn hlt).1,
        List.replicate_succ]
      rfl

theorem segShapeT (i : Nat) (p : Packet) (n : Nat) (hn : 0 < n) (l : Bytes) (hl : n < l.length) :
    (segMsgs i p true (chunks n l)).map (fun m => (m.seg, m.body.length)) =
      (List.range ((l.length - 1) / n)).map (fun j => (if j = 0 then 4 else 8, n)) ++
        [(12, l.length - ((l.length - 1) / n) * n)] := by
  have hne : l ≠ [] := by intro e; simp [e] at hl
  rw [segMsgs_chunks i p true n hn l hne, if_pos rfl, List.map_cons, segShapeF i p n hn _ (drop_ne_nil n l hl),
    List.length_take, List.length_drop, Nat.min_eq_left (Nat.le_of_lt hl), (div_step n l.length hn hl).2,
    (div_step n l.length hn hl).1, range_flags]
  rfl

/-! ### `pieces`: the messages one packet contributes -/

/-- the messages `putPacket` adds for packet `p` at index `i`, whatever the state (`Open.step_msgs`) -/
def pieces (c : Ctx) (i : Nat) (p : Packet) : List EMsg :=
  if p.payloadLength = 0 then []
  else if 16 + p.payloadLength ≤ c.cap then [⟨i, p, 0, p.data.take p.payloadLength⟩]
  else segMsgs i p true (chunks (c.cap - 16) (p.data.take p.payloadLength))

theorem payloadLength_eq (p : Packet) : p.payloadLength = p.data.length % 65536 := by
  unfold Packet.payloadLength Packet.data
  cases p.payload <;> rfl

theorem Packet.mt_lt (p : Packet) : p.mt < 256 := by
  unfold Packet.mt Payload.mt
  split
  · decide
  · exact Nat.mod_lt _ (by decide)

/-- the three cases of `pieces`: no payload byte, one unsegmented message, segments -/
theorem pieces_cases (c : Ctx) (i : Nat) (p : Packet) :
    (p.payloadLength = 0 ∧ pieces c i p = []) ∨
    (p.payloadLength ≠ 0 ∧ 16 + p.payloadLength ≤ c.cap ∧
      pieces c i p = [⟨i, p, 0, p.data.take p.payloadLength⟩]) ∨
    (p.payloadLength ≠ 0 ∧ ¬ 16 + p.payloadLength ≤ c.cap ∧
      pieces c i p = segMsgs i p true (chunks (c.cap - 16) (p.data.take p.payloadLength))) := by
  unfold pieces
  by_cases h0 : p.payloadLength = 0
  · exact Or.inl ⟨h0, if_pos h0⟩
  · by_cases h1 : 16 + p.payloadLength ≤ c.cap
    · exact Or.inr (Or.inl ⟨h0, h1, by rw [if_neg h0, if_pos h1]⟩)
    · exact Or.inr (Or.inr ⟨h0, h1, by rw [if_neg h0, if_neg h1]⟩)

theorem pieces_shape (c : Ctx) (hcap : 17 ≤ c.cap) (i : Nat) (p : Packet) (hp : p.data.length < 65536) :
    (pieces c i p).map (fun m => (m.seg, m.body.length)) = pieceShape c.cap p.data.length := by
  have hl : p.payloadLength = p.data.length := by rw [payloadLength_eq]; exact Nat.mod_eq_of_lt hp
  unfold pieceShape
  rcases pieces_cases c i p with ⟨h0, e⟩ | ⟨h0, h1, e⟩ | ⟨h0, h1, e⟩ <;> rw [e] <;> rw [hl] at h0
  · rw [if_pos h0]; rfl
  · rw [hl] at h1 ⊢
    rw [if_neg h0, if_pos h1, List.take_length]; rfl
  · rw [hl] at h1 ⊢
    rw [if_neg h0, if_neg h1, List.take_length]
    exact segShapeT i p (c.cap - 16) (by omega) p.data (by omega)

theorem pieces_body (c : Ctx) (hcap : 17 ≤ c.cap) (i : Nat) (p : Packet) (hp : p.data.length < 65536) :
    ((pieces c i p).map (·.body)).flatten = p.data := by
  have hl : p.payloadLength = p.data.length := by rw [payloadLength_eq]; exact Nat.mod_eq_of_lt hp
  rcases pieces_cases c i p with ⟨h0, e⟩ | ⟨_, _, e⟩ | ⟨_, h1, e⟩ <;> rw [e]
  · exact (List.eq_nil_of_length_eq_zero (hl ▸ h0)).symm
  · rw [hl, List.take_length]; simp
  · rw [hl, List.take_length, segMsgs_body, chunks_flatten _ (by omega)]

theorem pieces_mem (c : Ctx) (hcap : 17 ≤ c.cap) (i : Nat) (p : Packet) :
    ∀ m ∈ pieces c i p, m.pkt = p ∧ 1 ≤ m.body.length ∧ m.body.length < 65536 ∧ 16 + m.body.length ≤ c.cap ∧
      (m.seg = 0 ∨ m.seg = 4 ∨ m.seg = 8 ∨ m.seg = 12) ∧ (m.seg = 0 → 16 + m.body.length = 16 + p.payloadLength) := by
  intro m hm
  have hl : p.payloadLength = p.data.length % 65536 := payloadLength_eq p
  have hlt : p.payloadLength < 65536 := by rw [hl]; exact Nat.mod_lt _ (by decide)
  have hle : p.payloadLength ≤ p.data.length := by rw [hl]; exact Nat.mod_le _ _
  rcases pieces_cases c i p with ⟨_, e⟩ | ⟨h0, h1, e⟩ | ⟨h0, h1, e⟩ <;> rw [e] at hm
  · cases hm
  · rw [List.mem_singleton] at hm
    subst hm
    simp only [List.length_take, Nat.min_eq_left hle]
    exact ⟨trivial, by omega, hlt, h1, Or.inl trivial, fun _ => trivial⟩
  · obtain ⟨_, h2, h3, h4⟩ := segMsgs_mem _ _ _ _ m hm
    have h5 := chunks_mem (c.cap - 16) (by omega) _ _ h4
    have h6 : m.seg ≠ 0 := by omega
    exact ⟨h2, h5.1, by omega, by omega, Or.inr h3, fun h0 => absurd h0 h6⟩

theorem pieces_mt (c : Ctx) (hcap : 17 ≤ c.cap) (i : Nat) (p : Packet) (hp : p.data.length < 65536) :
    (pieces c i p).map (fun m => m.pkt.mt) = (pieceShape c.cap p.data.length).map (fun _ => p.mt) := by
  have h1 : (pieces c i p).map (fun m => m.pkt.mt) = (pieces c i p).map (fun _ => p.mt) :=
    List.map_congr_left fun m hm => by rw [(pieces_mem c hcap _ _ m hm).1]
  have h2 := congrArg List.length (pieces_shape c hcap i p hp)
  simp only [List.length_map] at h2
  rw [h1, List.map_const', List.map_const', h2]

/-! ### the state operations, field by field -/

namespace Enc

/-- the frames that `closeLast` would hand out -/
def vis (s : Enc) : List EFrame :=
  s.closed ++ (match s.cur with | none => [] | some f => if f.msgs.isEmpty then [] else [f])

theorem closeLast_none {s : Enc} (h : s.cur = none) : s.closeLast = s := by
  unfold closeLast; rw [h]

theorem closeLast_empty {s : Enc} {f : EFrame} (h : s.cur = some f) (he : f.msgs.isEmpty = true) :
    s.closeLast = { s with cur := none, seqc := (s.seqc + 65535) % 65536 } := by
  unfold closeLast; rw [h]; simp only [he, if_true]

@[simp] theorem closeLast_closed (s : Enc) : s.closeLast.closed = s.vis := by
  unfold closeLast vis
  cases s.cur with
  | none => simp
  | some f => by_cases h : f.msgs.isEmpty <;> simp [h]

@[simp] theorem closeLast_cur (s : Enc) : s.closeLast.cur = none := by
  unfold closeLast
  split
  · assumption
  · split <;> rfl

@[simp] theorem closeLast_tmpl (s : Enc) : s.closeLast.tmpl = s.tmpl := by
  unfold closeLast
  split
  · rfl
  · split <;> rfl

@[simp] theorem closeLast_curMt (s : Enc) : s.closeLast.curMt = s.curMt := by
  unfold closeLast
  split
  · rfl
  · split <;> rfl

@[simp] theorem closeLast_dev (s : Enc) : s.closeLast.dev = s.dev := by
  unfold closeLast
  split
  · rfl
  · split <;> rfl

@[simp] theorem closeLast_stream (s : Enc) : s.closeLast.stream = s.stream := by
  unfold closeLast
  split
  · rfl
  · split <;> rfl

@[simp] theorem addNew_closed (s : Enc) (p : Packet) : (s.addNew p).closed = s.vis := by
  simp [addNew]

theorem addNew_cur (s : Enc) (p : Packet) :
    ∃ q, (s.addNew p).cur =
      some ⟨(s.tmpl.getD (p.version % 256, p.mt)).1, s.dev, (s.tmpl.getD (p.version % 256, p.mt)).2, s.stream, q, []⟩ := by
  exact ⟨(s.closeLast.seqc + 1) % 65536, by simp [addNew]⟩

@[simp] theorem addNew_tmpl (s : Enc) (p : Packet) :
    (s.addNew p).tmpl = some (s.tmpl.getD (p.version % 256, p.mt)) := by
  simp [addNew]

@[simp] theorem addNew_curMt (s : Enc) (p : Packet) : (s.addNew p).curMt = s.curMt := by
  simp [addNew]

theorem addNew_isSome (s : Enc) (p : Packet) : (s.addNew p).cur.isSome := by
  obtain ⟨q, hq⟩ := addNew_cur s p
  rw [hq]; rfl

theorem left_le (c : Ctx) (s : Enc) : s.left c ≤ c.cap := by
  unfold left
  split <;> omega

@[simp] theorem addNew_left (c : Ctx) (s : Enc) (p : Packet) : (s.addNew p).left c = c.cap := by
  obtain ⟨q, hq⟩ := addNew_cur s p
  simp [left, hq, EFrame.used]

theorem add_some (s : Enc) (m : EMsg) (f : EFrame) (h : s.cur = some f) :
    s.add m = { s with cur := some { f with msgs := f.msgs ++ [m] } } := by
  simp [add, h]

theorem add_isSome (s : Enc) (m : EMsg) (h : s.cur.isSome) : (s.add m).cur.isSome := by
  cases hc : s.cur with
  | none => simp [hc] at h
  | some f => rw [add_some s m f hc]; rfl

theorem add_curMt (s : Enc) (m : EMsg) : (s.add m).curMt = s.curMt := by
  unfold add; split <;> rfl

end Enc

/-! ### `putPacket` case by case, and what every one of its steps keeps -/

/-- `setMessageType` in front of its `addNewCMPFrame`: the new type, the template dropped -/
def Enc.retype (s : Enc) (mt : Nat) : Enc := { s with curMt := mt, tmpl := none }

/-- state after the message-type check -/
def st1 (s : Enc) (p : Packet) : Enc :=
  if s.cur.isNone || s.curMt != p.mt then (s.retype p.mt).addNew p else s

/-- state after the does-it-fit check -/
def st2 (c : Ctx) (s : Enc) (p : Packet) : Enc :=
  if (st1 s p).left c < 16 + p.payloadLength then (st1 s p).addNew p else st1 s p

/-- the message-type check opens a frame of the packet's type if none is open or the type changes … -/
theorem st1_new {s : Enc} {p : Packet} (h : s.cur = none ∨ s.curMt ≠ p.mt) : st1 s p = (s.retype p.mt).addNew p := by
  unfold st1
  rw [if_pos]
  rcases h with h | h
  · rw [h]; rfl
  · simp [h]

/-- … and does nothing else -/
theorem st1_same {s : Enc} {p : Packet} {f : EFrame} (hc : s.cur = some f) (hm : s.curMt = p.mt) : st1 s p = s := by
  unfold st1
  rw [if_neg]
  simp [hc, hm]

theorem st2_left (c : Ctx) (s : Enc) (p : Packet) (h : 16 + p.payloadLength ≤ c.cap) :
    16 + p.payloadLength ≤ (st2 c s p).left c := by
  unfold st2
  split
  · rw [Enc.addNew_left]; exact h
  · omega

theorem putPacket_eqS (c : Ctx) (s : Enc) (i : Nat) (p : Packet) :
    putPacket c s (i, p) =
      if p.payloadLength = 0 then st2 c s p
      else if 16 + p.payloadLength ≤ c.cap then (st2 c s p).add ⟨i, p, 0, p.data.take p.payloadLength⟩
      else putSegs ((st1 s p).addNew p) p
        (segMsgs i p true (chunks (c.cap - 16) (p.data.take p.payloadLength))) := by
  have e1 : (if s.cur.isNone || s.curMt != p.mt then
      ({ s with curMt := p.mt, tmpl := none } : Enc).addNew p else s) = st1 s p := rfl
  simp only [putPacket, e1]
  have e2 : (if (st1 s p).left c < 16 + p.payloadLength then (st1 s p).addNew p else st1 s p) = st2 c s p := rfl
  rw [e2]
  by_cases h0 : p.payloadLength = 0
  · simp [h0]
  · rw [if_neg h0, if_neg h0]
    by_cases h1 : 16 + p.payloadLength ≤ c.cap
    · have := st2_left c s p h1
      simp [Nat.not_lt.mpr this, h1]
    · have hl := Enc.left_le c (st1 s p)
      have h2 : st2 c s p = (st1 s p).addNew p := by
        unfold st2; rw [if_pos (by omega)]
      simp [h1, h2]

/-- what opening a frame and adding a message of the packet keep, `putPacket` keeps from the message-type check on -/
theorem putPacket_keeps {P : Enc → Prop} (c : Ctx) (s : Enc) (ip : Nat × Packet)
    (hnew : ∀ s, P s → P (s.addNew ip.2)) (hadd : ∀ s m, P s → m.pkt = ip.2 ∧ m.idx = ip.1 → P (s.add m))
    (h1 : P (st1 s ip.2)) : P (putPacket c s ip) := by
  obtain ⟨i, p⟩ := ip
  have hsegs : ∀ (ms : List EMsg) (s : Enc), P s → (∀ m ∈ ms, m.pkt = p ∧ m.idx = i) → P (putSegs s p ms) := by
    intro ms
    induction ms with
    | nil => intro s h _; exact h
    | cons m ms ih =>
      intro s h hms
      exact ih _ (hnew _ (hadd _ m h (hms m (by simp)))) (fun m' hm' => hms m' (by simp [hm']))
  have h2 : P (st2 c s p) := by
    unfold st2
    split
    · exact hnew _ h1
    · exact h1
  rw [putPacket_eqS]
  split
  · exact h2
  · split
    · exact hadd _ _ h2 ⟨rfl, rfl⟩
    · exact hsegs _ _ (hnew _ h1) fun m hm => ⟨(segMsgs_mem _ _ _ _ m hm).2.1, (segMsgs_mem _ _ _ _ m hm).1⟩

theorem st1_cur (s : Enc) (p : Packet) : (st1 s p).cur.isSome := by
  unfold st1
  split
  · exact Enc.addNew_isSome _ p
  · rename_i h
    simp at h
    cases hc : s.cur with
    | none => simp [hc] at h
    | some f => rfl

theorem st2_cur (c : Ctx) (s : Enc) (p : Packet) : (st2 c s p).cur.isSome := by
  unfold st2
  split
  · exact Enc.addNew_isSome _ p
  · exact st1_cur s p

theorem st1_curMt (s : Enc) (p : Packet) : (st1 s p).curMt = p.mt := by
  unfold st1
  split
  · rw [Enc.addNew_curMt]; rfl
  · rename_i h
    simp at h
    exact h.2

theorem putPacket_cur (c : Ctx) (s : Enc) (ip : Nat × Packet) : (putPacket c s ip).cur.isSome :=
  putPacket_keeps (P := fun s => s.cur.isSome) c s ip (fun s _ => Enc.addNew_isSome s _)
    (fun s m h _ => Enc.add_isSome s m h) (st1_cur s ip.2)

/-! ### what is asked of the frames -/

/-- in a list that satisfies `P` throughout or has a single element, an element without `P` is that element: how
    `FrameOk.alone` ("a segment is alone in its frame") is used -/
theorem eq_singleton_of_alone {α : Type} {P : α → Prop} {l : List α} {m : α}
    (h : (∀ x ∈ l, P x) ∨ l.length = 1) (hm : m ∈ l) (hn : ¬ P m) : l = [m] := by
  rcases h with h | h
  · exact absurd (h m hm) hn
  · obtain ⟨a, rfl⟩ := List.length_eq_one_iff.mp h
    rw [List.mem_singleton.mp hm]

structure FrameOk (c : Ctx) (f : EFrame) : Prop where
  used : f.used ≤ c.cap
  alone : (∀ m ∈ f.msgs, m.seg = 0) ∨ f.msgs.length = 1
  mts : ∀ m ∈ f.msgs, m.pkt.mt = f.mt
  mtlt : f.mt < 256

/-- what `addNew` needs of the state it is applied to -/
structure PreOk (c : Ctx) (s : Enc) : Prop where
  closed : ∀ f ∈ s.closed, FrameOk c f ∧ f.msgs ≠ []
  cur : ∀ f, s.cur = some f → FrameOk c f
  tm : ∀ t, s.tmpl = some t → t.2 = s.curMt ∧ s.curMt < 256

/-- the first message of `f2`, if unsegmented and of the type of the segment-free `f1`, did not fit `f1` -/
def GreedyPair (c : Ctx) (f1 f2 : EFrame) : Prop :=
  ∀ m ms, f2.msgs = m :: ms → m.seg = 0 → f1.mt = f2.mt → (∀ x ∈ f1.msgs, x.seg = 0) →
    c.cap < f1.used + m.size

/-- a frame with a segment never takes a further message, so nothing is asked of its successor -/
def HasSeg (l : EFrame) : Prop := ∃ x ∈ l.msgs, x.seg ≠ 0

/-- `greedyOk` (Tile.lean) on structured frames, as a proposition -/
def GreedyE (c : Ctx) : List EFrame → Prop
  | f1 :: f2 :: rest => GreedyPair c f1 f2 ∧ GreedyE c (f2 :: rest)
  | _ => True

theorem GreedyE_snoc (c : Ctx) (g : EFrame) :
    ∀ fs, GreedyE c (fs ++ [g]) ↔ GreedyE c fs ∧ (∀ l, fs.getLast? = some l → GreedyPair c l g) := by
  intro fs
  induction fs with
  | nil => simp [GreedyE]
  | cons f1 fs ih =>
    cases fs with
    | nil => simp [GreedyE]
    | cons f2 rest =>
      have e : (f1 :: f2 :: rest) ++ [g] = f1 :: f2 :: (rest ++ [g]) := rfl
      rw [e]
      simp only [GreedyE]
      have ih' : GreedyE c (f2 :: (rest ++ [g])) ↔ _ := ih
      rw [ih']
      have : (f1 :: f2 :: rest).getLast? = (f2 :: rest).getLast? := by simp [List.getLast?_cons_cons]
      rw [this]
      exact and_assoc.symm

theorem greedyPair_of_why {c : Ctx} {l f : EFrame} {m : EMsg}
    (h : HasSeg l ∨ l.mt ≠ f.mt ∨ c.cap < l.used + m.size) (ms : List EMsg) (hf : ms = [m]) :
    GreedyPair c l { f with msgs := ms } := by
  subst hf
  intro x xs hx hs hmt hall
  simp at hx
  obtain ⟨rfl, _⟩ := hx
  rcases h with ⟨y, hy, hy'⟩ | h | h
  · exact absurd (hall y hy) hy'
  · exact absurd hmt h
  · exact h


/-! ### the `encode` call -/

/-- the state `encode` starts from -/
def Enc.start (e : Enc) : Enc := { e with closed := [], cur := none, tmpl := none }

theorem encode_frames (e : Enc) (batch : List Packet) (c : Ctx) :
    (e.encode batch c).2 = (((List.range batch.length).zip batch).foldl (putPacket c) e.start).vis := by
  simp [Enc.encode, Enc.start]

theorem zip_snd (batch : List Packet) : ((List.range batch.length).zip batch).map Prod.snd = batch :=
  List.map_snd_zip (by simp)

/-- a fact about the pieces of every packet is a fact about the batch: a function of (index, packet) that agrees
    with a function of the packet on the batch maps the indexed batch to the same list -/
theorem zip_map {β : Type} (batch : List Packet) (F : Nat × Packet → β) (G : Packet → β)
    (h : ∀ i, ∀ p ∈ batch, F (i, p) = G p) :
    ((List.range batch.length).zip batch).map F = batch.map G := by
  have : ((List.range batch.length).zip batch).map F = ((List.range batch.length).zip batch).map (G ∘ Prod.snd) :=
    List.map_congr_left fun ip hip => h ip.1 ip.2 (List.of_mem_zip hip).2
  rw [this, ← List.map_map, zip_snd]

theorem zip_flatMap {β : Type} (batch : List Packet) (F : Nat × Packet → List β) (G : Packet → List β)
    (h : ∀ i, ∀ p ∈ batch, F (i, p) = G p) :
    ((List.range batch.length).zip batch).flatMap F = batch.flatMap G := by
  rw [List.flatMap_def, zip_map batch F G h, ← List.flatMap_def]

theorem Ctx.ok_cap {c : Ctx} (hc : c.ok = true) : 17 ≤ c.cap ∧ c.cap + 8 = c.max ∧ c.min ≤ c.max := by
  simp only [Ctx.ok, Bool.and_eq_true, decide_eq_true_eq] at hc
  unfold Ctx.cap
  omega

theorem encode_nil (e : Enc) (c : Ctx) :
    (e.encode [] c).2 = [] ∧ (e.encode [] c).1.seqc = e.seqc := by
  simp [Enc.encode, Enc.closeLast]

end AsamCmp
