/-
  Symbolic words / memories against the layout table: `fieldBits` evaluates to `getField`, `expectMem` to `setField`
  (Src/BitProg.lean, Fields.lean).
-/
import AsamCmp.Lemmas.BitProgMem
namespace AsamCmp.Src.Bit
open AsamCmp AsamCmp.Src

/-! ### bits of a big-endian word -/

/-- bit `p` of the big-endian word at `off` is bit `p % 8` of the byte `p / 8` places before the word's last byte -/
theorem testBit_beAt (b : Bytes) (off w p : Nat) (h : off + w ≤ b.length) (hp : p < 8 * w) :
    (beAt b off w).testBit p = (byteAt b (off + w - 1 - p / 8)).testBit (p % 8) := by
  induction w generalizing off with
  | zero => omega
  | succ w ih =>
    rw [SrcTie.beAt_succ b off w h, C11.pow256, Nat.mul_comm,
      Nat.testBit_two_pow_mul_add _ (beAt_lt_two_pow b (off + 1) w)]
    by_cases h1 : p < 8 * w
    · rw [if_pos h1, ih (off + 1) (by omega) h1]
      congr 2
      omega
    · rw [if_neg h1]
      congr 1
      · congr 1; omega
      · omega

/-- bit `j` of byte `i` inside the word is bit `(off + w - 1 - i) * 8 + j` of the word -/
theorem testBit_byteAt_word (b : Bytes) (off w i j : Nat) (h : off + w ≤ b.length) (hi : off ≤ i ∧ i < off + w)
    (hj : j < 8) : (byteAt b i).testBit j = (beAt b off w).testBit ((off + w - 1 - i) * 8 + j) := by
  rw [testBit_beAt b off w _ h (by omega)]
  congr 1
  · congr 1; omega
  · omega

theorem bytes_ext {a b : Bytes} (hl : a.length = b.length)
    (h : ∀ i, i < a.length → ∀ j, j < 8 → (byteAt a i).testBit j = (byteAt b i).testBit j) : a = b := by
  apply List.ext_getElem hl
  intro i h1 h2
  apply UInt8.toNat.inj
  have ea : byteAt a i = a[i].toNat := by
    simp [byteAt, List.getD_eq_getElem?_getD, List.getElem?_eq_getElem h1]
  have eb : byteAt b i = b[i].toNat := by
    simp [byteAt, List.getD_eq_getElem?_getD, List.getElem?_eq_getElem h2]
  rw [← ea, ← eb]
  apply Nat.eq_of_testBit_eq
  intro j
  by_cases hj : j < 8
  · exact h i h1 j hj
  · have hp : (2 : Nat) ^ 8 ≤ 2 ^ j := Nat.pow_le_pow_right (by decide) (by omega)
    rw [Nat.testBit_lt_two_pow (Nat.lt_of_lt_of_le (byteAt_lt_256 a i) hp),
      Nat.testBit_lt_two_pow (Nat.lt_of_lt_of_le (byteAt_lt_256 b i) hp)]

theorem byteAt_eq_of_getElem? {a b : Bytes} {i : Nat} (h : a[i]? = b[i]?) : byteAt a i = byteAt b i := by
  simp only [byteAt, List.getD_eq_getElem?_getD, h]

section
variable (obj : Bytes) (args : List Nat)

/-! ### getters -/

theorem eval_fieldBits (f : Field) (hs : f.shift + f.bits ≤ 8 * f.w) (hb : f.off + f.w ≤ obj.length) :
    SWord.eval obj args (fieldBits f) = getField f obj := by
  symm
  apply eq_eval
  intro j
  rw [C11.getField_eq, C11.testBit_ext]
  unfold fieldBits
  rw [bit_map_range]
  by_cases h : j < f.bits
  · rw [if_pos h, testBit_beAt obj f.off f.w _ hb (by omega)]
    simp only [h, decide_true, Bool.true_and]
    rfl
  · rw [if_neg h]
    simp [h]

theorem trimZeros_snoc (xs : SWord) (x : SBit) :
    trimZeros (xs ++ [x]) = if x = SBit.zero then trimZeros xs else xs ++ [x] := by
  unfold trimZeros
  rw [List.reverse_append, List.reverse_singleton, List.singleton_append, List.dropWhile_cons]
  by_cases h : x = SBit.zero
  · simp [h]
  · simp [h]

theorem eval_trimZeros (w : SWord) : SWord.eval obj args (trimZeros w) = SWord.eval obj args w := by
  induction w using snocInd with
  | hnil => rfl
  | hsnoc xs x ih =>
    rw [trimZeros_snoc]
    split
    · next h =>
      subst h
      rw [ih, eval_append]
      simp [eval_cons]
    · rfl

theorem same_eval {a b : SWord} (h : SWord.same a b = true) : SWord.eval obj args a = SWord.eval obj args b := by
  unfold SWord.same at h
  have e : trimZeros a = trimZeros b := by simpa using h
  rw [← eval_trimZeros obj args a, e, eval_trimZeros]

theorem eval_ne_zero_iff (w : SWord) : SWord.eval obj args w ≠ 0 ↔ ∃ b, b ∈ w ∧ b.eval obj args = true := by
  induction w with
  | nil => simp
  | cons x w ih =>
    rw [eval_cons]
    constructor
    · intro h
      cases hx : x.eval obj args
      · rw [hx] at h
        have : SWord.eval obj args w ≠ 0 := by
          intro e; rw [e] at h; simp at h
        obtain ⟨b, hb, hb'⟩ := ih.mp this
        exact ⟨b, by simp [hb], hb'⟩
      · exact ⟨x, by simp, hx⟩
    · rintro ⟨b, hb, hb'⟩
      simp only [List.mem_cons] at hb
      rcases hb with rfl | hb
      · rw [hb']; simp
      · have := ih.mpr ⟨b, hb, hb'⟩
        split <;> omega

theorem eval_filter_ne_zero_iff (w : SWord) :
    SWord.eval obj args (w.filter (· != SBit.zero)) ≠ 0 ↔ SWord.eval obj args w ≠ 0 := by
  rw [eval_ne_zero_iff, eval_ne_zero_iff]
  constructor
  · rintro ⟨b, hb, hb'⟩
    rw [List.mem_filter] at hb
    exact ⟨b, hb.1, hb'⟩
  · rintro ⟨b, hb, hb'⟩
    refine ⟨b, ?_, hb'⟩
    rw [List.mem_filter]
    refine ⟨hb, ?_⟩
    cases b <;> simp_all [SBit.eval]

/-! ### setters -/

theorem byteAt_memEval (sm : List SWord) (i : Nat) :
    byteAt (memEval obj args sm) i = SWord.eval obj args (fit 8 (sm.getD i [])) % 256 := by
  simp only [byteAt, memEval, List.getD_eq_getElem?_getD, List.getElem?_map]
  cases sm[i]? with
  | none =>
    simp only [Option.map_none, Option.getD_none]
    rw [eval_fit]
    simp
  | some w => simp

theorem testBit_byteAt_memEval (sm : List SWord) (i j : Nat) (hj : j < 8) :
    (byteAt (memEval obj args sm) i).testBit j = (bit (sm.getD i []) j).eval obj args := by
  rw [byteAt_memEval, eval_fit]
  have e : (256 : Nat) = 2 ^ 8 := rfl
  rw [e, Nat.testBit_mod_two_pow, Nat.testBit_mod_two_pow, testBit_eval]
  simp [hj]

theorem expectMem_length (size : Nat) (f : Field) (bits : SWord) : (expectMem size f bits).length = size := by
  simp [expectMem]

theorem expectMem_bit (size : Nat) (f : Field) (bits : SWord) (i j : Nat) (hi : i < size) (hj : j < 8) :
    bit ((expectMem size f bits).getD i []) j =
      if f.off ≤ i ∧ i < f.off + f.w then
        if f.shift ≤ (f.off + f.w - 1 - i) * 8 + j ∧ (f.off + f.w - 1 - i) * 8 + j < f.shift + f.bits then
          bit bits ((f.off + f.w - 1 - i) * 8 + j - f.shift)
        else SBit.mem i j
      else SBit.mem i j := by
  have e : (expectMem size f bits).getD i [] = (List.range 8).map fun j =>
      if f.off ≤ i ∧ i < f.off + f.w then
        if f.shift ≤ (f.off + f.w - 1 - i) * 8 + j ∧ (f.off + f.w - 1 - i) * 8 + j < f.shift + f.bits then
          bits.getD ((f.off + f.w - 1 - i) * 8 + j - f.shift) SBit.zero
        else SBit.mem i j
      else SBit.mem i j := by
    simp only [expectMem, List.getD_eq_getElem?_getD, List.getElem?_map, List.getElem?_range hi, Option.map_some,
      Option.getD_some]
  rw [e, bit_map_range, if_pos hj]
  rfl

theorem testBit_byteAt_setField (f : Field) (v : Nat) (hs : f.shift + f.bits ≤ 8 * f.w)
    (hb : f.off + f.w ≤ obj.length) (hv : v < 2 ^ f.bits) (i j : Nat) (hj : j < 8) :
    (byteAt (setField f v obj) i).testBit j =
      if f.off ≤ i ∧ i < f.off + f.w then
        if f.shift ≤ (f.off + f.w - 1 - i) * 8 + j ∧ (f.off + f.w - 1 - i) * 8 + j < f.shift + f.bits then
          v.testBit ((f.off + f.w - 1 - i) * 8 + j - f.shift)
        else (byteAt obj i).testBit j
      else (byteAt obj i).testBit j := by
  by_cases hi : f.off ≤ i ∧ i < f.off + f.w
  · rw [if_pos hi, testBit_byteAt_word _ f.off f.w i j (by rw [C11.length_setField v hb]; exact hb) hi hj,
      C11.beAt_setField_same hs hb hv, C11.testBit_upd _ hv, testBit_byteAt_word obj f.off f.w i j hb hi hj]
  · rw [if_neg hi, byteAt_eq_of_getElem? (C11.getElem?_setField_out v hb (by omega))]

/-- the expected symbolic memory of a setter stands for `setField` -/
theorem memEval_expectMem (size : Nat) (f : Field) (bits : SWord) (hfit : f.fits size = true)
    (hobj : obj.length = size) (hv : SWord.eval obj args bits < 2 ^ f.bits) :
    memEval obj args (expectMem size f bits) = setField f (SWord.eval obj args bits) obj := by
  unfold Field.fits at hfit
  simp only [Bool.and_eq_true, decide_eq_true_eq] at hfit
  obtain ⟨⟨hs, hb⟩, _⟩ := hfit
  have hb' : f.off + f.w ≤ obj.length := by omega
  apply bytes_ext
  · rw [memEval_length, expectMem_length, C11.length_setField _ hb', hobj]
  · intro i hi j hj
    rw [memEval_length, expectMem_length] at hi
    rw [testBit_byteAt_memEval _ _ _ _ _ hj, expectMem_bit size f bits i j hi hj,
      testBit_byteAt_setField obj f _ hs hb' hv i j hj]
    split
    · split
      · rw [testBit_eval]
      · rfl
    · rfl

end

end AsamCmp.Src.Bit
