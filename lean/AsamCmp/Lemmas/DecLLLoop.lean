/-
  The message loop of the low-level decoder model against `walk` + `localStep`.
-/
import AsamCmp.Lemmas.DecLLMsg
namespace AsamCmp.C17b
open AsamCmp

/-- the non-first-segment branch of the loop body -/
def segBlock (k : Ep) (r : Bytes) (ver mt seq : Nat) (t : Table) (acc : List Packet) : Table × List Packet :=
  let (t, sp) := t.index k
  let (sp', ok) := sp.addSegment r ver mt seq
  if !ok then (t.erase k, acc)
  else
    let t := t.set k sp'
    let (t, sp2) := t.index k
    if sp2.segType = 12 then
      let p := tagPacket k sp2.ver sp2.getPacket
      (t.erase k, acc ++ [{ p with version := sp2.ver }])
    else (t, acc)

theorem loop_zero_cur (b : Bytes) (dev stream ver mt seq fuel : Nat) (t : Table) (pos : Nat) (acc : List Packet) :
    decodeLoopLL b dev stream ver mt seq fuel t pos 0 acc = (t, acc) := by
  cases fuel with
  | zero => rfl
  | succ fuel => unfold decodeLoopLL; rfl

theorem loop_succ (b : Bytes) (dev stream ver mt seq fuel : Nat) (t : Table) (pos cur : Nat)
    (acc : List Packet) (hc : cur ≠ 0) :
    decodeLoopLL b dev stream ver mt seq (fuel + 1) t pos cur acc =
      if !msgValid (slice b pos cur) then (t.erase (dev, stream), acc)
      else if (byteAt (slice b pos cur) 12 &&& 0x0C) = 0 then
        decodeLoopLL b dev stream ver mt seq fuel (t.erase (dev, stream))
          (pos + ((tagPacket (dev, stream) ver (Packet.ofMsg mt (slice b pos cur))).payloadLength + 16))
          (cur - ((tagPacket (dev, stream) ver (Packet.ofMsg mt (slice b pos cur))).payloadLength + 16))
          (acc ++ [tagPacket (dev, stream) ver (Packet.ofMsg mt (slice b pos cur))])
      else if (byteAt (slice b pos cur) 12 &&& 0x0C) = 4 then
        (t.set (dev, stream) (SegPkt.first (slice b pos cur) ver mt seq), acc)
      else segBlock (dev, stream) (slice b pos cur) ver mt seq t acc := by
  rw [decodeLoopLL, if_neg hc]
  rfl

/-! ### the non-first-segment branch -/

/-- the low-level result `res`, computed from table `t` with `acc` already delivered, is the model's
    result `ls` for endpoint `k`: same packets behind `acc`, the table's function view is the model's
    state with `k` updated, and the table invariant holds -/
@[reducible] def Matches (k : Ep) (t : Table) (acc : List Packet) (res : Table × List Packet)
    (ls : Option Pending × List Packet) : Prop :=
  res.2 = acc ++ ls.2 ∧ res.1.abs = t.abs.set k ls.1 ∧ Ok res.1

/-- `addSegment` rejects: the entry is erased -/
theorem segBlock_reject (k : Ep) (r : Bytes) (ver mt seq : Nat) (t t' : Table) (sp sp' : SegPkt)
    (acc : List Packet) (hi : t.index k = (t', sp)) (ha : sp.addSegment r ver mt seq = (sp', false)) :
    segBlock k r ver mt seq t acc = (t'.erase k, acc) := by
  unfold segBlock
  rw [hi]
  dsimp only
  rw [ha]
  rfl

/-- `addSegment` accepts: the grown entry is stored; a last segment is delivered and the entry erased -/
theorem segBlock_accept (k : Ep) (r : Bytes) (ver mt seq : Nat) (t t' : Table) (sp sp' : SegPkt)
    (acc : List Packet) (hi : t.index k = (t', sp)) (ha : sp.addSegment r ver mt seq = (sp', true)) :
    segBlock k r ver mt seq t acc =
      if sp'.segType = 12 then
        (t'.erase k, acc ++ [{ tagPacket k sp'.ver sp'.getPacket with version := sp'.ver }])
      else (t'.set k sp', acc) := by
  unfold segBlock
  rw [hi]
  dsimp only
  rw [ha]
  dsimp only
  rw [index_some _ k _ (find_set_same t' k sp'), erase_set]
  rfl

theorem segBlock_spec (k : Ep) (r : Bytes) (ver mt seq : Nat) (t : Table) (acc : List Packet)
    (hok : Ok t) (hv : msgValid r = true) (hver : ver ≠ 0) (h4 : byteAt r 12 &&& 0x0C ≠ 4) :
    Matches k t acc (segBlock k r ver mt seq t acc)
      (localStep (t.abs k) ⟨k, ver, mt, seq, [], .seg (r.take (16 + beAt r 14 2))⟩) := by
  have hst := segTypeOf_take r (beAt r 14 2)
  have h4' : segTypeOf (r.take (16 + beAt r 14 2)) ≠ 4 := by rw [hst]; exact h4
  rw [abs_apply]
  cases hf : t.find k with
  | none =>
    -- `operator[]` inserts a default entry, which `addSegment` rejects
    rw [segBlock_reject k r ver mt seq t _ _ _ acc (index_none t k hf) (addSegment_default r ver mt seq hver),
      erase_set, Option.map_none,
      localStep_abort none ⟨k, ver, mt, seq, [], .seg _⟩ _ rfl h4' (fun q hq => by cases hq)]
    exact ⟨by simp, abs_erase t k, ok_erase t k hok⟩
  | some sp =>
    have hg := ok_find t k sp hok hf
    have hidx := index_some t k sp hf
    have hadd := addSegment_spec sp r ver mt seq hg hv
    by_cases hc : sp.ver = ver ∧ sp.mt = mt ∧ seq = (sp.seq + 1) % 65536 ∧
        validNext sp.segType (byteAt r 12 &&& 0x0C) = true
    · rw [if_pos hc] at hadd
      rw [segBlock_accept k r ver mt seq t t sp _ acc hidx hadd, Option.map_some,
        localStep_cont (absP sp) ⟨k, ver, mt, seq, [], .seg _⟩ _ rfl h4' rfl ⟨hc.1, hc.2.1, hc.2.2.1, by rw [hst]; exact hc.2.2.2⟩,
        hst, take_drop_slice]
      by_cases h12 : byteAt r 12 &&& 0x0C = 12
      · rw [if_pos h12, if_pos h12]
        exact ⟨rfl, abs_erase t k, ok_erase t k hok⟩
      · rw [if_neg h12, if_neg h12]
        refine ⟨by simp, ?_, ?_⟩
        · rw [abs_set]; rfl
        · apply ok_set t k _ hok
          refine ⟨?_, by rw [fixLen_append_length _ _ hg.2]; exact Nat.le_add_right_of_le hg.2⟩
          rcases (validNext_after_segment _ _ hg.1).mp hc.2.2.2 with h | h
          · exact Or.inr h
          · exact absurd h h12
    · rw [if_neg hc] at hadd
      rw [segBlock_reject k r ver mt seq t t sp sp acc hidx hadd, Option.map_some,
        localStep_abort (some (absP sp)) ⟨k, ver, mt, seq, [], .seg _⟩ _ rfl h4' (fun q hq _ hq' => by
          cases hq; exact hc ⟨hq'.1, hq'.2.1, hq'.2.2.1, by rw [← hst]; exact hq'.2.2.2⟩)]
      exact ⟨by simp, abs_erase t k, ok_erase t k hok⟩

/-! ### the loop against `walk` + `localStep` -/

theorem loop_spec (b : Bytes) (dev stream ver mt seq : Nat) (hver : ver ≠ 0) :
    ∀ (fuel : Nat) (t : Table) (pos : Nat) (acc : List Packet) (r : Bytes),
      b.drop pos = r → r ≠ [] → r.length < 16 * fuel → Ok t →
      Matches (dev, stream) t acc (decodeLoopLL b dev stream ver mt seq fuel t pos r.length acc)
        (localStep (t.abs (dev, stream)) ⟨(dev, stream), ver, mt, seq,
          (walk (dev, stream) ver mt r).1, (walk (dev, stream) ver mt r).2⟩) := by
  intro fuel
  induction fuel with
  | zero => intro t pos acc r _ _ hf _; omega
  | succ fuel ih =>
    intro t pos acc r hr hne hfuel hok
    have hlen0 : r.length ≠ 0 := fun h => hne (List.eq_nil_of_length_eq_zero h)
    have hslice : slice b pos r.length = r := by
      unfold slice; rw [hr, List.take_length]
    rw [loop_succ _ _ _ _ _ _ _ _ _ _ _ hlen0, hslice]
    by_cases hv : msgValid r = true
    · have hb := msgValid_bound r hv
      rw [if_neg (by simp [hv])]
      by_cases h0 : byteAt r 12 &&& 0x0C = 0
      · -- an unsegmented message: delivered, entry erased, the loop goes on behind it
        rw [if_pos h0, walk_unseg_eq _ _ _ r hv h0, localStep_cons, ofMsg_payloadLength _ _ _ r hv]
        have hdrop : b.drop (pos + (beAt r 14 2 + 16)) = r.drop (16 + beAt r 14 2) := by
          rw [← hr, List.drop_drop]; congr 1; omega
        have hrl : r.length - (beAt r 14 2 + 16) = (r.drop (16 + beAt r 14 2)).length := by
          rw [List.length_drop]; omega
        rw [hrl]
        have hnone : (t.erase (dev, stream)).abs (dev, stream) = none := by
          rw [abs_apply, find_erase_same]; rfl
        by_cases hrest : r.drop (16 + beAt r 14 2) = []
        · rw [hrest, List.length_nil, loop_zero_cur, walk_nil_eq, localStep_noseg none _ (fun m hm => by cases hm)]
          exact ⟨rfl, abs_erase t _, ok_erase t _ hok⟩
        · have hih := ih (t.erase (dev, stream)) (pos + (beAt r 14 2 + 16))
            (acc ++ [tagPacket (dev, stream) ver (Packet.ofMsg mt r)]) (r.drop (16 + beAt r 14 2)) hdrop hrest
            (by rw [List.length_drop]; omega) (ok_erase t _ hok)
          rw [hnone] at hih
          obtain ⟨h1, h2, h3⟩ := hih
          refine ⟨?_, ?_, h3⟩
          · rw [h1, List.append_assoc]; rfl
          · rw [h2, abs_erase, set_set]
      · rw [if_neg h0, walk_seg_eq _ _ _ r hv h0]
        by_cases h4 : byteAt r 12 &&& 0x0C = 4
        · -- a first segment: the entry is (re)assigned
          rw [if_pos h4, localStep_first _ ⟨_, _, _, _, _, .seg _⟩ _ rfl (by rw [segTypeOf_take]; exact h4)]
          have hmin : Nat.min r.length (16 + beAt r 14 2) = 16 + beAt r 14 2 := Nat.min_eq_right hb
          refine ⟨by simp, ?_, ?_⟩
          · rw [abs_set]
            simp only [absP, SegPkt.first, hmin]
          · apply ok_set t _ _ hok
            refine ⟨Or.inl rfl, ?_⟩
            simp only [SegPkt.first, hmin, List.length_take]
            omega
        · rw [if_neg h4]
          exact segBlock_spec _ r ver mt seq t acc hok hv hver h4
    · -- an invalid message ends the walk and releases the entry
      have hv' : msgValid r = false := by simpa using hv
      rw [if_pos (by simp [hv']), walk_invalid_eq _ _ _ r hlen0 hv']
      exact ⟨by simp [localStep], by rw [abs_erase]; rfl, ok_erase t _ hok⟩

/-! ### one call of `decode` -/

theorem decodeLL_spec (t : Table) (buf : Option Bytes) (h : Ok t) :
    Ok (decodeLL t buf).1 ∧
    (decodeLL t buf).1.abs = (decode t.abs buf).1 ∧
    (decodeLL t buf).2 = (decode t.abs buf).2 := by
  rcases decodeWith_cases tecmpDecode buf with ⟨rfl | ⟨b, rfl, h8⟩, _, hd⟩ | ⟨b, rfl, h8, h0, _, hd⟩ |
    ⟨b, rfl, h8, h0, _, hd⟩ <;> rw [decode, hd]
  · exact ⟨h, rfl, rfl⟩
  · rw [decodeLL, if_pos h8]; exact ⟨h, rfl, rfl⟩
  · rw [decodeLL, if_neg (by omega), if_pos h0]; exact ⟨h, rfl, rfl⟩
  · rw [decodeLL, if_neg (by omega), if_neg h0]
    by_cases hc : b.length - 8 = 0
    · -- a header-only frame releases its endpoint
      have hnil : b.drop 8 = [] := List.drop_eq_nil_of_le (by omega)
      simp only [hc, if_true, loop_zero_cur, step, parseFrame, hnil, walk_nil_eq]
      exact ⟨ok_erase t _ h, abs_erase t _, rfl⟩
    · simp only [hc, if_false]
      have hlen : (b.drop 8).length = b.length - 8 := by simp
      have hne : b.drop 8 ≠ [] := fun hn => hc (by rw [← hlen, hn]; rfl)
      have hspec := loop_spec b (beAt b 2 2) (byteAt b 5) (byteAt b 0) (byteAt b 4) (beAt b 6 2) h0
        ((b.length - 8) / 16 + 2) t 8 [] (b.drop 8) rfl hne (by rw [hlen]; omega) h
      rw [hlen] at hspec
      obtain ⟨h1, h2, h3⟩ := hspec
      exact ⟨h3, h2, by rw [h1]; rfl⟩

end AsamCmp.C17b
