/-
  Source-level `Packet::getRawCmpHeader` / `getRawMessageHeader`: what each translated header setter stores where (multi-byte
  members byte-swapped, i.e. big-endian), writes into a zero-initialised local object that leave gaps, and the flag byte of
  the message header.
-/
import AsamCmp.GeneratedSrcObj
import AsamCmp.Lemmas.SrcBuilders
set_option linter.unusedSimpArgs false
namespace AsamCmp.SrcEnc
open AsamCmp AsamCmp.Src AsamCmp.SrcGen AsamCmp.SrcTie

/-- the flag byte of the message header: the packet's flags with the segment bits taken from the flags themselves -/
theorem flags_byte (f : Nat) (h : f < 256) : (f % 256 &&& 0xF3) ||| (f &&& 0x0C) = f := by
  rw [Nat.mod_eq_of_lt h, ← Nat.and_or_distrib_left]
  have e : (0xF3 ||| 0x0C : Nat) = 2 ^ 8 - 1 := by decide
  rw [e, Nat.and_two_pow_sub_one_eq_mod]
  exact Nat.mod_eq_of_lt h

/-! ### writes into a local header object -/

/-- a write behind a write, the bytes between them untouched -/
theorem writeAt_writeAt_gap (l : Bytes) (p q : Nat) (u v : Bytes) (hq : p + u.length < q) (h : q + v.length ≤ l.length) :
    writeAt (writeAt l p u) q v = writeAt l p (u ++ slice l (p + u.length) (q - (p + u.length)) ++ v) := by
  obtain ⟨g, rfl⟩ : ∃ g, q = p + u.length + g := ⟨q - (p + u.length), by omega⟩
  have hg := slice_length_of_le l (p + u.length) g (by omega)
  have hs : slice l (p + u.length) g ++ l.drop (p + u.length + g) = l.drop (p + u.length) := by
    have e : l.drop (p + u.length + g) = (l.drop (p + u.length)).drop g := List.drop_drop.symm
    unfold slice; rw [e, List.take_append_drop]
  -- writing the untouched bytes along with `u` changes nothing, and makes the second write adjacent
  have e : writeAt l p u = writeAt l p (u ++ slice l (p + u.length) g) := by
    unfold writeAt
    rw [List.length_append, hg, ← Nat.add_assoc]
    simp only [List.append_assoc, hs]
  rw [Nat.add_sub_cancel_left, e]
  exact writeAt_writeAt_adj l p _ _ _ (by rw [List.length_append, hg]; omega) h

theorem slice_zeros (n a k : Nat) (h : a + k ≤ n) : slice (zeros n) a k = zeros k := by
  unfold slice zeros
  rw [List.drop_replicate, List.take_replicate]
  congr 1; omega

theorem slice_cons_succ (x : UInt8) (l : Bytes) (a k : Nat) : slice (x :: l) (a + 1) k = slice l a k := rfl

theorem takeExact_all (b : Bytes) (n : Nat) (h : n = b.length) : takeExact b n = some b := by
  subst h; unfold takeExact; rw [if_pos (Nat.le_refl _), List.take_length]

/-- copying out an object all of whose bytes were written -/
theorem takeExact_writeAt_all (l w : Bytes) (n : Nat) (hl : l.length = n) (hw : w.length = n) :
    takeExact (writeAt l 0 w) n = some w := by
  rw [writeAt_to_end l 0 w (by omega), List.take_zero, List.nil_append]
  exact takeExact_all w n hw.symm

/-! ### the header setters: each stores its argument at the member's offset, multi-byte members big-endian -/

section
variable (m : Bytes) (a v : Nat)

theorem CmpHeader_setVersion_eq (h : a + 1 ≤ m.length) :
    CmpHeader_setVersion m a v = some (writeAt m a [UInt8.ofNat v]) := by
  bld_norm [CmpHeader_setVersion]

theorem CmpHeader_setDeviceId_eq (h : a + 4 ≤ m.length) :
    CmpHeader_setDeviceId m a v = some (writeAt m (a + 2) (beEnc 2 v)) := by
  bld_norm [CmpHeader_setDeviceId]

theorem CmpHeader_setMessageType_eq (h : a + 5 ≤ m.length) :
    CmpHeader_setMessageType m a v = some (writeAt m (a + 4) [UInt8.ofNat v]) := by
  bld_calls [CmpHeader_setMessageType]

theorem CmpHeader_setStreamId_eq (h : a + 6 ≤ m.length) :
    CmpHeader_setStreamId m a v = some (writeAt m (a + 5) [UInt8.ofNat v]) := by
  bld_norm [CmpHeader_setStreamId]

theorem CmpHeader_setSequenceCounter_eq (h : a + 8 ≤ m.length) :
    CmpHeader_setSequenceCounter m a v = some (writeAt m (a + 6) (beEnc 2 v)) := by
  bld_norm [CmpHeader_setSequenceCounter]

theorem MessageHeader_setTimestamp_eq (h : a + 8 ≤ m.length) :
    MessageHeader_setTimestamp m a v = some (writeAt m a (beEnc 8 v)) := by
  bld_norm [MessageHeader_setTimestamp, swap64_rev, leEnc_beDec_leEnc]

theorem MessageHeader_setInterfaceId_eq (h : a + 12 ≤ m.length) :
    MessageHeader_setInterfaceId m a v = some (writeAt m (a + 8) (beEnc 4 v)) := by
  bld_norm [MessageHeader_setInterfaceId, swap32_rev, leEnc_beDec_leEnc]

theorem MessageHeader_setVendorId_eq (h : a + 12 ≤ m.length) :
    MessageHeader_setVendorId m a v = some (writeAt m (a + 10) (beEnc 2 v)) := by
  bld_norm [MessageHeader_setVendorId, Nat.add_assoc]

theorem MessageHeader_setCommonFlags_eq (h : a + 13 ≤ m.length) :
    MessageHeader_setCommonFlags m a v = some (writeAt m (a + 12) [UInt8.ofNat v]) := by
  bld_norm [MessageHeader_setCommonFlags]

theorem MessageHeader_setPayloadType_eq (h : a + 14 ≤ m.length) :
    MessageHeader_setPayloadType m a v = some (writeAt m (a + 13) [UInt8.ofNat v]) := by
  bld_norm [MessageHeader_setPayloadType]

theorem MessageHeader_setPayloadLength_eq (h : a + 16 ≤ m.length) :
    MessageHeader_setPayloadLength m a v = some (writeAt m (a + 14) (beEnc 2 v)) := by
  bld_norm [MessageHeader_setPayloadLength]

end

end AsamCmp.SrcEnc
