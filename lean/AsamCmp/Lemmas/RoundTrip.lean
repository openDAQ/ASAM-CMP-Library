/-
  C01, layer 2: the frames of one `encode` call, decoded by the single-endpoint automaton,
  give back the packets of the batch.
-/
import AsamCmp.Lemmas.WalkBytes
import AsamCmp.Lemmas.EncStruct
import AsamCmp.Props.C05
import AsamCmp.Props.C07
import AsamCmp.Props.C09
import AsamCmp.Props.C10
namespace AsamCmp.C01
open AsamCmp

/-- the packet the decoder delivers for `p` (flags still carry the segment bits `seg`) -/
def dec (dev stream v : Nat) (p : Packet) (seg : Nat) : Packet :=
  tagPacket (dev, stream) v (obsRaw p seg)

/-- a message the decoder can take: well-formed packet, body within the 16-bit length field, a segment type of the
    protocol, and an unsegmented message carries the whole payload -/
structure MsgOk (m : EMsg) : Prop where
  wf : m.pkt.WF
  len : m.body.length < 65536
  seg : m.seg = 0 ∨ m.seg = 4 ∨ m.seg = 8 ∨ m.seg = 12
  whole : m.seg = 0 → m.body = m.pkt.data

/-- a frame as the encoder emits it: the endpoint's header, at least one message, a segment alone in its frame, every
    message of the frame's message type -/
structure FrOk (dev stream v : Nat) (f : EFrame) : Prop extends HdrOk dev stream v f where
  ne : f.msgs ≠ []
  alone : (∀ m ∈ f.msgs, m.seg = 0) ∨ f.msgs.length = 1
  mts : ∀ m ∈ f.msgs, m.pkt.mt = f.mt
  msgs : ∀ m ∈ f.msgs, MsgOk m

/-- consecutive sequence counters modulo 2^16 -/
def Chain : List EFrame → Prop
  | f1 :: f2 :: r => f2.seq = (f1.seq + 1) % 65536 ∧ Chain (f2 :: r)
  | _ => True

/-- the frames of one `encode` call, as far as the decoder depends on them -/
def GoodL (dev stream v : Nat) (fs : List EFrame) : Prop :=
  (∀ f ∈ fs, FrOk dev stream v f) ∧ Chain fs

theorem Chain.tail {f : EFrame} {fs : List EFrame} (h : Chain (f :: fs)) : Chain fs := by
  cases fs with
  | nil => trivial
  | cons g r => exact h.2

theorem GoodL.tail {dev stream v : Nat} {f : EFrame} {fs : List EFrame} (h : GoodL dev stream v (f :: fs)) :
    GoodL dev stream v fs :=
  ⟨fun g hg => h.1 g (by simp [hg]), h.2.tail⟩

theorem GoodL.dropMsg {dev stream v : Nat} {f : EFrame} {fs : List EFrame} {m : EMsg} {ms : List EMsg}
    (h : GoodL dev stream v (f :: fs)) (hm : f.msgs = m :: ms) (hall : ∀ x ∈ f.msgs, x.seg = 0)
    (hne : ms ≠ []) : GoodL dev stream v ({ f with msgs := ms } :: fs) := by
  have hf := h.1 f (by simp)
  refine ⟨?_, ?_⟩
  · intro g hg
    rcases List.mem_cons.mp hg with hg | hg
    · subst hg
      have hsub : ∀ x ∈ ms, x ∈ f.msgs := fun x hx => by rw [hm]; simp [hx]
      exact ⟨⟨hf.dev, hf.stream, hf.ver, hf.seq, hf.mt⟩, hne, Or.inl (fun x hx => hall x (hsub x hx)),
        fun x hx => hf.mts x (hsub x hx), fun x hx => hf.msgs x (hsub x hx)⟩
    · exact h.1 g (by simp [hg])
  · cases fs with
    | nil => trivial
    | cons g r => exact h.2

theorem flat_cons {dev stream v : Nat} {fs : List EFrame} {m : EMsg} {rest : List EMsg}
    (h : GoodL dev stream v fs) (hflat : fs.flatMap (·.msgs) = m :: rest) :
    ∃ f fs' ms, fs = f :: fs' ∧ f.msgs = m :: ms ∧ rest = ms ++ fs'.flatMap (·.msgs) := by
  cases fs with
  | nil => simp at hflat
  | cons f fs' =>
    have hf := h.1 f (by simp)
    cases hm : f.msgs with
    | nil => exact absurd hm hf.ne
    | cons a ms =>
      simp only [List.flatMap_cons, hm, List.cons_append, List.cons.injEq] at hflat
      obtain ⟨rfl, hr⟩ := hflat
      exact ⟨f, fs', ms, rfl, hm, hr.symm⟩

theorem head_unseg {dev stream v : Nat} {f : EFrame} {m : EMsg} {ms : List EMsg}
    (hf : FrOk dev stream v f) (hm : f.msgs = m :: ms) (hs : m.seg = 0) : ∀ x ∈ f.msgs, x.seg = 0 := by
  rcases hf.alone with h | h
  · exact h
  · rw [hm] at h ⊢
    simp at h
    subst h
    intro x hx
    simp at hx
    subst hx
    exact hs

theorem head_seg {dev stream v : Nat} {f : EFrame} {m : EMsg} {ms : List EMsg}
    (hf : FrOk dev stream v f) (hm : f.msgs = m :: ms) (hs : m.seg ≠ 0) : ms = [] := by
  rcases hf.alone with h | h
  · exact absurd (h m (by rw [hm]; simp)) hs
  · rw [hm] at h
    simpa using h

theorem segTypeOf_hdr (p : Packet) (seg len : Nat) (hs : seg = 0 ∨ seg = 4 ∨ seg = 8 ∨ seg = 12) :
    segTypeOf (msgHeader p seg len) = seg := by
  have := msgHeader_segBits p len [] hs
  rwa [List.append_nil] at this

section steps
variable {dev stream v : Nat} (min : Nat) (hdev : dev < 65536) (hstream : stream < 256) (hv : v < 256)
include hdev hstream hv

/-- the decoder's view of a serialised frame -/
abbrev PF (min : Nat) (f : EFrame) : PFrame := parseFrame (EFrame.bytes min f)

theorem step_unseg (st : Option Pending) (f : EFrame) (hf : FrOk dev stream v f)
    (hall : ∀ m ∈ f.msgs, m.seg = 0) :
    localStep st (PF min f) = (none, f.msgs.map (fun m => dec dev stream v m.pkt 0)) := by
  obtain ⟨t, ht, hp⟩ := parse_unseg min f hf.toHdrOk hdev hstream hv
    (fun m hm => ⟨(hf.msgs m hm).wf, hf.mts m hm, hall m hm, (hf.msgs m hm).whole (hall m hm)⟩)
  unfold PF
  rw [hp]
  rcases ht with rfl | rfl <;> simp [localStep, dec]

end steps
/-- which segment bits the delivered packet of `p` carries -/
def segOf (c : Ctx) (p : Packet) : Nat := if 16 + p.payloadLength ≤ c.cap then 0 else 4

theorem wf_plen {p : Packet} (h : p.WF) : p.payloadLength = p.data.length := by
  rw [payloadLength_eq]; exact Nat.mod_eq_of_lt (by have := (wf_data h).2; omega)

/-- the pieces of a well-formed packet: the whole payload in one message if it fits, otherwise its chunks as segments -/
theorem pieces_eq (c : Ctx) (i : Nat) (p : Packet) (hp : p.WF) :
    pieces c i p = if 16 + p.data.length ≤ c.cap then [⟨i, p, 0, p.data⟩]
      else segMsgs i p true (chunks (c.cap - 16) p.data) := by
  have hd := wf_data hp
  unfold pieces
  rw [wf_plen hp, List.take_length, if_neg (by omega)]

/-- header and declared body of a segment message, as a `SegMsg` lists its segments -/
def segPair (m : EMsg) : Bytes × Bytes := (msgHeader m.pkt m.seg m.body.length, m.body)

theorem segMsgs_false_snoc (i : Nat) (p : Packet) (l : Bytes) : ∀ (init : List Bytes),
    segMsgs i p false (init ++ [l]) = init.map (fun x => ⟨i, p, 8, x⟩) ++ [⟨i, p, 12, l⟩]
  | [] => rfl
  | x :: xs => by
    rw [List.cons_append, segMsgs_false_cons _ _ _ _ (by simp), segMsgs_false_snoc i p l xs]
    rfl

theorem chunks_split (n : Nat) (d : Bytes) (hn : 0 < n) (hd : n < d.length) :
    ∃ c0 init l, chunks n d = c0 :: (init ++ [l]) ∧ c0 ++ (init ++ [l]).flatten = d := by
  have hne : d ≠ [] := fun e => by rw [e] at hd; exact absurd hd (Nat.not_lt_zero _)
  have hdrop : d.drop n ≠ [] := fun e => by
    have := congrArg List.length e
    rw [List.length_drop, List.length_nil] at this
    omega
  rcases List.eq_nil_or_concat (chunks n (d.drop n)) with h | ⟨init, l, h⟩
  · exact absurd h (chunks_ne_nil n hn _ hdrop)
  · refine ⟨d.take n, init, l, by rw [chunks_cons n d hn hne, h, List.concat_eq_append], ?_⟩
    rw [← List.concat_eq_append, ← h, chunks_flatten n hn, List.take_append_drop]

section segMsgOf
variable (ep : Ep) (v i : Nat) (p : Packet) (seq0 : Nat) (c0 : Bytes) (init : List Bytes) (l : Bytes)

/-- the segments of packet `p` cut into the chunks `c0 :: init ++ [l]`, as a segmented message in the sense of C05 -/
def segMsgOf : SegMsg :=
  ⟨ep, v, p.mt, seq0, segPair ⟨i, p, 4, c0⟩, init.map (fun x => segPair ⟨i, p, 8, x⟩), segPair ⟨i, p, 12, l⟩⟩

theorem segMsgOf_segs :
    (segMsgOf ep v i p seq0 c0 init l).segs = (segMsgs i p true (c0 :: (init ++ [l]))).map segPair := by
  show _ = (⟨i, p, 4, c0⟩ :: segMsgs i p false (init ++ [l])).map segPair
  rw [segMsgs_false_snoc]
  simp only [SegMsg.segs, segMsgOf, List.map_cons, List.map_append, List.map_map, List.map_nil]
  rfl

theorem segMsgOf_wf :
    (segMsgOf ep v i p seq0 c0 init l).WF := by
  refine ⟨?_, segTypeOf_hdr p 4 _ (by simp), ?_, segTypeOf_hdr p 12 _ (by simp)⟩
  · intro s hs
    rw [segMsgOf_segs] at hs
    obtain ⟨m, _, rfl⟩ := List.mem_map.mp hs
    exact msgHeader_length ..
  · intro s hs
    obtain ⟨x, _, rfl⟩ := List.mem_map.mp hs
    exact segTypeOf_hdr p 8 _ (by simp)

theorem segMsgOf_body :
    (segMsgOf ep v i p seq0 c0 init l).body = c0 ++ (init ++ [l]).flatten := by
  rw [SegMsg.body, segMsgOf_segs, List.map_map]
  exact congrArg List.flatten (segMsgs_body i p true _)

end segMsgOf

section align
variable {dev stream v : Nat} (min : Nat) (hdev : dev < 65536) (hstream : stream < 256) (hv : v < 256)
include hdev hstream hv

theorem seg_front (m : EMsg) (hseg : m.seg ≠ 0) (rest : List EMsg)
    (fs : List EFrame) (hg : GoodL dev stream v fs) (hflat : fs.flatMap (·.msgs) = m :: rest) :
    ∃ f fs', fs = f :: fs' ∧ fs'.flatMap (·.msgs) = rest ∧
      ∀ (M : SegMsg) k, M.ep = (dev, stream) → M.ver = v → M.mt = m.pkt.mt → f.seq = (M.seq0 + k) % 65536 →
        PF min f = M.mkFrame k (msgHeader m.pkt m.seg m.body.length, m.body) := by
  obtain ⟨f, fs', ms, rfl, hm, hrest⟩ := flat_cons hg hflat
  have hf := hg.1 f (by simp)
  have hms : ms = [] := head_seg hf hm hseg
  subst hms
  refine ⟨f, fs', rfl, by simpa using hrest.symm, ?_⟩
  intro M k hep hver hmt hk
  have hmo := hf.msgs m (by rw [hm]; simp)
  have hfmt : M.mt = f.mt := by
    rw [hmt]; exact hf.mts m (by rw [hm]; simp)
  -- a segment frame, parsed, is the frame C05 calls `mkFrame`
  unfold PF
  rw [parse_seg min f hf.toHdrOk hdev hstream hv m hm hmo.wf hmo.len (by have := hmo.seg; omega)]
  simp [SegMsg.mkFrame, hep, hver, hfmt, hk, EMsg.bytes]

/-- segment messages at the head of the flattened list sit one per frame: parsed, these frames are the frames
    `k, k + 1, …` of any segmented message `M` with the endpoint's ids whose counter fits the first of them -/
theorem segs_frames (M : SegMsg) (hep : M.ep = (dev, stream)) (hver : M.ver = v) (rest : List EMsg) :
    ∀ (ms : List EMsg), (∀ m ∈ ms, m.seg ≠ 0 ∧ M.mt = m.pkt.mt) → ∀ (fs : List EFrame) (k : Nat),
      GoodL dev stream v fs → fs.flatMap (·.msgs) = ms ++ rest →
      (∀ f fs', fs = f :: fs' → f.seq = (M.seq0 + k) % 65536) →
      ∃ fs', GoodL dev stream v fs' ∧ fs'.flatMap (·.msgs) = rest ∧
        fs.map (PF min) = M.framesFrom k (ms.map segPair) ++ fs'.map (PF min) := by
  intro ms
  induction ms with
  | nil => intro _ fs k hg hflat _; exact ⟨fs, hg, hflat, rfl⟩
  | cons m ms ih =>
    intro hms fs k hg hflat hseq
    obtain ⟨hm0, hmt⟩ := hms m (List.mem_cons_self ..)
    obtain ⟨f, fs1, rfl, hrest, hp⟩ := seg_front min hdev hstream hv m hm0 _ fs hg hflat
    have hk := hseq f fs1 rfl
    obtain ⟨fs', hg', hflat', hmap⟩ := ih (fun x hx => hms x (List.mem_cons_of_mem _ hx)) fs1 (k + 1) hg.tail hrest (by
      rintro g r rfl
      rw [hg.2.1, hk]; omega)
    refine ⟨fs', hg', hflat', ?_⟩
    rw [List.map_cons, List.map_cons, SegMsg.framesFrom, hp M k hep hver hmt hk, hmap]
    rfl

theorem decode_aligned (c : Ctx) (hcap : 17 ≤ c.cap) :
    ∀ (ib : List (Nat × Packet)), (∀ ip ∈ ib, ip.2.WF) → ∀ (fs : List EFrame) (st : Option Pending),
      GoodL dev stream v fs →
      fs.flatMap (·.msgs) = ib.flatMap (fun ip => pieces c ip.1 ip.2) →
      (ib = [] → st = none) →
      runLocal st (fs.map (PF min)) = (none, ib.map (fun ip => dec dev stream v ip.2 (segOf c ip.2))) := by
  intro ib
  induction ib with
  | nil =>
    intro _ fs st hg hflat hst
    cases fs with
    | nil => simp [runLocal, hst rfl]
    | cons f fs' =>
      have := (hg.1 f (by simp)).ne
      simp at hflat
      exact absurd hflat.1 this
  | cons ip ib' ih =>
    intro hwf fs st hg hflat _
    obtain ⟨i, p⟩ := ip
    have hp : p.WF := hwf (i, p) (by simp)
    have ih' := ih (fun x hx => hwf x (by simp [hx]))
    obtain ⟨hd1, hd2⟩ := wf_data hp
    have hpl := wf_plen hp
    simp only [List.flatMap_cons, List.map_cons] at hflat ⊢
    rw [pieces_eq c i p hp] at hflat
    by_cases hfit : 16 + p.data.length ≤ c.cap
    · -- unsegmented: the message is the first of the first frame
      have hso : segOf c p = 0 := by simp [segOf, hpl, hfit]
      rw [if_pos hfit, List.singleton_append] at hflat
      obtain ⟨f, fs', ms, rfl, hm, hrest⟩ := flat_cons hg hflat
      have hf := hg.1 f (by simp)
      have hall := head_unseg hf hm rfl
      simp only [List.map_cons, runLocal]
      rw [step_unseg min hdev hstream hv st f hf hall, hm, hso]
      by_cases hms : ms = []
      · subst hms
        have := ih' fs' none hg.tail (by simpa using hrest.symm) (fun _ => rfl)
        rw [this]
        simp
      · have hg' := hg.dropMsg hm hall hms
        have := ih' ({ f with msgs := ms } :: fs') none hg' (by simpa using hrest.symm) (fun _ => rfl)
        simp only [List.map_cons, runLocal] at this
        rw [step_unseg min hdev hstream hv none _ (hg'.1 _ (by simp)) (fun x hx => hall x (by rw [hm]; simp [hx]))] at this
        simp only [Prod.mk.injEq] at this
        rw [this.1]
        simp only [List.map_cons, List.cons_append, Prod.mk.injEq, List.cons.injEq, true_and]
        exact this.2
    · -- segmented: first segment, then the others
      have hso : segOf c p = 4 := by simp [segOf, hpl, hfit]
      obtain ⟨c0, init, l, hch, hdata⟩ := chunks_split (c.cap - 16) p.data (by omega) (by omega)
      rw [if_neg hfit, hch] at hflat
      obtain ⟨f, fs1, _, rfl, _, _⟩ := flat_cons hg (m := ⟨i, p, 4, c0⟩) hflat
      -- the frames of the packet's segments are those of one segmented message, which C05 reassembles from any state
      let M := segMsgOf (dev, stream) v i p f.seq c0 init l
      obtain ⟨fs', hg', hflat', hmap⟩ := segs_frames min hdev hstream hv M rfl rfl _ _ (fun m hm => by
          obtain ⟨_, hpkt, hseg, _⟩ := segMsgs_mem _ _ _ _ m hm
          exact ⟨by omega, by rw [hpkt]; rfl⟩) (f :: fs1) 0 hg hflat (by
        intro g r e
        rw [← (List.cons.inj e).1]
        have := (hg.1 f (by simp)).seq
        show f.seq = (f.seq + 0) % 65536
        omega)
      rw [hmap, ← segMsgOf_segs, ← M.frames_eq, runLocal_append, (M.run_frames (segMsgOf_wf ..) st).1,
        ih' fs' none hg' hflat' (fun _ => rfl), hso]
      have hpk : Packet.ofMsg M.mt (M.joined M.body) = obsRaw p 4 := by
        rw [segMsgOf_body, hdata]
        show Packet.ofMsg p.mt ((msgHeader p 4 c0.length).take 14 ++ _ ++ _) = _
        rw [Nat.mod_eq_of_lt (by omega)]
        have := ofMsg_obs hp (seg := 4) (by simp) c0.length []
        simpa using this
      rw [hpk]
      rfl

end align
theorem pieces_whole (c : Ctx) (i : Nat) (p : Packet) :
    ∀ m ∈ pieces c i p, m.seg = 0 → m.body = p.data.take p.payloadLength := by
  intro m hm hs
  unfold pieces at hm
  split at hm
  · simp at hm
  · split at hm
    · simp at hm; subst hm; rfl
    · obtain ⟨_, _, h3, _⟩ := segMsgs_mem _ _ _ _ m hm
      omega

theorem chain_of_index (k : Nat) : ∀ (fs : List EFrame) (a : Nat),
    (∀ i (h : i < fs.length), fs[i].seq = ((a + i) % 65536 + k) % 65536) → Chain fs
  | [], _, _ => trivial
  | [_], _, _ => trivial
  | f1 :: f2 :: r, a, h => by
    refine ⟨?_, chain_of_index k (f2 :: r) (a + 1) fun i hi => ?_⟩
    · have h0 : f1.seq = _ := h 0 (Nat.zero_lt_succ _)
      have h1 : f2.seq = _ := h 1 (Nat.succ_lt_succ (Nat.zero_lt_succ _))
      rw [h0, h1]
      omega
    · have : (f2 :: r)[i].seq = _ := h (i + 1) (Nat.succ_lt_succ hi)
      rw [this, Nat.add_assoc, Nat.add_comm 1 i]

theorem encode_good (e : Enc) (batch : List Packet) (c : Ctx) (v : Nat) (hcap : 17 ≤ c.cap)
    (hwf : ∀ p ∈ batch, p.WF) (hver : ∀ p ∈ batch, p.version = v) (hv : v < 256) :
    GoodL e.dev e.stream v (e.encode batch c).2 := by
  obtain ⟨hok, hall, _⟩ := encode_spec e batch c hcap
  have hget : ∀ i (h : i < (e.encode batch c).2.length),
      (e.encode batch c).2[i].seq = (e.seqc + i + 1) % 65536 ∧
      (e.encode batch c).2[i].dev = e.dev ∧ (e.encode batch c).2[i].stream = e.stream ∧
      (e.encode batch c).2[i].ver = v := by
    intro i h
    obtain ⟨h1, h2, h3⟩ := (Open.encode_numbered e batch c).1 i h
    obtain ⟨hne, hfr⟩ := C09S.encode_closedOk e batch c _ (List.getElem_mem h)
    obtain ⟨m, hm⟩ := List.exists_mem_of_ne_nil _ hne
    obtain ⟨q, hq, hqv⟩ := (hfr m hm).hver
    exact ⟨h1, h2, h3, by rw [hqv, hver q (List.mem_of_getElem? hq), Nat.mod_eq_of_lt hv]⟩
  refine ⟨?_, chain_of_index 0 _ (e.seqc + 1) fun i h => by
    rw [(hget i h).1, Nat.add_right_comm]; exact (Nat.mod_mod _ _).symm⟩
  intro f hf
  obtain ⟨i, hi, rfl⟩ := List.getElem_of_mem hf
  obtain ⟨h1, h2, h3, h4⟩ := hget i hi
  obtain ⟨hfo, hne⟩ := hok _ hf
  refine ⟨⟨h2, h3, h4, by rw [h1]; exact Nat.mod_lt _ (by decide), hfo.mtlt⟩, hne, hfo.alone, hfo.mts, ?_⟩
  intro m hm
  have : m ∈ (e.encode batch c).2.flatMap (·.msgs) := List.mem_flatMap.mpr ⟨_, hf, hm⟩
  rw [hall] at this
  obtain ⟨ip, hip, hmp⟩ := List.mem_flatMap.mp this
  have hpb : ip.2 ∈ batch := (List.of_mem_zip hip).2
  have hp := hwf _ hpb
  obtain ⟨hpk, _, hlt, _, hsg, _⟩ := pieces_mem c hcap _ _ m hmp
  refine ⟨hpk ▸ hp, hlt, hsg, ?_⟩
  intro hs
  rw [pieces_whole c _ _ m hmp hs, hpk, wf_plen hp, List.take_length]

theorem run_local_ep (e : Ep) : ∀ (fs : List PFrame) (s : DecState), (∀ f ∈ fs, f.ep = e) →
    ((run s fs).1 e, (run s fs).2) = runLocal (s e) fs := by
  intro fs s h
  rw [run_fst_eq_runLocal, run_snd_eq_runLocal e fs s h, List.filter_eq_self.mpr (fun f hf => by simpa using h f hf)]

theorem decodeAll_run (t : Bytes → List Packet) : ∀ (bs : List Bytes) (s : DecState),
    (∀ b ∈ bs, 8 ≤ b.length ∧ byteAt b 0 ≠ 0) →
    decodeAll t s (bs.map some) = run s (bs.map parseFrame) := by
  intro bs
  induction bs with
  | nil => intro s _; rfl
  | cons b bs ih =>
    intro s h
    obtain ⟨h8, h0⟩ := h b (by simp)
    simp only [List.map_cons, decodeAll, run, decodeWith]
    rw [if_neg (by omega), if_neg h0, ih _ (fun x hx => h x (by simp [hx]))]

theorem clearSeg_dec (dev stream : Nat) (p : Packet) (_h : p.WF) (seg : Nat) (hs : seg = 0 ∨ seg = 4) :
    clearSeg (dec dev stream p.version p seg) = obsSent dev stream p := by
  have : ((p.flags &&& 0xF3) ||| seg) &&& 0xF3 = p.flags &&& 0xF3 :=
    flags_keep (by rcases hs with rfl | rfl <;> rfl)
  simp [clearSeg, dec, tagPacket, obsRaw, obsSent, this]

/-- the statement of `C01_roundtrip` (Props/C01.lean) -/
theorem roundtrip (e : Enc) (d : DecState) (batch : List Packet) (c : Ctx) (v : Nat)
    (hc : c.ok = true) (hne : batch ≠ [])
    (hwf : ∀ p ∈ batch, p.WF) (hver : ∀ p ∈ batch, p.version = v)
    (hdev : e.dev < 65536) (hstream : e.stream < 256) :
    let frames := (e.encode batch c).2.map (EFrame.bytes c.min)
    let r := decodeAll tecmpDecode d (frames.map some)
    P_C01 e.dev e.stream batch r.2 = true ∧ r.1 (e.dev, e.stream) = none := by
  intro frames r
  have hcap := (Ctx.ok_cap hc).1
  obtain ⟨p0, hp0⟩ := List.exists_mem_of_ne_nil batch hne
  obtain ⟨_, _, _, _, _, _, _, hv1, hv2, _⟩ := wf_unpack (hwf p0 hp0)
  rw [hver p0 hp0] at hv1 hv2
  have hg := encode_good e batch c v hcap hwf hver hv2
  have hall := (encode_spec e batch c hcap).2.1
  -- every buffer is a capture-module frame of the encoder's endpoint
  have hpf : ∀ f ∈ (e.encode batch c).2, 8 ≤ (EFrame.bytes c.min f).length ∧
      byteAt (EFrame.bytes c.min f) 0 ≠ 0 ∧ (PF c.min f).ep = (e.dev, e.stream) := by
    intro f hf
    have hh := (hg.1 f hf).toHdrOk
    have := parse_frame c.min f hh hdev hstream hv2
    refine ⟨by rw [EFrame.bytes_length]; omega, ?_, by unfold PF; rw [this]⟩
    have hver0 : (PF c.min f).ver = v := by unfold PF; rw [this]
    have : byteAt (EFrame.bytes c.min f) 0 = v := hver0
    omega
  have hrun : r = run d ((e.encode batch c).2.map (PF c.min)) := by
    show decodeAll tecmpDecode d (frames.map some) = _
    rw [decodeAll_run]
    · simp only [frames, List.map_map]; rfl
    · intro b hb
      obtain ⟨f, hf, rfl⟩ := List.mem_map.mp hb
      exact ⟨(hpf f hf).1, (hpf f hf).2.1⟩
  have hloc := run_local_ep (e.dev, e.stream) ((e.encode batch c).2.map (PF c.min)) d (by
    intro g hgm
    obtain ⟨f, hf, rfl⟩ := List.mem_map.mp hgm
    exact (hpf f hf).2.2)
  have hib : (List.range batch.length).zip batch ≠ [] := by
    intro e0
    have := zip_snd batch
    rw [e0] at this
    exact hne this.symm
  have hdec := decode_aligned c.min hdev hstream hv2 c hcap _ (by
      intro ip hip
      exact hwf _ (List.of_mem_zip hip).2)
    _ (d (e.dev, e.stream)) hg hall (fun h => absurd h hib)
  rw [hdec] at hloc
  rw [← hrun] at hloc
  simp only [Prod.mk.injEq] at hloc
  refine ⟨?_, hloc.1⟩
  unfold P_C01
  rw [hloc.2, beq_iff_eq, List.map_map, ← zip_snd batch, List.map_map, zip_snd batch]
  apply List.map_congr_left
  intro ip hip
  have hpb : ip.2 ∈ batch := (List.of_mem_zip hip).2
  simp only [Function.comp]
  rw [← hver _ hpb]
  apply clearSeg_dec _ _ _ (hwf _ hpb)
  unfold segOf
  split
  · exact Or.inl rfl
  · exact Or.inr rfl
end AsamCmp.C01
