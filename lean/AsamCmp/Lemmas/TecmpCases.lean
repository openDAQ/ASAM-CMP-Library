/-
  `tecmpDecode` (Tecmp.lean) in closed form: the header checks, the dispatch on message and data type (`tecmpKind`), and each of
  the four converters as "nothing when the inner lengths do not fit what is there, otherwise its packets" — for bus status
  one packet per complete entry, at the offsets `12 + k * (12 + v)` (`tecmpBus_eq_map`, no fuel; by `stride_eq_map`, the closed
  form of any loop of that kind, which stands first).
-/
import AsamCmp.Tecmp

namespace AsamCmp

/-! ### a loop that strides through a buffer (a general fact about lists; nothing of the model is used) -/

/-- A loop on fuel that walks a buffer of `len` bytes in steps of `s`: `g (n + 1) off` emits `f off` and goes on at `off + s`
    as long as a whole step fits (`off + s ≤ len`), and stops otherwise or when the fuel is spent.  It emits at the offsets
    `off + k * s`, `k` below the number `(len - off) / s` of whole steps that fit — or below the fuel, if that is less.  The
    model's `tecmpBusEntries` and the source-level `SrcTec.busPl` are such loops (both hypotheses hold by `rfl`). -/
theorem stride_eq_map {α : Type} (g : Nat → Nat → List α) (f : Nat → α) (len s : Nat) (hs : 0 < s)
    (h0 : ∀ off, g 0 off = [])
    (h1 : ∀ n off, g (n + 1) off = if off + s ≤ len then f off :: g n (off + s) else []) :
    ∀ fuel off, g fuel off = (List.range (min fuel ((len - off) / s))).map fun k => f (off + k * s) := by
  intro fuel
  induction fuel with
  | zero => intro off; rw [h0, Nat.zero_min]; rfl
  | succ n ih =>
    intro off
    rw [h1]
    by_cases hc : off + s ≤ len
    · have e : (len - off) / s = (len - (off + s)) / s + 1 := by
        rw [show len - off = (len - (off + s)) + s by omega, Nat.add_div_right _ hs]
      rw [if_pos hc, ih, e, Nat.add_min_add_right, List.range_succ_eq_map, List.map_cons, List.map_map,
        Nat.zero_mul, Nat.add_zero]
      congr 2
      funext k
      show f (off + s + k * s) = f (off + (k + 1) * s)
      rw [Nat.succ_mul, Nat.add_assoc, Nat.add_comm s]
    · rw [if_neg hc, Nat.div_eq_of_lt (by omega), Nat.min_zero]; rfl

/-- the `k`-th step of such a loop lies inside `len` -/
theorem stride_fits {len off s k : Nat} (h : k < (len - off) / s) : off + k * s + s ≤ len := by
  have h1 : (k + 1) * s ≤ len - off := Nat.mul_le_of_le_div _ _ _ h
  have hs : 0 < s := Nat.pos_of_ne_zero fun e => by rw [e, Nat.div_zero] at h; omega
  rw [Nat.succ_mul] at h1
  omega

/-- blocks of `s` elements each laid out one after the other behind `pre`: what is read at the start of the `k`-th block,
    for all `k`, is what is read from each block in turn -/
theorem map_range_flatMap {α β γ : Type} (blk : α → List γ) (s : Nat) (G : List γ → Nat → β) (H : α → β) (rest : List γ) :
    ∀ (es : List α) (pre : List γ), (∀ e ∈ es, (blk e).length = s) →
      (∀ e ∈ es, ∀ pre rest, G (pre ++ blk e ++ rest) pre.length = H e) →
      (List.range es.length).map (fun k => G (pre ++ es.flatMap blk ++ rest) (pre.length + k * s)) = es.map H := by
  intro es
  induction es with
  | nil => intro _ _ _; rfl
  | cons e es ih =>
    intro pre hs hG
    have hsplit : pre ++ (e :: es).flatMap blk ++ rest = pre ++ blk e ++ es.flatMap blk ++ rest := by
      rw [List.flatMap_cons, List.append_assoc pre (blk e)]
    rw [List.length_cons, List.range_succ_eq_map, List.map_cons, List.map_map, List.map_cons, Nat.zero_mul, Nat.add_zero,
      ← ih (pre ++ blk e) (fun x hx => hs x (List.mem_cons_of_mem _ hx)) (fun x hx => hG x (List.mem_cons_of_mem _ hx)),
      hsplit, List.append_assoc (pre ++ blk e), hG e List.mem_cons_self]
    congr 2
    funext k
    show G _ (pre.length + (k + 1) * s) = G _ ((pre ++ blk e).length + k * s)
    rw [List.length_append, hs e List.mem_cons_self, Nat.succ_mul]
    congr 1
    omega

end AsamCmp

namespace AsamCmp.C15
open AsamCmp

/-- what `tecmpDecode` does behind the header checks: everything behind the 28 header bytes goes to the converter of the
    header's message type (and, for data messages, data type) -/
def tecmpKind (b : Bytes) : List Packet :=
  if byteAt b 5 = 1 then tecmpCm b (b.drop 28)
  else if byteAt b 5 = 3 then
    if beAt b 6 2 = 2 ∨ beAt b 6 2 = 3 then tecmpCan b (b.drop 28)
    else if beAt b 6 2 = 4 then tecmpLin b (b.drop 28)
    else []
  else if byteAt b 5 = 2 then tecmpBus b (b.drop 28)
  else []

theorem tecmpDecode_rej (b : Bytes) (h : b.length < 28 ∨ beAt b 24 2 = 0 ∨ b.length < 28 + beAt b 24 2) :
    tecmpDecode b = [] := by
  unfold tecmpDecode
  by_cases h28 : b.length < 28
  · rw [if_pos h28]
  · by_cases h0 : beAt b 24 2 = 0
    · simp only [if_neg h28, if_pos h0]
    · simp only [if_neg h28, if_neg h0, if_pos (show b.length < 28 + beAt b 24 2 by omega)]

/-- message type 0xFF, or data type bytes `FF 00`: the header is marked invalid, no packet -/
theorem tecmpDecode_invalid (b : Bytes) (h : byteAt b 5 = 0xFF ∨ (byteAt b 6 = 0xFF ∧ byteAt b 7 = 0)) :
    tecmpDecode b = [] := by
  unfold tecmpDecode
  simp only [if_pos h, ite_self]

theorem tecmpDecode_accepted (b : Bytes) (hr : ¬ (b.length < 28 ∨ beAt b 24 2 = 0 ∨ b.length < 28 + beAt b 24 2))
    (hv : ¬ (byteAt b 5 = 0xFF ∨ (byteAt b 6 = 0xFF ∧ byteAt b 7 = 0))) : tecmpDecode b = tecmpKind b := by
  unfold tecmpDecode
  simp only [if_neg (show ¬ b.length < 28 by omega), if_neg (show ¬ beAt b 24 2 = 0 by omega),
    if_neg (show ¬ b.length < 28 + beAt b 24 2 by omega), if_neg hv]
  rfl

/-- the header checks, once: no packet, or the buffer holds the header and goes to the converter of its kind -/
theorem tecmpDecode_eq (b : Bytes) : tecmpDecode b = [] ∨ 28 ≤ b.length ∧ tecmpDecode b = tecmpKind b := by
  by_cases hr : b.length < 28 ∨ beAt b 24 2 = 0 ∨ b.length < 28 + beAt b 24 2
  · exact .inl (tecmpDecode_rej b hr)
  by_cases hv : byteAt b 5 = 0xFF ∨ (byteAt b 6 = 0xFF ∧ byteAt b 7 = 0)
  · exact .inl (tecmpDecode_invalid b hv)
  exact .inr ⟨Nat.le_of_not_lt fun h => hr (.inl h), tecmpDecode_accepted b hr hv⟩

theorem tecmpDecode_nil (b : Bytes) (h : tecmpKind b = []) : tecmpDecode b = [] := by
  rcases tecmpDecode_eq b with hd | ⟨_, hd⟩
  · exact hd
  · rw [hd, h]

theorem tecmpKind_cm (b : Bytes) (hmt : byteAt b 5 = 1) : tecmpKind b = tecmpCm b (b.drop 28) := by
  rw [tecmpKind, if_pos hmt]

theorem tecmpKind_can (b : Bytes) (hmt : byteAt b 5 = 3) (hdt : beAt b 6 2 = 2 ∨ beAt b 6 2 = 3) :
    tecmpKind b = tecmpCan b (b.drop 28) := by
  rw [tecmpKind, if_neg (by omega), if_pos hmt, if_pos hdt]

theorem tecmpKind_lin (b : Bytes) (hmt : byteAt b 5 = 3) (hdt : beAt b 6 2 = 4) :
    tecmpKind b = tecmpLin b (b.drop 28) := by
  rw [tecmpKind, if_neg (by omega), if_pos hmt, if_neg (by omega), if_pos hdt]

theorem tecmpKind_bus (b : Bytes) (hmt : byteAt b 5 = 2) : tecmpKind b = tecmpBus b (b.drop 28) := by
  rw [tecmpKind, if_neg (by omega), if_neg (by omega), if_pos hmt]

theorem tecmpKind_unsupported (b : Bytes)
    (h : ¬ (byteAt b 5 = 1 ∨ byteAt b 5 = 2 ∨ (byteAt b 5 = 3 ∧ (beAt b 6 2 = 2 ∨ beAt b 6 2 = 3 ∨ beAt b 6 2 = 4)))) :
    tecmpKind b = [] := by
  unfold tecmpKind
  rw [if_neg fun e => h (.inl e)]
  by_cases h3 : byteAt b 5 = 3
  · rw [if_pos h3, if_neg fun e => h (.inr (.inr ⟨h3, e.elim .inl fun e => .inr (.inl e)⟩)),
      if_neg fun e => h (.inr (.inr ⟨h3, .inr (.inr e)⟩))]
  · rw [if_neg h3, if_neg fun e => h (.inr (.inl e))]

/-- CAN / CAN-FD: id word `a`, crc word `c`, data -/
def canObj (a c : Nat) (data : Bytes) : Bytes :=
  writeAt (canSetData (writeAt canDefault 4 (beEnc 4 a)) data) 8 (beEnc 4 c)

/-- LIN: protected-id byte `x`, checksum byte `y`, data -/
def linObj (x y : UInt8) (data : Bytes) : Bytes :=
  linSetData (writeAt (writeAt linDefault 4 [x]) 6 [y]) data

/-- interface status of one bus entry: interface id, messages total, errors total -/
def busObj (a m e : Nat) : Bytes :=
  writeAt (writeAt (writeAt ifDefault 0 (beEnc 4 a)) 4 (beEnc 4 m)) 20 (beEnc 4 e)

/-- the crc word of the ASAM payload for a message with `n` data bytes: all 24 bits for CAN-FD, the low 16 for classic CAN -/
def canCrcWord (p : Bytes) (n : Nat) : Nat := if n > 8 then tecmpCanCrc p n else tecmpCanCrc p n % 65536

theorem ite_nil_iff {c : Prop} [Decidable c] (q : Packet) : (if c then [] else [q]) = [] ↔ c := by
  split <;> simp [*]

theorem forall_mem_ite {P : Packet → Prop} {c : Prop} [Decidable c] {q : Packet} (h : ¬ c → P q) :
    ∀ x ∈ (if c then [] else [q]), P x := by
  intro x hx
  split at hx
  · exact absurd hx List.not_mem_nil
  · rw [List.mem_singleton.mp hx]; exact h ‹_›

/-- the single-packet converters in closed form: nothing when the inner lengths do not fit what is there, otherwise the
    one packet -/
theorem tecmpCan_shape (b p : Bytes) :
    tecmpCan b p = if p.length < 5 ∨ p.length - 5 < byteAt p 4 then [] else
      [tecmpPacket b (beAt b 12 4)
        ⟨if byteAt p 4 > 8 then tyCanFd else tyCan,
         canObj (beAt p 0 4)
           (if byteAt p 4 > 8 then tecmpCanCrc p (byteAt p 4) else tecmpCanCrc p (byteAt p 4) % 65536)
           (slice p 5 (byteAt p 4))⟩] := by
  unfold tecmpCan canObj
  by_cases h5 : p.length < 5
  · rw [if_pos h5, if_pos (Or.inl h5)]
  · by_cases hd : p.length - 5 < byteAt p 4
    · simp only [if_neg h5, if_pos hd, if_pos (Or.inr hd)]
    · simp only [if_neg h5, if_neg hd, if_neg (not_or.mpr ⟨h5, hd⟩)]
      split <;> rfl

theorem tecmpLin_shape (b p : Bytes) :
    tecmpLin b p = if p.length < 2 ∨ p.length - 2 < byteAt p 1 then [] else
      [tecmpPacket b (beAt b 12 4)
        ⟨tyLin, linObj (UInt8.ofNat (byteAt p 0 &&& 0x3F))
          (UInt8.ofNat (if p.length ≤ 2 + byteAt p 1 then 0 else byteAt p (2 + byteAt p 1)))
          (slice p 2 (byteAt p 1))⟩] := by
  unfold tecmpLin linObj
  by_cases h2 : p.length < 2
  · rw [if_pos h2, if_pos (Or.inl h2)]
  · by_cases hd : p.length - 2 < byteAt p 1
    · simp only [if_neg h2, if_pos hd, if_pos (Or.inr hd)]
    · simp only [if_neg h2, if_neg hd, if_neg (not_or.mpr ⟨h2, hd⟩)]

theorem tecmpCm_shape (b p : Bytes) :
    tecmpCm b p = if p.length < 18 ∨ p.length - 12 < beAt p 4 2 then [] else
      [tecmpPacket b (beAt b 12 4) ⟨tyCm, cmSetData cmDefault [] (decimal (beAt p 8 4))
        ([chr 'v'] ++ decimal (byteAt p 16) ++ [chr '.'] ++ decimal (byteAt p 17))
        ([chr 'v'] ++ decimal (byteAt p 13) ++ [chr '.'] ++ decimal (byteAt p 14) ++ [chr '.'] ++ decimal (byteAt p 15))
        []⟩] := by
  unfold tecmpCm
  by_cases h18 : p.length < 18
  · rw [if_pos h18, if_pos (Or.inl h18)]
  · by_cases hv : p.length - 12 < beAt p 4 2
    · rw [if_neg h18, if_pos hv, if_pos (Or.inr hv)]
    · rw [if_neg h18, if_neg hv, if_neg (not_or.mpr ⟨h18, hv⟩)]

theorem tecmpCan_eq (b p : Bytes) (h5 : 5 ≤ p.length) (hd : byteAt p 4 ≤ p.length - 5) :
    tecmpCan b p = [tecmpPacket b (beAt b 12 4)
      ⟨if byteAt p 4 > 8 then tyCanFd else tyCan,
       canObj (beAt p 0 4)
         (if byteAt p 4 > 8 then tecmpCanCrc p (byteAt p 4) else tecmpCanCrc p (byteAt p 4) % 65536)
         (slice p 5 (byteAt p 4))⟩] := by
  rw [tecmpCan_shape, if_neg (by omega)]

theorem tecmpLin_eq (b p : Bytes) (h2 : 2 ≤ p.length) (hn : byteAt p 1 ≤ p.length - 2) :
    tecmpLin b p = [tecmpPacket b (beAt b 12 4)
      ⟨tyLin, linObj (UInt8.ofNat (byteAt p 0 &&& 0x3F))
        (UInt8.ofNat (if p.length ≤ 2 + byteAt p 1 then 0 else byteAt p (2 + byteAt p 1)))
        (slice p 2 (byteAt p 1))⟩] := by
  rw [tecmpLin_shape, if_neg (by omega)]

theorem tecmpCan_nil_iff (b p : Bytes) : tecmpCan b p = [] ↔ (p.length < 5 ∨ p.length - 5 < byteAt p 4) := by
  rw [tecmpCan_shape]; exact ite_nil_iff _

theorem tecmpLin_nil_iff (b p : Bytes) : tecmpLin b p = [] ↔ (p.length < 2 ∨ p.length - 2 < byteAt p 1) := by
  rw [tecmpLin_shape]; exact ite_nil_iff _

theorem tecmpCm_nil_iff (b p : Bytes) : tecmpCm b p = [] ↔ (p.length < 18 ∨ p.length - 12 < beAt p 4 2) := by
  rw [tecmpCm_shape]; exact ite_nil_iff _

/-- the interface-status packet of the bus-status entry at offset `off` of the payload `p` -/
def busPkt (b p : Bytes) (off : Nat) : Packet :=
  tecmpPacket b (beAt p off 4) ⟨tyIf, busObj (beAt p off 4) (beAt p (off + 4) 4) (beAt p (off + 8) 4)⟩

theorem tecmpBusEntries_eq_map (b p : Bytes) (v fuel off : Nat) :
    tecmpBusEntries b p v fuel off =
      (List.range (min fuel ((p.length - off) / (12 + v)))).map fun k => busPkt b p (off + k * (12 + v)) :=
  stride_eq_map _ (busPkt b p) p.length (12 + v) (by omega) (fun _ => rfl) (fun _ _ => rfl) fuel off

/-- the model's fuel `p.length / 12 + 1` exceeds the number of complete entries, whatever the vendor data length -/
theorem entries_le_fuel (p : Bytes) (v : Nat) : (p.length - 12) / (12 + v) ≤ p.length / 12 :=
  Nat.le_trans (Nat.div_le_div_left (Nat.le_add_right 12 v) (by decide)) (Nat.div_le_div_right (Nat.sub_le _ _))

/-- bus status in closed form: one packet per complete entry of `12 + v` bytes behind the 12 generic bytes, `v` the declared
    vendor data length (no fuel, no case on the length: fewer than 12 bytes leave room for no entry) -/
theorem tecmpBus_eq_map (b p : Bytes) :
    tecmpBus b p =
      (List.range ((p.length - 12) / (12 + beAt p 4 2))).map fun k => busPkt b p (12 + k * (12 + beAt p 4 2)) := by
  have hle := entries_le_fuel p (beAt p 4 2)
  unfold tecmpBus
  split
  · rw [show p.length - 12 = 0 by omega, Nat.zero_div]; rfl
  · rw [tecmpBusEntries_eq_map, Nat.min_eq_right (by omega)]

theorem tecmpBusEntries_forall {P : Packet → Prop} (b p : Bytes) (v fuel off : Nat)
    (h : ∀ o, off ≤ o → o + (12 + v) ≤ p.length → P (busPkt b p o)) : ∀ x ∈ tecmpBusEntries b p v fuel off, P x := by
  rw [tecmpBusEntries_eq_map]
  intro x hx
  obtain ⟨k, hk, rfl⟩ := List.mem_map.mp hx
  exact h _ (Nat.le_add_right _ _) (stride_fits (Nat.lt_of_lt_of_le (List.mem_range.mp hk) (Nat.min_le_right _ _)))

theorem tecmpBus_forall {P : Packet → Prop} (b p : Bytes)
    (h : ∀ o, 12 ≤ o → o + (12 + beAt p 4 2) ≤ p.length → P (busPkt b p o)) : ∀ x ∈ tecmpBus b p, P x := by
  rw [tecmpBus_eq_map]
  intro x hx
  obtain ⟨k, hk, rfl⟩ := List.mem_map.mp hx
  exact h _ (Nat.le_add_right _ _) (stride_fits (List.mem_range.mp hk))

theorem tecmpBus_nil_iff (b p : Bytes) : tecmpBus b p = [] ↔ p.length < 24 + beAt p 4 2 := by
  rw [tecmpBus_eq_map, List.map_eq_nil_iff, List.range_eq_nil, Nat.div_eq_zero_iff]
  omega

end AsamCmp.C15

namespace AsamCmp

theorem tecmpDecode_cases (b : Bytes) :
    tecmpDecode b = [] ∨ 28 ≤ b.length ∧
      (tecmpDecode b = tecmpCm b (b.drop 28) ∨ tecmpDecode b = tecmpCan b (b.drop 28) ∨
       tecmpDecode b = tecmpLin b (b.drop 28) ∨ tecmpDecode b = tecmpBus b (b.drop 28)) := by
  rcases C15.tecmpDecode_eq b with h | ⟨h28, h⟩
  · exact .inl h
  rw [h]
  by_cases m1 : byteAt b 5 = 1
  · exact .inr ⟨h28, .inl (C15.tecmpKind_cm b m1)⟩
  by_cases m2 : byteAt b 5 = 2
  · exact .inr ⟨h28, .inr (.inr (.inr (C15.tecmpKind_bus b m2)))⟩
  by_cases hc : byteAt b 5 = 3 ∧ (beAt b 6 2 = 2 ∨ beAt b 6 2 = 3)
  · exact .inr ⟨h28, .inr (.inl (C15.tecmpKind_can b hc.1 hc.2))⟩
  by_cases hl : byteAt b 5 = 3 ∧ beAt b 6 2 = 4
  · exact .inr ⟨h28, .inr (.inr (.inl (C15.tecmpKind_lin b hl.1 hl.2)))⟩
  refine .inl (C15.tecmpKind_unsupported b ?_)
  rintro (h | h | ⟨h3, h | h | h⟩)
  · exact m1 h
  · exact m2 h
  · exact hc ⟨h3, .inl h⟩
  · exact hc ⟨h3, .inr h⟩
  · exact hl ⟨h3, h⟩

theorem tecmpDecode_forall {P : Packet → Prop} (b : Bytes)
    (hcm : ∀ x ∈ tecmpCm b (b.drop 28), P x) (hcan : ∀ x ∈ tecmpCan b (b.drop 28), P x)
    (hlin : ∀ x ∈ tecmpLin b (b.drop 28), P x) (hbus : ∀ x ∈ tecmpBus b (b.drop 28), P x) :
    ∀ x ∈ tecmpDecode b, P x := by
  rcases tecmpDecode_cases b with h | ⟨_, h | h | h | h⟩ <;> rw [h]
  · intro x hx; cases hx
  · exact hcm
  · exact hcan
  · exact hlin
  · exact hbus

theorem C15.tecmpDecode_packets (b : Bytes) : ∀ x ∈ tecmpDecode b, ∃ i pl, x = tecmpPacket b i pl := by
  refine tecmpDecode_forall b ?_ ?_ ?_ (C15.tecmpBus_forall b _ fun _ _ _ => ⟨_, _, rfl⟩)
  · rw [C15.tecmpCm_shape]; exact C15.forall_mem_ite fun _ => ⟨_, _, rfl⟩
  · rw [C15.tecmpCan_shape]; exact C15.forall_mem_ite fun _ => ⟨_, _, rfl⟩
  · rw [C15.tecmpLin_shape]; exact C15.forall_mem_ite fun _ => ⟨_, _, rfl⟩

end AsamCmp
