/-
  The library's `swapEndian` overloads reverse the bytes of their argument.  Every masked term
  `v & (0xFF << k)` is one byte of `v` in its place, `((v >>> k) % 256) <<< k`; shifting moves the byte; or-ing the moved
  bytes is what `beDec` does with the reversed byte list.
-/
import AsamCmp.GeneratedSrc
import AsamCmp.Lemmas.SrcPrim
namespace AsamCmp.SrcTie
open AsamCmp AsamCmp.Src AsamCmp.SrcGen

/-! ### one byte of a value, selected by a mask -/

theorem and_byte_mask (v k : Nat) : v &&& (255 <<< k) = (v >>> k % 256) <<< k := by
  apply Nat.eq_of_testBit_eq
  intro j
  have e1 : (255 : Nat) = 2 ^ 8 - 1 := by decide
  have e2 : (256 : Nat) = 2 ^ 8 := by decide
  rw [e1, e2]
  simp only [Nat.testBit_and, Nat.testBit_shiftLeft, Nat.testBit_two_pow_sub_one, Nat.testBit_mod_two_pow,
    Nat.testBit_shiftRight]
  by_cases h : k ≤ j
  · have e : k + (j - k) = j := by omega
    rw [e]
    cases v.testBit j <;> cases decide (j - k < 8) <;> simp [h]
  · have h' : ¬ j ≥ k := h
    simp [h']

theorem and_mask0 (v : Nat) : v &&& 255 = (v >>> 0 % 256) <<< 0 := and_byte_mask v 0
theorem and_mask1 (v : Nat) : v &&& 65280 = (v >>> 8 % 256) <<< 8 := and_byte_mask v 8
theorem and_mask2 (v : Nat) : v &&& 16711680 = (v >>> 16 % 256) <<< 16 := and_byte_mask v 16
theorem and_mask3 (v : Nat) : v &&& 4278190080 = (v >>> 24 % 256) <<< 24 := and_byte_mask v 24
theorem and_mask4 (v : Nat) : v &&& 1095216660480 = (v >>> 32 % 256) <<< 32 := and_byte_mask v 32
theorem and_mask5 (v : Nat) : v &&& 280375465082880 = (v >>> 40 % 256) <<< 40 := and_byte_mask v 40
theorem and_mask6 (v : Nat) : v &&& 71776119061217280 = (v >>> 48 % 256) <<< 48 := and_byte_mask v 48
theorem and_mask7 (v : Nat) : v &&& 18374686479671623680 = (v >>> 56 % 256) <<< 56 := and_byte_mask v 56

/-! ### moving a byte -/

theorem shl_shr (y a n : Nat) (h : n ≤ a) : (y <<< a) >>> n = y <<< (a - n) := by
  obtain ⟨d, rfl⟩ : ∃ d, a = d + n := ⟨a - n, by omega⟩
  rw [Nat.shiftLeft_add, Nat.shiftLeft_shiftRight, Nat.add_sub_cancel]

theorem byte_shl_lt (x a w : Nat) (h : a + 8 ≤ w) : (x % 256) <<< a < 2 ^ w := by
  rw [Nat.shiftLeft_eq]
  have h1 : x % 256 < 2 ^ 8 := Nat.mod_lt _ (by decide)
  calc x % 256 * 2 ^ a < 2 ^ 8 * 2 ^ a := Nat.mul_lt_mul_of_pos_right h1 (Nat.two_pow_pos a)
    _ = 2 ^ (8 + a) := (Nat.pow_add 2 8 a).symm
    _ ≤ 2 ^ w := Nat.pow_le_pow_right (by decide) (by omega)

theorem ushr_byte (w x a n : Nat) (hn : n < w) (h : n ≤ a) :
    ushr w ((x % 256) <<< a) n = some ((x % 256) <<< (a - n)) := by
  unfold ushr; rw [if_pos hn, shl_shr _ _ _ h]

theorem ushl_byte_shl (w x a n : Nat) (hn : n < w) (h : a + n + 8 ≤ w) :
    ushl w ((x % 256) <<< a) n = some ((x % 256) <<< (a + n)) := by
  unfold ushl
  rw [if_pos hn, ← Nat.shiftLeft_add, Nat.mod_eq_of_lt (byte_shl_lt x (a + n) w h)]

theorem sshr_byte (w x a n : Nat) (hn : n < w) (h : n ≤ a) (ha : a + 8 ≤ w - 1) :
    sshr w ((x % 256) <<< a) n = some ((x % 256) <<< (a - n)) := by
  unfold sshr; rw [if_pos ⟨hn, byte_shl_lt x a (w - 1) ha⟩, shl_shr _ _ _ h]

theorem sshl_byte_shl (w x a n : Nat) (hn : n < w) (h : a + n + 8 ≤ w - 1) :
    sshl w ((x % 256) <<< a) n = some ((x % 256) <<< (a + n)) := by
  unfold sshl
  rw [← Nat.shiftLeft_add, if_pos ⟨hn, byte_shl_lt x a (w - 1) (by omega), byte_shl_lt x (a + n) (w - 1) h⟩]

/-! ### or-ing values at distinct places -/

theorem or_shl (a y k : Nat) (h : a < 2 ^ k) : a ||| y <<< k = a + y <<< k := by
  rw [Nat.or_comm, ← Nat.shiftLeft_add_eq_or_of_lt h, Nat.add_comm]

theorem shl_or (a y k : Nat) (h : a < 2 ^ k) : y <<< k ||| a = y <<< k + a := by
  rw [← Nat.shiftLeft_add_eq_or_of_lt h]

theorem or_left_comm (a b c : Nat) : a ||| (b ||| c) = b ||| (a ||| c) := by
  rw [← Nat.or_assoc, Nat.or_comm a b, Nat.or_assoc]

/-- byte reversal one byte at a time, the way the C++ writes it: the remaining bytes occupy the places below `8 * w` -/
theorem beDec_leEnc_succ_or (w v : Nat) :
    beDec (leEnc (w + 1) v) = beDec (leEnc w (v / 256)) ||| (v % 256) <<< (8 * w) := by
  have hlt := beDec_lt (leEnc w (v / 256))
  rw [leEnc_length, ← Nat.pow_mul 2 8 w] at hlt
  rw [or_shl _ _ _ hlt, beDec_leEnc_succ, Nat.shiftLeft_eq, Nat.pow_mul 2 8 w]

/-- normalisation of a `swapEndian` body: each masked and shifted term becomes a byte of the argument in its new place -/
macro "swap_norm" : tactic =>
  `(tactic| simp (disch := omega) only [and_mask0, and_mask1, and_mask2, and_mask3, and_mask4, and_mask5, and_mask6,
      and_mask7, ushr_byte, ushl_byte_shl, sshr_byte, sshl_byte_shl, bind, some_bind, pure, Nat.reduceAdd, Nat.reduceSub])

/-- the same form for `beDec (leEnc w v)`, `w` a numeral.  The three AC rules sort the or-ed bytes, so their order in the C++
    does not matter; without them a different order is not a failure but a timeout (the closing `rfl` test of `simp` then
    evaluates the numerals). -/
macro "rev_norm" : tactic =>
  `(tactic| simp only [beDec_leEnc_succ_or, beDec_leEnc_zero, Nat.shiftRight_eq_div_pow, Nat.div_div_eq_div_mul,
      Nat.reducePow, Nat.reduceMul, Nat.div_one, Nat.zero_or, Nat.or_assoc, Nat.or_comm, or_left_comm])

/-! ### the three overloads reverse the bytes -/

theorem swap16_rev (v : Nat) : swapEndian_u16 v = some (beDec (leEnc 2 v)) := by
  have hlt : beDec (leEnc 2 v) < 256 ^ 2 := by
    have := beDec_lt (leEnc 2 v); rwa [leEnc_length] at this
  unfold swapEndian_u16
  swap_norm
  -- the C++ computes in `int` and converts the result back to `uint16_t`
  rw [← Nat.mod_eq_of_lt hlt]
  rev_norm

theorem swap32_rev (v : Nat) : swapEndian_u32 v = some (beDec (leEnc 4 v)) := by
  unfold swapEndian_u32
  swap_norm
  rev_norm

theorem swap64_rev (v : Nat) : swapEndian_u64 v = some (beDec (leEnc 8 v)) := by
  unfold swapEndian_u64
  swap_norm
  rev_norm

/-! ### the reversed value, byte by byte

  The explicit sums are the form in which `bld_norm` meets a swapped value; storing one stores the big-endian encoding. -/

theorem beDec_leEnc_two (v : Nat) : beDec (leEnc 2 v) = v / 256 % 256 + v % 256 * 256 := by
  simp only [beDec_leEnc_succ, beDec_leEnc_zero, Nat.zero_add, Nat.pow_zero, Nat.pow_one, Nat.mul_one]

theorem beDec_leEnc_four (v : Nat) :
    beDec (leEnc 4 v) = v / 16777216 % 256 + v / 65536 % 256 * 256 + v / 256 % 256 * 65536 + v % 256 * 16777216 := by
  simp only [beDec_leEnc_succ, beDec_leEnc_zero, Nat.div_div_eq_div_mul, Nat.zero_add, Nat.reducePow, Nat.reduceMul,
    Nat.mul_one]

theorem swap16_bytes (v : Nat) : swapEndian_u16 v = some (v / 256 % 256 + v % 256 * 256) := by
  rw [swap16_rev, beDec_leEnc_two]

theorem swap32_bytes (v : Nat) :
    swapEndian_u32 v = some (v / 16777216 % 256 + v / 65536 % 256 * 256 + v / 256 % 256 * 65536 + v % 256 * 16777216) := by
  rw [swap32_rev, beDec_leEnc_four]

theorem leEnc_swap16 (v : Nat) : leEnc 2 (v / 256 % 256 + v % 256 * 256) = beEnc 2 v := by
  rw [← beDec_leEnc_two, leEnc_beDec_leEnc]

theorem leEnc_swap16_of_lt (v : Nat) (h : v < 65536) : leEnc 2 (v / 256 + v % 256 * 256) = beEnc 2 v := by
  rw [← leEnc_swap16 v, Nat.mod_eq_of_lt (by omega : v / 256 < 256)]

theorem leEnc_swap32 (v : Nat) :
    leEnc 4 (v / 16777216 % 256 + v / 65536 % 256 * 256 + v / 256 % 256 * 65536 + v % 256 * 16777216) = beEnc 4 v := by
  rw [← beDec_leEnc_four, leEnc_beDec_leEnc]

/-! ### a little-endian member read followed by `swapEndian` is the big-endian value of the bytes -/

theorem swap16_leAt (b : Bytes) (i : Nat) (h : i + 2 ≤ b.length) :
    swapEndian_u16 (leAt b i 2) = some (beAt b i 2) := by
  rw [swap16_rev, beDec_leEnc_leAt b i 2 h]

theorem swap32_leAt (b : Bytes) (i : Nat) (h : i + 4 ≤ b.length) :
    swapEndian_u32 (leAt b i 4) = some (beAt b i 4) := by
  rw [swap32_rev, beDec_leEnc_leAt b i 4 h]

theorem swap64_leAt (b : Bytes) (i : Nat) (h : i + 8 ≤ b.length) :
    swapEndian_u64 (leAt b i 8) = some (beAt b i 8) := by
  rw [swap64_rev, beDec_leEnc_leAt b i 8 h]

theorem rd_swap32 (m : Bytes) (a : Nat) (h : a + 4 ≤ m.length) :
    (rd m a 4).bind swapEndian_u32 = some (beAt m a 4) := by
  rw [rd_eq m a 4 h, some_bind, swap32_leAt m a h]

end AsamCmp.SrcTie
