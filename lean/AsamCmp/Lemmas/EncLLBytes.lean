/-
  The low-level encoder model by itself.  For the refinement of Props/C07b.lean: the byte-vector operations (template,
  counter overwrite, header / payload copies into the zero tail, final resize).  For both the refinement and the source
  level: the body of the loop of `putPacket` piece by piece (`EncLL.pre`, `bytesToAdd`, `putData`, `step1`, `putLoop_succ`),
  and the members no operation writes (`C10S.cfg4`, `C10S.encodeLL_post`).
-/
import AsamCmp.EncoderLL
import AsamCmp.Lemmas.TileBytes
namespace AsamCmp.C07b
open AsamCmp

theorem zeros_add (a b : Nat) : zeros (a + b) = zeros a ++ zeros b := by
  simp [zeros, List.replicate_append_replicate]

theorem take_zeros (n k : Nat) : (zeros k).take n = zeros (Nat.min n k) := by
  simp [zeros, List.take_replicate]

theorem drop_zeros (n k : Nat) : (zeros k).drop n = zeros (k - n) := by
  simp [zeros, List.drop_replicate]

/-- writing into the zero tail right behind the used part -/
theorem writeAt_tail (pre v : Bytes) (k : Nat) :
    writeAt (pre ++ zeros k) pre.length v = pre ++ v ++ zeros (k - v.length) := by
  unfold writeAt
  have : (pre.drop (pre.length + v.length)) = [] := List.drop_eq_nil_of_le (by omega)
  rw [List.take_left' rfl, List.drop_append, this]
  simp [drop_zeros]

/-- `createCmpFrameTemplate` -/
theorem template_eq (mx dev stream : Nat) (p : Packet) (h : 8 ≤ mx) :
    writeAt (writeAt (writeAt (zeros mx) 0 (frameHeader (p.version % 256) p.deviceId p.mt p.streamId p.seq))
      2 (beEnc 2 dev)) 5 [UInt8.ofNat stream] =
    frameHeader (p.version % 256) dev p.mt stream p.seq ++ zeros (mx - 8) := by
  have e : zeros mx = zeros 8 ++ zeros (mx - 8) := by rw [← zeros_add]; congr 1; omega
  rw [e]
  simp [writeAt, frameHeader, beEnc, zeros]

/-- a new frame: the template with its own counter -/
theorem counter_write (v d t st σ q k : Nat) :
    writeAt (frameHeader v d t st σ ++ zeros k) 6 (beEnc 2 q) = frameHeader v d t st q ++ zeros k := by
  simp [writeAt, frameHeader, beEnc]

/-- `setSegmentType` masks out the segment bits that `getRawMessageHeader` copied from the packet's flags -/
theorem flag_remask (x : Nat) (hx : x < 256) : ((x &&& 0xF3) ||| (x &&& 0x0C)) % 256 &&& 0xF3 = x &&& 0xF3 := by
  rw [C01.flags_lt hx (Nat.lt_of_le_of_lt Nat.and_le_left hx), C01.flags_keep (by rw [Nat.and_assoc]; exact Nat.and_zero x)]

/-- `getRawMessageHeader` + `setPayloadLength(n)` + `setSegmentType(seg)` is the header of the
    structured model -/
theorem header_eq (p : Packet) (n seg : Nat) :
    (let hdr := msgHeader p (p.flags % 256 &&& 0x0C) p.payloadLength
     let hdr := writeAt hdr 14 (beEnc 2 n)
     writeAt hdr 12 [UInt8.ofNat ((byteAt hdr 12 &&& 0xF3) ||| seg)]) = msgHeader p seg n := by
  simp only
  rw [msgHeader_eq_msgHdr, msgHdr_writeLen]
  have h12 := (msgHdr_fields p.ts (idWord p) ((p.flags % 256 &&& 0xF3) ||| (p.flags % 256 &&& 0x0C)) p.rawType n []).2.2.2.1
  rw [List.append_nil] at h12
  rw [h12, flag_remask _ (Nat.mod_lt _ (by decide)), msgHdr_writeFlags, msgHeader_eq_msgHdr]

/-- `resize(max(size - bytesLeft, min))` of an open frame is the serialised closed frame -/
theorem resize_eq (pre : Bytes) (k mn : Nat) (h : mn ≤ pre.length + k) :
    resize (pre ++ zeros k) (Nat.max ((pre ++ zeros k).length - k) mn) = pre ++ zeros (mn - pre.length) := by
  have hl : (pre ++ zeros k).length - k = pre.length := by simp
  have hm : Nat.max pre.length mn ≤ (pre ++ zeros k).length := by
    rw [List.length_append, zeros_length]; exact Nat.max_le.mpr ⟨by omega, h⟩
  have e1 : Nat.max pre.length mn - pre.length = mn - pre.length := by
    show max pre.length mn - pre.length = mn - pre.length
    omega
  have e2 : Nat.min (mn - pre.length) k = mn - pre.length := Nat.min_eq_left (by omega)
  unfold resize
  rw [hl, if_pos hm, List.take_append, List.take_of_length_le (Nat.le_max_left _ _), take_zeros, e1, e2]

/-- past the end of the payload the loop of `putPacket` does nothing -/
theorem putLoop_done (p : Packet) (isSeg : Bool) (fuel : Nat) (l : EncLL) (pos segInd : Nat)
    (h : ¬ pos < p.payloadLength) : EncLL.putLoop p isSeg fuel l pos segInd = l := by
  cases fuel with
  | zero => rfl
  | succ n => exact if_pos h

end AsamCmp.C07b

/-! ### the body of the loop of `putPacket`, piece by piece -/

namespace AsamCmp.EncLL

/-- `if (bytesLeft < sizeof(MessageHeader)) addNewCMPFrame(packet)` -/
def pre (p : Packet) (l : EncLL) : EncLL := if l.bytesLeft < 16 then l.addNewCMPFrame p else l

/-- the local `bytesToAdd` of the loop body (the cast to `uint16_t` does not change it: it is at most the payload length) -/
def bytesToAdd (p : Packet) (l : EncLL) (pos : Nat) : Nat := Nat.min (l.bytesLeft - 16) (p.payloadLength - pos)

/-- the `memcpy` of the payload slice and `bytesLeft -= bytesToAdd` -/
def putData (l : EncLL) (d : Bytes) (n : Nat) : EncLL :=
  let s :=
    match l.frames.getLast? with
    | none => l
    | some f => l.setLast (writeAt f (f.length - l.bytesLeft) d)
  { s with bytesLeft := s.bytesLeft - n }

/-- the body of the loop behind the first `if` -/
def step1 (p : Packet) (isSeg : Bool) (l : EncLL) (pos segInd : Nat) : EncLL :=
  let n := bytesToAdd p l pos
  let flag := EncLL.segFlag isSeg segInd n p.payloadLength pos
  let s := putData (l.addNewDataHeader p n flag) (slice p.data pos n) n
  if flag = 12 then s.addNewCMPFrame p else s

theorem putLoop_succ (p : Packet) (isSeg : Bool) (fuel : Nat) (l : EncLL) (pos segInd : Nat) :
    EncLL.putLoop p isSeg (fuel + 1) l pos segInd =
      if ¬ pos < p.payloadLength then l
      else EncLL.putLoop p isSeg fuel (step1 p isSeg (pre p l) pos segInd) (pos + bytesToAdd p (pre p l) pos) (segInd + 1) := rfl

theorem closeLastFrame_keeps (l : EncLL) :
    l.closeLastFrame.min = l.min ∧ l.closeLastFrame.max = l.max ∧ l.closeLastFrame.tmpl = l.tmpl ∧
    l.closeLastFrame.dev = l.dev ∧ l.closeLastFrame.stream = l.stream := by
  unfold EncLL.closeLastFrame
  split
  · simp
  · split <;> simp [EncLL.setLast]

end AsamCmp.EncLL

/-! ### the configuration members through one `encode` of the low-level model -/

namespace AsamCmp.C10S
open AsamCmp

/-- the four members `putPacket` never writes -/
def cfg4 (l : EncLL) : Nat × Nat × Nat × Nat := (l.min, l.max, l.dev, l.stream)

theorem closeLast_cfg4 (l : EncLL) : cfg4 l.closeLastFrame = cfg4 l := by
  obtain ⟨a, b, _, d, e⟩ := EncLL.closeLastFrame_keeps l
  simp only [cfg4, a, b, d, e]

theorem addNew_cfg4 (l : EncLL) (p : Packet) : cfg4 (l.addNewCMPFrame p) = cfg4 l := by
  have e := closeLast_cfg4 l
  unfold EncLL.addNewCMPFrame
  simp only
  split <;> exact e

theorem setMessageType_cfg4 (l : EncLL) (p : Packet) : cfg4 (l.setMessageType p) = cfg4 l := by
  unfold EncLL.setMessageType
  rw [addNew_cfg4]
  rfl

theorem addNewDataHeader_cfg4 (l : EncLL) (p : Packet) (n seg : Nat) : cfg4 (l.addNewDataHeader p n seg) = cfg4 l := by
  unfold EncLL.addNewDataHeader
  split <;> rfl

theorem checkIfSegmented_cfg4 (l : EncLL) (p : Packet) : cfg4 (l.checkIfSegmented p).1 = cfg4 l := by
  unfold EncLL.checkIfSegmented
  simp only
  split
  · exact addNew_cfg4 l p
  · rfl

theorem pre_cfg4 (p : Packet) (l : EncLL) : cfg4 (EncLL.pre p l) = cfg4 l := by
  unfold EncLL.pre
  split
  · exact addNew_cfg4 l p
  · rfl

theorem putData_cfg4 (l : EncLL) (d : Bytes) (n : Nat) : cfg4 (EncLL.putData l d n) = cfg4 l := by
  unfold EncLL.putData
  simp only
  split <;> rfl

theorem step1_cfg4 (p : Packet) (isSeg : Bool) (l : EncLL) (pos segInd : Nat) :
    cfg4 (EncLL.step1 p isSeg l pos segInd) = cfg4 l := by
  unfold EncLL.step1
  simp only
  split
  · rw [addNew_cfg4, putData_cfg4, addNewDataHeader_cfg4]
  · rw [putData_cfg4, addNewDataHeader_cfg4]

theorem putLoop_cfg4 (p : Packet) (isSeg : Bool) : ∀ (fuel : Nat) (l : EncLL) (pos segInd : Nat),
    cfg4 (EncLL.putLoop p isSeg fuel l pos segInd) = cfg4 l := by
  intro fuel
  induction fuel with
  | zero => intro l pos segInd; rfl
  | succ n ih =>
    intro l pos segInd
    rw [EncLL.putLoop_succ]
    split
    · rfl
    · rw [ih, step1_cfg4, pre_cfg4]

theorem putPacket_cfg4 (l : EncLL) (p : Packet) : cfg4 (l.putPacket p) = cfg4 l := by
  unfold EncLL.putPacket
  simp only
  rw [putLoop_cfg4, checkIfSegmented_cfg4]
  split
  · exact setMessageType_cfg4 l p
  · rfl

theorem foldl_cfg4 (batch : List Packet) : ∀ l : EncLL, cfg4 (batch.foldl EncLL.putPacket l) = cfg4 l := by
  induction batch with
  | nil => intro l; rfl
  | cons p ps ih => intro l; rw [List.foldl_cons, ih, putPacket_cfg4]

/-- **post-state, scratch part**: whatever the state before, after `encode` the low-level object has the call's `min` / `max`,
    its own ids, and `bytesLeft = 0`, no frames, no template -/
theorem encodeLL_post (l : EncLL) (batch : List Packet) (c : Ctx) :
    (l.encode batch c).1.min = c.min ∧ (l.encode batch c).1.max = c.max ∧
    (l.encode batch c).1.dev = l.dev ∧ (l.encode batch c).1.stream = l.stream ∧
    (l.encode batch c).1.bytesLeft = 0 ∧ (l.encode batch c).1.frames = [] ∧ (l.encode batch c).1.tmpl = [] := by
  have h : cfg4 (batch.foldl EncLL.putPacket (l.init c)).closeLastFrame = (c.min, c.max, l.dev, l.stream) := by
    rw [closeLast_cfg4, foldl_cfg4]
    rfl
  simp only [cfg4, Prod.mk.injEq] at h
  obtain ⟨h1, h2, h3, h4⟩ := h
  exact ⟨h1, h2, h3, h4, rfl, rfl, rfl⟩

end AsamCmp.C10S
