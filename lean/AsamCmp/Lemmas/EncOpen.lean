/-
  The encoder between two packets, in normal form.  Once the first frame is open the state is a function of the closed
  frames and the open frame alone (`Open`, `Open.enc`): ids, counter, message type and template can be read off the open
  frame.  `putPacket` then is a function `Open.step` on such pairs (`enc_putPacket`) built from two moves, `Open.new` (close
  the open frame if it holds a message, recycle it if not) and `Open.add`; one `encode` call is the fold of `step` from the
  frame the first packet opens (`encode_open`).  On top, the invariants of the fold, each as a fact about `new`, `add`
  and `step`: counters and ids (`encode_numbered`, C09), the counter offset commutes with `step` (`encode_any_state`, C10),
  the messages held are the pieces (`foldl_msgs`), every frame is well-formed (`step_ok`), greedy fill (`step_greedy`).
  Lemmas/EncStruct.lean states what one `encode` call hands out.
-/
import AsamCmp.EncHist
import AsamCmp.Lemmas.EncOps
namespace AsamCmp

/-- closed frames and the open frame -/
abbrev Open := List EFrame × EFrame

namespace Open

/-- the encoder state with the open frame `x.2` behind the closed frames `x.1` -/
def enc (x : Open) : Enc :=
  { dev := x.2.dev, stream := x.2.stream, seqc := x.2.seq, curMt := x.2.mt, closed := x.1, cur := some x.2,
    tmpl := some (x.2.ver, x.2.mt) }

/-- `addNewCMPFrame` with header `(v, mt)`: an open frame without messages is recycled (its counter given back and taken
    again), one with messages is closed and a frame with the next counter opened -/
def new (x : Open) (v mt : Nat) : Open :=
  if x.2.msgs.isEmpty then (x.1, { x.2 with ver := v, mt := mt, seq := ((x.2.seq + 65535) % 65536 + 1) % 65536 })
  else (x.1 ++ [x.2], ⟨v, x.2.dev, mt, x.2.stream, (x.2.seq + 1) % 65536, []⟩)

/-- a new frame with the header of the open one -/
def next (x : Open) : Open := x.new x.2.ver x.2.mt

/-- `m` appended to the open frame -/
def add (x : Open) (m : EMsg) : Open := (x.1, { x.2 with msgs := x.2.msgs ++ [m] })

/-- the frames `closeLast` hands out -/
def out (x : Open) : List EFrame := x.1 ++ (if x.2.msgs.isEmpty then [] else [x.2])

/-- `putSegs`: every segment goes into the open frame, behind which a new frame is opened at once -/
def segs (x : Open) : List EMsg → Open
  | [] => x
  | m :: ms => segs (x.add m).next ms

/-- after the message-type check -/
def s1 (x : Open) (p : Packet) : Open := if x.2.mt != p.mt then x.new (p.version % 256) p.mt else x

/-- after the does-it-fit check -/
def s2 (c : Ctx) (x : Open) (p : Packet) : Open :=
  if c.cap - (x.s1 p).2.used < 16 + p.payloadLength then (x.s1 p).next else x.s1 p

/-- `putPacket` on the normal form -/
def step (c : Ctx) (x : Open) (ip : Nat × Packet) : Open :=
  if ip.2.payloadLength = 0 then x.s2 c ip.2
  else if 16 + ip.2.payloadLength ≤ c.cap then (x.s2 c ip.2).add ⟨ip.1, ip.2, 0, ip.2.data.take ip.2.payloadLength⟩
  else segs (x.s1 ip.2).next (segMsgs ip.1 ip.2 true (chunks (c.cap - 16) (ip.2.data.take ip.2.payloadLength)))

/-! ### what the moves do to the open frame and to the frames handed out -/

theorem new_out (x : Open) (v mt : Nat) : (x.new v mt).out = x.out := by
  unfold new out
  split
  · next he => simp [he]
  · next he => simp [he]

theorem new_empty (x : Open) (v mt : Nat) : (x.new v mt).2.msgs = [] := by
  unfold new
  split
  · next he => exact List.isEmpty_iff.mp he
  · rfl

theorem new_mt (x : Open) (v mt : Nat) : (x.new v mt).2.mt = mt := by
  unfold new; split <;> rfl

theorem s1_mt (x : Open) (p : Packet) : (x.s1 p).2.mt = p.mt := by
  unfold s1
  split
  · unfold new; split <;> rfl
  · next h => simpa using h

theorem step_mt (c : Ctx) (x : Open) (ip : Nat × Packet) : (x.step c ip).2.mt = ip.2.mt := by
  have hsegs : ∀ (ms : List EMsg) (x : Open), (x.segs ms).2.mt = x.2.mt := by
    intro ms
    induction ms with
    | nil => intro x; rfl
    | cons m ms ih => intro x; exact (ih _).trans (new_mt ..)
  have h2 : (x.s2 c ip.2).2.mt = ip.2.mt := by
    unfold s2; split
    · exact (new_mt ..).trans (s1_mt ..)
    · exact s1_mt ..
  unfold step
  split
  · exact h2
  · split
    · exact h2
    · exact (hsegs _ _).trans ((new_mt ..).trans (s1_mt ..))

/-! ### the normal form is kept by the model's operations -/

theorem enc_vis (x : Open) : x.enc.vis = x.out := rfl

theorem enc_closeLast (x : Open) : x.enc.closeLast =
    { x.enc with closed := x.out, cur := none,
                 seqc := if x.2.msgs.isEmpty then (x.2.seq + 65535) % 65536 else x.2.seq } := by
  unfold Enc.closeLast out
  cases hm : x.2.msgs.isEmpty <;> simp [enc, hm]

theorem enc_left (c : Ctx) (x : Open) : x.enc.left c = c.cap - x.2.used := rfl

theorem enc_add (x : Open) (m : EMsg) : x.enc.add m = (x.add m).enc := rfl

theorem enc_addNew (x : Open) (p : Packet) : x.enc.addNew p = x.next.enc := by
  unfold next new
  cases h : x.2.msgs.isEmpty <;> simp [enc, Enc.addNew, Enc.closeLast, h, List.isEmpty_iff.mp]

theorem enc_retype_addNew (x : Open) (p : Packet) :
    (x.enc.retype p.mt).addNew p = (x.new (p.version % 256) p.mt).enc := by
  unfold new
  cases h : x.2.msgs.isEmpty <;> simp [enc, Enc.retype, Enc.addNew, Enc.closeLast, h, List.isEmpty_iff.mp]

theorem enc_putSegs (p : Packet) (ms : List EMsg) : ∀ x : Open, putSegs x.enc p ms = (x.segs ms).enc := by
  induction ms with
  | nil => intro x; rfl
  | cons m ms ih => intro x; rw [putSegs, enc_add, enc_addNew, ih]; rfl

/-- `putPacket` maps normal forms to normal forms -/
theorem enc_putPacket (c : Ctx) (x : Open) (ip : Nat × Packet) : putPacket c x.enc ip = (x.step c ip).enc := by
  obtain ⟨i, p⟩ := ip
  have h1 : st1 x.enc p = (x.s1 p).enc := by
    unfold st1 s1
    show (if (false || x.2.mt != p.mt) = true then _ else _) = _
    rw [Bool.false_or, enc_retype_addNew, apply_ite enc]
  have h2 : st2 c x.enc p = (x.s2 c p).enc := by
    unfold st2 s2
    rw [h1, enc_left, enc_addNew, apply_ite enc]
  rw [putPacket_eqS, h2, h1, enc_addNew, enc_putSegs, enc_add]
  unfold step
  rw [apply_ite enc, apply_ite enc]

theorem enc_foldl (c : Ctx) (ib : List (Nat × Packet)) :
    ∀ x : Open, ib.foldl (putPacket c) x.enc = (ib.foldl (step c) x).enc := by
  induction ib with
  | nil => intro x; rfl
  | cons ip ib ih => intro x; rw [List.foldl_cons, enc_putPacket, ih]; rfl

/-- what `new` and `add` keep, `step` keeps -/
theorem step_keeps {P : Open → Prop} (c : Ctx) (x : Open) (ip : Nat × Packet)
    (hnew : ∀ x v mt, P x → P (x.new v mt)) (hadd : ∀ x m, P x → m.pkt = ip.2 ∧ m.idx = ip.1 → P (x.add m))
    (h : P x) : P (x.step c ip) := by
  have hsegs : ∀ (ms : List EMsg) (x : Open), P x → (∀ m ∈ ms, m.pkt = ip.2 ∧ m.idx = ip.1) → P (x.segs ms) := by
    intro ms
    induction ms with
    | nil => intro x h _; exact h
    | cons m ms ih =>
      intro x h hms
      exact ih _ (hnew _ _ _ (hadd _ m h (hms m (by simp)))) (fun m' hm' => hms m' (by simp [hm']))
  have h1 : P (x.s1 ip.2) := by unfold s1; split; exact hnew _ _ _ h; exact h
  have h2 : P (x.s2 c ip.2) := by unfold s2; split; exact hnew _ _ _ h1; exact h1
  unfold step
  split
  · exact h2
  · split
    · exact hadd _ _ h2 ⟨rfl, rfl⟩
    · exact hsegs _ _ (hnew _ _ _ h1) fun m hm => ⟨(segMsgs_mem _ _ _ _ m hm).2.1, (segMsgs_mem _ _ _ _ m hm).1⟩

/-! ### the first packet opens the first frame; `encode` -/

/-- the frame the first packet `p` of a batch opens -/
def first (e : Enc) (p : Packet) : Open := ([], ⟨p.version % 256, e.dev, p.mt, e.stream, (e.seqc + 1) % 65536, []⟩)

/-- `putPacket` reads the state only behind its message-type check, and that check turns the start state into `first` -/
theorem start_putPacket (c : Ctx) (e : Enc) (ip : Nat × Packet) :
    putPacket c e.start ip = putPacket c (first e ip.2).enc ip := by
  have h : st1 e.start ip.2 = st1 (first e ip.2).enc ip.2 := by
    rw [st1_new (Or.inl rfl), st1_same (f := (first e ip.2).2) rfl rfl]
    simp [Enc.start, Enc.retype, Enc.addNew, Enc.closeLast, enc, first]
  rw [putPacket_eqS, putPacket_eqS]
  unfold st2
  rw [h]

/-- **one `encode` call in terms of the normal form**: for a batch `p :: ps` the state just before the frames are handed out
    is the fold of `step` from the frame `p` opens (the empty batch hands out nothing: `encode_nil`) -/
theorem encode_open (e : Enc) (p : Packet) (ps : List Packet) (c : Ctx) :
    ((List.range (p :: ps).length).zip (p :: ps)).foldl (putPacket c) e.start =
      (((List.range (p :: ps).length).zip (p :: ps)).foldl (step c) (first e p)).enc := by
  rw [← enc_foldl]
  simp only [List.length_cons, List.range_succ_eq_map, List.zip_cons_cons, List.foldl_cons]
  rw [start_putPacket]

theorem encode_open_frames (e : Enc) (p : Packet) (ps : List Packet) (c : Ctx) :
    (e.encode (p :: ps) c).2 = (((List.range (p :: ps).length).zip (p :: ps)).foldl (step c) (first e p)).out := by
  rw [encode_frames, encode_open, enc_vis]

theorem encode_open_state (e : Enc) (p : Packet) (ps : List Packet) (c : Ctx) :
    (e.encode (p :: ps) c).1 =
      { (((List.range (p :: ps).length).zip (p :: ps)).foldl (step c) (first e p)).enc.closeLast with
        closed := [], cur := none, tmpl := none } := by
  rw [← encode_open]; rfl

/-- an invariant of the steps is an invariant of the fold -/
theorem foldl_keeps {σ α : Type} (f : σ → α → σ) (P : σ → Prop) (l : List α) (h : ∀ s, ∀ a ∈ l, P s → P (f s a)) :
    ∀ s, P s → P (l.foldl f s) := by
  induction l with
  | nil => intro s hs; exact hs
  | cons a l ih => intro s hs; exact ih (fun s b hb => h s b (by simp [hb])) _ (h s a (by simp) hs)

/-! ### C09: the frames are numbered from the counter on and carry the ids -/

/-- frame `i` of `l` has counter `q0 + i + 1` and the ids `d`, `st` -/
def Numbered (q0 d st : Nat) (l : List EFrame) : Prop :=
  ∀ i (h : i < l.length), l[i].seq = (q0 + i + 1) % 65536 ∧ l[i].dev = d ∧ l[i].stream = st

theorem numbered_snoc {q0 d st : Nat} {l : List EFrame} {f : EFrame} :
    Numbered q0 d st (l ++ [f]) ↔
      Numbered q0 d st l ∧ f.seq = (q0 + l.length + 1) % 65536 ∧ f.dev = d ∧ f.stream = st := by
  constructor
  · intro h
    refine ⟨fun i hi => ?_, ?_⟩
    · have := h i (by simp; omega)
      rwa [List.getElem_append_left hi] at this
    · simpa using h l.length (by simp)
  · intro h i hi
    rw [List.getElem_append]
    split
    · exact h.1 i _
    · have : i = l.length := by simp at hi; omega
      subst this
      simpa using h.2

theorem step_num {q0 d st : Nat} (c : Ctx) (x : Open) (ip : Nat × Packet) (h : Numbered q0 d st (x.1 ++ [x.2])) :
    Numbered q0 d st ((x.step c ip).1 ++ [(x.step c ip).2]) := by
  refine step_keeps (P := fun x => Numbered q0 d st (x.1 ++ [x.2])) c x ip (fun x v mt h => ?_) (fun x m h _ => ?_) h
  · obtain ⟨h1, h2, h3⟩ := numbered_snoc.mp h
    unfold new
    split
    · refine numbered_snoc.mpr ⟨h1, ?_, h3⟩
      show ((x.2.seq + 65535) % 65536 + 1) % 65536 = (q0 + x.1.length + 1) % 65536
      rw [h2, Nat.mod_add_mod, Nat.add_assoc _ 65535 1, Nat.mod_add_mod, Nat.add_mod_right]
    · refine numbered_snoc.mpr ⟨h, ?_, h3⟩
      show (x.2.seq + 1) % 65536 = (q0 + (x.1 ++ [x.2]).length + 1) % 65536
      rw [List.length_append, List.length_singleton, h2, Nat.mod_add_mod, Nat.add_assoc q0]
  · exact numbered_snoc.mpr ((numbered_snoc (f := x.2)).mp h)

/-- **counters and ids of one `encode` call**, for every encoder state: frame `i` carries `e.seqc + i + 1`, the ids are the
    encoder's, and the counter afterwards has advanced by the number of frames -/
theorem encode_numbered (e : Enc) (batch : List Packet) (c : Ctx) :
    Numbered e.seqc e.dev e.stream (e.encode batch c).2 ∧
    (e.encode batch c).1.dev = e.dev ∧ (e.encode batch c).1.stream = e.stream ∧
    (e.encode batch c).1.seqc % 65536 = (e.seqc + (e.encode batch c).2.length) % 65536 ∧
    (e.seqc < 65536 → (e.encode batch c).1.seqc < 65536) ∧
    (e.encode batch c).1.closed = [] ∧ (e.encode batch c).1.cur = none ∧ (e.encode batch c).1.tmpl = none := by
  cases batch with
  | nil => simp [Enc.encode, Enc.closeLast, Numbered]
  | cons p ps =>
    have hn : (fun x : Open => Numbered e.seqc e.dev e.stream (x.1 ++ [x.2]))
        (((List.range (p :: ps).length).zip (p :: ps)).foldl (step c) (first e p)) := by
      exact foldl_keeps (step c) _ _ (fun x ip _ => step_num c x ip) _
        ((numbered_snoc (l := [])).mpr ⟨fun _ hi => absurd hi (Nat.not_lt_zero _), rfl, rfl, rfl⟩)
    rw [encode_open_frames, encode_open_state, enc_closeLast]
    generalize ((List.range (p :: ps).length).zip (p :: ps)).foldl (step c) (first e p) = x at hn
    obtain ⟨h1, h2, h3, h4⟩ := numbered_snoc.mp hn
    have key : Numbered e.seqc e.dev e.stream x.out ∧
        (if x.2.msgs.isEmpty then (x.2.seq + 65535) % 65536 else x.2.seq) = (e.seqc + x.out.length) % 65536 := by
      unfold out
      split
      · rw [List.append_nil, h2, Nat.mod_add_mod, Nat.add_assoc _ 1 65535, Nat.add_mod_right]
        exact ⟨h1, rfl⟩
      · rw [List.length_append, List.length_singleton, h2, Nat.add_assoc]
        exact ⟨hn, rfl⟩
    refine ⟨key.1, h3, h4, ?_, fun _ => ?_, rfl, rfl, rfl⟩
    · show (if x.2.msgs.isEmpty then (x.2.seq + 65535) % 65536 else x.2.seq) % 65536 = _
      rw [key.2, Nat.mod_mod]
    · show (if x.2.msgs.isEmpty then (x.2.seq + 65535) % 65536 else x.2.seq) < 65536
      rw [key.2]
      exact Nat.mod_lt _ (by decide)

/-! ### C10: the counter offset commutes with every move -/

/-- add `k` to every counter -/
def shift (k : Nat) (x : Open) : Open := (shiftSeq k x.1, { x.2 with seq := (x.2.seq + k) % 65536 })

/-- an offset moves past an increment of the counter -/
theorem shift_add (a b k : Nat) : ((a + k) % 65536 + b) % 65536 = ((a + b) % 65536 + k) % 65536 := by
  rw [Nat.mod_add_mod, Nat.mod_add_mod, Nat.add_right_comm]

theorem new_shift (k : Nat) (x : Open) (v mt : Nat) : (x.shift k).new v mt = (x.new v mt).shift k := by
  unfold new shift
  show (if x.2.msgs.isEmpty = true then _ else _) = _
  split
  · simp only [Prod.mk.injEq, EFrame.mk.injEq, true_and, and_true]
    rw [shift_add x.2.seq 65535 k, shift_add]
  · simp only [shiftSeq, List.map_append, List.map_cons, List.map_nil, Prod.mk.injEq, EFrame.mk.injEq, true_and, and_true]
    exact shift_add ..

theorem segs_shift (k : Nat) (ms : List EMsg) : ∀ x : Open, (x.shift k).segs ms = (x.segs ms).shift k := by
  induction ms with
  | nil => intro x; rfl
  | cons m ms ih => intro x; exact (congrArg (segs · ms) (new_shift k (x.add m) _ _)).trans (ih _)

/-- `step` reads message type, version and fill of the open frame, none of which the offset touches -/
theorem step_shift (c : Ctx) (k : Nat) (x : Open) (ip : Nat × Packet) : (x.shift k).step c ip = (x.step c ip).shift k := by
  have h1 : (x.shift k).s1 ip.2 = (x.s1 ip.2).shift k := by
    unfold s1
    show (if x.2.mt != ip.2.mt then (x.shift k).new _ _ else _) = _
    rw [new_shift, apply_ite (shift k)]
  have h2 : (x.shift k).s2 c ip.2 = (x.s2 c ip.2).shift k := by
    unfold s2
    rw [h1]
    show (if c.cap - (x.s1 ip.2).2.used < _ then ((x.s1 ip.2).shift k).new _ _ else _) = _
    rw [new_shift, apply_ite (shift k)]
    rfl
  unfold step
  rw [h1, h2, apply_ite (shift k), apply_ite (shift k)]
  show (if _ then _ else if _ then _ else (((x.s1 ip.2).shift k).new _ _).segs _) = _
  rw [new_shift, segs_shift]
  rfl

theorem foldl_shift (c : Ctx) (k : Nat) (ib : List (Nat × Packet)) :
    ∀ x : Open, ib.foldl (step c) (x.shift k) = (ib.foldl (step c) x).shift k := by
  induction ib with
  | nil => intro x; rfl
  | cons ip ib ih => intro x; rw [List.foldl_cons, step_shift, ih]; rfl

theorem out_shift (k : Nat) (x : Open) : (x.shift k).out = shiftSeq k x.out := by
  unfold out shift shiftSeq
  show _ ++ (if x.2.msgs.isEmpty = true then _ else _) = _
  split <;> simp

theorem first_shift (e : Enc) (p : Packet) : first e p = (first (Enc.fresh e.dev e.stream) p).shift e.seqc := by
  simp only [first, shift, shiftSeq, Enc.fresh, List.map_nil, Prod.mk.injEq, EFrame.mk.injEq, true_and, and_true]
  omega

/-- `encode` reads only (dev, stream, seqc) of the encoder it is called on -/
theorem encode_any_state (e : Enc) (batch : List Packet) (c : Ctx) :
    (e.encode batch c).2 = shiftSeq e.seqc ((Enc.fresh e.dev e.stream).encode batch c).2 := by
  cases batch with
  | nil => rw [(encode_nil e c).1, (encode_nil _ c).1]; rfl
  | cons p ps => rw [encode_open_frames, encode_open_frames, first_shift, foldl_shift, out_shift]


/-- … and the counter afterwards is the fresh run's plus the offset -/
theorem encode_any_state_seqc (e : Enc) (batch : List Packet) (c : Ctx) :
    (e.encode batch c).1.seqc % 65536 = (((Enc.fresh e.dev e.stream).encode batch c).1.seqc + e.seqc) % 65536 := by
  cases batch with
  | nil => simp [Enc.encode, Enc.closeLast, Enc.fresh]
  | cons p ps =>
    rw [encode_open_state, encode_open_state, enc_closeLast, enc_closeLast, first_shift e p, foldl_shift]
    generalize ((List.range (p :: ps).length).zip (p :: ps)).foldl (step c) (first (Enc.fresh e.dev e.stream) p) = x
    have h : ∀ b : Bool, (if b then ((x.2.seq + e.seqc) % 65536 + 65535) % 65536 else (x.2.seq + e.seqc) % 65536) % 65536 =
        ((if b then (x.2.seq + 65535) % 65536 else x.2.seq) + e.seqc) % 65536 := by
      intro b
      cases b
      · simp only [Bool.false_eq_true, if_false, Nat.mod_mod]
      · simp only [if_true, Nat.mod_mod, shift_add]
    exact h x.2.msgs.isEmpty

/-! ### the messages held are the pieces of the packets, in order -/

/-- every message held, closed frames first -/
def msgs (x : Open) : List EMsg := x.1.flatMap (·.msgs) ++ x.2.msgs

theorem out_msgs (x : Open) : x.out.flatMap (·.msgs) = x.msgs := by
  unfold out msgs
  split
  · next he => simp [List.isEmpty_iff.mp he]
  · simp

theorem new_msgs (x : Open) (v mt : Nat) : (x.new v mt).msgs = x.msgs := by
  unfold new msgs
  split
  · rfl
  · simp

theorem segs_msgs (ms : List EMsg) : ∀ x : Open, (x.segs ms).msgs = x.msgs ++ ms := by
  induction ms with
  | nil => intro x; simp [segs]
  | cons m ms ih => intro x; rw [segs, ih, next, new_msgs]; simp [add, msgs]

theorem step_msgs (c : Ctx) (x : Open) (ip : Nat × Packet) : (x.step c ip).msgs = x.msgs ++ pieces c ip.1 ip.2 := by
  have h1 : (x.s1 ip.2).msgs = x.msgs := by unfold s1; split; exact new_msgs ..; rfl
  have h2 : (x.s2 c ip.2).msgs = x.msgs := by unfold s2; split; exact (new_msgs ..).trans h1; exact h1
  unfold step pieces
  by_cases h0 : ip.2.payloadLength = 0
  · rw [if_pos h0, if_pos h0, h2, List.append_nil]
  · rw [if_neg h0, if_neg h0]
    by_cases hfit : 16 + ip.2.payloadLength ≤ c.cap
    · rw [if_pos hfit, if_pos hfit, ← h2]; simp [add, msgs]
    · rw [if_neg hfit, if_neg hfit, segs_msgs, next, new_msgs, h1]

theorem foldl_msgs (c : Ctx) (ib : List (Nat × Packet)) :
    ∀ x : Open, (ib.foldl (step c) x).msgs = x.msgs ++ ib.flatMap (fun ip => pieces c ip.1 ip.2) := by
  induction ib with
  | nil => intro x; simp
  | cons ip ib ih => intro x; rw [List.foldl_cons, ih, step_msgs]; simp

/-! ### every frame is well-formed -/

/-- what `new` needs: every closed frame well-formed and non-empty, the open frame well-formed -/
structure Pre (c : Ctx) (x : Open) : Prop where
  closed : ∀ f ∈ x.1, FrameOk c f ∧ f.msgs ≠ []
  cur : FrameOk c x.2

/-- between the moves of `step`: moreover the open frame holds no segment -/
structure Ok (c : Ctx) (x : Open) : Prop extends Pre c x where
  unseg : ∀ m ∈ x.2.msgs, m.seg = 0

theorem new_ok {c : Ctx} {x : Open} (h : Pre c x) (v : Nat) {mt : Nat} (hmt : mt < 256) :
    Ok c (x.new v mt) ∧ (x.new v mt).2.msgs = [] ∧ (x.new v mt).2.mt = mt := by
  unfold new
  split
  · next he =>
    have he := List.isEmpty_iff.mp he
    exact ⟨⟨⟨h.closed, by simpa [EFrame.used, he] using h.cur.used, Or.inl (by simp [he]), by simp [he], hmt⟩, by simp [he]⟩,
      he, rfl⟩
  · next he =>
    refine ⟨⟨⟨?_, by simp [EFrame.used], Or.inl (by simp), by simp, hmt⟩, by simp⟩, rfl, rfl⟩
    intro f hf
    rcases List.mem_append.mp hf with hf | hf
    · exact h.closed f hf
    · rw [List.mem_singleton.mp hf]
      exact ⟨h.cur, fun e => he (by rw [e]; rfl)⟩

/-- a message of the open frame's type that fits: unsegmented behind unsegmented ones, or a segment into the empty frame -/
theorem add_pre {c : Ctx} {x : Open} (h : Ok c x) (m : EMsg) (hmt : m.pkt.mt = x.2.mt) (hfit : x.2.used + m.size ≤ c.cap)
    (hs : m.seg = 0 ∨ x.2.msgs = []) : Pre c (x.add m) ∧ (m.seg = 0 → Ok c (x.add m)) := by
  have hall : ∀ y ∈ x.2.msgs ++ [m], y.pkt.mt = x.2.mt ∧ (m.seg = 0 → y.seg = 0) := by
    intro y hy
    rcases List.mem_append.mp hy with hy | hy
    · exact ⟨h.cur.mts y hy, fun _ => h.unseg y hy⟩
    · rw [List.mem_singleton.mp hy]; exact ⟨hmt, id⟩
  have hp : Pre c (x.add m) := by
    refine ⟨h.closed, by simpa [add, EFrame.used] using hfit, ?_, fun y hy => (hall y hy).1, h.cur.mtlt⟩
    rcases hs with hs | hs
    · exact Or.inl fun y hy => (hall y hy).2 hs
    · exact Or.inr (by simp [add, hs])
  exact ⟨hp, fun hs => ⟨hp, fun y hy => (hall y hy).2 hs⟩⟩

theorem segs_ok {c : Ctx} (ms : List EMsg) : ∀ x : Open, Ok c x → x.2.msgs = [] →
    (∀ m ∈ ms, m.pkt.mt = x.2.mt ∧ m.size ≤ c.cap) → Ok c (x.segs ms) := by
  induction ms with
  | nil => intro x h _ _; exact h
  | cons m ms ih =>
    intro x h he hms
    have hm := hms m (by simp)
    have hn : Ok c (x.add m).next ∧ (x.add m).next.2.msgs = [] ∧ (x.add m).next.2.mt = x.2.mt :=
      new_ok (add_pre h m hm.1 (by simpa [EFrame.used, he] using hm.2) (Or.inr he)).1 x.2.ver h.cur.mtlt
    exact ih _ hn.1 hn.2.1 fun y hy => by rw [hn.2.2]; exact hms y (by simp [hy])

theorem step_ok {c : Ctx} (hcap : 17 ≤ c.cap) {x : Open} (ip : Nat × Packet) (h : Ok c x) : Ok c (x.step c ip) := by
  have h1 : Ok c (x.s1 ip.2) := by
    unfold s1; split
    · exact (new_ok h.toPre _ (Packet.mt_lt _)).1
    · exact h
  have h2 : Ok c (x.s2 c ip.2) ∧ (x.s2 c ip.2).2.mt = ip.2.mt ∧
      (16 + ip.2.payloadLength ≤ c.cap → (x.s2 c ip.2).2.used + (16 + ip.2.payloadLength) ≤ c.cap) := by
    unfold s2; split
    · have hn := new_ok h1.toPre (x.s1 ip.2).2.ver h1.cur.mtlt
      exact ⟨hn.1, hn.2.2.trans (s1_mt x _), fun hfit => by simpa [next, EFrame.used, hn.2.1] using hfit⟩
    · exact ⟨h1, s1_mt x _, fun _ => by have := h1.cur.used; omega⟩
  have hle : ip.2.payloadLength ≤ ip.2.data.length := by rw [payloadLength_eq]; exact Nat.mod_le _ _
  unfold step
  split
  · exact h2.1
  · split
    · next hfit =>
      refine (add_pre h2.1 _ h2.2.1.symm ?_ (Or.inl rfl)).2 rfl
      simpa [EMsg.size, List.length_take, Nat.min_eq_left hle] using h2.2.2 hfit
    · have hn : Ok c (x.s1 ip.2).next ∧ (x.s1 ip.2).next.2.msgs = [] ∧ (x.s1 ip.2).next.2.mt = (x.s1 ip.2).2.mt :=
        new_ok h1.toPre (x.s1 ip.2).2.ver h1.cur.mtlt
      refine segs_ok _ _ hn.1 hn.2.1 fun m hm => ?_
      obtain ⟨_, hp, _, hb⟩ := segMsgs_mem _ _ _ _ m hm
      have := chunks_mem (c.cap - 16) (by omega) _ _ hb
      exact ⟨by rw [hp, hn.2.2, s1_mt], by unfold EMsg.size; omega⟩


theorem Ok.out {c : Ctx} {x : Open} (h : Ok c x) : ∀ f ∈ x.out, FrameOk c f ∧ f.msgs ≠ [] := by
  intro f hf
  unfold Open.out at hf
  rcases List.mem_append.mp hf with hf | hf
  · exact h.closed f hf
  · split at hf
    · cases hf
    · next he => rw [List.mem_singleton.mp hf]; exact ⟨h.cur, fun e => he (by rw [e]; rfl)⟩

/-! ### greedy fill -/

/-- why the open frame is empty, if it is and a frame precedes it: after a segment, after a type change, or because a
    message of size `n` did not fit -/
def Why (c : Ctx) (n : Nat) (x : Open) : Prop :=
  x.2.msgs = [] → ∀ l, x.1.getLast? = some l → HasSeg l ∨ l.mt ≠ x.2.mt ∨ c.cap < l.used + n

/-- between two packets: after a segment, or behind a frame with fewer than 16 free bytes (which no message fits).  A type
    change is no reason here: the next packet may change the type back -/
def Btw (c : Ctx) (x : Open) : Prop :=
  x.2.msgs = [] → ∀ l, x.1.getLast? = some l → HasSeg l ∨ c.cap < l.used + 16

/-- what precedes the frame `new` opens: the open frame if it held a message, else what preceded that -/
theorem new_last (x : Open) (v mt : Nat) (l : EFrame) (h : (x.new v mt).1.getLast? = some l) :
    (x.2.msgs ≠ [] ∧ l = x.2) ∨ (x.2.msgs = [] ∧ x.1.getLast? = some l) := by
  unfold new at h
  split at h
  · next he => exact Or.inr ⟨List.isEmpty_iff.mp he, h⟩
  · next he =>
    rw [List.getLast?_concat] at h
    exact Or.inl ⟨fun e => he (by rw [e]; rfl), (Option.some.inj h).symm⟩

theorem s1_why {c : Ctx} {x : Open} (p : Packet) {n : Nat} (hn : 16 ≤ n) (h : Btw c x) : Why c n (x.s1 p) := by
  unfold s1
  split
  · next hne =>
    intro _ l hl
    rcases new_last x _ _ l hl with ⟨_, rfl⟩ | ⟨he, hl'⟩
    · right; left
      rw [new_mt]; simpa using hne
    · rcases h he l hl' with h' | h'
      · exact Or.inl h'
      · right; right; omega
  · intro he l hl
    rcases h he l hl with h' | h'
    · exact Or.inl h'
    · right; right; omega

theorem s2_why {c : Ctx} {x : Open} (p : Packet) (h : Why c (16 + p.payloadLength) (x.s1 p)) :
    Why c (16 + p.payloadLength) (x.s2 c p) := by
  unfold s2
  split
  · next hlt =>
    intro _ l hl
    rcases new_last _ _ _ l hl with ⟨_, rfl⟩ | ⟨he, hl'⟩
    · right; right; omega
    · have := h he l hl'
      rwa [← new_mt (x.s1 p) (x.s1 p).2.ver (x.s1 p).2.mt] at this
  · exact h

/-- adding a message keeps the greedy chain, provided a first message is justified -/
theorem add_greedy {c : Ctx} {x : Open} (m : EMsg) (h : GreedyE c x.out)
    (hw : x.2.msgs = [] → ∀ l, x.1.getLast? = some l → GreedyPair c l { x.2 with msgs := [m] }) :
    GreedyE c (x.add m).out := by
  unfold out at h ⊢
  unfold add
  simp only [List.isEmpty_iff, List.append_eq_nil_iff, List.cons_ne_self, and_false, if_false]
  rw [GreedyE_snoc]
  by_cases hf : x.2.msgs = []
  · simp only [hf, List.isEmpty_nil, if_true, List.append_nil] at h
    refine ⟨h, fun l hl => ?_⟩
    simpa [hf] using hw hf l hl
  · simp only [List.isEmpty_iff, hf, if_false] at h
    rw [GreedyE_snoc] at h
    refine ⟨h.1, ?_⟩
    intro l hl y ys hy hs hmt hall
    cases hfm : x.2.msgs with
    | nil => exact absurd hfm hf
    | cons z zs =>
      simp only [hfm, List.cons_append, List.cons.injEq] at hy
      obtain ⟨rfl, _⟩ := hy
      exact h.2 l hl _ zs hfm hs hmt hall

theorem segs_greedy {c : Ctx} (ms : List EMsg) :
    ∀ x : Open, GreedyE c x.out → (∀ m ∈ ms, m.seg ≠ 0) → GreedyE c (x.segs ms).out := by
  induction ms with
  | nil => intro x h _; exact h
  | cons m ms ih =>
    intro x h hms
    refine ih _ ?_ fun y hy => hms y (by simp [hy])
    unfold next
    rw [new_out]
    -- a segment as first message asks nothing of the frame in front
    refine add_greedy m h fun _ l _ y ys hy hs => ?_
    simp at hy
    obtain ⟨rfl, _⟩ := hy
    exact absurd hs (hms _ (by simp))

/-- after at least one segment the open frame is empty and follows a segment -/
theorem segs_last (ms : List EMsg) : ∀ x : Open, x.2.msgs = [] → ms ≠ [] → (∀ m ∈ ms, m.seg ≠ 0) →
    (x.segs ms).2.msgs = [] ∧ ∃ l, (x.segs ms).1.getLast? = some l ∧ HasSeg l := by
  induction ms with
  | nil => intro _ _ h; exact absurd rfl h
  | cons m ms ih =>
    intro x he _ hms
    cases ms with
    | nil =>
      refine ⟨new_empty _ _ _, (x.add m).2, ?_, m, by simp [add, he], hms m (by simp)⟩
      show ((x.add m).new _ _).1.getLast? = _
      unfold new
      rw [if_neg (by simp [add])]
      exact List.getLast?_concat ..
    | cons m' ms' => exact ih _ (new_empty _ _ _) (by simp) fun y hy => hms y (by simp [hy])

/-- one packet keeps the greedy chain; its payload may be empty if the open frame already has the packet's message type, so
    that no frame is opened for it -/
theorem step_greedy {c : Ctx} (hcap : 17 ≤ c.cap) {x : Open} (ip : Nat × Packet)
    (hlen : ip.2.payloadLength = 0 → x.2.mt = ip.2.mt) (hg : GreedyE c x.out) (h : Btw c x) :
    GreedyE c (x.step c ip).out ∧ Btw c (x.step c ip) := by
  have hle : ip.2.payloadLength ≤ ip.2.data.length := by rw [payloadLength_eq]; exact Nat.mod_le _ _
  have ho1 : (x.s1 ip.2).out = x.out := by unfold s1; split; exact new_out ..; rfl
  have ho2 : (x.s2 c ip.2).out = x.out := by unfold s2; split; exact (new_out ..).trans ho1; exact ho1
  unfold step
  split
  · next h0 =>
    refine ⟨ho2 ▸ hg, ?_⟩
    have e1 : x.s1 ip.2 = x := by unfold s1; rw [if_neg (by simp [hlen h0])]
    unfold s2
    rw [e1]
    split
    · next hlt =>
      intro _ l hl
      rcases new_last _ _ _ l hl with ⟨_, rfl⟩ | ⟨he, hl'⟩
      · right; omega
      · exact h he l hl'
    · exact h
  · split
    · next hfit =>
      refine ⟨add_greedy _ (ho2 ▸ hg) fun he l hl => greedyPair_of_why ?_ _ rfl, fun he => ?_⟩
      · simpa [EMsg.size, List.length_take, Nat.min_eq_left hle] using s2_why ip.2 (s1_why ip.2 (by omega) h) he l hl
      · simp [add] at he
    · next h0 hfit =>
      have hseg : ∀ m ∈ segMsgs ip.1 ip.2 true (chunks (c.cap - 16) (ip.2.data.take ip.2.payloadLength)), m.seg ≠ 0 := by
        intro m hm
        obtain ⟨_, _, h3, _⟩ := segMsgs_mem _ _ _ _ m hm
        omega
      have hne : segMsgs ip.1 ip.2 true (chunks (c.cap - 16) (ip.2.data.take ip.2.payloadLength)) ≠ [] := by
        have : ip.2.data.take ip.2.payloadLength ≠ [] := by
          intro e
          have := congrArg List.length e
          rw [List.length_take, List.length_nil] at this
          omega
        rw [chunks_cons _ _ (by omega) this]
        simp [segMsgs]
      refine ⟨segs_greedy _ _ (by unfold next; rw [new_out, ho1]; exact hg) hseg, fun _ l hl => ?_⟩
      obtain ⟨_, l', h2, h3⟩ := segs_last _ (x.s1 ip.2).next (new_empty _ _ _) hne hseg
      rw [h2] at hl
      exact Or.inl (Option.some.inj hl ▸ h3)


theorem first_ok (c : Ctx) (e : Enc) (p : Packet) : Ok c (first e p) ∧ GreedyE c (first e p).out ∧ Btw c (first e p) := by
  refine ⟨⟨⟨?_, Nat.zero_le _, Or.inl ?_, ?_, Packet.mt_lt p⟩, ?_⟩, trivial, ?_⟩
  · intro f hf; cases hf
  · intro m hm; cases hm
  · intro m hm; cases hm
  · intro m hm; cases hm
  · intro _ l hl; cases hl

end Open
end AsamCmp
