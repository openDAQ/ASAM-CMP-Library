/-
  Source-level TECMP path: lemmas about the primitives of `Src/ObjTecmp.lean` and `Src/Sem.lean` that the translated TECMP
  decoder / converter use (one-scalar records as `leEnc`, `cpyToScalar`, `ptrBytes`, `toStringInt`, big-endian stores).
-/
import AsamCmp.GeneratedSrcTecmp
import AsamCmp.Tecmp
import AsamCmp.Props.SrcTieTecmp
import AsamCmp.Lemmas.SrcBuilders
set_option linter.unusedSimpArgs false
namespace AsamCmp.SrcTec
open AsamCmp AsamCmp.Src AsamCmp.SrcGen AsamCmp.SrcTie

/-! ### a one-scalar record (`PayloadType`) as the little-endian bytes of its member -/

theorem rd_leEnc (w v : Nat) : Src.rd (leEnc w v) 0 w = some (v % 256 ^ w) := by
  have hs : slice (leEnc w v) 0 w = leEnc w v := by
    rw [slice, List.drop_zero, List.take_of_length_le (Nat.le_of_eq (leEnc_length w v))]
  rw [rd_eq _ _ _ (by rw [leEnc_length]; omega), leAt, hs, leDec_leEnc]

theorem rd_leEnc4 (v : Nat) : Src.rd (leEnc 4 v) 0 4 = some (v % 4294967296) := rd_leEnc 4 v

/-! ### `cpyToScalar`: three bytes into a zeroed `uint32_t` -/

theorem slice_three (m : Bytes) (a : Nat) (h : a + 3 ≤ m.length) :
    slice m a 3 = [m.getD a 0, m.getD (a + 1) 0, m.getD (a + 2) 0] := by
  rw [slice_succ m a 2 (by omega), slice_succ m (a + 1) 1 (by omega), slice_succ m (a + 1 + 1) 0 (by omega), slice_zero]

theorem cpyToScalar_three (m : Bytes) (a : Nat) (h : a + 3 ≤ m.length) :
    cpyToScalar 4 0 m a 3 = some (byteAt m a + 256 * byteAt m (a + 1) + 65536 * byteAt m (a + 2)) := by
  unfold cpyToScalar
  rw [if_pos ⟨by omega, h⟩, slice_three m a h]
  simp only [leEnc, writeAt, List.take_zero, List.nil_append, List.length_cons, List.length_nil, Nat.zero_add, Nat.reduceAdd,
    List.drop_succ_cons, List.drop_zero, List.cons_append, leDec, byteAt]
  congr 1
  simp
  omega

/-! ### pointers into a payload object -/

theorem ptrBytes_null (b : Bytes) : ptrBytes b 0 = [] := by simp [ptrBytes, objBase]

theorem ptrBytes_off (b : Bytes) (k : Nat) : ptrBytes b (objBase + k) = b.drop k := by
  simp [ptrBytes, objBase]

/-! ### `std::to_string` of a promoted `uint8_t` -/

theorem toStringInt_small (v : Nat) (h : v < 2 ^ 31) : toStringInt 32 v = decimal v := by
  unfold toStringInt; rw [if_pos (by simpa using h)]

/-! ### storing a byte-swapped 32-bit value is the big-endian encoding -/

/-- `member = swapEndian(v)` for a 32-bit member at address `a` -/
theorem wr_swap32 (m : Bytes) (a v : Nat) (h : a + 4 ≤ m.length) :
    (swapEndian_u32 v).bind (fun t => wr m a 4 t) = some (writeAt m a (beEnc 4 v)) := by
  rw [swap32_bytes, some_bind, wr_eq _ _ _ _ h, leEnc_swap32]

theorem writeAt_writeAt_same (l : Bytes) (p : Nat) (u v : Bytes) (huv : u.length = v.length) (h : p + u.length ≤ l.length) :
    writeAt (writeAt l p u) p v = writeAt l p v :=
  writeAt_writeAt_of_length_eq l p u v (by omega) huv

theorem leAt_writeAt_same (l : Bytes) (p w : Nat) (v : Nat) (h : p + w ≤ l.length) :
    leAt (writeAt l p (leEnc w v)) p w = v % 256 ^ w :=
  SrcTie.leAt_writeAt_same l p w v h

/-- the read-modify-write `word &= ~mask; word |= swapEndian(v)` on a 32-bit member that holds 0: the member becomes the big-endian
    encoding of `v` (all 32 bits: the mask plays no role) -/
theorem rmw_swap32_zero (m : Bytes) (a k v : Nat) (h : a + 4 ≤ m.length) (hz : leAt m a 4 = 0) :
    (do let t1 ← Src.rd m a 4
        let m ← wr m a 4 (t1 &&& k)
        let t2 ← swapEndian_u32 v
        let t3 ← Src.rd m a 4
        let m ← wr m a 4 (t3 ||| t2)
        pure m) = some (writeAt m a (beEnc 4 v)) := by
  have hl : (writeAt m a (leEnc 4 0)).length = m.length := writeAt_length_of_le _ _ _ (by rw [leEnc_length]; omega)
  simp only [bind, pure]
  rw [rd_eq _ _ _ h, some_bind, hz, Nat.zero_and, wr_eq _ _ _ _ h, some_bind, swap32_bytes, some_bind,
    rd_eq _ _ _ (by rw [hl]; exact h), some_bind, leAt_writeAt_same _ _ _ _ h, Nat.zero_mod, Nat.zero_or,
    wr_eq _ _ _ _ (by rw [hl]; exact h), leEnc_swap32,
    writeAt_writeAt_of_length_eq _ _ _ _ (by omega) (by simp [leEnc_length])]

end AsamCmp.SrcTec
