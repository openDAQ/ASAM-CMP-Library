/-
  Helper lemmas for C15 (TECMP wire layout → ASAM CMP packets): the fields and byte layouts of the payload objects the
  converters build (`canObj`, `linObj`, `busObj` of Lemmas/TecmpCases.lean), CAN and LIN messages as laid out on the wire, and
  the validity of every converted payload.  Nothing here mentions the `THdr` / `BusEntry` structures of `Props/C15.lean`
  (which imports this file).
-/
import AsamCmp.Tecmp
import AsamCmp.Lemmas.TecmpCases
import AsamCmp.Access
import AsamCmp.Fields
import AsamCmp.Lemmas.Access
import AsamCmp.Lemmas.Builders
import AsamCmp.Lemmas.FieldArith
import AsamCmp.Props.C13
namespace AsamCmp.C15
open AsamCmp


theorem beAt_head (w n : Nat) (rest : Bytes) : beAt (beEnc w n ++ rest) 0 w = n % 256 ^ w :=
  C13.beAt_at [] rest 0 w n rfl

end AsamCmp.C15

namespace AsamCmp.C15S
open AsamCmp AsamCmp.C15

theorem linObj_bytes (x y : UInt8) (data : Bytes) :
    linObj x y data = [0, 0, 0, 0, x, 0, y, UInt8.ofNat data.length] ++ data := by
  simp [linObj, linSetData, setTail, writeAt, linDefault, zeros, resize, List.replicate]

theorem beEnc4_bytes (a : Nat) : beEnc 4 a =
    [UInt8.ofNat (a / 256 / 256 / 256 % 256), UInt8.ofNat (a / 256 / 256 % 256),
     UInt8.ofNat (a / 256 % 256), UInt8.ofNat (a % 256)] := by
  simp [beEnc]

/-- the ASAM CAN / CAN-FD payload object, byte by byte: flags u16 = 0, reserved u16 = 0, id word,
    crc word, error position u16 = 0, dlc, data length, data -/
theorem canObj_bytes (a c : Nat) (data : Bytes) (hn : data.length < 256) :
    canObj a c data = [0, 0, 0, 0] ++ beEnc 4 a ++ beEnc 4 c ++
      [0, 0, UInt8.ofNat (dlcOf data.length), UInt8.ofNat data.length] ++ data := by
  rw [beEnc4_bytes a, beEnc4_bytes c]
  simp [canObj, canSetData, setTail, writeAt, canDefault, zeros, resize, List.replicate, beEnc,
    Nat.mod_eq_of_lt hn]

end AsamCmp.C15S

namespace AsamCmp.C15
open AsamCmp

theorem canObj_facts (a c : Nat) (data : Bytes) (hn : data.length < 256) :
    (canObj a c data).length = 16 + data.length ∧ beAt (canObj a c data) 4 4 = a % 256 ^ 4 ∧
    beAt (canObj a c data) 8 4 = c % 256 ^ 4 ∧ byteAt (canObj a c data) 15 = data.length ∧
    byteAt (canObj a c data) 14 = dlcOf data.length ∧ (canObj a c data).drop 16 = data ∧ beAt (canObj a c data) 0 2 = 0 ∧
    beAt (canObj a c data) 12 2 = 0 ∧ canValid (canObj a c data) = true := by
  have hdlc : dlcOf data.length < 256 := Nat.lt_of_le_of_lt (C13.dlcOf_le _) (by decide)
  -- the 16 header bytes written out: a field at a literal offset is read off the list
  have hb : canObj a c data = 0 :: 0 :: 0 :: 0 :: (beEnc 4 a ++ (beEnc 4 c ++
      (0 :: 0 :: UInt8.ofNat (dlcOf data.length) :: UInt8.ofNat data.length :: data))) := by
    rw [C15S.canObj_bytes a c data hn]
    simp only [List.append_assoc, List.cons_append, List.nil_append]
  have hlen : (canObj a c data).length = 16 + data.length := by
    rw [hb]; simp only [List.length_append, List.length_cons, beEnc_length]; omega
  have h15 : byteAt (canObj a c data) 15 = data.length := by
    rw [hb, C15S.beEnc4_bytes, C15S.beEnc4_bytes]; exact UInt8.toNat_ofNat_of_lt' hn
  have h0 : beAt (canObj a c data) 0 2 = 0 := by rw [hb]; rfl
  have h12 : beAt (canObj a c data) 12 2 = 0 := by rw [hb, C15S.beEnc4_bytes, C15S.beEnc4_bytes]; rfl
  refine ⟨hlen, ?_, ?_, h15, ?_, ?_, h0, h12, (canValid_spec _).2 ⟨by omega, by rw [h0]; rfl, h12, by omega⟩⟩
  · rw [hb]; exact C13.beAt_at [0, 0, 0, 0] _ 4 4 a rfl
  · rw [hb]; exact C13.beAt_at (0 :: 0 :: 0 :: 0 :: beEnc 4 a) _ 8 4 c (by simp)
  · rw [hb, C15S.beEnc4_bytes, C15S.beEnc4_bytes]; exact UInt8.toNat_ofNat_of_lt' hdlc
  · rw [hb, C15S.beEnc4_bytes, C15S.beEnc4_bytes]; rfl
theorem linObj_facts (x y : UInt8) (data : Bytes) (hn : data.length < 256) :
    (linObj x y data).length = 8 + data.length ∧ byteAt (linObj x y data) 4 = x.toNat ∧
    byteAt (linObj x y data) 6 = y.toNat ∧ byteAt (linObj x y data) 7 = data.length ∧
    (linObj x y data).drop 8 = data ∧ linValid (linObj x y data) = true := by
  have h7 : byteAt (linObj x y data) 7 = data.length := by
    rw [C15S.linObj_bytes]; exact UInt8.toNat_ofNat_of_lt' hn
  have hlen : (linObj x y data).length = 8 + data.length := by
    rw [C15S.linObj_bytes, List.length_append]; rfl
  refine ⟨hlen, ?_, ?_, h7, ?_, (linValid_spec _).2 ⟨by omega, by omega⟩⟩ <;> rw [C15S.linObj_bytes] <;> rfl
/-- the interface-status object of one bus entry, byte by byte: the three counters, everything else zero -/
theorem busObj_bytes (a m e : Nat) :
    busObj a m e = beEnc 4 a ++ beEnc 4 m ++ zeros 12 ++ beEnc 4 e ++ zeros 16 := by
  unfold busObj
  rw [C15S.beEnc4_bytes a, C15S.beEnc4_bytes m, C15S.beEnc4_bytes e]
  simp [writeAt, ifDefault, zeros, List.replicate]

theorem busObj_valid (a m e : Nat) : ifValid (busObj a m e) = true := by
  -- behind the three counters the object is the zeroed default: no stream ids, no vendor data
  have hb : busObj a m e = beEnc 4 a ++ (beEnc 4 m ++ (zeros 12 ++ (beEnc 4 e ++ zeros 16))) := by
    rw [busObj_bytes]; simp only [List.append_assoc]
  have hlen : (busObj a m e).length = 40 := by
    rw [hb]; simp only [List.length_append, beEnc_length, zeros, List.length_replicate]
  have h29 : byteAt (busObj a m e) 29 = 0 := by rw [hb, C15S.beEnc4_bytes, C15S.beEnc4_bytes, C15S.beEnc4_bytes]; rfl
  have h36 : beAt (busObj a m e) 36 2 = 0 := by rw [hb, C15S.beEnc4_bytes, C15S.beEnc4_bytes, C15S.beEnc4_bytes]; rfl
  have h38 : beAt (busObj a m e) 38 2 = 0 := by rw [hb, C15S.beEnc4_bytes, C15S.beEnc4_bytes, C15S.beEnc4_bytes]; rfl
  simp [ifValid, hlen, h29, h36, h38]

/-- the CAN message payload as laid out on the wire; `crc` is whatever follows the data -/
theorem can_conv (b : Bytes) (arb : Nat) (data crc : Bytes) (harb : arb < 2 ^ 32) (hn : data.length < 256) :
    tecmpCan b (beEnc 4 arb ++ [UInt8.ofNat data.length] ++ data ++ crc) =
      [tecmpPacket b (beAt b 12 4) ⟨if data.length > 8 then tyCanFd else tyCan,
        canObj arb (canCrcWord (beEnc 4 arb ++ [UInt8.ofNat data.length] ++ data ++ crc) data.length) data⟩] := by
  have hlen : (beEnc 4 arb ++ [UInt8.ofNat data.length] ++ data ++ crc).length = 5 + data.length + crc.length := by
    simp only [List.length_append, List.length_cons, List.length_nil, beEnc_length]
  have hw : beEnc 4 arb ++ [UInt8.ofNat data.length] ++ data ++ crc =
      beEnc 4 arb ++ (UInt8.ofNat data.length :: (data ++ crc)) := by
    simp only [List.append_assoc, List.cons_append, List.nil_append]
  have h4 : byteAt (beEnc 4 arb ++ [UInt8.ofNat data.length] ++ data ++ crc) 4 = data.length := by
    rw [hw, byteAt_mid _ _ _ 4 (beEnc_length 4 arb)]
    exact UInt8.toNat_ofNat_of_lt' hn
  have h0 : beAt (beEnc 4 arb ++ [UInt8.ofNat data.length] ++ data ++ crc) 0 4 = arb := by
    rw [hw, beAt_head]
    exact Nat.mod_eq_of_lt harb
  have hs : slice (beEnc 4 arb ++ [UInt8.ofNat data.length] ++ data ++ crc) 5 data.length = data := by
    rw [List.append_assoc]
    exact C13.slice_at _ _ _ 5 _ (by simp only [List.length_append, List.length_cons, List.length_nil, beEnc_length]) rfl
  rw [tecmpCan_eq b _ (by omega) (by omega), h4, h0, hs]
  rfl

/-- the LIN message payload as laid out on the wire; `tail` is whatever follows the data, its first byte (0 when there is
    none) is taken as the checksum -/
theorem lin_conv (b : Bytes) (pid : Nat) (data tail : Bytes) (hpid : pid < 256) (hn : data.length < 256) :
    tecmpLin b ([UInt8.ofNat pid, UInt8.ofNat data.length] ++ data ++ tail) =
      [tecmpPacket b (beAt b 12 4) ⟨tyLin, linObj (UInt8.ofNat (pid % 64)) (tail.headD 0) data⟩] := by
  have hlen : ([UInt8.ofNat pid, UInt8.ofNat data.length] ++ data ++ tail).length =
      2 + data.length + tail.length := by
    simp only [List.length_append, List.length_cons, List.length_nil]
  have h0 : byteAt ([UInt8.ofNat pid, UInt8.ofNat data.length] ++ data ++ tail) 0 = pid :=
    UInt8.toNat_ofNat_of_lt' hpid
  have h1 : byteAt ([UInt8.ofNat pid, UInt8.ofNat data.length] ++ data ++ tail) 1 = data.length :=
    UInt8.toNat_ofNat_of_lt' hn
  have hs : slice ([UInt8.ofNat pid, UInt8.ofNat data.length] ++ data ++ tail) 2 data.length = data := by
    rw [List.append_assoc]
    exact C13.slice_at _ _ _ 2 _ rfl rfl
  have hand : pid &&& 0x3F = pid % 64 := Nat.and_two_pow_sub_one_eq_mod pid 6
  have hck : UInt8.ofNat (if ([UInt8.ofNat pid, UInt8.ofNat data.length] ++ data ++ tail).length ≤ 2 + data.length
      then 0 else byteAt ([UInt8.ofNat pid, UInt8.ofNat data.length] ++ data ++ tail) (2 + data.length)) =
      tail.headD 0 := by
    rw [hlen]
    cases tail with
    | nil => rw [if_pos (show 2 + data.length + ([] : Bytes).length ≤ 2 + data.length from Nat.le_refl _)]; rfl
    | cons t ts =>
      rw [if_neg (by rw [List.length_cons]; omega),
        byteAt_mid _ _ t (2 + data.length) (by simp only [List.length_append, List.length_cons, List.length_nil])]
      exact UInt8.ofNat_toNat
  rw [tecmpLin_eq b _ (by omega) (by omega), h0, h1, hs, hck, hand]

/-- the packet holds a payload its own class validator accepts -/
def Good (x : Packet) : Prop :=
  ∃ pl v, x.payload = some pl ∧ validatorOf pl.ty = some v ∧ v pl.data = true

theorem good_packet (b : Bytes) (i ty : Nat) (o : Bytes) (v : Bytes → Bool)
    (hv : validatorOf ty = some v) (h : v o = true) : Good (tecmpPacket b i ⟨ty, o⟩) :=
  ⟨⟨ty, o⟩, v, rfl, hv, h⟩

theorem slice_length_le (b : Bytes) (off w : Nat) : (slice b off w).length ≤ w := by
  simp only [slice, List.length_take]; omega

theorem can_good (b p : Bytes) : ∀ x ∈ tecmpCan b p, Good x := by
  rw [tecmpCan_shape]
  refine forall_mem_ite fun _ => ?_
  have hn : (slice p 5 (byteAt p 4)).length < 256 :=
    Nat.lt_of_le_of_lt (slice_length_le _ _ _) (byteAt_lt_256 p 4)
  split
  · exact good_packet _ _ _ _ _ rfl (canObj_facts _ _ _ hn).2.2.2.2.2.2.2.2
  · exact good_packet _ _ _ _ _ rfl (canObj_facts _ _ _ hn).2.2.2.2.2.2.2.2

theorem lin_good (b p : Bytes) : ∀ x ∈ tecmpLin b p, Good x := by
  rw [tecmpLin_shape]
  refine forall_mem_ite fun _ => ?_
  have hn : (slice p 2 (byteAt p 1)).length < 256 :=
    Nat.lt_of_le_of_lt (slice_length_le _ _ _) (byteAt_lt_256 p 1)
  exact good_packet _ _ _ _ _ rfl (linObj_facts _ _ _ hn).2.2.2.2.2

theorem decimal_length_le (n k : Nat) (hk : 0 < k) (h : n < 10 ^ k) : (decimal n).length ≤ k := by
  unfold decimal
  rw [List.length_map]
  have : (toString n).toList = Nat.toDigits 10 n := Nat.toList_repr
  rw [this]
  exact (Nat.length_toDigits_le_iff (by decide) hk).mpr h

theorem cm_good (b p : Bytes) : ∀ x ∈ tecmpCm b p, Good x := by
  rw [tecmpCm_shape]
  refine forall_mem_ite fun _ => ?_
  have hser : (decimal (beAt p 8 4)).length ≤ 10 :=
    decimal_length_le _ 10 (by decide) (Nat.lt_trans (beAt_lt_pow p 8 4) (by decide))
  have hbyte : ∀ i, (decimal (byteAt p i)).length ≤ 3 := fun i =>
    decimal_length_le _ 3 (by decide) (Nat.lt_trans (byteAt_lt_256 p i) (by decide))
  have h13 := hbyte 13
  have h14 := hbyte 14
  have h15 := hbyte 15
  have h16 := hbyte 16
  have h17 := hbyte 17
  refine good_packet _ _ _ _ _ rfl ?_
  rw [C13.cmSetData_eq _ _ _ _ _ _ (by decide)]
  refine C13S.cm_shape_valid _ _ _ _ _ _ (C13.take_length_of_le _ 26 (by decide)) (by simp) ?_ ?_ ?_
  · omega
  · simp only [List.length_append, List.length_singleton]; omega
  · simp only [List.length_append, List.length_singleton]; omega

theorem valid_payloads (b : Bytes) : ∀ x ∈ tecmpDecode b, Good x :=
  tecmpDecode_forall b (cm_good _ _) (can_good _ _) (lin_good _ _)
    (tecmpBus_forall b _ fun _ _ _ => good_packet _ _ _ _ _ rfl (busObj_valid _ _ _))

end AsamCmp.C15
