/-
  Byte-level lemmas about the serialised messages and frames of the encoder model (`EMsg.bytes`, `EFrame.bytes`), and the
  walk of the tiler over them.  The tiler (`tileMsgs`) and the two walkers that keep header bytes step over messages by the
  declared lengths and differ only in what they keep of a message; `walkMsgs` is that control flow with the kept value as a
  parameter, and what it finds on serialised messages (`walkMsgs_bytes`, `walkMsgs_frame`) is proved once.
-/
import AsamCmp.Tile
import AsamCmp.Lemmas.MsgHdr
namespace AsamCmp

/-! ### zero bytes -/

theorem beDec_zero (bs : Bytes) (h : ∀ b ∈ bs, b = 0) : beDec bs = 0 := by
  induction bs using snocInd with
  | hnil => rfl
  | hsnoc xs b ih =>
    rw [beDec_append_singleton, ih (fun x hx => h x (by simp [hx])), h b (by simp)]
    rfl

theorem beAt_of_allZero (r : Bytes) (off w : Nat) (h : allZero r = true) : beAt r off w = 0 := by
  unfold beAt slice
  apply beDec_zero
  intro b hb
  have hb' : b ∈ r := List.mem_of_mem_drop (List.mem_of_mem_take hb)
  have := (List.all_eq_true.mp h) b hb'
  simpa using this

theorem allZero_zeros (k : Nat) : allZero (zeros k) = true := by
  simp [allZero, zeros]

@[simp] theorem zeros_length (k : Nat) : (zeros k).length = k := by simp [zeros]

/-! ### a serialised message in front of other bytes -/

/-- what a walker reads from a serialised message followed by anything: the length field, the segment bits, the body,
    the bytes behind the message, and the total length -/
theorem msg_fields (m : EMsg) (rest : Bytes) (hlen : m.body.length < 65536)
    (hs : m.seg = 0 ∨ m.seg = 4 ∨ m.seg = 8 ∨ m.seg = 12) :
    beAt (m.bytes ++ rest) 14 2 = m.body.length ∧
    byteAt (m.bytes ++ rest) 12 &&& 0x0C = m.seg ∧
    slice (m.bytes ++ rest) 16 m.body.length = m.body ∧
    (m.bytes ++ rest).drop (16 + m.body.length) = rest ∧
    (m.bytes ++ rest).length = 16 + m.body.length + rest.length := by
  rw [EMsg.bytes, List.append_assoc]
  refine ⟨(msgHeader_lenField ..).trans (Nat.mod_eq_of_lt hlen), msgHeader_segBits _ _ _ hs, ?_⟩
  rw [← List.append_assoc, msgHeader_eq_msgHdr]
  exact msgHdr_body ..

theorem msg_take16 (m : EMsg) (rest : Bytes) : (m.bytes ++ rest).take 16 = msgHeader m.pkt m.seg m.body.length := by
  unfold EMsg.bytes
  rw [List.append_assoc]
  exact List.take_left' (msgHeader_length ..)

/-- the length field of a message with a body is not zero, so its bytes are not taken for padding -/
theorem msg_not_allZero (m : EMsg) (rest : Bytes) (hpos : 1 ≤ m.body.length) (hlen : m.body.length < 65536) :
    allZero (m.bytes ++ rest) = false := by
  cases hz : allZero (m.bytes ++ rest) with
  | false => rfl
  | true =>
    have := beAt_of_allZero _ 14 2 hz
    rw [EMsg.bytes, List.append_assoc, msgHeader_lenField, Nat.mod_eq_of_lt hlen] at this
    omega

/-! ### the message walk -/

/-- the message walk of `tileMsgs` (Tile.lean) with the kept value as a parameter: of the message that starts `r` and
    declares `len` body bytes, keep `keep r len`.  `tileMsgs`, `C07S.tileMsgsH` and `C08S.tileMsgsH` are instances
    (`tileMsgs_eq_walkMsgs` and its namesakes).  Not the decoder's `walk` of Decoder.lean. -/
def walkMsgs {α : Type} (keep : Bytes → Nat → α) : Nat → Bytes → Option (List α × Nat)
  | 0, _ => none
  | fuel+1, r =>
    if allZero r then some ([], r.length)
    else if r.length < 16 then none
    else if r.length < 16 + beAt r 14 2 then none
    else (walkMsgs keep fuel (r.drop (16 + beAt r 14 2))).map fun x => (keep r (beAt r 14 2) :: x.1, x.2)

theorem tileMsgs_eq_walkMsgs : ∀ (fuel : Nat) (r : Bytes),
    tileMsgs fuel r = walkMsgs (fun r len => ⟨byteAt r 12 &&& 0x0C, slice r 16 len⟩) fuel r := by
  intro fuel
  induction fuel with
  | zero => intro r; rfl
  | succ fuel ih =>
    intro r
    simp only [tileMsgs, walkMsgs, ih]
    cases walkMsgs _ fuel (r.drop (16 + beAt r 14 2)) <;> rfl

/-- keeping less: a function of the kept values can be applied afterwards or on the way -/
theorem walkMsgs_map {α β : Type} (g : α → β) (keep : Bytes → Nat → α) : ∀ (fuel : Nat) (r : Bytes),
    (walkMsgs keep fuel r).map (fun x => (x.1.map g, x.2)) = walkMsgs (fun r len => g (keep r len)) fuel r := by
  intro fuel
  induction fuel with
  | zero => intro r; rfl
  | succ fuel ih =>
    intro r
    simp only [walkMsgs, ← ih]
    split
    · rfl
    · split
      · rfl
      · split
        · rfl
        · simp [Option.map_map, Function.comp_def]

/-- the walk on serialised messages followed by `k` zero bytes finds every message and the `k` pad bytes -/
theorem walkMsgs_bytes {α : Type} (keep : Bytes → Nat → α) (kept : EMsg → α) (msgs : List EMsg) (k : Nat)
    (hmsgs : ∀ m ∈ msgs, 1 ≤ m.body.length ∧ m.body.length < 65536 ∧
      (m.seg = 0 ∨ m.seg = 4 ∨ m.seg = 8 ∨ m.seg = 12))
    (hk : ∀ m ∈ msgs, ∀ rest, keep (m.bytes ++ rest) m.body.length = kept m) :
    ∀ fuel, msgs.length < fuel →
      walkMsgs keep fuel (msgs.flatMap EMsg.bytes ++ zeros k) = some (msgs.map kept, k) := by
  induction msgs with
  | nil =>
    intro fuel hf
    cases fuel with
    | zero => omega
    | succ fuel => simp [walkMsgs, allZero_zeros]
  | cons m ms ih =>
    intro fuel hf
    cases fuel with
    | zero => omega
    | succ fuel =>
      obtain ⟨hpos, hlen, hs⟩ := hmsgs m (by simp)
      obtain ⟨h1, -, -, h4, h5⟩ := msg_fields m (ms.flatMap EMsg.bytes ++ zeros k) hlen hs
      have ih' := ih (fun x hx => hmsgs x (by simp [hx])) (fun x hx => hk x (by simp [hx])) fuel
        (by simp at hf; omega)
      rw [List.flatMap_cons, List.append_assoc, walkMsgs, msg_not_allZero m _ hpos hlen, h1, h4, ih',
        hk m (by simp), if_neg (by decide), if_neg (by omega), if_neg (by omega)]
      rfl

/-! ### the serialised frame -/

theorem flatMap_bytes_length (msgs : List EMsg) :
    (msgs.flatMap EMsg.bytes).length = (msgs.map EMsg.size).sum := by
  induction msgs with
  | nil => rfl
  | cons m ms ih => simp [EMsg.bytes, EMsg.size, ih]; omega

theorem EFrame.raw_length (f : EFrame) :
    (frameHeader f.ver f.dev f.mt f.stream f.seq ++ f.msgs.flatMap EMsg.bytes).length = 8 + f.used := by
  rw [List.length_append, frameHeader_length, flatMap_bytes_length]; rfl

/-- the serialised frame: the 8 header bytes, the messages, zero padding up to `min` -/
theorem EFrame.bytes_eq (min : Nat) (f : EFrame) :
    EFrame.bytes min f =
      frameHeader f.ver f.dev f.mt f.stream f.seq ++ (f.msgs.flatMap EMsg.bytes ++ zeros (min - (8 + f.used))) := by
  simp only [EFrame.bytes]
  rw [EFrame.raw_length, List.append_assoc]

theorem EFrame.bytes_length (min : Nat) (f : EFrame) :
    (EFrame.bytes min f).length = max (8 + f.used) min := by
  rw [EFrame.bytes_eq, ← List.append_assoc, List.length_append, EFrame.raw_length, zeros_length]
  omega

theorem EFrame.msgs_length_le_used (f : EFrame) : f.msgs.length ≤ f.used := by
  unfold EFrame.used
  generalize f.msgs = l
  induction l with
  | nil => simp
  | cons m ms ih => simp [EMsg.size]; omega

/-- `walkMsgs`, with the fuel `tileFrame` and its header-keeping namesakes give it, on the bytes behind the header of a
    serialised frame -/
theorem walkMsgs_frame {α : Type} (keep : Bytes → Nat → α) (kept : EMsg → α) (min : Nat) (f : EFrame)
    (hmsgs : ∀ m ∈ f.msgs, 1 ≤ m.body.length ∧ m.body.length < 65536 ∧
      (m.seg = 0 ∨ m.seg = 4 ∨ m.seg = 8 ∨ m.seg = 12))
    (hk : ∀ m ∈ f.msgs, ∀ rest, keep (m.bytes ++ rest) m.body.length = kept m) :
    walkMsgs keep ((EFrame.bytes min f).length + 1) ((EFrame.bytes min f).drop 8) =
      some (f.msgs.map kept, min - (8 + f.used)) := by
  rw [EFrame.bytes_length, EFrame.bytes_eq, List.drop_left' (frameHeader_length ..)]
  apply walkMsgs_bytes keep kept f.msgs _ hmsgs hk
  have := EFrame.msgs_length_le_used f
  omega

end AsamCmp
