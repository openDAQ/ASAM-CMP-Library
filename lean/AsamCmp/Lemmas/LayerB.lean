/-
  Lemmas about the decoder model of Decoder.lean.  The model has two layers (DESIGN.md Part II,
  Appendix C.1): Layer A, `walk`, turns the bytes of one frame into a parsed frame; Layer B, `localStep`,
  is the reassembly automaton of one endpoint over parsed frames, and `step` / `run` apply it at the
  frame's endpoint.  Here: the message walk, `fixLen` and the header of a reassembled message, `localStep`
  case by case, and `runLocal`, the single-endpoint run to which the decoder's state and output at one
  endpoint reduce under any interleaving.
-/
import AsamCmp.Decoder
import AsamCmp.Lemmas.BytesBasic
import AsamCmp.Lemmas.Run
namespace AsamCmp

/-! ### `DecState.set` / `step` -/

theorem DecState.set_same (s : DecState) (e : Ep) (v : Option Pending) : (s.set e v) e = v := by
  simp [DecState.set]

theorem DecState.set_other (s : DecState) (e x : Ep) (v : Option Pending) (h : x ≠ e) :
    (s.set e v) x = s x := by
  simp [DecState.set, h]

theorem step_fst_same (s : DecState) (f : PFrame) : (step s f).1 f.ep = (localStep (s f.ep) f).1 :=
  DecState.set_same s f.ep _

theorem step_fst_other (s : DecState) (f : PFrame) (e : Ep) (h : f.ep ≠ e) : (step s f).1 e = s e :=
  DecState.set_other s f.ep e _ (Ne.symm h)

theorem step_snd (s : DecState) (f : PFrame) : (step s f).2 = (localStep (s f.ep) f).2 := rfl

/-! ### one call -/

/-- one call, by the kind of its buffer: nothing happens on a null pointer or on fewer than 8 bytes; a buffer whose first
    byte is 0 goes down the TECMP path; any other is parsed as a capture-module frame and handed to `step`.  Only the last kind
    addresses an endpoint. -/
theorem decodeWith_cases (tecmp : Bytes → List Packet) (buf : Option Bytes) :
    ((buf = none ∨ ∃ b, buf = some b ∧ b.length < 8) ∧ bufEp buf = none ∧ ∀ s, decodeWith tecmp s buf = (s, [])) ∨
    (∃ b, buf = some b ∧ 8 ≤ b.length ∧ byteAt b 0 = 0 ∧ bufEp buf = none ∧ ∀ s, decodeWith tecmp s buf = (s, tecmp b)) ∨
    (∃ b, buf = some b ∧ 8 ≤ b.length ∧ byteAt b 0 ≠ 0 ∧ bufEp buf = some (parseFrame b).ep ∧
      ∀ s, decodeWith tecmp s buf = step s (parseFrame b)) := by
  cases buf with
  | none => exact .inl ⟨.inl rfl, rfl, fun _ => rfl⟩
  | some b =>
    by_cases h8 : b.length < 8
    · exact .inl ⟨.inr ⟨b, rfl, h8⟩, by rw [bufEp, if_pos h8], fun s => by rw [decodeWith, if_pos h8]⟩
    · by_cases h0 : byteAt b 0 = 0
      · exact .inr (.inl ⟨b, rfl, by omega, h0, by rw [bufEp, if_neg h8, if_pos h0],
          fun s => by rw [decodeWith, if_neg h8, if_pos h0]⟩)
      · exact .inr (.inr ⟨b, rfl, by omega, h0, by rw [bufEp, if_neg h8, if_neg h0],
          fun s => by rw [decodeWith, if_neg h8, if_neg h0]⟩)

theorem decodeWith_of_bufEp (tecmp : Bytes → List Packet) (buf : Option Bytes) (e : Ep)
    (h : bufEp buf = some e) :
    ∃ b, buf = some b ∧ (parseFrame b).ep = e ∧
      ∀ s : DecState, decodeWith tecmp s buf = step s (parseFrame b) := by
  rcases decodeWith_cases tecmp buf with ⟨_, hn, _⟩ | ⟨_, _, _, _, hn, _⟩ | ⟨b, hb, _, _, hep, hd⟩
  · rw [hn] at h; cases h
  · rw [hn] at h; cases h
  · exact ⟨b, hb, Option.some.inj (hep.symm.trans h), hd⟩

theorem decodeWith_foreign (tecmp : Bytes → List Packet) (s : DecState) (buf : Option Bytes) (h : bufEp buf = none) :
    decodeWith tecmp s buf = (s, (decodeWith tecmp DecState.empty buf).2) := by
  rcases decodeWith_cases tecmp buf with ⟨_, _, hd⟩ | ⟨_, _, _, _, _, hd⟩ | ⟨_, _, _, _, hep, _⟩
  · rw [hd, hd]
  · rw [hd, hd]
  · rw [hep] at h; cases h

/-! ### one step of the message walk -/

theorem walk_nil_eq (k : Ep) (ver mt : Nat) : walk k ver mt [] = ([], .done) := by
  rw [walk]; simp

theorem msgValid_bound (r : Bytes) (h : msgValid r = true) : 16 + beAt r 14 2 ≤ r.length := by
  simp only [msgValid, Bool.and_eq_true, decide_eq_true_eq] at h
  omega

theorem msgValid_ne_nil (r : Bytes) (h : msgValid r = true) : r.length ≠ 0 := by
  have := msgValid_bound r h
  omega

theorem walk_invalid_eq (k : Ep) (ver mt : Nat) (r : Bytes) (h0 : r.length ≠ 0) (hv : msgValid r = false) :
    walk k ver mt r = ([], .invalid) := by
  rw [walk]; simp [h0, hv]

theorem walk_seg_eq (k : Ep) (ver mt : Nat) (r : Bytes) (hv : msgValid r = true)
    (hs : segTypeOf r ≠ 0) :
    walk k ver mt r = ([], .seg (r.take (16 + beAt r 14 2))) := by
  rw [walk]; simp [msgValid_ne_nil r hv, hv, show byteAt r 12 &&& 0x0C ≠ 0 from hs]

theorem walk_unseg_eq (k : Ep) (ver mt : Nat) (r : Bytes) (hv : msgValid r = true)
    (hs : segTypeOf r = 0) :
    walk k ver mt r =
      (tagPacket k ver (Packet.ofMsg mt r) :: (walk k ver mt (r.drop (16 + beAt r 14 2))).1,
       (walk k ver mt (r.drop (16 + beAt r 14 2))).2) := by
  rw [walk]; simp [msgValid_ne_nil r hv, hv, show byteAt r 12 &&& 0x0C = 0 from hs]

/-- where the packets of the message loop come from: each is `Packet(msgType, data, size)` on a suffix of the
    buffer that `isValidPacket` accepted and whose flags carry no segment bits, tagged with the frame's ids -/
theorem walk_mem (ep : Ep) (ver mt : Nat) (r : Bytes) :
    ∀ p ∈ (walk ep ver mt r).1, ∃ off, off ≤ r.length ∧ msgValid (r.drop off) = true ∧
      segTypeOf (r.drop off) = 0 ∧ p = tagPacket ep ver (Packet.ofMsg mt (r.drop off)) := by
  fun_induction walk ep ver mt r with
  | case1 r h0 => simp
  | case2 r h0 h1 => simp
  | case3 r h0 h1 len h2 => simp
  | case4 r h0 h1 len h2 p rest ih =>
    intro x hx
    have hv : msgValid r = true := by simpa using h1
    have hb := msgValid_bound r hv
    rcases List.mem_cons.mp hx with rfl | hx
    · exact ⟨0, Nat.zero_le _, hv, by simpa [segTypeOf] using h2, rfl⟩
    · obtain ⟨off, h1', h2', h3', h4'⟩ := ih x hx
      rw [List.drop_drop] at h2' h3' h4'
      rw [List.length_drop] at h1'
      exact ⟨16 + len + off, by simp only [len]; omega, h2', h3', h4'⟩

/-- what `walk` hands out as a segment is a contiguous piece of the bytes it walked over: it starts
    at some offset `k`, and is the 16 header bytes found there plus the number of bytes that header
    declares — nothing that follows in the buffer -/
theorem walk_seg_slice (ep : Ep) (ver mt : Nat) (r : Bytes) :
    ∀ m, (walk ep ver mt r).2 = .seg m →
      ∃ k, m = slice r k (16 + beAt r (k + 14) 2) ∧ k + 16 + beAt r (k + 14) 2 ≤ r.length := by
  fun_induction walk ep ver mt r with
  | case1 r h0 => intro m h; cases h
  | case2 r h0 h1 => intro m h; cases h
  | case3 r h0 h1 len h2 =>
    intro m h
    cases h
    have hb := msgValid_bound r (by simpa using h1)
    exact ⟨0, rfl, by rw [Nat.zero_add, Nat.zero_add]; exact hb⟩
  | case4 r h0 h1 len h2 p rest ih =>
    intro m h
    obtain ⟨k, e1, e2⟩ := ih m h
    have hb : 16 + len ≤ r.length := msgValid_bound r (by simpa using h1)
    rw [beAt_drop_add, ← Nat.add_assoc] at e1 e2
    rw [slice_drop_add] at e1
    rw [List.length_drop] at e2
    exact ⟨16 + len + k, e1, by omega⟩

theorem walk_seg_length (ep : Ep) (ver mt : Nat) (r : Bytes) :
    ∀ m, (walk ep ver mt r).2 = .seg m → 16 ≤ m.length := by
  intro m h
  obtain ⟨k, rfl, hk⟩ := walk_seg_slice ep ver mt r m h
  simp only [slice, List.length_take, List.length_drop]
  omega

theorem walk_seg_le (ep : Ep) (ver mt : Nat) (r : Bytes) :
    ∀ m, (walk ep ver mt r).2 = .seg m → m.length ≤ r.length := by
  intro m h
  obtain ⟨k, rfl, hk⟩ := walk_seg_slice ep ver mt r m h
  simp only [slice, List.length_take, List.length_drop]
  omega

/-! ### `localStep`, case by case -/

/-- after a first or an intermediary segment, `isValidSegmentType` admits intermediary and last segments -/
theorem validNext_after_segment (last t : Nat) (h : last = 4 ∨ last = 8) :
    validNext last t = true ↔ t = 8 ∨ t = 12 := by
  simp only [validNext, h, if_true, decide_eq_true_eq]

/-- the test of `SegmentedPacket::addSegment`: the segment `m` of frame `f` continues the pending `q` -/
abbrev Pending.continuedBy (q : Pending) (f : PFrame) (m : Bytes) : Prop :=
  q.ver = f.ver ∧ q.mt = f.mt ∧ f.seq = (q.seq + 1) % 65536 ∧ validNext q.last (segTypeOf m)

theorem localStep_noseg (p : Option Pending) (f : PFrame) (h : ∀ m, f.term ≠ .seg m) :
    localStep p f = (none, f.unseg) := by
  unfold localStep
  split
  · rfl
  · rfl
  · rename_i m hm
    exact absurd hm (h m)

theorem localStep_first (p : Option Pending) (f : PFrame) (m : Bytes) (h : f.term = .seg m)
    (h4 : segTypeOf m = 4) : localStep p f = (some ⟨m, 4, f.ver, f.mt, f.seq⟩, f.unseg) := by
  unfold localStep
  simp only [h, h4, if_true]

/-- a non-first segment, alone in its frame, that passes the test of `SegmentedPacket::addSegment`
    against the pending `q`: appended; delivered if it is a last segment, stored otherwise -/
theorem localStep_cont (q : Pending) (f : PFrame) (m : Bytes) (h : f.term = .seg m)
    (h4 : segTypeOf m ≠ 4) (hu : f.unseg = [])
    (hc : q.continuedBy f m) :
    localStep (some q) f =
      if segTypeOf m = 12 then
        (none, [tagPacket f.ep q.ver (Packet.ofMsg q.mt (fixLen (q.buf ++ m.drop 16)))])
      else (some { q with buf := fixLen (q.buf ++ m.drop 16), last := segTypeOf m,
                          seq := (q.seq + 1) % 65536 }, []) := by
  unfold localStep
  simp only [h, h4, hu, if_false, List.isEmpty_nil, if_true, List.nil_append]
  rw [if_pos hc]

/-- every other non-first segment releases the endpoint -/
theorem localStep_abort (p : Option Pending) (f : PFrame) (m : Bytes) (h : f.term = .seg m)
    (h4 : segTypeOf m ≠ 4)
    (hn : ∀ q, p = some q → f.unseg = [] → ¬ q.continuedBy f m) :
    localStep p f = (none, f.unseg) := by
  unfold localStep
  simp only [h, h4, if_false]
  split
  · rfl
  · rename_i q hq
    split at hq
    · rename_i hu
      rw [if_neg (hn q hq (List.isEmpty_iff.mp hu))]
    · cases hq

/-- the four things a frame does to its endpoint, each with its condition (the four lemmas above); a proof about one
    step is `cases` on `localStep_spec` -/
inductive LocalStep (p : Option Pending) (f : PFrame) : Option Pending × List Packet → Prop
  /-- the walk ended without a segment -/
  | noseg (h : ∀ m, f.term ≠ .seg m) : LocalStep p f (none, f.unseg)
  /-- a first segment opens a message, whatever was pending -/
  | first (m : Bytes) (h : f.term = .seg m) (h4 : segTypeOf m = 4) :
      LocalStep p f (some ⟨m, 4, f.ver, f.mt, f.seq⟩, f.unseg)
  /-- a non-first segment that does not continue what is pending -/
  | abort (m : Bytes) (h : f.term = .seg m) (h4 : segTypeOf m ≠ 4)
      (hn : ∀ q, p = some q → f.unseg = [] → ¬ q.continuedBy f m) : LocalStep p f (none, f.unseg)
  /-- a non-first segment, alone in its frame, that continues the pending `q` -/
  | cont (m : Bytes) (q : Pending) (h : f.term = .seg m) (h4 : segTypeOf m ≠ 4) (hp : p = some q)
      (hu : f.unseg = []) (hc : q.continuedBy f m) :
      LocalStep p f
        (if segTypeOf m = 12 then
          (none, [tagPacket f.ep q.ver (Packet.ofMsg q.mt (fixLen (q.buf ++ m.drop 16)))])
        else (some { q with buf := fixLen (q.buf ++ m.drop 16), last := segTypeOf m,
                            seq := (q.seq + 1) % 65536 }, []))

theorem localStep_spec (p : Option Pending) (f : PFrame) : LocalStep p f (localStep p f) := by
  by_cases hs : ∀ m, f.term ≠ .seg m
  · rw [localStep_noseg p f hs]; exact .noseg hs
  · obtain ⟨m, hm⟩ : ∃ m, f.term = .seg m := Classical.not_forall_not.mp hs
    by_cases h4 : segTypeOf m = 4
    · rw [localStep_first p f m hm h4]; exact .first m hm h4
    · by_cases hc : ∃ q, p = some q ∧ f.unseg = [] ∧ q.continuedBy f m
      · obtain ⟨q, hq, hu, hc⟩ := hc
        subst hq
        rw [localStep_cont q f m hm h4 hu hc]; exact .cont m q hm h4 rfl hu hc
      · have hn : ∀ q, p = some q → f.unseg = [] → ¬ q.continuedBy f m :=
          fun q hq hu hacc => hc ⟨q, hq, hu, hacc⟩
        rw [localStep_abort p f m hm h4 hn]; exact .abort m hm h4 hn

/-! ### tags of delivered packets -/

theorem walk_tagged (ep : Ep) (ver mt : Nat) (r : Bytes) :
    ∀ p ∈ (walk ep ver mt r).1, (p.deviceId, p.streamId) = ep := by
  intro p hp
  obtain ⟨_, _, _, _, rfl⟩ := walk_mem ep ver mt r p hp
  rfl

theorem localStep_delivers_tagged (q : Option Pending) (f : PFrame) :
    ∀ p ∈ (localStep q f).2, p ∈ f.unseg ∨ (p.deviceId, p.streamId) = f.ep := by
  have hs := localStep_spec q f
  generalize localStep q f = r at hs ⊢
  intro p hp
  cases hs with
  | noseg _ => exact Or.inl hp
  | first _ _ _ => exact Or.inl hp
  | abort _ _ _ _ => exact Or.inl hp
  | cont _ _ _ _ _ _ _ =>
    split at hp
    · rw [List.mem_singleton.mp hp]; exact Or.inr rfl
    · cases hp

/-! ### `fixLen` -/

theorem fixLen_length (buf : Bytes) (h : 16 ≤ buf.length) : (fixLen buf).length = buf.length := by
  simp [fixLen, writeAt]; omega

/-- appending to at least a header keeps all bytes: the rewrite of the length field is in place -/
theorem fixLen_append_length (a x : Bytes) (h : 16 ≤ a.length) : (fixLen (a ++ x)).length = a.length + x.length := by
  rw [fixLen_length _ (by rw [List.length_append]; omega), List.length_append]

theorem fixLen_length_le (x : Bytes) : (fixLen x).length ≤ x.length + 2 := by
  simp [fixLen, writeAt]; omega

theorem segTypeOf_append (a b : Bytes) (h : 12 < a.length) : segTypeOf (a ++ b) = segTypeOf a := by
  simp only [segTypeOf, byteAt_append_left a b 12 h]

/-- the length `fixLen` writes into a 16-byte header followed by `n` bytes: the C++ computes
    `uint16_t(size) - 16` in 16-bit arithmetic, which is `n mod 2^16` -/
theorem fixLen_field (n : Nat) : ((16 + n) % 65536 + 65536 - 16) % 65536 = n % 65536 := by
  rw [Nat.add_sub_assoc (by decide), Nat.mod_add_mod, show 16 + n + (65536 - 16) = n + 65536 by omega,
    Nat.add_mod_right]

theorem fixLen_append (W B : Bytes) (hW : W.length = 16) :
    fixLen (W ++ B) = W.take 14 ++ beEnc 2 (B.length % 65536) ++ B := by
  have h1 : (W ++ B).take 14 = W.take 14 := List.take_append_of_le_length (by omega)
  have h2 : (W ++ B).drop 16 = B := List.drop_left' hW
  simp only [fixLen, writeAt, beEnc_length, h1, h2, List.length_append, hW, fixLen_field]

/-! ### a 16-byte header `h` whose length field (bytes 14–15) is rewritten: `h.take 14 ++ v ++ B` -/

theorem writeAt_hdr (h v : Bytes) (hh : h.length = 16) (hv : v.length = 2) :
    writeAt h 14 v = h.take 14 ++ v := by
  have : h.drop 16 = [] := List.drop_eq_nil_of_le (by omega)
  simp [writeAt, hv, this]

theorem byteAt_hdr (h v B : Bytes) (i : Nat) (hi : i < 14) (hh : h.length = 16) :
    byteAt (h.take 14 ++ v ++ B) i = byteAt h i := by
  rw [List.append_assoc, byteAt_append_left _ _ _ (by simp [hh]; omega)]
  simp only [byteAt, List.getD_eq_getElem?_getD, List.getElem?_take, hi, if_true]

theorem beAt_hdr (h B : Bytes) (n : Nat) (hh : h.length = 16) :
    beAt (h.take 14 ++ beEnc 2 n ++ B) 14 2 = n % 65536 := by
  have h14 : (h.take 14).length = 14 := by simp [hh]
  unfold beAt slice
  rw [List.append_assoc, List.drop_left' h14, List.take_left' (beEnc_length 2 n), beDec_beEnc]

theorem slice_hdr_take (h B : Bytes) (n k : Nat) (hh : h.length = 16) :
    slice (h.take 14 ++ beEnc 2 n ++ B) 16 k = B.take k := by
  have h16 : (h.take 14 ++ beEnc 2 n).length = 16 := by simp [hh]
  unfold slice
  rw [List.drop_left' h16]

theorem slice_hdr (h B : Bytes) (n : Nat) (hh : h.length = 16) :
    slice (h.take 14 ++ beEnc 2 n ++ B) 16 B.length = B := by
  rw [slice_hdr_take h B n _ hh, List.take_length]

/-! ### bounds on what is pending: counters stay within 16 bits, a frame adds at most its own length -/

theorem parseFrame_seq_lt (b : Bytes) : (parseFrame b).seq < 65536 :=
  beAt_two_lt_65536 b 6

/-- one frame whose segment has at most `L` bytes lets a pending buffer of at most `N` bytes grow to
    at most `N + L`; counters stay 16-bit values -/
theorem localStep_pending_bounds (p : Option Pending) (f : PFrame) (N L : Nat)
    (hp : ∀ q, p = some q → q.seq < 65536 ∧ q.buf.length ≤ N) (hseq : f.seq < 65536)
    (hm : ∀ m, f.term = .seg m → 16 ≤ m.length ∧ m.length ≤ L) :
    ∀ q', (localStep p f).1 = some q' → q'.seq < 65536 ∧ q'.buf.length ≤ N + L := by
  have hs := localStep_spec p f
  generalize localStep p f = r at hs ⊢
  intro q' hq'
  cases hs with
  | noseg _ => cases hq'
  | abort _ _ _ _ => cases hq'
  | first m hmt _ =>
    cases hq'
    exact ⟨hseq, by have := (hm m hmt).2; show m.length ≤ N + L; omega⟩
  | cont m q hmt _ hq _ _ =>
    subst hq
    split at hq'
    · cases hq'
    · cases hq'
      refine ⟨Nat.mod_lt _ (by decide), ?_⟩
      have h1 := fixLen_length_le (q.buf ++ m.drop 16)
      have h2 := (hp q rfl).2
      have h3 := hm m hmt
      rw [List.length_append, List.length_drop] at h1
      show (fixLen (q.buf ++ m.drop 16)).length ≤ N + L
      omega

/-- one `decode` call on a buffer of `L` bytes lets the buffered bytes of an endpoint grow by at most `L` -/
theorem decodeWith_pending_bounds (tecmp : Bytes → List Packet) (s : DecState) (buf : Option Bytes) (N : Nat)
    (h : ∀ e q, s e = some q → q.seq < 65536 ∧ q.buf.length ≤ N) :
    ∀ e q, (decodeWith tecmp s buf).1 e = some q →
      q.seq < 65536 ∧ q.buf.length ≤ N + (buf.map List.length).getD 0 := by
  have hmono : ∀ K e q, s e = some q → q.seq < 65536 ∧ q.buf.length ≤ N + K :=
    fun K e q hq => ⟨(h e q hq).1, Nat.le_add_right_of_le (h e q hq).2⟩
  rcases decodeWith_cases tecmp buf with ⟨_, _, hd⟩ | ⟨_, _, _, _, _, hd⟩ | ⟨b, rfl, _, _, _, hd⟩
  · rw [hd]; exact hmono _
  · rw [hd]; exact hmono _
  · rw [hd]
    intro e q hq
    by_cases he : (parseFrame b).ep = e
    · subst he
      rw [step_fst_same] at hq
      refine localStep_pending_bounds _ (parseFrame b) N b.length (fun q hq => h _ q hq) (parseFrame_seq_lt b) ?_ q hq
      intro m hmm
      have := walk_seg_le _ _ _ _ m hmm
      rw [List.length_drop] at this
      exact ⟨walk_seg_length _ _ _ _ m hmm, by omega⟩
    · rw [step_fst_other _ _ _ he] at hq
      exact hmono _ e q hq

/-! ### the decoder on one endpoint is the single-endpoint automaton -/

/-- run the single-endpoint automaton over a list of frames -/
def runLocal (p : Option Pending) : List PFrame → Option Pending × List Packet
  | [] => (p, [])
  | f :: fs =>
    let r := localStep p f
    let r' := runLocal r.1 fs
    (r'.1, r.2 ++ r'.2)

theorem runLocal_eq (p : Option Pending) (fs : List PFrame) :
    runLocal p fs = (Run.final localStep p fs, (Run.outs localStep p fs).flatten) :=
  Run.eq_flatMap localStep (·.2) runLocal (fun _ => rfl) (fun _ _ _ => rfl) p fs

theorem run_eq (s : DecState) (fs : List PFrame) : run s fs = (Run.final step s fs, (Run.outs step s fs).flatten) :=
  Run.eq_flatMap step (·.2) run (fun _ => rfl) (fun _ _ _ => rfl) s fs

theorem decodeAll_eq (t : Bytes → List Packet) (s : DecState) (bufs : List (Option Bytes)) :
    decodeAll t s bufs = (Run.final (decodeWith t) s bufs, (Run.outs (decodeWith t) s bufs).flatten) :=
  Run.eq_flatMap (decodeWith t) (·.2) (decodeAll t) (fun _ => rfl) (fun _ _ _ => rfl) s bufs

theorem runLocal_append (p : Option Pending) (fs gs : List PFrame) :
    runLocal p (fs ++ gs) =
      ((runLocal (runLocal p fs).1 gs).1, (runLocal p fs).2 ++ (runLocal (runLocal p fs).1 gs).2) := by
  simp only [runLocal_eq, Run.final_append, Run.outs_append, List.flatten_append]

/-- `step` seen at endpoint `e`: on a frame of `e` it is `localStep` on `e`'s entry; any other frame leaves the entry alone -/
theorem step_local (e : Ep) : Run.Local step localStep (fun s => s e) (fun f => f.ep = e) id where
  own s f hf := by rw [← of_decide_eq_true hf]; exact Prod.ext (step_fst_same s f).symm rfl
  other s f hf := step_fst_other s f e (of_decide_eq_false hf)

theorem run_fst_eq_runLocal (e : Ep) (fs : List PFrame) (s : DecState) :
    (run s fs).1 e = (runLocal (s e) (fs.filter (fun f => f.ep = e))).1 := by
  rw [run_eq, runLocal_eq, ← List.map_id (fs.filter _)]
  exact ((step_local e).filter s fs).1

/-- on a history of frames of a single endpoint `e` the decoder delivers what the single-endpoint
    automaton delivers from the state stored for `e` -/
theorem run_snd_eq_runLocal (e : Ep) (fs : List PFrame) (s : DecState) (h : ∀ f ∈ fs, f.ep = e) :
    (run s fs).2 = (runLocal (s e) fs).2 := by
  rw [run_eq, runLocal_eq, ((step_local e).all s fs fun f hf => decide_eq_true (h f hf)).2, List.map_id]

theorem run_fst_other (e : Ep) (fs : List PFrame) (s : DecState) (h : ∀ f ∈ fs, f.ep ≠ e) :
    (run s fs).1 e = s e := by
  rw [run_fst_eq_runLocal, List.filter_eq_nil_iff.mpr (fun f hf => by simpa using h f hf)]
  rfl

theorem runLocal_cons (p : Option Pending) (f : PFrame) (fs : List PFrame) :
    runLocal p (f :: fs) =
      ((runLocal (localStep p f).1 fs).1, (localStep p f).2 ++ (runLocal (localStep p f).1 fs).2) := rfl

/-- what every step on a frame of `all` keeps and delivers, a run over frames of `all` keeps and delivers -/
theorem runLocal_inv {I : Option Pending → Prop} {Q : Packet → Prop} {all : List PFrame}
    (hstep : ∀ p, I p → ∀ g ∈ all, (∀ o ∈ (localStep p g).2, Q o) ∧ I (localStep p g).1) :
    ∀ (gs : List PFrame), (∀ g ∈ gs, g ∈ all) → ∀ p, I p →
      (∀ o ∈ (runLocal p gs).2, Q o) ∧ I (runLocal p gs).1 := by
  intro gs
  induction gs with
  | nil => intro _ p hp; exact ⟨nofun, hp⟩
  | cons g gs ih =>
    intro hall p hp
    obtain ⟨hout, hinv⟩ := hstep p hp g (hall g (List.mem_cons_self ..))
    obtain ⟨hout', hinv'⟩ := ih (fun g' h => hall g' (List.mem_cons_of_mem _ h)) _ hinv
    rw [runLocal_cons]
    exact ⟨fun o ho => (List.mem_append.1 ho).elim (hout o) (hout' o), hinv'⟩

/-! ### `decodeAll` -/

theorem decodeAll_append_eq (t : Bytes → List Packet) (s : DecState) (as bs : List (Option Bytes)) :
    decodeAll t s (as ++ bs) =
      ((decodeAll t (decodeAll t s as).1 bs).1, (decodeAll t s as).2 ++ (decodeAll t (decodeAll t s as).1 bs).2) := by
  simp only [decodeAll_eq, Run.final_append, Run.outs_append, List.flatten_append]

/-! ### a run over a sequence of self-contained frame lists -/

theorem runLocal_flatMap {α : Type} (fr : α → List PFrame) (out : α → Packet) (l : List α)
    (h : ∀ a ∈ l, ∀ p, runLocal p (fr a) = (none, [out a])) (p0 : Option Pending) (hne : l ≠ []) :
    runLocal p0 (l.flatMap fr) = (none, l.map out) := by
  induction l generalizing p0 with
  | nil => exact absurd rfl hne
  | cons a rest ih =>
    rw [List.flatMap_cons, runLocal_append, h a (List.mem_cons_self ..)]
    by_cases hr : rest = []
    · subst hr; rfl
    · rw [ih (fun x hx => h x (List.mem_cons_of_mem _ hx)) none hr]
      rfl

/-- the message walk is bounded: one packet per 16 bytes behind the frame header (a statement of C02, Props/C02.lean) -/
theorem C02.walk_count (ep : Ep) (ver mt : Nat) (r : Bytes) :
    16 * (walk ep ver mt r).1.length + (match (walk ep ver mt r).2 with | .seg _ => 16 | _ => 0) ≤ r.length := by
  fun_induction walk ep ver mt r with
  | case1 r h0 => simp
  | case2 r h0 h1 => simp
  | case3 r h0 h1 len h2 =>
    have hv : msgValid r = true := by simpa using h1
    have := msgValid_bound r hv
    simp only [List.length_nil]
    omega
  | case4 r h0 h1 len h2 p rest ih =>
    have hv : msgValid r = true := by simpa using h1
    have hb := msgValid_bound r hv
    simp only [len, List.length_drop] at ih
    simp only [rest, len, List.length_cons]
    omega

end AsamCmp
