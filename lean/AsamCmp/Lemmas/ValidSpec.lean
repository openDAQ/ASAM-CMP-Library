/-
  `Packet::create` and its validators: what each validator accepts, in terms of the byte views `byteAt` / `beAt` at
  positions counted from the start of the payload (bounds as sums, `16 + byteAt b 15 ≤ b.length`: next to the conjunct
  `16 ≤ b.length` this is the validator's `byteAt b 15 ≤ b.length - 16`); `validatorOf_cases`, the one case analysis over the seven typed codes;
  `Accepted`, the test `create` applies; and what `create` returns for an accepted / a rejected payload.
-/
import AsamCmp.Packet
namespace AsamCmp

theorem canValid_spec (b : Bytes) : canValid b = true ↔
    16 ≤ b.length ∧ beAt b 0 2 &&& 0x03FF = 0 ∧ beAt b 12 2 = 0 ∧ 16 + byteAt b 15 ≤ b.length := by
  simp only [canValid, Bool.and_eq_true, decide_eq_true_eq, beq_iff_eq]
  omega

theorem linValid_spec (b : Bytes) : linValid b = true ↔ 8 ≤ b.length ∧ 8 + byteAt b 7 ≤ b.length := by
  simp only [linValid, Bool.and_eq_true, decide_eq_true_eq]
  omega

theorem ethValid_spec (b : Bytes) : ethValid b = true ↔
    6 ≤ b.length ∧ beAt b 0 2 &&& 0x003B = 0 ∧ 6 + beAt b 4 2 ≤ b.length := by
  simp only [ethValid, Bool.and_eq_true, decide_eq_true_eq, beq_iff_eq]
  omega

theorem analogValid_spec (b : Bytes) : analogValid b = true ↔ 16 ≤ b.length ∧ byteAt b 1 &&& 3 ≤ 1 := by
  simp only [analogValid, Bool.and_eq_true, decide_eq_true_eq]

/-- one round of `blocksOk` on a tail of `b`, in terms of positions in `b` -/
theorem blocksOk_succ_drop (n : Nat) (b : Bytes) (pos : Nat) :
    blocksOk (n + 1) (b.drop pos) =
      if b.length - pos < 2 then false
      else if b.length - (pos + 2) < beAt b pos 2 then false
      else blocksOk n (b.drop (pos + 2 + beAt b pos 2)) := by
  have e : beDec ((b.drop pos).take 2) = beAt b pos 2 := rfl
  simp only [blocksOk, e, List.length_drop, List.drop_drop]

/-- one length-prefixed block at position `pos` of `b`: its length field and its bytes lie inside `b`, and the remaining
    blocks start behind it -/
theorem blocksOk_succ_iff (n : Nat) (b : Bytes) (pos : Nat) :
    blocksOk (n + 1) (b.drop pos) = true ↔
      pos + 2 ≤ b.length ∧ pos + 2 + beAt b pos 2 ≤ b.length ∧ blocksOk n (b.drop (pos + 2 + beAt b pos 2)) = true := by
  rw [blocksOk_succ_drop]
  by_cases h1 : b.length - pos < 2
  · rw [if_pos h1]
    exact ⟨fun h => (nomatch h), fun h => by omega⟩
  · rw [if_neg h1]
    by_cases h2 : b.length - (pos + 2) < beAt b pos 2
    · rw [if_pos h2]
      exact ⟨fun h => (nomatch h), fun h => by omega⟩
    · rw [if_neg h2]
      exact ⟨fun h => ⟨by omega, by omega, h⟩, fun h => h.2.2⟩

theorem cmValid_spec (b : Bytes) : cmValid b = true ↔ 26 ≤ b.length ∧ blocksOk 5 (b.drop 26) = true := by
  simp only [cmValid, Bool.and_eq_true, decide_eq_true_eq]

theorem ifValid_spec (b : Bytes) : ifValid b = true ↔
    40 ≤ b.length ∧ byteAt b 29 ≤ 2 ∧ 40 + (beAt b 36 2 + beAt b 36 2 % 2) ≤ b.length ∧
      40 + (beAt b 36 2 + beAt b 36 2 % 2) + beAt b (38 + (beAt b 36 2 + beAt b 36 2 % 2)) 2 ≤ b.length := by
  simp only [ifValid, Bool.and_eq_true, decide_eq_true_eq]
  omega

/-- the payload `d` passes the validator `Packet::create` applies to the type code `ty`, if that type has one -/
def Accepted (ty : Nat) (d : Bytes) : Prop := ∀ v, validatorOf ty = some v → v d = true

theorem validatorOf_eq_none_iff (ty : Nat) : validatorOf ty = none ↔
    ty ≠ 0x0101 ∧ ty ≠ 0x0102 ∧ ty ≠ 0x0103 ∧ ty ≠ 0x0107 ∧ ty ≠ 0x0108 ∧ ty ≠ 0x0301 ∧ ty ≠ 0x0302 := by
  constructor
  · intro h
    refine ⟨?_, ?_, ?_, ?_, ?_, ?_, ?_⟩ <;> (intro e; subst e; cases h)
  · intro ⟨h1, h2, h3, h4, h5, h6, h7⟩
    simp only [validatorOf, tyCan, tyCanFd, tyLin, tyAnalog, tyEth, tyCm, tyIf, h1, h2, h3, h4, h5, h6, h7, if_false]

/-- the case analysis over `validatorOf`: the seven typed codes with their validators, and every other code, which has none -/
theorem validatorOf_cases {P : Nat → Option (Bytes → Bool) → Prop}
    (can : P 0x0101 (some canValid)) (canFd : P 0x0102 (some canValid)) (lin : P 0x0103 (some linValid))
    (analog : P 0x0107 (some analogValid)) (eth : P 0x0108 (some ethValid)) (cm : P 0x0301 (some cmValid))
    (ifs : P 0x0302 (some ifValid))
    (other : ∀ ty, ty ≠ 0x0101 ∧ ty ≠ 0x0102 ∧ ty ≠ 0x0103 ∧ ty ≠ 0x0107 ∧ ty ≠ 0x0108 ∧ ty ≠ 0x0301 ∧ ty ≠ 0x0302 → P ty none)
    (ty : Nat) : P ty (validatorOf ty) := by
  by_cases h1 : ty = 0x0101; · subst h1; exact can
  by_cases h2 : ty = 0x0102; · subst h2; exact canFd
  by_cases h3 : ty = 0x0103; · subst h3; exact lin
  by_cases h4 : ty = 0x0107; · subst h4; exact analog
  by_cases h5 : ty = 0x0108; · subst h5; exact eth
  by_cases h6 : ty = 0x0301; · subst h6; exact cm
  by_cases h7 : ty = 0x0302; · subst h7; exact ifs
  rw [(validatorOf_eq_none_iff ty).2 ⟨h1, h2, h3, h4, h5, h6, h7⟩]
  exact other ty ⟨h1, h2, h3, h4, h5, h6, h7⟩

/-- to describe the accepted payloads by `P`, describe what each of the seven validators accepts and show `P` of every
    other type code -/
theorem accepted_iff_by_type {P : Nat → Prop} {d : Bytes}
    (can : canValid d = true ↔ P 0x0101) (canFd : canValid d = true ↔ P 0x0102) (lin : linValid d = true ↔ P 0x0103)
    (analog : analogValid d = true ↔ P 0x0107) (eth : ethValid d = true ↔ P 0x0108) (cm : cmValid d = true ↔ P 0x0301)
    (ifs : ifValid d = true ↔ P 0x0302)
    (other : ∀ ty, ty ≠ 0x0101 ∧ ty ≠ 0x0102 ∧ ty ≠ 0x0103 ∧ ty ≠ 0x0107 ∧ ty ≠ 0x0108 ∧ ty ≠ 0x0301 ∧ ty ≠ 0x0302 → P ty)
    (ty : Nat) : Accepted ty d ↔ P ty := by
  have typed : ∀ {v : Bytes → Bool} {t : Nat}, (v d = true ↔ P t) → ((∀ w, some v = some w → w d = true) ↔ P t) :=
    fun h => ⟨fun H => h.1 (H _ rfl), fun p w hw => by cases hw; exact h.2 p⟩
  exact validatorOf_cases (P := fun ty o => (∀ v, o = some v → v d = true) ↔ P ty) (typed can) (typed canFd) (typed lin)
    (typed analog) (typed eth) (typed cm) (typed ifs) (fun ty h => ⟨fun _ => other ty h, fun _ v hv => nomatch hv⟩) ty

/-- `ty ≠ 0` matters for the types without validator only (`validatorOf 0 = none`): `create` keeps every such type but 0 -/
theorem create_of_accepted {ty : Nat} {d : Bytes} (h0 : ty ≠ 0) (hv : Accepted ty d) : create ty d = ⟨ty, d⟩ := by
  unfold create
  split
  · rename_i v hv'
    rw [if_pos (hv v hv')]
  · rw [if_neg h0]

theorem create_of_not_accepted {ty : Nat} {d : Bytes} (h : ¬ Accepted ty d) : create ty d = ⟨0, zeros d.length⟩ := by
  unfold create
  split
  · rename_i v hv
    rw [if_neg]
    exact fun hvd => h fun w hw => by rw [hv] at hw; cases hw; exact hvd
  · rename_i hn
    exact absurd (fun w hw => by rw [hn] at hw; cases hw) h

end AsamCmp
