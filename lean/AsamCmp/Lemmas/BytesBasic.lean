/-
  The facts about `slice`, `byteAt`, `beAt` and `writeAt` under `take`, `drop` and `++` that every layer uses.
-/
import AsamCmp.Bytes
namespace AsamCmp

/-! ### `slice` -/

theorem slice_length_of_le (b : Bytes) (i w : Nat) (h : i + w ≤ b.length) : (slice b i w).length = w := by
  unfold slice
  rw [List.length_take, List.length_drop]
  omega

theorem slice_take_of_le (b : Bytes) (n i w : Nat) (h : i + w ≤ n) : slice (b.take n) i w = slice b i w := by
  unfold slice
  rw [List.drop_take, List.take_take, Nat.min_eq_left (by omega)]

theorem slice_drop_add (b : Bytes) (k i w : Nat) : slice (b.drop k) i w = slice b (k + i) w := by
  unfold slice
  rw [List.drop_drop]

theorem slice_append_of_le (a b : Bytes) (i w : Nat) (h : i + w ≤ a.length) :
    slice (a ++ b) i w = slice a i w := by
  unfold slice
  rw [List.drop_append_of_le_length (by omega),
    List.take_append_of_le_length (by rw [List.length_drop]; omega)]

/-! ### `byteAt` -/

theorem byteAt_lt_256 (b : Bytes) (i : Nat) : byteAt b i < 256 := (b.getD i 0).toNat_lt

theorem byteAt_append_left (a b : Bytes) (i : Nat) (h : i < a.length) :
    byteAt (a ++ b) i = byteAt a i := by
  simp only [byteAt, List.getD_eq_getElem?_getD, List.getElem?_append_left h]

theorem byteAt_take_of_lt (b : Bytes) (n i : Nat) (h : i < n) : byteAt (b.take n) i = byteAt b i := by
  unfold byteAt
  rw [List.getD_eq_getElem?_getD, List.getD_eq_getElem?_getD, List.getElem?_take, if_pos h]

theorem byteAt_drop_add (b : Bytes) (k i : Nat) : byteAt (b.drop k) i = byteAt b (k + i) := by
  unfold byteAt
  rw [List.getD_eq_getElem?_getD, List.getD_eq_getElem?_getD, List.getElem?_drop]

/-! ### `beAt` -/

theorem beAt_take_of_le (b : Bytes) (n i w : Nat) (h : i + w ≤ n) : beAt (b.take n) i w = beAt b i w := by
  unfold beAt
  rw [slice_take_of_le b n i w h]

theorem beAt_drop_add (b : Bytes) (k i w : Nat) : beAt (b.drop k) i w = beAt b (k + i) w := by
  unfold beAt
  rw [slice_drop_add]

theorem beAt_append_of_le (a b : Bytes) (i w : Nat) (h : i + w ≤ a.length) :
    beAt (a ++ b) i w = beAt a i w := by
  unfold beAt
  rw [slice_append_of_le a b i w h]

/-- a one-byte big-endian field is the byte, also past the end (both are 0 there) -/
theorem beAt_one_eq_byteAt (b : Bytes) (i : Nat) : beAt b i 1 = byteAt b i := by
  unfold beAt slice byteAt
  rw [List.getD_eq_getElem?_getD]
  by_cases h : i < b.length
  · rw [List.drop_eq_getElem_cons h, List.getElem?_eq_getElem h]
    simp only [beDec, List.take_succ_cons, List.take_zero, List.foldl_cons, List.foldl_nil, Nat.zero_mul,
      Nat.zero_add, Option.getD_some]
  · rw [List.drop_eq_nil_of_le (Nat.le_of_not_lt h), List.getElem?_eq_none (Nat.le_of_not_lt h)]
    rfl

/-- reading behind a prefix -/
theorem beAt_append_of_length_le (a b : Bytes) (i w : Nat) (h : a.length ≤ i) :
    beAt (a ++ b) i w = beAt b (i - a.length) w := by
  unfold beAt slice
  rw [List.drop_append, List.drop_eq_nil_of_le h, List.nil_append]

theorem byteAt_append_of_length_le (a b : Bytes) (i : Nat) (h : a.length ≤ i) :
    byteAt (a ++ b) i = byteAt b (i - a.length) := by
  rw [← beAt_one_eq_byteAt, ← beAt_one_eq_byteAt, beAt_append_of_length_le a b i 1 h]

theorem beAt_two_eq_byteAt (b : Bytes) (off : Nat) (h : off + 2 ≤ b.length) :
    beAt b off 2 = byteAt b off * 256 + byteAt b (off + 1) := by
  have h0 : off < b.length := by omega
  have h1 : off + 1 < b.length := by omega
  have hs : slice b off 2 = [b[off], b[off + 1]] := by
    unfold slice
    rw [List.drop_eq_getElem_cons h0, List.drop_eq_getElem_cons h1]
    rfl
  simp only [beAt, hs, byteAt, List.getD_eq_getElem?_getD, List.getElem?_eq_getElem h0,
    List.getElem?_eq_getElem h1, Option.getD_some]
  simp [beDec]

theorem beAt_lt_pow (b : Bytes) (i w : Nat) : beAt b i w < 256 ^ w :=
  Nat.lt_of_lt_of_le (beDec_lt (slice b i w))
    (Nat.pow_le_pow_right (by decide) (List.length_take_le w (b.drop i)))

theorem beAt_lt_two_pow (b : Bytes) (i w : Nat) : beAt b i w < 2 ^ (8 * w) :=
  Nat.pow_mul 2 8 w ▸ beAt_lt_pow b i w

theorem beAt_two_lt_65536 (b : Bytes) (i : Nat) : beAt b i 2 < 65536 := beAt_lt_pow b i 2

/-! ### `writeAt` -/

theorem writeAt_length_of_le (b : Bytes) (i : Nat) (x : Bytes) (h : i + x.length ≤ b.length) :
    (writeAt b i x).length = b.length := by
  unfold writeAt
  simp only [List.length_append, List.length_take, List.length_drop]
  omega

theorem writeAt_writeAt_of_length_eq (b : Bytes) (i : Nat) (x y : Bytes) (hi : i ≤ b.length)
    (hxy : x.length = y.length) : writeAt (writeAt b i x) i y = writeAt b i y := by
  have hA : (b.take i).length = i := by rw [List.length_take]; omega
  have hAx : (b.take i ++ x).length = i + y.length := by rw [List.length_append, hA, hxy]
  unfold writeAt
  rw [List.append_assoc (b.take i), List.take_left' hA, ← List.append_assoc, List.drop_left' hAx, hxy]

/-- reading back what was written -/
theorem slice_writeAt_of_le (b : Bytes) (i : Nat) (x : Bytes) (hi : i ≤ b.length) :
    slice (writeAt b i x) i x.length = x := by
  have hA : (b.take i).length = i := by rw [List.length_take]; omega
  unfold slice writeAt
  rw [List.append_assoc, List.drop_left' hA, List.take_left' rfl]

/-! ### reading after `writeAt`: one element, a slice or a byte, inside the written range and outside it -/

theorem getElem?_slice (b : Bytes) (off w i : Nat) :
    (slice b off w)[i]? = if i < w then b[off + i]? else none := by
  unfold slice
  rw [List.getElem?_take, List.getElem?_drop]

theorem getElem?_writeAt {b : Bytes} {off : Nat} {x : Bytes} (h : off + x.length ≤ b.length)
    (i : Nat) :
    (writeAt b off x)[i]? =
      if i < off then b[i]? else if i < off + x.length then x[i - off]? else b[i]? := by
  unfold writeAt
  have hm : (List.take off b).length = off := by rw [List.length_take]; omega
  rw [List.getElem?_append, List.getElem?_append]
  simp only [List.length_append, hm, List.getElem?_take, List.getElem?_drop]
  by_cases h1 : i < off
  · have h2 : i < off + x.length := by omega
    simp only [h1, h2, if_true]
  · by_cases h2 : i < off + x.length
    · simp only [h1, h2, if_true, if_false]
    · simp only [h1, h2, if_false]
      congr 1
      omega

theorem getElem?_writeAt_out {b : Bytes} {off : Nat} {x : Bytes} (h : off + x.length ≤ b.length)
    {i : Nat} (hi : i < off ∨ off + x.length ≤ i) : (writeAt b off x)[i]? = b[i]? := by
  rw [getElem?_writeAt h]
  by_cases h1 : i < off
  · simp only [h1, if_true]
  · have h2 : ¬ i < off + x.length := by omega
    simp only [h1, h2, if_false]

theorem slice_writeAt_other {b : Bytes} {off : Nat} {x : Bytes} (h : off + x.length ≤ b.length)
    {off' w' : Nat} (hd : off' + w' ≤ off ∨ off + x.length ≤ off') :
    slice (writeAt b off x) off' w' = slice b off' w' := by
  apply List.ext_getElem?
  intro i
  rw [getElem?_slice, getElem?_slice]
  by_cases h1 : i < w'
  · simp only [h1, if_true]
    exact getElem?_writeAt_out h (by omega)
  · simp only [h1, if_false]

theorem byteAt_writeAt {b : Bytes} {off : Nat} {x : Bytes} (h : off + x.length ≤ b.length) (i : Nat) :
    byteAt (writeAt b off x) i = if i < off then byteAt b i else if i < off + x.length then byteAt x (i - off) else byteAt b i := by
  unfold byteAt
  simp only [List.getD_eq_getElem?_getD, getElem?_writeAt h]
  split
  · rfl
  · split <;> rfl

theorem byteAt_writeAt_other {b : Bytes} {off : Nat} {x : Bytes} (h : off + x.length ≤ b.length)
    {i : Nat} (hd : i < off ∨ off + x.length ≤ i) : byteAt (writeAt b off x) i = byteAt b i := by
  unfold byteAt
  rw [List.getD_eq_getElem?_getD, List.getD_eq_getElem?_getD, getElem?_writeAt_out h hd]

theorem byteAt_writeAt_inner {b x : Bytes} {off i : Nat} (h : off + x.length ≤ b.length) (hi : i < x.length) :
    byteAt (writeAt b off x) (off + i) = byteAt x i := by
  rw [byteAt_writeAt h, if_neg (by omega), if_pos (by omega), Nat.add_sub_cancel_left]

theorem byteAt_writeAt_same {b : Bytes} {off : Nat} (x : UInt8) (h : off + 1 ≤ b.length) :
    byteAt (writeAt b off [x]) off = x.toNat :=
  byteAt_writeAt_inner (x := [x]) (i := 0) h (Nat.zero_lt_one)

theorem beAt_writeAt_enc {b : Bytes} {off w : Nat} (X : Nat) (h : off + w ≤ b.length) :
    beAt (writeAt b off (beEnc w X)) off w = X % 256 ^ w := by
  have hs := slice_writeAt_of_le b off (beEnc w X) (by omega)
  rw [beEnc_length] at hs
  unfold beAt
  rw [hs, beDec_beEnc]

theorem beAt_writeAt_other {b : Bytes} {off : Nat} {x : Bytes} (h : off + x.length ≤ b.length)
    {off' w' : Nat} (hd : off' + w' ≤ off ∨ off + x.length ≤ off') :
    beAt (writeAt b off x) off' w' = beAt b off' w' := by
  unfold beAt
  rw [slice_writeAt_other h hd]

/-! ### a value in the middle of a concatenation -/

theorem slice_mid (pre v post : Bytes) (off w : Nat) (h1 : pre.length = off) (h2 : v.length = w) :
    slice (pre ++ v ++ post) off w = v := by
  unfold slice
  rw [List.append_assoc, List.drop_left' h1, List.take_left' h2]

theorem byteAt_mid (pre post : Bytes) (x : UInt8) (i : Nat) (h : pre.length = i) :
    byteAt (pre ++ x :: post) i = x.toNat := by
  unfold byteAt
  rw [List.getD_eq_getElem?_getD, List.getElem?_append_right (by omega)]
  simp [h]

theorem writeAt_mid (pre old post x : Bytes) (off : Nat) (h1 : pre.length = off)
    (h2 : old.length = x.length) : writeAt (pre ++ old ++ post) off x = pre ++ x ++ post := by
  unfold writeAt
  simp only [List.append_assoc]
  rw [List.take_left' h1, ← List.drop_drop, List.drop_left' h1, List.drop_left' h2]

/-- a 16-bit field holds its value modulo 2^16 -/
theorem beEnc_two_mod (n : Nat) : beEnc 2 (n % 65536) = beEnc 2 n := by
  have e1 : n % (256 * 256) / 256 % 256 = n / 256 % 256 := by rw [Nat.mod_mul_right_div_self, Nat.mod_mod]
  have e2 : n % (256 * 256) % 256 = n % 256 := Nat.mod_mul_left_mod n 256 256
  simp only [beEnc, e1, e2, show 65536 = 256 * 256 from rfl]

end AsamCmp
