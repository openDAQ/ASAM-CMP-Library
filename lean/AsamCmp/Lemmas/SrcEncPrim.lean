/-
  Source-level encoder: what the translated methods of `Encoder` (GeneratedSrcObj.lean) are made of.

  * lists of byte vectors: `back()` / `pop_back()` / assignment through `back()` (`lastD`, `setLast`, `nonEmpty` of Src/Obj.lean);
  * the translated `MessageHeader_setSegmentType` as a `writeAt` (the other header writers: Lemmas/SrcPacket.lean);
  * the three writes of `addNewDataHeader` into the frame as ONE write of the rewritten 16-byte header (what the model does).

  Nothing here mentions a translated `Encoder` method.
-/
import AsamCmp.GeneratedSrcObj
import AsamCmp.EncoderLL
import AsamCmp.Lemmas.SrcBuilders
import AsamCmp.Lemmas.SrcPacket
import AsamCmp.Lemmas.BitProgMem
import AsamCmp.Lemmas.TileBytes
set_option linter.unusedSimpArgs false
namespace AsamCmp.SrcEnc
open AsamCmp AsamCmp.Src AsamCmp.SrcGen

theorem nonEmpty_of_ne {l : List Bytes} (h : l ≠ []) : nonEmpty l = some () := by
  cases l with
  | nil => exact absurd rfl h
  | cons a t => rfl

theorem isEmpty_of_ne {l : List Bytes} (h : l ≠ []) : l.isEmpty = false := by
  cases l with
  | nil => exact absurd rfl h
  | cons a t => rfl

theorem getLast?_of_ne {l : List Bytes} (h : l ≠ []) : l.getLast? = some (lastD l) := by
  induction l using snocInd with
  | hnil => exact absurd rfl h
  | hsnoc xs x _ => simp [lastD]

theorem lastD_concat (l : List Bytes) (x : Bytes) : lastD (l ++ [x]) = x := by simp [lastD]

theorem setLast_concat (l : List Bytes) (x y : Bytes) : Src.setLast (l ++ [x]) y = l ++ [y] := by
  simp [Src.setLast]

theorem lastD_setLast (l : List Bytes) (y : Bytes) : lastD (Src.setLast l y) = y := lastD_concat _ _

theorem setLast_setLast (l : List Bytes) (y z : Bytes) : Src.setLast (Src.setLast l y) z = Src.setLast l z :=
  setLast_concat _ _ _

theorem setLast_ne (l : List Bytes) (y : Bytes) : Src.setLast l y ≠ [] := by simp [Src.setLast]

theorem concat_ne (l : List Bytes) (y : Bytes) : l ++ [y] ≠ [] := by simp

/-- `flags = (flags & ~0x0C) | type` on the byte at offset 12 -/
theorem setSegmentType_eq (t : Bytes) (a seg : Nat) (h : a + 13 ≤ t.length) :
    MessageHeader_setSegmentType t a seg =
      some (writeAt t (a + 12) [UInt8.ofNat ((byteAt t (a + 12) &&& 0xF3) ||| seg)]) := by
  -- `& ~0x0C` in 32 bits, then the store of one byte
  have hnot : (byteAt t (a + 12) &&& bnot 32 12) % 256 = byteAt t (a + 12) &&& 0xF3 := by
    have e : bnot 32 12 = 4294967283 := by decide
    have := Nat.and_mod_two_pow (a := byteAt t (a + 12)) (b := 4294967283) (n := 8)
    simp only [Nat.reducePow, Nat.reduceMod] at this
    rw [e, this, Nat.mod_eq_of_lt (byteAt_lt_256 t (a + 12))]
  have hl : (writeAt t (a + 12) [UInt8.ofNat (byteAt t (a + 12) &&& 0xF3)]).length = t.length :=
    writeAt_length_of_le _ _ _ (by simpa using h)
  have hm : (byteAt t (a + 12) &&& 0xF3) % 256 = byteAt t (a + 12) &&& 0xF3 :=
    Nat.mod_eq_of_lt (Nat.lt_of_le_of_lt Nat.and_le_right (by decide))
  simp only [MessageHeader_setSegmentType, bind, pure]
  -- calls whose value is known by unfolding (`to_underlying`, whatever its generated name is) / reads and writes
  repeat (first
    | (guard_target =~ Option.bind _ _ = _; refine SrcTie.bind_of_eq rfl ?_)
    | (simp (disch := len_omega) only [SrcTie.some_bind, SrcTie.rd_eq, SrcTie.leAt_one, hnot, SrcTie.wr_eq,
        SrcTie.leEnc_one, byteAt_writeAt_same, hl]))
  try rw [SrcTie.u8_ofNat_mod]
  rw [writeAt_writeAt_of_length_eq _ _ _ _ (by omega) (by simp), UInt8.toNat_ofNat', hm]

/-! ### `addNewDataHeader`: raw header, payload length, segment type — one write of the rewritten header -/

theorem dataHeader_bytes (f hdr : Bytes) (pos n seg : Nat) (hh : hdr.length = 16) (hp : pos + 16 ≤ f.length) :
    writeAt (writeAt (writeAt f pos hdr) (pos + 14) (beEnc 2 n)) (pos + 12)
      [UInt8.ofNat ((byteAt (writeAt (writeAt f pos hdr) (pos + 14) (beEnc 2 n)) (pos + 12) &&& 0xF3) ||| seg)] =
    writeAt f pos
      (writeAt (writeAt hdr 14 (beEnc 2 n)) 12
        [UInt8.ofNat ((byteAt (writeAt hdr 14 (beEnc 2 n)) 12 &&& 0xF3) ||| seg)]) := by
  have hw : pos + hdr.length ≤ f.length := by omega
  have hh1 : (writeAt hdr 14 (beEnc 2 n)).length = 16 := by
    rw [writeAt_length_of_le _ _ _ (by simp [hh])]; exact hh
  rw [Src.Bit.writeAt_writeAt_inner hw (by simp [hh]), byteAt_writeAt_inner (by omega) (by omega),
    Src.Bit.writeAt_writeAt_inner (by omega) (by simp [hh1])]

end AsamCmp.SrcEnc
