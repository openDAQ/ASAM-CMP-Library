/-
  The two headers of the wire format, each once.

  `msgHdr` lays the five values of the 16-byte message header out as the protocol does; `msgHdr_fields` reads them back from
  `msgHdr … ++ rest` by offset; `msgHdr_valid`, `msgHdr_ofMsg`, `walk_msgHdr_unseg` and `walk_msgHdr_seg` say what the decoder's
  message loop (`msgValid`, `Packet.ofMsg`, `walk`) does on a header followed by the declared payload and anything else.  The
  encoder model's `msgHeader`, the wire view `C04.MsgView` and the segment header `C05b.SegHdr` are three spellings of `msgHdr`
  (`msgHeader_eq_msgHdr`, `MsgView.bytes_hdr`, `SegHdr.bytes_hdr`), so what is read from the bytes of each of them is an instance.

  `hdr8` is the 8-byte frame header with any reserved byte (`frameHeader` writes 0 there); `hdr8_fields` reads it back,
  `EFrame.bytes_fields` is that table for a serialised frame of the encoder model, and `parseFrame_hdr8` is what the decoder's
  parser makes of a header followed by anything.
-/
import AsamCmp.Decoder
import AsamCmp.Encoder
import AsamCmp.Lemmas.LayerB
namespace AsamCmp

/-- timestamp u64 @0, id word u32 @8 (interface id, or reserved u16 + vendor id u16), flags u8 @12, payload type u8 @13,
    payload length u16 @14 -/
def msgHdr (ts idw flags ptype len : Nat) : Bytes :=
  beEnc 8 ts ++ beEnc 4 idw ++ [UInt8.ofNat flags, UInt8.ofNat ptype] ++ beEnc 2 len

theorem msgHdr_length (ts idw flags ptype len : Nat) : (msgHdr ts idw flags ptype len).length = 16 := by
  simp [msgHdr]

theorem C04.beEnc4_split (n : Nat) : beEnc 4 n = beEnc 2 (n / 65536) ++ beEnc 2 n := by
  simp only [beEnc, List.nil_append, List.cons_append]
  have : n / 256 / 256 = n / 65536 := by omega
  have : n / 256 / 256 / 256 = n / 65536 / 256 := by omega
  simp [*]

theorem msgHdr_fields (ts idw flags ptype len : Nat) (rest : Bytes) :
    let b := msgHdr ts idw flags ptype len ++ rest
    beAt b 0 8 = ts % 2 ^ 64 ∧ beAt b 8 4 = idw % 2 ^ 32 ∧ beAt b 10 2 = idw % 65536 ∧ byteAt b 12 = flags % 256 ∧
    byteAt b 13 = ptype % 256 ∧ beAt b 14 2 = len % 65536 ∧ b.drop 16 = rest := by
  refine ⟨?_, ?_, ?_, ?_, ?_, ?_, List.drop_left' (msgHdr_length ..)⟩
  · have e : msgHdr ts idw flags ptype len ++ rest = [] ++ beEnc 8 ts ++
        (beEnc 4 idw ++ [UInt8.ofNat flags, UInt8.ofNat ptype] ++ beEnc 2 len ++ rest) := by simp [msgHdr]
    unfold beAt
    rw [e, slice_mid _ _ _ 0 8 rfl (by simp), beDec_beEnc]
  · have e : msgHdr ts idw flags ptype len ++ rest = beEnc 8 ts ++ beEnc 4 idw ++
        ([UInt8.ofNat flags, UInt8.ofNat ptype] ++ beEnc 2 len ++ rest) := by simp [msgHdr]
    unfold beAt
    rw [e, slice_mid _ _ _ 8 4 (by simp) (by simp), beDec_beEnc]
  · have e : msgHdr ts idw flags ptype len ++ rest = (beEnc 8 ts ++ beEnc 2 (idw / 65536)) ++ beEnc 2 idw ++
        ([UInt8.ofNat flags, UInt8.ofNat ptype] ++ beEnc 2 len ++ rest) := by
      rw [msgHdr, C04.beEnc4_split]; simp
    unfold beAt
    rw [e, slice_mid _ _ _ 10 2 (by simp) (by simp), beDec_beEnc]
  · have e : msgHdr ts idw flags ptype len ++ rest = (beEnc 8 ts ++ beEnc 4 idw) ++ UInt8.ofNat flags ::
        ([UInt8.ofNat ptype] ++ beEnc 2 len ++ rest) := by simp [msgHdr]
    rw [e, byteAt_mid _ _ _ 12 (by simp)]; exact UInt8.toNat_ofNat'
  · have e : msgHdr ts idw flags ptype len ++ rest = (beEnc 8 ts ++ beEnc 4 idw ++ [UInt8.ofNat flags]) ++
        UInt8.ofNat ptype :: (beEnc 2 len ++ rest) := by simp [msgHdr]
    rw [e, byteAt_mid _ _ _ 13 (by simp)]; exact UInt8.toNat_ofNat'
  · have e : msgHdr ts idw flags ptype len ++ rest =
        (beEnc 8 ts ++ beEnc 4 idw ++ [UInt8.ofNat flags, UInt8.ofNat ptype]) ++ beEnc 2 len ++ rest := by simp [msgHdr]
    unfold beAt
    rw [e, slice_mid _ _ _ 14 2 (by simp) (by simp), beDec_beEnc]

/-- the payload behind a header: where it lies, what follows it, how long the whole is -/
theorem msgHdr_body (ts idw flags ptype len : Nat) (body rest : Bytes) :
    let b := msgHdr ts idw flags ptype len ++ body ++ rest
    slice b 16 body.length = body ∧ b.drop (16 + body.length) = rest ∧ b.length = 16 + body.length + rest.length :=
  ⟨slice_mid _ _ _ 16 _ (msgHdr_length ..) rfl, List.drop_left' (by rw [List.length_append, msgHdr_length]),
    by simp only [List.length_append, msgHdr_length]⟩

/-- the first 14 bytes do not depend on the length field: `writeAt h 14 (beEnc 2 n)` on a header (`writeAt_hdr`) -/
theorem msgHdr_take14 (ts idw flags ptype len n : Nat) :
    (msgHdr ts idw flags ptype len).take 14 ++ beEnc 2 n = msgHdr ts idw flags ptype n := by
  unfold msgHdr
  rw [List.take_left' (by simp)]

theorem msgHdr_writeLen (ts idw flags ptype len n : Nat) :
    writeAt (msgHdr ts idw flags ptype len) 14 (beEnc 2 n) = msgHdr ts idw flags ptype n := by
  rw [writeAt_hdr _ _ (msgHdr_length ..) (beEnc_length 2 n), msgHdr_take14]

theorem msgHdr_writeFlags (ts idw flags ptype len x : Nat) :
    writeAt (msgHdr ts idw flags ptype len) 12 [UInt8.ofNat x] = msgHdr ts idw x ptype len := by
  have e : msgHdr ts idw flags ptype len =
      (beEnc 8 ts ++ beEnc 4 idw) ++ [UInt8.ofNat flags] ++ (UInt8.ofNat ptype :: beEnc 2 len) := by simp [msgHdr]
  rw [e, writeAt_mid _ [UInt8.ofNat flags] _ [UInt8.ofNat x] 12 (by simp) rfl]
  simp [msgHdr]

/-- header values inside their wire widths, a non-zero payload type, no error-in-payload bit: what `isValidPacket` and the
    packet constructor ask of a header (the segment bits `0x0C` of the flags are left open) -/
structure MsgHdrOk (ts idw flags ptype : Nat) : Prop where
  tsLt : ts < 2 ^ 64
  idwLt : idw < 2 ^ 32
  flagsLt : flags < 256
  noErr : flags &&& 0x40 = 0
  ptypePos : 1 ≤ ptype
  ptypeLt : ptype < 256

/-- the packet `Packet.ofMsg mt` builds from a message with these header values and payload `body` -/
def msgPacket (mt ts idw flags ptype : Nat) (body : Bytes) : Packet :=
  { payload := some (create (mt * 256 + ptype) body), ts := ts, ifId := if mt = 1 then idw else 0,
    vendorId := if mt = 3 ∨ mt = 0xFF then idw % 65536 else 0, flags := flags }

/-- the constructor on a header followed by anything: it takes as many bytes as the length field declares (16 bits) -/
theorem msgHdr_ofMsg_take {ts idw flags ptype : Nat} (h : MsgHdrOk ts idw flags ptype) (len : Nat) (rest : Bytes)
    (mt : Nat) :
    Packet.ofMsg mt (msgHdr ts idw flags ptype len ++ rest) =
      msgPacket mt ts idw flags ptype (rest.take (len % 65536)) := by
  obtain ⟨f0, f8, f10, f12, f13, f14, fd⟩ := msgHdr_fields ts idw flags ptype len rest
  simp only [Packet.ofMsg, msgPacket, slice, f0, f8, f10, f12, f13, f14, fd, Nat.mod_eq_of_lt h.tsLt,
    Nat.mod_eq_of_lt h.idwLt, Nat.mod_eq_of_lt h.flagsLt, Nat.mod_eq_of_lt h.ptypeLt]

section message
variable {ts idw flags ptype : Nat} (h : MsgHdrOk ts idw flags ptype) {body : Bytes} (hb : body.length < 65536)
  (rest : Bytes)
include h hb

/-- all seven reads of `msgHdr_fields` with the reductions `% 2 ^ k` removed, and the payload behind the header -/
theorem msgHdr_reads :
    let b := msgHdr ts idw flags ptype body.length ++ body ++ rest
    beAt b 0 8 = ts ∧ beAt b 8 4 = idw ∧ beAt b 10 2 = idw % 65536 ∧ byteAt b 12 = flags ∧ byteAt b 13 = ptype ∧
    beAt b 14 2 = body.length ∧ slice b 16 body.length = body ∧ b.drop (16 + body.length) = rest ∧
    b.length = 16 + body.length + rest.length := by
  obtain ⟨f0, f8, f10, f12, f13, f14, _⟩ := msgHdr_fields ts idw flags ptype body.length (body ++ rest)
  rw [← List.append_assoc] at f0 f8 f10 f12 f13 f14
  exact ⟨f0.trans (Nat.mod_eq_of_lt h.tsLt), f8.trans (Nat.mod_eq_of_lt h.idwLt), f10, f12.trans (Nat.mod_eq_of_lt h.flagsLt),
    f13.trans (Nat.mod_eq_of_lt h.ptypeLt), f14.trans (Nat.mod_eq_of_lt hb), msgHdr_body ts idw flags ptype body.length body rest⟩

theorem msgHdr_valid : msgValid (msgHdr ts idw flags ptype body.length ++ body ++ rest) = true := by
  -- the two size checks, before the reads are in the context
  have a : ∀ n k : Nat, 16 ≤ 16 + n + k ∧ n ≤ 16 + n + k - 16 := fun n k => by omega
  obtain ⟨_, _, _, f12, f13, f14, _, _, hl⟩ := msgHdr_reads h hb rest
  simp only [msgValid, hl, f12, f13, f14, h.noErr, Bool.and_eq_true, decide_eq_true_eq, beq_iff_eq, bne_iff_ne, ne_eq]
  exact ⟨⟨⟨(a _ _).1, (a _ _).2⟩, trivial⟩, Nat.ne_of_gt h.ptypePos⟩

theorem msgHdr_ofMsg (mt : Nat) :
    Packet.ofMsg mt (msgHdr ts idw flags ptype body.length ++ body ++ rest) = msgPacket mt ts idw flags ptype body := by
  rw [List.append_assoc, msgHdr_ofMsg_take h, Nat.mod_eq_of_lt hb, List.take_left' rfl]

/-- an unsegmented message: the walk delivers its packet and goes on behind the declared payload -/
theorem walk_msgHdr_unseg (hs : flags &&& 0x0C = 0) (ep : Ep) (ver mt : Nat) :
    walk ep ver mt (msgHdr ts idw flags ptype body.length ++ body ++ rest) =
      (tagPacket ep ver (msgPacket mt ts idw flags ptype body) :: (walk ep ver mt rest).1, (walk ep ver mt rest).2) := by
  obtain ⟨_, _, _, f12, _, f14, _, fd, _⟩ := msgHdr_reads h hb rest
  rw [walk_unseg_eq ep ver mt _ (msgHdr_valid h hb rest) (by rw [segTypeOf, f12]; exact hs), f14, fd,
    msgHdr_ofMsg h hb rest]

/-- a segment: the walk stops and hands over header and declared payload -/
theorem walk_msgHdr_seg (hs : flags &&& 0x0C ≠ 0) (ep : Ep) (ver mt : Nat) :
    walk ep ver mt (msgHdr ts idw flags ptype body.length ++ body ++ rest) =
      ([], .seg (msgHdr ts idw flags ptype body.length ++ body)) := by
  obtain ⟨_, _, _, f12, _, f14, _⟩ := msgHdr_reads h hb rest
  rw [walk_seg_eq ep ver mt _ (msgHdr_valid h hb rest) (by rw [segTypeOf, f12]; exact hs), f14,
    List.take_left' (by rw [List.length_append, msgHdr_length])]

end message

/-! ### the encoder model's header is a `msgHdr` -/

/-- the id word the encoder writes at offset 8: interface id (data), reserved + vendor id (status, vendor), zeros -/
def idWord (p : Packet) : Nat :=
  if p.mt = 1 then p.ifId else if p.mt = 3 ∨ p.mt = 0xFF then p.vendorId % 65536 else 0

theorem msgHeader_eq_msgHdr (p : Packet) (seg len : Nat) :
    msgHeader p seg len = msgHdr p.ts (idWord p) ((p.flags % 256 &&& 0xF3) ||| seg) p.rawType len := by
  unfold msgHeader msgHdr idWord
  by_cases h1 : p.mt = 1
  · simp only [if_pos h1]
  · by_cases h3 : p.mt = 3 ∨ p.mt = 0xFF
    · have e : p.vendorId % 65536 / 65536 = 0 := Nat.div_eq_of_lt (Nat.mod_lt _ (by decide))
      simp only [if_neg h1, if_pos h3, C04.beEnc4_split (p.vendorId % 65536), e, beEnc_two_mod]
      rfl
    · simp only [if_neg h1, if_neg h3]
      rfl

@[simp] theorem msgHeader_length (p : Packet) (seg len : Nat) : (msgHeader p seg len).length = 16 := by
  rw [msgHeader_eq_msgHdr, msgHdr_length]

theorem EMsg.bytes_hdr (m : EMsg) :
    m.bytes = msgHdr m.pkt.ts (idWord m.pkt) ((m.pkt.flags % 256 &&& 0xF3) ||| m.seg) m.pkt.rawType m.body.length ++ m.body := by
  rw [EMsg.bytes, msgHeader_eq_msgHdr]

end AsamCmp

/-! ### the flags byte

The encoder keeps the bits `0xF3` of the packet's flags and puts the segment type into the bits `0x0C`; the two masks are
disjoint, so everything about `(x &&& 0xF3) ||| seg` follows from the distributive law. -/

namespace AsamCmp.C01
open AsamCmp

theorem seg_bits {seg : Nat} (hs : seg = 0 ∨ seg = 4 ∨ seg = 8 ∨ seg = 12) :
    seg < 256 ∧ seg &&& 0x40 = 0 ∧ seg &&& 0xF3 = 0 := by
  rcases hs with rfl | rfl | rfl | rfl <;> decide

theorem flags_lt {x seg : Nat} (hx : x < 256) (hs : seg < 256) : ((x &&& 0xF3) ||| seg) % 256 = (x &&& 0xF3) ||| seg :=
  Nat.mod_eq_of_lt (Nat.or_lt_two_pow (n := 8) (Nat.lt_of_le_of_lt Nat.and_le_left hx) hs)

theorem flags_and (x seg m : Nat) : ((x &&& 0xF3) ||| seg) &&& m = (x &&& (0xF3 &&& m)) ||| (seg &&& m) := by
  rw [Nat.and_or_distrib_right, Nat.and_assoc]

theorem flags_err {x seg : Nat} (hx : x &&& 0x40 = 0) (hs : seg &&& 0x40 = 0) : ((x &&& 0xF3) ||| seg) &&& 0x40 = 0 := by
  rw [flags_and, hs, Nat.or_zero]; exact hx

theorem flags_keep {x seg : Nat} (hs : seg &&& 0xF3 = 0) : ((x &&& 0xF3) ||| seg) &&& 0xF3 = x &&& 0xF3 := by
  rw [flags_and, hs, Nat.or_zero]; rfl

/-- the mask `0x0C` reads back the segment type -/
theorem flags_segBits (x : Nat) {seg : Nat} (hs : seg = 0 ∨ seg = 4 ∨ seg = 8 ∨ seg = 12) :
    ((x &&& 0xF3) ||| seg) &&& 0x0C = seg := by
  rw [flags_and]
  show (x &&& 0) ||| (seg &&& 0x0C) = seg
  rw [Nat.and_zero, Nat.zero_or]
  rcases hs with rfl | rfl | rfl | rfl <;> rfl

end AsamCmp.C01

namespace AsamCmp

/-- bytes 14–15 of the encoder's header in front of anything are the length it was built with -/
theorem msgHeader_lenField (p : Packet) (seg len : Nat) (rest : Bytes) :
    beAt (msgHeader p seg len ++ rest) 14 2 = len % 65536 := by
  rw [msgHeader_eq_msgHdr]
  exact (msgHdr_fields ..).2.2.2.2.2.1

/-- bits 2–3 of byte 12 are the segment type it was built with -/
theorem msgHeader_segBits (p : Packet) {seg : Nat} (len : Nat) (rest : Bytes)
    (hs : seg = 0 ∨ seg = 4 ∨ seg = 8 ∨ seg = 12) : byteAt (msgHeader p seg len ++ rest) 12 &&& 0x0C = seg := by
  rw [msgHeader_eq_msgHdr, (msgHdr_fields ..).2.2.2.1, C01.flags_lt (Nat.mod_lt _ (by decide)) (C01.seg_bits hs).1]
  exact C01.flags_segBits _ hs

/-! ### the frame header -/

/-- version u8 @0, reserved u8 @1, device id u16 @2, message type u8 @4, stream id u8 @5, sequence counter u16 @6 -/
def hdr8 (ver reserved dev mt stream seq : Nat) : Bytes :=
  [UInt8.ofNat ver, UInt8.ofNat reserved] ++ beEnc 2 dev ++ [UInt8.ofNat mt, UInt8.ofNat stream] ++ beEnc 2 seq

theorem hdr8_length (ver reserved dev mt stream seq : Nat) : (hdr8 ver reserved dev mt stream seq).length = 8 := by
  simp [hdr8]

theorem hdr8_fields (ver reserved dev mt stream seq : Nat) (rest : Bytes) :
    let b := hdr8 ver reserved dev mt stream seq ++ rest
    byteAt b 0 = ver % 256 ∧ byteAt b 1 = reserved % 256 ∧ beAt b 2 2 = dev % 65536 ∧ byteAt b 4 = mt % 256 ∧
    byteAt b 5 = stream % 256 ∧ beAt b 6 2 = seq % 65536 ∧ b.drop 8 = rest := by
  refine ⟨?_, ?_, ?_, ?_, ?_, ?_, List.drop_left' (hdr8_length ..)⟩
  · have e : hdr8 ver reserved dev mt stream seq ++ rest = [] ++ UInt8.ofNat ver ::
        ([UInt8.ofNat reserved] ++ beEnc 2 dev ++ [UInt8.ofNat mt, UInt8.ofNat stream] ++ beEnc 2 seq ++ rest) := by
      simp [hdr8]
    rw [e, byteAt_mid _ _ _ 0 rfl]; exact UInt8.toNat_ofNat'
  · have e : hdr8 ver reserved dev mt stream seq ++ rest = [UInt8.ofNat ver] ++ UInt8.ofNat reserved ::
        (beEnc 2 dev ++ [UInt8.ofNat mt, UInt8.ofNat stream] ++ beEnc 2 seq ++ rest) := by
      simp [hdr8]
    rw [e, byteAt_mid _ _ _ 1 rfl]; exact UInt8.toNat_ofNat'
  · have e : hdr8 ver reserved dev mt stream seq ++ rest = [UInt8.ofNat ver, UInt8.ofNat reserved] ++ beEnc 2 dev ++
        ([UInt8.ofNat mt, UInt8.ofNat stream] ++ beEnc 2 seq ++ rest) := by
      simp [hdr8]
    unfold beAt
    rw [e, slice_mid _ _ _ 2 2 rfl (by simp), beDec_beEnc]
  · have e : hdr8 ver reserved dev mt stream seq ++ rest = ([UInt8.ofNat ver, UInt8.ofNat reserved] ++ beEnc 2 dev) ++
        UInt8.ofNat mt :: ([UInt8.ofNat stream] ++ beEnc 2 seq ++ rest) := by
      simp [hdr8]
    rw [e, byteAt_mid _ _ _ 4 (by simp)]; exact UInt8.toNat_ofNat'
  · have e : hdr8 ver reserved dev mt stream seq ++ rest = ([UInt8.ofNat ver, UInt8.ofNat reserved] ++ beEnc 2 dev ++
        [UInt8.ofNat mt]) ++ UInt8.ofNat stream :: (beEnc 2 seq ++ rest) := by
      simp [hdr8]
    rw [e, byteAt_mid _ _ _ 5 (by simp)]; exact UInt8.toNat_ofNat'
  · have e : hdr8 ver reserved dev mt stream seq ++ rest = ([UInt8.ofNat ver, UInt8.ofNat reserved] ++ beEnc 2 dev ++
        [UInt8.ofNat mt, UInt8.ofNat stream]) ++ beEnc 2 seq ++ rest := by
      simp [hdr8]
    unfold beAt
    rw [e, slice_mid _ _ _ 6 2 (by simp) (by simp), beDec_beEnc]

theorem frameHeader_eq_hdr8 (ver dev mt stream seq : Nat) :
    frameHeader ver dev mt stream seq = hdr8 ver 0 dev mt stream seq := rfl

theorem frameHeader_length (ver dev mt stream seq : Nat) : (frameHeader ver dev mt stream seq).length = 8 :=
  hdr8_length ..

theorem C01.parse_fields (ver dev mt stream seq : Nat) (rest : Bytes) :
    let b := frameHeader ver dev mt stream seq ++ rest
    byteAt b 0 = ver % 256 ∧ byteAt b 1 = 0 ∧ beAt b 2 2 = dev % 65536 ∧ byteAt b 4 = mt % 256 ∧
    byteAt b 5 = stream % 256 ∧ beAt b 6 2 = seq % 65536 ∧ b.drop 8 = rest :=
  hdr8_fields ver 0 dev mt stream seq rest

/-- the header table of a serialised frame of the encoder model -/
theorem EFrame.bytes_fields (min : Nat) (f : EFrame) :
    let b := EFrame.bytes min f
    8 ≤ b.length ∧ byteAt b 0 = f.ver % 256 ∧ byteAt b 1 = 0 ∧ beAt b 2 2 = f.dev % 65536 ∧ byteAt b 4 = f.mt % 256 ∧
    byteAt b 5 = f.stream % 256 ∧ beAt b 6 2 = f.seq % 65536 := by
  have e : ∃ t, EFrame.bytes min f = hdr8 f.ver 0 f.dev f.mt f.stream f.seq ++ t :=
    ⟨_, by simp only [EFrame.bytes, frameHeader_eq_hdr8, List.append_assoc]; rfl⟩
  obtain ⟨t, e⟩ := e
  obtain ⟨f0, f1, f2, f4, f5, f6, _⟩ := hdr8_fields f.ver 0 f.dev f.mt f.stream f.seq t
  simp only [e]
  exact ⟨by rw [List.length_append, hdr8_length]; omega, f0, f1, f2, f4, f5, f6⟩

/-- the parser on a frame header followed by anything: the header's values, and the message walk over what follows -/
theorem parseFrame_hdr8 {ver dev mt stream seq : Nat} (reserved : Nat) (hv : ver < 256) (hd : dev < 65536) (hm : mt < 256)
    (hs : stream < 256) (hq : seq < 65536) (body : Bytes) :
    parseFrame (hdr8 ver reserved dev mt stream seq ++ body) =
      { ep := (dev, stream), ver := ver, mt := mt, seq := seq,
        unseg := (walk (dev, stream) ver mt body).1, term := (walk (dev, stream) ver mt body).2 } := by
  obtain ⟨f0, _, f2, f4, f5, f6, f8⟩ := hdr8_fields ver reserved dev mt stream seq body
  unfold parseFrame
  simp only [f0, f2, f4, f5, f6, f8, Nat.mod_eq_of_lt hv, Nat.mod_eq_of_lt hd, Nat.mod_eq_of_lt hm, Nat.mod_eq_of_lt hs,
    Nat.mod_eq_of_lt hq]

end AsamCmp
