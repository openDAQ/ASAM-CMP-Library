/-
  Source-level encoder: the `while (currentPayloadPos < payloadLength)` loop of `putPacket` (translated as recursion on
  fuel, `Encoder_putPacket_loop1`) against the model's `putLoop`.

  One iteration from a state with at least 17 free bytes copies `n ≥ 1` payload bytes, so both loops end after at most
  `payloadLength - pos` further iterations and neither result depends on the fuel beyond that.  The case of exactly 16 free
  bytes at the loop head (an empty segment would be written) does not arise: the loop invariant excludes it.
-/
import AsamCmp.Lemmas.SrcEncMethods
import AsamCmp.Lemmas.EncLLBytes
set_option linter.unusedSimpArgs false
namespace AsamCmp.SrcEnc
open AsamCmp AsamCmp.Src AsamCmp.SrcGen
open AsamCmp.EncLL (pre bytesToAdd putData step1 putLoop_succ)
attribute [local congr] SrcTie.bind_head_congr SrcTie.bind_head_congr'

theorem pre_open (p : Packet) (l : EncLL) (h : Open l) (h16 : l.bytesLeft ≠ 16) :
    Open (pre p l) ∧ 17 ≤ (pre p l).bytesLeft := by
  have h1 := h.cfg.max_ge
  unfold pre
  by_cases hb : l.bytesLeft < 16
  · obtain ⟨ho, e, _⟩ := addNewCMPFrame_open l p h.cfg
    rw [if_pos hb]
    exact ⟨ho, by rw [e]; omega⟩
  · rw [if_neg hb]
    exact ⟨h, by omega⟩

theorem bytesToAdd_bounds (p : Packet) (l : EncLL) (pos : Nat) (hb : 17 ≤ l.bytesLeft) (hp : pos < p.payloadLength) :
    1 ≤ bytesToAdd p l pos ∧ bytesToAdd p l pos + 16 ≤ l.bytesLeft ∧ pos + bytesToAdd p l pos ≤ p.payloadLength ∧
      (pos + bytesToAdd p l pos < p.payloadLength → bytesToAdd p l pos + 16 = l.bytesLeft) := by
  show 1 ≤ min (l.bytesLeft - 16) (p.payloadLength - pos) ∧ min (l.bytesLeft - 16) (p.payloadLength - pos) + 16 ≤ _ ∧
    pos + min (l.bytesLeft - 16) (p.payloadLength - pos) ≤ _ ∧
    (pos + min (l.bytesLeft - 16) (p.payloadLength - pos) < _ → min (l.bytesLeft - 16) (p.payloadLength - pos) + 16 = _)
  omega

theorem putData_open (l : EncLL) (d : Bytes) (n : Nat) (h : Open l) (hn : n ≤ l.bytesLeft) (hd : d.length = n) :
    Open (putData l d n) ∧ (putData l d n).bytesLeft = l.bytesLeft - n ∧ (putData l d n).max = l.max := by
  obtain ⟨hc, hne, h6, h7⟩ := h
  unfold putData
  rw [getLast?_of_ne hne]
  simp only [EncLL.setLast]
  refine ⟨⟨⟨hc.max_ge, hc.max_lt, hc.min_le, hc.tmpl⟩, concat_ne _ _, ?_, ?_⟩, ?_⟩
  · simp only [lastD_concat]
    rw [writeAt_length_of_le]
    · exact h6
    · omega
  · show l.bytesLeft - n ≤ l.max - 8
    omega
  · trivial

theorem step1_open (p : Packet) (isSeg : Bool) (l : EncLL) (pos segInd : Nat) (h : Open l) (hb : 17 ≤ l.bytesLeft)
    (hp : pos < p.payloadLength) :
    Open (step1 p isSeg l pos segInd) ∧ 1 ≤ bytesToAdd p l pos ∧ pos + bytesToAdd p l pos ≤ p.payloadLength ∧
      (pos + bytesToAdd p l pos < p.payloadLength → (step1 p isSeg l pos segInd).bytesLeft ≠ 16) := by
  have h1 := h.cfg.max_ge
  have hd := payloadLength_le_data p
  obtain ⟨n1, n2, n3, n4⟩ := bytesToAdd_bounds p l pos hb hp
  unfold step1
  generalize bytesToAdd p l pos = n at n1 n2 n3 n4 ⊢
  simp only
  generalize EncLL.segFlag isSeg segInd n p.payloadLength pos = flag
  obtain ⟨o2, b2, m2⟩ := addNewDataHeader_open l p n flag h (by omega)
  obtain ⟨o3, b3, m3⟩ := putData_open (l.addNewDataHeader p n flag) (slice p.data pos n) n o2 (by omega)
    (slice_length_of_le _ _ _ (by omega))
  generalize putData (l.addNewDataHeader p n flag) (slice p.data pos n) n = l3 at o3 b3 m3 ⊢
  refine ⟨?_, n1, n3, fun hlt => ?_⟩
  · split
    · exact (addNewCMPFrame_open l3 p o3.cfg).1
    · exact o3
  · have := n4 hlt
    split
    · rw [(addNewCMPFrame_open l3 p o3.cfg).2.1]; omega
    · omega

/-! ### one iteration of the translated loop

  First on a state that is a variable, with what the body's calls and arithmetic return as hypotheses; then on `stOf l`, where the
  methods' lemmas supply them.  On the variable state the body is normalised with the rules of `src_norm` but without its
  discharger: no side condition of a `usub` can be proved there, and `omega` failing at each of them is what takes the time. -/

theorem loop1_done (fuel : Nat) (s : Encoder_St) (pk : PktIn) (pos segInd : Nat) (isSeg : Bool)
    (hp : ¬ pos < pk.payloadLength) :
    Encoder_putPacket_loop1 (fuel + 1) s pk pos isSeg segInd = some (s, pos, segInd) := by
  rw [Encoder_putPacket_loop1]
  simp only [src_simp, ↓reduceIte, hp]

theorem loop1_pre (fuel : Nat) (s s' : Encoder_St) (pk : PktIn) (pos segInd : Nat) (isSeg : Bool)
    (hp : pos < pk.payloadLength) (hb : s.f_bytesLeft < 16) (hb' : ¬ s'.f_bytesLeft < 16)
    (h : Encoder_addNewCMPFrame_obj s pk = some (s', ())) :
    Encoder_putPacket_loop1 (fuel + 1) s pk pos isSeg segInd = Encoder_putPacket_loop1 (fuel + 1) s' pk pos isSeg segInd := by
  rw [Encoder_putPacket_loop1, Encoder_putPacket_loop1]
  simp only [src_simp, ↓reduceIte, hp, hb, hb', h]

/-- with at least 16: `n` bytes to add, the flag, the header (state `s2`), the `memcpy` of `d` and the counters (state `s3`),
    possibly a new frame (state `s4`) -/
theorem loop1_step (fuel : Nat) (s s2 s3 s4 : Encoder_St) (pk : PktIn) (pos pos' segInd n flag : Nat) (isSeg : Bool)
    (d : Bytes) (hp : pos < pk.payloadLength) (hb : ¬ s.f_bytesLeft < 16)
    (hn : (usub 64 s.f_bytesLeft 16).min (usub 64 pk.payloadLength pos) % 65536 = n)
    (hflag : Encoder_buildSegmentationFlag_obj s isSeg segInd n pk.payloadLength pos = some (s, flag))
    (hhdr : Encoder_addNewDataHeader_obj s pk n flag = some (s2, ()))
    (hne : nonEmpty s2.f_cmpFrames = some ())
    (hcpy : wrBytes (lastD s2.f_cmpFrames) (usub 64 (lastD s2.f_cmpFrames).length s2.f_bytesLeft)
      (pk.rawPayload.drop (0 + pos)) n = some d)
    (hind : sadd 32 segInd 1 = some (segInd + 1)) (hpos : uadd 64 pos n = pos')
    (h3 : { s2 with f_cmpFrames := setLast s2.f_cmpFrames d, f_bytesLeft := usub 64 s2.f_bytesLeft n } = s3)
    (h4 : (if flag = 12 then Encoder_addNewCMPFrame_obj s3 pk else some (s3, ())) = some (s4, ())) :
    Encoder_putPacket_loop1 (fuel + 1) s pk pos isSeg segInd = Encoder_putPacket_loop1 fuel s4 pk pos' isSeg (segInd + 1) := by
  subst h3 hpos
  rw [Encoder_putPacket_loop1]
  simp only [src_simp, ↓reduceIte, hp, hb, hn, hflag, hhdr, hne, hcpy, hind]
  by_cases hf : flag = 12
  · rw [if_pos hf] at h4
    simp only [src_simp, ↓reduceIte, hf, h4]
  · rw [if_neg hf] at h4
    cases h4
    simp only [src_simp, ↓reduceIte, hf]

theorem loop_step_src (p : Packet) (isSeg : Bool) (fuel : Nat) (l : EncLL) (pos segInd : Nat) (h : Open l)
    (hb : 17 ≤ l.bytesLeft) (hp : pos < p.payloadLength) (hs : segInd < 65536) :
    Encoder_putPacket_loop1 (fuel + 1) (stOf l) (pkOf p) pos isSeg segInd =
      Encoder_putPacket_loop1 fuel (stOf (step1 p isSeg l pos segInd)) (pkOf p) (pos + bytesToAdd p l pos) isSeg (segInd + 1) := by
  have hl := payloadLength_lt p
  have hd := payloadLength_le_data p
  have h16 : 16 ≤ l.bytesLeft := Nat.le_of_succ_le hb
  have hl64 : p.payloadLength < 2 ^ 64 := Nat.lt_trans hl (by decide)
  have hb64 : l.bytesLeft < 2 ^ 64 := by
    have := h.cfg.max_lt
    have := h.last.2
    omega
  obtain ⟨_, n1, n2, _⟩ := bytesToAdd_bounds p l pos hb hp
  -- what the body computes, in its order: `bytesToAdd` (no wrap, fits 16 bits), the flag, the header, the `memcpy`, the counters
  have hn : (usub 64 l.bytesLeft 16).min (usub 64 p.payloadLength pos) % 65536 = bytesToAdd p l pos := by
    rw [SrcTie.usub_eq l.bytesLeft 16 h16 hb64, SrcTie.usub_eq p.payloadLength pos (Nat.le_of_lt hp) hl64]
    exact Nat.mod_eq_of_lt (show bytesToAdd p l pos < 65536 by omega)
  unfold step1
  generalize bytesToAdd p l pos = n at n1 n2 hn ⊢
  simp only
  have e1 := buildSegmentationFlag_src (stOf l) isSeg segInd n p.payloadLength pos (by omega)
  generalize EncLL.segFlag isSeg segInd n p.payloadLength pos = flag at e1 ⊢
  obtain ⟨o2, b2, _⟩ := addNewDataHeader_open l p n flag h h16
  have e2 := addNewDataHeader_src l p n flag h h16
  generalize l.addNewDataHeader p n flag = l2 at o2 b2 e2 ⊢
  have hn2 : n ≤ l2.bytesLeft := by omega
  have hb2 : l2.bytesLeft < 2 ^ 64 := by omega
  obtain ⟨h6, h7⟩ := o2.last
  have hm2 := o2.cfg.max_lt
  have hcpy : wrBytes (lastD l2.frames) (usub 64 (lastD l2.frames).length l2.bytesLeft) (p.data.drop (0 + pos)) n =
      some (writeAt (lastD l2.frames) ((lastD l2.frames).length - l2.bytesLeft) (slice p.data pos n)) := by
    rw [SrcTie.usub_eq _ l2.bytesLeft (by rw [h6]; omega) (by rw [h6]; omega), Nat.zero_add,
      SrcTie.wrBytes_eq _ _ (p.data.drop pos) n (by rw [List.length_drop]; omega) (by rw [h6]; omega),
      SrcTie.drop_take_eq_slice]
  have e3 : { stOf l2 with f_cmpFrames := Src.setLast l2.frames (writeAt (lastD l2.frames)
        ((lastD l2.frames).length - l2.bytesLeft) (slice p.data pos n)), f_bytesLeft := usub 64 l2.bytesLeft n } =
      stOf (putData l2 (slice p.data pos n) n) := by
    rw [SrcTie.usub_eq _ _ hn2 hb2]
    unfold putData
    rw [getLast?_of_ne o2.ne]
    rfl
  obtain ⟨o3, _, _⟩ := putData_open l2 (slice p.data pos n) n o2 hn2 (slice_length_of_le _ _ _ (by omega))
  refine loop1_step fuel (stOf l) (stOf l2) _ _ (pkOf p) pos _ segInd n flag isSeg _ hp (Nat.not_lt.mpr h16) hn e1 e2
    (nonEmpty_of_ne o2.ne) hcpy (SrcTie.sadd_small segInd 1 (by omega)) (SrcTie.uadd_eq pos n (by omega)) e3 ?_
  by_cases hf : flag = 12
  · rw [if_pos hf, if_pos hf]
    exact addNewCMPFrame_src _ p o3.inv
  · rw [if_neg hf, if_neg hf]

theorem loop_pre_src (p : Packet) (isSeg : Bool) (fuel : Nat) (l : EncLL) (pos segInd : Nat) (h : Open l)
    (hp : pos < p.payloadLength) :
    Encoder_putPacket_loop1 (fuel + 1) (stOf l) (pkOf p) pos isSeg segInd =
      Encoder_putPacket_loop1 (fuel + 1) (stOf (pre p l)) (pkOf p) pos isSeg segInd := by
  have h1 := h.cfg.max_ge
  unfold pre
  by_cases hb : l.bytesLeft < 16
  · obtain ⟨_, e, _⟩ := addNewCMPFrame_open l p h.cfg
    rw [if_pos hb]
    exact loop1_pre fuel _ _ _ pos segInd isSeg hp hb (by show ¬ (l.addNewCMPFrame p).bytesLeft < 16; omega)
      (addNewCMPFrame_src l p h.inv)
  · rw [if_neg hb]

/-- the translated loop is defined and is the model's loop, for any two amounts of fuel above the remaining payload -/
theorem loop_src (p : Packet) (isSeg : Bool) :
    ∀ (k fuel fuel' : Nat) (l : EncLL) (pos segInd : Nat), Open l → (pos < p.payloadLength → l.bytesLeft ≠ 16) →
      p.payloadLength - pos ≤ k → k < fuel → k < fuel' → segInd ≤ pos →
      Open (EncLL.putLoop p isSeg fuel' l pos segInd) ∧
      ∃ a b, Encoder_putPacket_loop1 fuel (stOf l) (pkOf p) pos isSeg segInd =
        some (stOf (EncLL.putLoop p isSeg fuel' l pos segInd), a, b) := by
  have hl := payloadLength_lt p
  intro k
  induction k with
  | zero =>
    intro fuel fuel' l pos segInd ho _ hk hf hf' _
    have hp : ¬ pos < p.payloadLength := by omega
    obtain ⟨f, rfl⟩ : ∃ f, fuel = f + 1 := ⟨fuel - 1, by omega⟩
    rw [C07b.putLoop_done p isSeg fuel' l pos segInd hp, loop1_done f _ _ pos segInd isSeg hp]
    exact ⟨ho, _, _, rfl⟩
  | succ k ih =>
    intro fuel fuel' l pos segInd ho h16 hk hf hf' hs
    obtain ⟨f, rfl⟩ : ∃ f, fuel = f + 1 := ⟨fuel - 1, by omega⟩
    obtain ⟨f', rfl⟩ : ∃ f, fuel' = f + 1 := ⟨fuel' - 1, by omega⟩
    by_cases hp : pos < p.payloadLength
    · obtain ⟨o1, b1⟩ := pre_open p l ho (h16 hp)
      obtain ⟨o2, n1, n2, n3⟩ := step1_open p isSeg (pre p l) pos segInd o1 b1 hp
      rw [loop_pre_src p isSeg f l pos segInd ho hp, loop_step_src p isSeg f (pre p l) pos segInd o1 b1 hp (by omega),
        putLoop_succ, if_neg (not_not_intro hp)]
      exact ih f f' _ _ _ o2 n3 (by omega) (Nat.lt_of_succ_lt_succ hf) (Nat.lt_of_succ_lt_succ hf') (by omega)
    · rw [C07b.putLoop_done p isSeg _ l pos segInd hp, loop1_done f _ _ pos segInd isSeg hp]
      exact ⟨ho, _, _, rfl⟩

end AsamCmp.SrcEnc
