/-
  Helper lemmas for Props/C09b.lean: the effect of changing the sequence counter on the bytes of a serialised frame
  (the read-backs of the header bytes are `EFrame.bytes_fields`).
-/
import AsamCmp.EncHist
import AsamCmp.Lemmas.WalkBytes
namespace AsamCmp.C09b
open AsamCmp

theorem bytes_set_seq (min : Nat) (f : EFrame) (q : Nat) :
    EFrame.bytes min { f with seq := q } = writeAt (EFrame.bytes min f) 6 (beEnc 2 q) := by
  rw [EFrame.bytes_eq, EFrame.bytes_eq]
  show _ ++ (f.msgs.flatMap EMsg.bytes ++ zeros (min - (8 + f.used))) = _
  simp only [frameHeader]
  rw [writeAt_mid _ (beEnc 2 f.seq) _ (beEnc 2 q) 6 (by simp) (by simp)]

theorem shift_bytes (min k : Nat) (fs : List EFrame) :
    (shiftSeq k fs).map (EFrame.bytes min) =
      (fs.map (EFrame.bytes min)).map
        (fun b => writeAt b 6 (beEnc 2 ((beAt b 6 2 + k) % 65536))) := by
  unfold shiftSeq
  rw [List.map_map, List.map_map]
  apply List.map_congr_left
  intro f _
  simp only [Function.comp]
  rw [bytes_set_seq, (EFrame.bytes_fields min f).2.2.2.2.2.2, Nat.mod_add_mod]

end AsamCmp.C09b
