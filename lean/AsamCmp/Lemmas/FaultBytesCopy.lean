/-
  C06 on bytes, part 3: arrived buffers are copies of sent frames, the byte-level side condition
  gives the abstract one, every `Good` packet is one of the batch, and so (`C06S.good_of_arrived`) is
  everything the decoder delivers when what arrived satisfies `Side2`.
-/
import AsamCmp.Lemmas.FaultBytesStream
import AsamCmp.Props.C06
namespace AsamCmp.C06b
open AsamCmp AsamCmp.C01

theorem seq_of_frame (X : Setup) {i : Nat} {f : EFrame} (hf : X.fs[i]? = some f) : X.S.seq i = f.seq := by
  have := chain_seq X.fs X.hg.2 (fun g hg => (X.hg.1 g hg).seq) i f hf
  rw [this]; rfl

/-- overwriting the version and message type bytes is serialising the frame with another header -/
theorem bytes_corrupt (min : Nat) (f : EFrame) (ver mt : Nat) :
    writeAt (writeAt (EFrame.bytes min f) 0 [UInt8.ofNat ver]) 4 [UInt8.ofNat mt] =
      EFrame.bytes min { f with ver := ver, mt := mt } := by
  have hu : ({ f with ver := ver, mt := mt } : EFrame).used = f.used := rfl
  simp only [EFrame.bytes, frameHeader, beEnc, List.length_append, List.length_cons, List.length_nil]
  simp [writeAt]

/-- `b` arrived as a copy of frame `i`: clean, or — a segment frame — with other version / type bytes -/
def ArrP (fs : List EFrame) (min : Nat) (b : Bytes) (i : Nat) : Prop :=
  ∃ f, fs[i]? = some f ∧
    (b = EFrame.bytes min f ∨
     ∃ ver mt, (f.msgs.any fun m => m.seg != 0) = true ∧ 1 ≤ ver ∧ ver < 256 ∧ mt < 256 ∧
       b = writeAt (writeAt (EFrame.bytes min f) 0 [UInt8.ofNat ver]) 4 [UInt8.ofNat mt])

theorem seg_of_any {dev stream v : Nat} {f : EFrame} (hf : FrOk dev stream v f)
    (h : (f.msgs.any fun m => m.seg != 0) = true) : ∃ m, f.msgs = [m] ∧ m.seg ≠ 0 := by
  cases hm : f.msgs with
  | nil => exact absurd hm hf.ne
  | cons m ms =>
    by_cases hs : m.seg = 0
    · have hall := head_unseg hf hm hs
      rw [List.any_eq_true] at h
      obtain ⟨x, hx, hx'⟩ := h
      have := hall x hx
      simp [this] at hx'
    · exact ⟨m, by rw [head_seg hf hm hs], hs⟩

/-- a segment frame serialised with any version and type byte parses to a copy of it with that pair -/
theorem seg_copy (X : Setup) {i : Nat} {f : EFrame} {m : EMsg} (hf : X.fs[i]? = some f) (hm : f.msgs = [m])
    (hs : m.seg ≠ 0) (ver mt : Nat) (hver : ver < 256) (hmt : mt < 256) :
    Copy X.S (parseFrame (EFrame.bytes X.min { f with ver := ver, mt := mt })) i ∧
      byteAt (EFrame.bytes X.min { f with ver := ver, mt := mt }) 0 = ver := by
  have hfo := X.hg.1 f (frame_mem X hf)
  have hmo := hfo.msgs m (by rw [hm]; simp)
  have hs' : m.seg = 4 ∨ m.seg = 8 ∨ m.seg = 12 := by
    rcases hmo.seg with h | h | h | h
    · exact absurd h hs
    · exact Or.inl h
    · exact Or.inr (Or.inl h)
    · exact Or.inr (Or.inr h)
  have hp := parse_seg X.min ({ f with ver := ver, mt := mt } : EFrame)
    ⟨hfo.dev, hfo.stream, rfl, hfo.seq, hmt⟩ X.hdev X.hstream hver m hm hmo.wf hmo.len hs'
  refine ⟨?_, show (parseFrame (EFrame.bytes X.min { f with ver := ver, mt := mt })).ver = ver by rw [hp]⟩
  have := Copy.seg (S := X.S) i _ ver mt (sentOf_seg X hf hm hs)
  rw [seq_of_frame X hf] at this
  rw [hp]
  exact this

theorem copy_of_arrP (X : Setup) {b : Bytes} {i : Nat} (h : ArrP X.fs X.min b i) :
    Copy X.S (parseFrame b) i ∧ 8 ≤ b.length ∧ byteAt b 0 ≠ 0 := by
  obtain ⟨f, hf, hb⟩ := h
  have hfo := X.hg.1 f (frame_mem X hf)
  have hv1 := X.hv1
  rcases hb with rfl | ⟨ver, mt, hany, hver1, hver, hmt, rfl⟩
  · have hp := parse_frame X.min f hfo.toHdrOk X.hdev X.hstream X.hv
    have h0 : byteAt (EFrame.bytes X.min f) 0 = X.v := by
      show (parseFrame (EFrame.bytes X.min f)).ver = X.v
      rw [hp]
    refine ⟨?_, by rw [EFrame.bytes_length]; exact Nat.le_trans (Nat.le_add_right 8 _) (Nat.le_max_left _ _),
      by rw [h0]; exact Nat.ne_of_gt hv1⟩
    cases hm : f.msgs with
    | nil => exact absurd hm hfo.ne
    | cons m ms =>
      by_cases hs : m.seg = 0
      · have hat := sentOf_unseg X hf (head_unseg hfo hm hs)
        have := Copy.unseg (S := X.S) i _ _ X.v f.mt hat
        rw [seq_of_frame X hf] at this
        have e : parseFrame (EFrame.bytes X.min f) =
            ⟨X.S.ep, X.v, f.mt, f.seq, (PF X.min f).unseg, (PF X.min f).term⟩ := by
          unfold PF; rw [hp]; rfl
        rw [e]; exact this
      · -- a clean segment frame is the frame serialised with its own version and type
        rw [head_seg hfo hm hs] at hm
        exact (seg_copy X hf hm hs f.ver f.mt (hfo.ver ▸ X.hv) hfo.mt).1
  · obtain ⟨m, hm, hs⟩ := seg_of_any hfo hany
    rw [bytes_corrupt]
    obtain ⟨hc, h0⟩ := seg_copy X hf hm hs ver mt hver hmt
    exact ⟨hc, by rw [EFrame.bytes_length]; exact Nat.le_trans (Nat.le_add_right 8 _) (Nat.le_max_left _ _),
      by rw [h0]; exact Nat.ne_of_gt hver1⟩

/-- the index of a copy is determined by the frame's counter -/
theorem copy_index (X : Setup) {g : PFrame} {i j : Nat} (hi : Copy X.S g i) (hj : Copy X.S g j) : i = j := by
  have h1 := hi.seq_eq
  have h2 := hj.seq_eq
  have hiN : i < X.S.N := by cases hi <;> exact lt_N_of_at _ _ _ ‹_›
  have hjN : j < X.S.N := by cases hj <;> exact lt_N_of_at _ _ _ ‹_›
  exact seq_inj X.S i j hiN hjN (h1.symm.trans h2)

theorem decodeAll_of_arrP (X : Setup) (arr : List Bytes) (harr : ∀ b ∈ arr, ∃ i, ArrP X.fs X.min b i) :
    (decodeAll tecmpDecode DecState.empty (arr.map some)).2 = (runLocal none (arr.map parseFrame)).2 := by
  rw [decodeAll_run tecmpDecode arr DecState.empty (by
    intro b hb
    obtain ⟨i, hi⟩ := harr b hb
    exact (copy_of_arrP X hi).2)]
  have := run_local_ep X.S.ep (arr.map parseFrame) DecState.empty (by
    intro g hg
    obtain ⟨b, hb, rfl⟩ := List.mem_map.mp hg
    obtain ⟨i, hi⟩ := harr b hb
    exact (copy_of_arrP X hi).1.ep_eq)
  have h2 := congrArg Prod.snd this
  simpa [DecState.empty] using h2

theorem copies_of_arrP (X : Setup) (arr : List Bytes) (harr : ∀ b ∈ arr, ∃ i, ArrP X.fs X.min b i) :
    ∀ g ∈ arr.map parseFrame, ∃ i, Copy X.S g i := by
  intro g hg
  obtain ⟨b, hb, rfl⟩ := List.mem_map.mp hg
  obtain ⟨i, hi⟩ := harr b hb
  exact ⟨i, (copy_of_arrP X hi).1⟩

/-- the byte-level side condition in the vocabulary of this file -/
def SideP (X : Setup) (arr : List Bytes) : Prop :=
  ∀ b ∈ arr, ∀ b' ∈ arr, ∀ i i' f f' m m', ArrP X.fs X.min b i → ArrP X.fs X.min b' i' → i ≠ i' →
    X.fs[i]? = some f → X.fs[i']? = some f' → f.msgs = [m] → f'.msgs = [m'] → m.seg ≠ 0 → m'.seg ≠ 0 →
    m.idx = m'.idx → byteAt b 0 = byteAt b' 0 → byteAt b 4 = byteAt b' 4 →
    byteAt b 0 = X.v ∧ byteAt b 4 = f.mt

theorem side_of_sideP (X : Setup) (arr : List Bytes) (harr : ∀ b ∈ arr, ∃ i, ArrP X.fs X.min b i)
    (hside : SideP X arr) : Side X.S (arr.map parseFrame) := by
  intro g hg g' hg' i i' sf sf' hc hc' hat hat' huid hne hver hmt
  obtain ⟨b, hb, rfl⟩ := List.mem_map.mp hg
  obtain ⟨b', hb', rfl⟩ := List.mem_map.mp hg'
  obtain ⟨j, hj⟩ := harr b hb
  obtain ⟨j', hj'⟩ := harr b' hb'
  have e1 := copy_index X hc (copy_of_arrP X hj).1
  have e2 := copy_index X hc' (copy_of_arrP X hj').1
  subst e1 e2
  obtain ⟨f, ip, i0, k, x, hf, hip, hij, hrun, h2, hx, hfm, hfmt, rfl⟩ := sentOf_seg_inv X hat
  obtain ⟨f', ip', i0', k', x', hf', hip', hij', hrun', h2', hx', hfm', hfmt', rfl⟩ := sentOf_seg_inv X hat'
  have := hside b hb b' hb' i i' f f' _ _ hj hj' hne hf hf' hfm hfm' (segCode_ne_zero _ _)
    (segCode_ne_zero _ _) huid hver hmt
  exact ⟨this.1, this.2.trans hfmt⟩

theorem acc_run (X : Setup) {i0 : Nat} {ip : Nat × Packet}
    (hrun : InRun X.c X.fs i0 ip) : ∀ j, j < (chunks (X.c.cap - 16) ip.2.data).length →
    X.S.acc i0 j = ((chunks (X.c.cap - 16) ip.2.data).take (j + 1)).flatten := by
  intro j
  induction j with
  | zero =>
    intro hj
    obtain ⟨x, hx⟩ : ∃ x, (chunks (X.c.cap - 16) ip.2.data)[0]? = some x :=
      ⟨_, List.getElem?_eq_getElem hj⟩
    have := sentOf_run X hrun 0 x hx
    rw [Nat.add_zero] at this
    rw [acc_zero X.S i0 _ this]
    simp only
    cases hc : chunks (X.c.cap - 16) ip.2.data with
    | nil => simp [hc] at hj
    | cons c0 cs =>
      rw [hc] at hx
      simp at hx
      simp [hx]
  | succ j ih =>
    intro hj
    obtain ⟨x, hx⟩ : ∃ x, (chunks (X.c.cap - 16) ip.2.data)[j + 1]? = some x :=
      ⟨_, List.getElem?_eq_getElem hj⟩
    have := sentOf_run X hrun (j + 1) x hx
    rw [← Nat.add_assoc] at this
    rw [acc_succ X.S i0 j _ this, ih (by omega)]
    simp only
    rw [List.take_add_one (i := j + 1), List.flatten_append, hx]
    simp

/-- a `Good` packet of an `encode` call, WITHOUT masking the segmentation bits: it is the packet
    `dec` of a packet of the batch, whose flags carry 0 if that packet fitted a frame and 4 (the
    first segment's bits) if the encoder had to segment it -/
theorem _root_.AsamCmp.C06S.good_exact (X : Setup) (o : Packet) (h : Good X.S o) :
    ∃ ip ∈ X.ib, o = dec X.dev X.stream X.v ip.2 (if 16 + ip.2.data.length ≤ X.c.cap then 0 else 4) := by
  rcases h with ⟨i, pkts, t, hat, ho⟩ | ⟨i0, sf, hat, hk, rfl⟩
  · obtain ⟨f, hf, hall, rfl, _⟩ := sentOf_unseg_inv X hat
    have hfo := X.hg.1 f (frame_mem X hf)
    obtain ⟨t', _, hp⟩ := parse_unseg X.min f hfo.toHdrOk X.hdev X.hstream X.hv
      (fun m hm => ⟨(hfo.msgs m hm).wf, hfo.mts m hm, hall m hm, (hfo.msgs m hm).whole (hall m hm)⟩)
    unfold PF at ho
    rw [hp] at ho
    simp only [List.mem_map] at ho
    obtain ⟨m, hm, rfl⟩ := ho
    have hmf : m ∈ X.fs.flatMap (·.msgs) := List.mem_flatMap.mpr ⟨f, frame_mem X hf, hm⟩
    rw [X.hflat] at hmf
    obtain ⟨ip, hip, hmp⟩ := List.mem_flatMap.mp hmf
    refine ⟨ip, hip, ?_⟩
    rw [pieces_eq X.c ip.1 ip.2 (X.hwf ip hip)] at hmp
    by_cases hfit : 16 + ip.2.data.length ≤ X.c.cap
    · rw [if_pos hfit] at hmp
      simp only [List.mem_singleton] at hmp
      rw [if_pos hfit, hmp]
      rfl
    · rw [if_neg hfit] at hmp
      exact absurd (hall m hm) (segMsgs_seg_ne _ _ _ _ m hmp)
  · obtain ⟨f, ip, i0', j, x, hf, hip, hij, hrun, h2, hx, hfm, hfmt, rfl⟩ := sentOf_seg_inv X hat
    simp only at hk
    subst hk
    have hi0 : i0' = i0 := hij.symm
    subst hi0
    have hp := X.hwf ip hip
    have hd := wf_data hp
    have hn : 0 < X.c.cap - 16 := Nat.sub_pos_of_lt X.hcap
    have hacc := acc_run X hrun ((chunks (X.c.cap - 16) ip.2.data).length - 1)
      (Nat.sub_lt (Nat.lt_of_lt_of_le (by decide) h2) Nat.one_pos)
    rw [Nat.sub_add_cancel (Nat.le_of_succ_le h2),
      List.take_length, chunks_flatten _ hn] at hacc
    refine ⟨ip, hip, ?_⟩
    rw [if_neg hrun.1]
    unfold SStream.expected
    simp only [hacc, segCode_zero]
    rw [fixLen_append _ _ (msgHeader_length ..), Nat.mod_eq_of_lt (Nat.lt_succ_of_le hd.2)]
    have := ofMsg_obs hp (seg := 4) (by simp) x.length []
    rw [List.append_nil] at this
    rw [this]
    rfl


/-- C06 on bytes for any `Setup`, every field exact, under the abstract side condition `Side2` on what the arrived buffers
    parse to: the byte-level conditions `SideB` (through `Side`) and `SideB2` both give it -/
theorem _root_.AsamCmp.C06S.good_of_arrived (X : Setup) (arr : List Bytes)
    (harr : ∀ b ∈ arr, ∃ i, ArrP X.fs X.min b i) (hside : C06S.Side2 X.S (arr.map parseFrame)) :
    ∀ p ∈ (decodeAll tecmpDecode DecState.empty (arr.map some)).2,
      ∃ ip ∈ X.ib, p = dec X.dev X.stream X.v ip.2 (if 16 + ip.2.data.length ≤ X.c.cap then 0 else 4) := by
  intro p hp
  rw [decodeAll_of_arrP X arr harr] at hp
  exact C06S.good_exact X p (C06S.C06_no_corruption2 X.S _ hside (copies_of_arrP X arr harr) p hp)

end AsamCmp.C06b
