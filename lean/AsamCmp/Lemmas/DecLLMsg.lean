/-
  Message-level facts for the refinement of the low-level decoder model: the size the loop
  advances by, `localStep` with a consumed prefix, the segment `walk` cuts out, `addSegment` against
  the model's acceptance test (`Pending.continuedBy`).
-/
import AsamCmp.DecoderLL
import AsamCmp.Lemmas.LayerB
import AsamCmp.Lemmas.Access
import AsamCmp.Lemmas.DecodeM
import AsamCmp.Lemmas.Builders
import AsamCmp.Lemmas.DecLLTable
namespace AsamCmp.C17b
open AsamCmp

/-! ### the size of a delivered unsegmented message -/

theorem create_length (ty : Nat) (d : Bytes) : (create ty d).data.length = d.length := by
  unfold create
  split
  · split <;> simp [zeros]
  · split <;> simp [zeros]

theorem ofMsg_payloadLength (k : Ep) (ver mt : Nat) (r : Bytes) (hv : msgValid r = true) :
    (tagPacket k ver (Packet.ofMsg mt r)).payloadLength = beAt r 14 2 := by
  have hb := msgValid_bound r hv
  have hlt := beAt_two_lt_65536 r 14
  have hsl : (slice r 16 (beAt r 14 2)).length = beAt r 14 2 := by
    simp only [slice, List.length_take, List.length_drop]; omega
  simp only [Packet.payloadLength, tagPacket, Packet.ofMsg, create_length, hsl]
  omega

/-! ### `localStep` -/

theorem localStep_cons (P : Option Pending) (k : Ep) (ver mt seq : Nat) (p : Packet) (u : List Packet)
    (term : Term) :
    localStep P ⟨k, ver, mt, seq, p :: u, term⟩ =
      ((localStep none ⟨k, ver, mt, seq, u, term⟩).1, p :: (localStep none ⟨k, ver, mt, seq, u, term⟩).2) := by
  cases term with
  | done => rfl
  | invalid => rfl
  | seg m =>
    simp only [localStep]
    by_cases h4 : segTypeOf m = 4
    · simp [h4]
    · simp [h4]

/-! ### the segment the walk cuts out -/

theorem segTypeOf_take (r : Bytes) (n : Nat) : segTypeOf (r.take (16 + n)) = byteAt r 12 &&& 0x0C := by
  unfold segTypeOf
  rw [C13.byteAt_of_take (r.take (16 + n)) r (16 + n) 12 (by rw [List.take_take, Nat.min_self]) (by omega)]

theorem take_drop_slice (r : Bytes) (n : Nat) : (r.take (16 + n)).drop 16 = slice r 16 n := by
  unfold slice
  rw [List.drop_take]
  congr 1
  omega

/-! ### `isValidSegmentType` -/

theorem validLL_eq (cur t : Nat) (h : cur = 4 ∨ cur = 8) : isValidSegmentTypeLL cur t = validNext cur t := by
  rcases h with rfl | rfl <;> simp [isValidSegmentTypeLL, validNext]

/-- `addSegment` on a stored entry is the model's acceptance test and append -/
theorem addSegment_spec (sp : SegPkt) (r : Bytes) (ver mt seq : Nat) (hg : GoodEntry sp)
    (hv : msgValid r = true) :
    sp.addSegment r ver mt seq =
      if sp.ver = ver ∧ sp.mt = mt ∧ seq = (sp.seq + 1) % 65536 ∧
          validNext sp.segType (byteAt r 12 &&& 0x0C) = true then
        ({ sp with payload := fixLen (sp.payload ++ slice r 16 (beAt r 14 2)),
                   seq := (sp.seq + 1) % 65536, segType := byteAt r 12 &&& 0x0C }, true)
      else (sp, false) := by
  have hb := msgValid_bound r hv
  unfold SegPkt.addSegment
  by_cases h1 : sp.ver = ver ∧ sp.mt = mt ∧ seq = (sp.seq + 1) % 65536
  · obtain ⟨ha, hb', hc⟩ := h1
    rw [if_neg (fun h => h.elim (· ha) (·.elim (· hb') (· hc)))]
    dsimp only
    rw [if_neg (by omega), validLL_eq _ _ hg.1]
    by_cases h2 : validNext sp.segType (byteAt r 12 &&& 0x0C) = true
    · simp [h2, ha, hb', ← hc, fixLen]
    · simp [h2]
  · -- the C++ tests the three mismatches one by one: the negation of the conjunction
    rw [if_pos ((Decidable.not_and_iff_not_or_not.mp h1).imp_right Decidable.not_and_iff_not_or_not.mp),
      if_neg (fun h => h1 ⟨h.1, h.2.1, h.2.2.1⟩)]

/-- the default entry `operator[]` inserts is rejected by `addSegment` of any real frame -/
theorem addSegment_default (r : Bytes) (ver mt seq : Nat) (hver : ver ≠ 0) :
    ({} : SegPkt).addSegment r ver mt seq = ({}, false) := by
  unfold SegPkt.addSegment
  rw [if_pos (Or.inl (fun h => hver h.symm))]

end AsamCmp.C17b
