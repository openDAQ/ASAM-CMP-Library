/-
  Soundness of the symbolic evaluation of bit programs (Src/BitProg.lean) and of the decidable layout checks built on it.
-/
import AsamCmp.Src.BitProg
import AsamCmp.Lemmas.BitProgRun
import AsamCmp.Lemmas.BitProgField
namespace AsamCmp.Src.Bit
open AsamCmp AsamCmp.Src

theorem argsOk_nil : ArgsOk (fun _ => (0, 0)) [] := by
  intro k
  simp

theorem fits_elim {f : Field} {size : Nat} (h : f.fits size = true) :
    f.shift + f.bits ≤ 8 * f.w ∧ f.off + f.w ≤ size := by
  unfold Field.fits at h
  simp only [Bool.and_eq_true, decide_eq_true_eq] at h
  exact ⟨h.1.1, h.1.2⟩

/-- the symbolic run describes the concrete run for EVERY memory content, object position and argument values:
    the concrete run is defined (no undefined behaviour, no access outside the object's `size` bytes), the values are the
    interpretations of the symbolic words and the memory is the old one with the object replaced by the symbolic memory -/
theorem symRun_sound (argBits : Nat → Nat × Nat) (size : Nat) (prog : List Op) (ss : SSt)
    (h : symRun argBits (SSt.init size) prog = some ss)
    (M : Bytes) (this : Nat) (args : List Nat) (hM : this + size ≤ M.length) (ha : ArgsOk argBits args) :
    ∃ st, run this args ⟨M, []⟩ prog = some st ∧
      st.m = writeAt M this (memEval (slice M this size) args ss.m) ∧
      st.vals = ss.vals.map (SWord.eval (slice M this size) args) := by
  obtain ⟨st, e, r⟩ := run_sound argBits hM ha prog h (Rel.init size M this args hM)
  exact ⟨st, e, r.mem, r.vals⟩

section
variable {size : Nat} {M : Bytes} {this : Nat} {args : List Nat} {ss : SSt} {st : St}

theorem Rel.mem_init (r : Rel size M this args ss st) (hM : this + size ≤ M.length) (hm : ss.m = initMem size) : st.m = M := by
  rw [r.mem, hm, memEval_initMem _ _ size (slice_length_of_le _ _ _ hM), C11.writeAt_slice_self hM]

theorem Rel.mem_expect (r : Rel size M this args ss st) (hM : this + size ≤ M.length) {f : Field} {bits : SWord} {v : Nat}
    (hm : ss.m = expectMem size f bits) (hfit : f.fits size = true)
    (hval : SWord.eval (slice M this size) args bits = v) (hv : v < 2 ^ f.bits) :
    st.m = writeAt M this (setField f v (slice M this size)) := by
  rw [r.mem, hm, memEval_expectMem _ _ size f _ hfit (slice_length_of_le _ _ _ hM) (by rw [hval]; exact hv), hval]

end

theorem chkGet_sound (prog : List Op) (size res : Nat) (f : Field) (sh : Nat) (h : chkGet prog size res f sh = true)
    (M : Bytes) (this : Nat) (hM : this + size ≤ M.length) :
    ∃ st, run this [] ⟨M, []⟩ prog = some st ∧ st.m = M ∧
      st.val res = getField f (slice M this size) * 2 ^ sh := by
  unfold chkGet at h
  split at h
  · next s hs =>
    simp only [Bool.and_eq_true, beq_iff_eq] at h
    obtain ⟨⟨hm, hsame⟩, hfit⟩ := h
    obtain ⟨st, e, r⟩ := run_sound _ hM argsOk_nil prog hs (Rel.init size M this [] hM)
    obtain ⟨hs1, hs2⟩ := fits_elim hfit
    refine ⟨st, e, r.mem_init hM hm, ?_⟩
    · rw [r.val, same_eval _ _ hsame, eval_shl, eval_fieldBits _ _ f hs1 (by rw [slice_length_of_le _ _ _ hM]; exact hs2),
        Nat.shiftLeft_eq]
  · cases h

theorem chkGetNe0_sound (prog : List Op) (size res : Nat) (f : Field) (h : chkGetNe0 prog size res f = true)
    (M : Bytes) (this : Nat) (hM : this + size ≤ M.length) :
    ∃ st, run this [] ⟨M, []⟩ prog = some st ∧ st.m = M ∧
      (st.val res ≠ 0 ↔ getField f (slice M this size) ≠ 0) := by
  unfold chkGetNe0 at h
  split at h
  · next s hs =>
    simp only [Bool.and_eq_true, beq_iff_eq] at h
    obtain ⟨⟨hm, hbits⟩, hfit⟩ := h
    obtain ⟨st, e, r⟩ := run_sound _ hM argsOk_nil prog hs (Rel.init size M this [] hM)
    obtain ⟨hs1, hs2⟩ := fits_elim hfit
    refine ⟨st, e, r.mem_init hM hm, ?_⟩
    · rw [r.val, ← eval_filter_ne_zero_iff, hbits,
        eval_fieldBits _ _ f hs1 (by rw [slice_length_of_le _ _ _ hM]; exact hs2)]
  · cases h

theorem chkSet_sound (prog : List Op) (size : Nat) (f : Field) (k sh : Nat) (h : chkSet prog size f k sh = true)
    (M : Bytes) (this : Nat) (hM : this + size ≤ M.length) (args : List Nat) (v : Nat) (hv : v < 2 ^ f.bits)
    (hk : args.getD k 0 = v * 2 ^ sh) (hother : ∀ k', k' ≠ k → args.getD k' 0 = 0) :
    ∃ st, run this args ⟨M, []⟩ prog = some st ∧
      st.m = writeAt M this (setField f v (slice M this size)) := by
  unfold chkSet at h
  split at h
  · next s hs =>
    simp only [Bool.and_eq_true, beq_iff_eq] at h
    obtain ⟨hm, hfit⟩ := h
    have ha : ArgsOk (fun k' => if k' = k then (sh, sh + f.bits) else (0, 0)) args := by
      intro k'
      by_cases hk' : k' = k
      · subst hk'
        simp only [if_true]
        rw [hk, Nat.pow_add, Nat.mul_comm (2 ^ sh)]
        exact ⟨Nat.mul_lt_mul_of_pos_right hv (Nat.two_pow_pos sh), Nat.mul_mod_left _ _⟩
      · simp only [hk', if_false]
        rw [hother k' hk']
        simp
    obtain ⟨st, e, r⟩ := run_sound _ hM ha prog hs (Rel.init size M this args hM)
    refine ⟨st, e, r.mem_expect hM hm hfit (Eq.symm (eq_eval _ _ fun j => ?_)) hv⟩
    rw [bit_map_range]
    by_cases hj : j < f.bits
    · rw [if_pos hj]
      simp only [SBit.eval]
      rw [hk, Nat.testBit_mul_two_pow]
      simp
    · rw [if_neg hj]
      exact Nat.testBit_lt_two_pow (Nat.lt_of_lt_of_le hv (Nat.pow_le_pow_right (by decide) (by omega)))
  · cases h

theorem chkSetConst_sound (prog : List Op) (size : Nat) (f : Field) (c : Nat) (h : chkSetConst prog size f c = true)
    (hc : c < 2 ^ f.bits) (M : Bytes) (this : Nat) (hM : this + size ≤ M.length) :
    ∃ st, run this [] ⟨M, []⟩ prog = some st ∧
      st.m = writeAt M this (setField f c (slice M this size)) := by
  unfold chkSetConst at h
  split at h
  · next s hs =>
    simp only [Bool.and_eq_true, beq_iff_eq] at h
    obtain ⟨hm, hfit⟩ := h
    obtain ⟨st, e, r⟩ := run_sound _ hM argsOk_nil prog hs (Rel.init size M this [] hM)
    exact ⟨st, e, r.mem_expect hM hm hfit (by rw [eval_constBits, Nat.mod_eq_of_lt hc]) hc⟩
  · cases h

end AsamCmp.Src.Bit
