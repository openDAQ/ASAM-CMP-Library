/-
  The facts about individual translated validators that are not plain normalisation —
  bit masks applied to a little-endian member against the model's big-endian reading, and the loop of
  `CaptureModulePayload::isValidPayload`.
-/
import AsamCmp.Lemmas.SrcNorm
import AsamCmp.Packet
import AsamCmp.Lemmas.ValidSpec
namespace AsamCmp.SrcTie
open AsamCmp AsamCmp.Src AsamCmp.SrcGen
attribute [local congr] bind_head_congr bind_head_congr'

/-! ### masks on a 16-bit member -/

/-- `v & m` byte by byte -/
theorem and_split (v m : Nat) : v &&& m = (v % 256 &&& m % 256) + 256 * (v / 256 &&& m / 256) := by
  have h1 := Nat.and_mod_two_pow (a := v) (b := m) (n := 8)
  have h2 := Nat.and_div_two_pow (a := v) (b := m) (n := 8)
  simp only [Nat.reducePow] at h1 h2
  omega

theorem le16_mod (b : Bytes) (i : Nat) : (byteAt b i + 256 * byteAt b (i + 1)) % 256 = byteAt b i := by
  have := byteAt_lt_256 b i; omega

theorem le16_div (b : Bytes) (i : Nat) : (byteAt b i + 256 * byteAt b (i + 1)) / 256 = byteAt b (i + 1) := by
  have := byteAt_lt_256 b i; omega

theorem be16_mod (b : Bytes) (i : Nat) : (byteAt b i * 256 + byteAt b (i + 1)) % 256 = byteAt b (i + 1) := by
  have := byteAt_lt_256 b (i + 1); omega

theorem be16_div (b : Bytes) (i : Nat) : (byteAt b i * 256 + byteAt b (i + 1)) / 256 = byteAt b i := by
  have := byteAt_lt_256 b (i + 1); omega

/-- analog: the `sampleDt` bits (`flags & 0x0300` on the little-endian member) are the two low bits of byte 1 -/
theorem analog_dt (b : Bytes) (i : Nat) : (leAt b i 2 &&& 768) % 65536 = (byteAt b (i + 1) &&& 3) * 256 := by
  have h3 : byteAt b (i + 1) &&& 3 ≤ 3 := Nat.and_le_right
  rw [leAt_two, and_split, le16_mod, le16_div]
  simp only [Nat.reduceMod, Nat.reduceDiv, Nat.and_zero]
  omega

/-- CAN: the error bits, `0xFF03` on the little-endian member, against the model's big-endian `0x03FF` -/
theorem can_flags (b : Bytes) (i : Nat) (h : i + 2 ≤ b.length) :
    leAt b i 2 &&& 65283 = 0 ↔ beAt b i 2 &&& 1023 = 0 := by
  rw [leAt_two, beAt_two b i h, and_split _ 65283, and_split _ 1023, le16_mod, le16_div, be16_mod, be16_div]
  simp only [Nat.reduceMod, Nat.reduceDiv]
  omega

/-- a 16-bit member is zero in either byte order -/
theorem le_zero_iff_be (b : Bytes) (i : Nat) (h : i + 2 ≤ b.length) : leAt b i 2 = 0 ↔ beAt b i 2 = 0 := by
  rw [leAt_two, beAt_two b i h]; omega

/-! ### capture-module status: five length-prefixed blocks -/

/-- the `for` loop of `CaptureModulePayload::isValidPayload`, which the translator unrolls (five rounds):
    `n` more length-prefixed blocks from `v_pos` on -/
def cmLoop (m : Bytes) (a_data a_size : Nat) : Nat → Nat → Option Bool
  | 0, _ => pure true
  | n + 1, v_pos => do
    if (decide ((usub 64 a_size v_pos) < 2)) then
      pure false
    else
      let t1 ← rd m (a_data + v_pos) 1
      let t2 ← ushl 64 t1 8
      let t3 ← rd m (a_data + (uadd 64 v_pos 1)) 1
      let v_length := (t2 ||| t3)
      let v_pos := (uadd 64 v_pos 2)
      if (decide ((usub 64 a_size v_pos) < v_length)) then
        pure false
      else
        cmLoop m a_data a_size n (uadd 64 v_pos v_length)

/-- the translated function IS the loop run five times from offset 26 (definitional: names of temporaries, unused
    `let`s such as the loop counter, and comments do not matter) -/
theorem cm_unroll (m : Bytes) (a_data a_size : Nat) :
    CaptureModulePayload_isValidPayload m a_data a_size
      = if decide (a_size < 26) then pure false else cmLoop m a_data a_size 5 26 := by
  unfold CaptureModulePayload_isValidPayload
  rfl

/-- one round of the loop is one round of `blocksOk`; the position never leaves `b`, so nothing wraps -/
theorem cmLoop_spec {m b : Bytes} {a : Nat} (hA : At m a b) (hb : b.length < 2 ^ 64) (n pos : Nat) (hpos : pos ≤ b.length) :
    cmLoop m a b.length n pos = some (blocksOk n (b.drop pos)) := by
  induction n generalizing pos with
  | zero => rfl
  | succ n ih =>
    have hc := beAt_lt_pow b pos 2
    rw [blocksOk_succ_drop, cmLoop]
    -- `src_norm` with the length prefix read as the model reads it, and the remaining rounds by induction
    src_norm [hA.rd, ↓be16_or, ih, ite_some]

end AsamCmp.SrcTie
