/-
  C02 helper lemmas: every part of the checked-read decoder `decodeM` (message validator, walk, frame parser, the TECMP
  converters) never fails and agrees with its plain counterpart; what the TECMP path (`tecmpDecode_ind`) and the
  reassembly automaton (`localStep_snd_cases`) can return, from which the counting and payload-presence facts about
  `decode` follow.
-/
import AsamCmp.DecodeM
import AsamCmp.Props.C17
import AsamCmp.Props.C18
import AsamCmp.Lemmas.TileBytes
import AsamCmp.Lemmas.TecmpCases
namespace AsamCmp.C02
open AsamCmp

/-! ### checked reads inside the buffer succeed -/

theorem rdB_some (b : Bytes) (off len : Nat) (h : off + len ≤ b.length) :
    rdB b off len = some (slice b off len) := by
  simp [rdB, h]

theorem rdN_some (b : Bytes) (off len : Nat) (h : off + len ≤ b.length) :
    rdN b off len = some (beAt b off len) := by
  simp [rdN, rdB_some b off len h, beAt]

theorem rdN1_some (b : Bytes) (off : Nat) (h : off + 1 ≤ b.length) :
    rdN b off 1 = some (byteAt b off) := by
  rw [rdN_some b off 1 h, beAt_one_eq_byteAt]

theorem msgValidM_eq (r : Bytes) : msgValidM r = some (msgValid r) := by
  unfold msgValidM
  by_cases h : r.length < 16
  · have : ¬ 16 ≤ r.length := by omega
    simp [h, msgValid, this]
  · rw [if_neg h, rdN_some r 14 2 (by omega), rdN1_some r 12 (by omega), rdN1_some r 13 (by omega)]
    have h16 : 16 ≤ r.length := by omega
    by_cases h1 : beAt r 14 2 ≤ r.length - 16
    · by_cases h2 : (byteAt r 12 &&& 0x40) = 0
      · simp [msgValid, h16, h1, h2, Nat.not_lt.mpr h1]
      · simp [msgValid, h16, h1, h2]
    · simp [msgValid, h16, h1, Nat.lt_of_not_le h1]

theorem ofMsgM_eq (mt : Nat) (m : Bytes) (h : 16 + beAt m 14 2 ≤ m.length) :
    ofMsgM mt m = some (Packet.ofMsg mt m) := by
  unfold ofMsgM
  rw [rdB_some m 0 16 (by omega), rdN_some m 14 2 (by omega)]
  simp [rdB_some m 16 (beAt m 14 2) h]

theorem walkM_eq (ep : Ep) (ver mt : Nat) (r : Bytes) : walkM ep ver mt r = some (walk ep ver mt r) := by
  fun_induction walk ep ver mt r with
  | case1 r h0 =>
    rw [walkM]; simp [h0]
  | case2 r h0 h1 =>
    have hv : msgValid r = false := by simpa using h1
    rw [walkM]
    simp [h0, msgValidM_eq, hv]
  | case3 r h0 h1 len h2 =>
    have hv : msgValid r = true := by simpa using h1
    have hb := msgValid_bound r hv
    rw [walkM]
    simp only [h0, dite_false, msgValidM_eq, hv]
    rw [rdN_some r 14 2 (by omega), rdN1_some r 12 (by omega)]
    simp only [h2, if_true]
    rw [rdB_some r 0 (16 + beAt r 14 2) (by omega)]
    simp [slice, len]
  | case4 r h0 h1 len h2 p rest ih =>
    have hv : msgValid r = true := by simpa using h1
    have hb := msgValid_bound r hv
    rw [walkM]
    simp only [h0, dite_false, msgValidM_eq, hv]
    rw [rdN_some r 14 2 (by omega), rdN1_some r 12 (by omega)]
    simp only [h2, Bool.false_eq_true, if_false, ofMsgM_eq mt r hb]
    rw [show walkM ep ver mt (r.drop (16 + beAt r 14 2)) = _ from ih]

theorem parseFrameM_eq (b : Bytes) (h : 8 ≤ b.length) : parseFrameM b = some (parseFrame b) := by
  unfold parseFrameM parseFrame
  rw [rdN1_some b 0 (by omega), rdN_some b 2 2 (by omega), rdN1_some b 4 (by omega),
    rdN1_some b 5 (by omega), rdN_some b 6 2 (by omega)]
  simp [walkM_eq]

theorem tecmpCanM_eq (b p : Bytes) : tecmpCanM b p = some (tecmpCan b p) := by
  unfold tecmpCanM
  by_cases h : p.length < 5
  · simp [h, tecmpCan]
  · have r1 := rdN1_some p 4 (by omega)
    by_cases h2 : p.length - 5 < byteAt p 4
    · simp [h, r1, h2, tecmpCan]
    · have r2 := rdN_some p 0 4 (by omega)
      have r3 := rdB_some p 5 (byteAt p 4) (by omega)
      by_cases h3 : p.length < 5 + byteAt p 4 + 3
      · simp [h, r1, h2, r2, r3, h3]
      · have r4 := rdB_some p (5 + byteAt p 4) 3 (by omega)
        simp [h, r1, h2, r2, r3, h3, r4]

theorem tecmpLinM_eq (b p : Bytes) : tecmpLinM b p = some (tecmpLin b p) := by
  unfold tecmpLinM
  by_cases h : p.length < 2
  · simp [h, tecmpLin]
  · have r1 := rdN1_some p 1 (by omega)
    by_cases h2 : p.length - 2 < byteAt p 1
    · simp [h, r1, h2, tecmpLin]
    · have r2 := rdN1_some p 0 (by omega)
      have r3 := rdB_some p 2 (byteAt p 1) (by omega)
      by_cases h3 : p.length ≤ 2 + byteAt p 1
      · simp [h, r1, h2, r2, r3, h3]
      · have r4 := rdB_some p (2 + byteAt p 1) 1 (by omega)
        simp [h, r1, h2, r2, r3, h3, r4]

theorem tecmpCmM_eq (b p : Bytes) : tecmpCmM b p = some (tecmpCm b p) := by
  unfold tecmpCmM
  by_cases h : p.length < 18
  · simp [h, tecmpCm]
  · have r4 : rdN p 4 2 = some (beAt p 4 2) := rdN_some p 4 2 (by omega)
    by_cases hv : p.length - 12 < beAt p 4 2
    · simp [h, r4, hv, tecmpCm]
    · simp [h, r4, hv, rdN_some p 8 4 (by omega), rdB_some p 13 5 (by omega)]

theorem tecmpBusEntriesM_eq (p : Bytes) (v : Nat) : ∀ fuel off, tecmpBusEntriesM p v fuel off = some () := by
  intro fuel
  induction fuel with
  | zero => intro off; rfl
  | succ n ih =>
    intro off
    unfold tecmpBusEntriesM
    by_cases h : off + (12 + v) ≤ p.length
    · simp [h, rdB_some p off 12 (by omega), ih]
    · simp [h]

theorem tecmpBusM_eq (b p : Bytes) : tecmpBusM b p = some (tecmpBus b p) := by
  unfold tecmpBusM
  by_cases h : p.length < 12
  · simp [h, tecmpBus]
  · simp [h, rdB_some p 0 12 (by omega), rdN_some p 4 2 (by omega), tecmpBusEntriesM_eq]

theorem tecmpDecodeM_eq (b : Bytes) : tecmpDecodeM b = some (tecmpDecode b) := by
  unfold tecmpDecodeM tecmpDecode
  by_cases h : b.length < 28
  · rw [if_pos h, if_pos h]
  · rw [if_neg h, if_neg h, rdB_some b 0 28 (by omega), rdN_some b 24 2 (by omega)]
    by_cases h1 : beAt b 24 2 = 0
    · simp only [Option.bind_eq_bind, Option.bind_some, if_pos h1]; rfl
    · by_cases h2 : b.length < 28 + beAt b 24 2
      · simp only [Option.bind_eq_bind, Option.bind_some, if_neg h1, if_pos h2]; rfl
      · simp only [Option.bind_eq_bind, Option.bind_some, if_neg h1, if_neg h2, rdN1_some b 5 (by omega),
          rdN1_some b 6 (by omega), rdN1_some b 7 (by omega), rdN_some b 6 2 (by omega), tecmpCmM_eq, tecmpCanM_eq,
          tecmpLinM_eq, tecmpBusM_eq, Option.pure_def, apply_ite some]

/-! ### what the TECMP path returns -/

theorem ite_ind {α : Sort _} {Q : α → Prop} {c : Prop} [Decidable c] {x y : α} (pos : c → Q x) (neg : ¬ c → Q y) :
    Q (if c then x else y) := by
  by_cases h : c
  · rw [if_pos h]; exact pos h
  · rw [if_neg h]; exact neg h

theorem tecmpBus_count (b p : Bytes) : 12 * (tecmpBus b p).length ≤ p.length - 12 := by
  rw [C15.tecmpBus_eq_map, List.length_map, List.length_range]
  have h1 : (p.length - 12) / (12 + beAt p 4 2) ≤ (p.length - 12) / 12 :=
    Nat.div_le_div_left (Nat.le_add_right 12 _) (by decide)
  have h2 := Nat.mul_div_le (p.length - 12) 12
  omega

/-- **the shape of `tecmpDecode`'s result**: nothing, one packet made by `tecmpPacket` with the interface id of the header, or
    the bus-status list of everything behind the 28 header bytes.  The latter two only for a buffer that holds the header. -/
theorem tecmpDecode_ind {Q : List Packet → Prop} (b : Bytes) (nil : Q [])
    (one : 28 ≤ b.length → ∀ pl, Q [tecmpPacket b (beAt b 12 4) pl])
    (bus : 28 ≤ b.length → Q (tecmpBus b (b.drop 28))) : Q (tecmpDecode b) := by
  rcases tecmpDecode_cases b with h | ⟨h28, h | h | h | h⟩ <;> rw [h]
  · exact nil
  · rw [C15.tecmpCm_shape]; exact ite_ind (fun _ => nil) fun _ => one h28 _
  · rw [C15.tecmpCan_shape]; exact ite_ind (fun _ => nil) fun _ => one h28 _
  · rw [C15.tecmpLin_shape]; exact ite_ind (fun _ => nil) fun _ => one h28 _
  · exact bus h28

theorem tecmpDecode_payload (b : Bytes) : ∀ x ∈ tecmpDecode b, x.payload.isSome = true := by
  intro x hx
  obtain ⟨i, pl, rfl⟩ := C15.tecmpDecode_packets b x hx
  rfl

theorem tecmpDecode_count (b : Bytes) : 12 * (tecmpDecode b).length ≤ b.length := by
  refine tecmpDecode_ind (Q := fun l => 12 * l.length ≤ b.length) b (Nat.zero_le _) (fun h28 pl => ?_) (fun h28 => ?_)
  · rw [List.length_singleton]; omega
  · have := tecmpBus_count b (b.drop 28)
    rw [List.length_drop] at this; omega

theorem fixLen_read (x : Bytes) (h : 16 ≤ x.length) :
    (fixLen x).length = x.length ∧ 16 + beAt (fixLen x) 14 2 ≤ x.length := by
  refine ⟨fixLen_length x h, ?_⟩
  have e : beAt (fixLen x) 14 2 = ((x.length % 65536 + 65536 - 16) % 65536) % 65536 := by
    unfold fixLen writeAt beAt
    rw [slice_mid _ _ _ 14 2 (by simp; omega) (by simp), beDec_beEnc]
  rw [e]
  omega

/-! ### what the reassembly automaton delivers -/

theorem localStep_snd_cases (p : Option Pending) (f : PFrame) :
    (localStep p f).2 = f.unseg ∨
    ∃ m ver mt buf, f.term = .seg m ∧ (localStep p f).2 = f.unseg ++ [tagPacket f.ep ver (Packet.ofMsg mt buf)] := by
  have hs := localStep_spec p f
  generalize localStep p f = r at hs ⊢
  cases hs with
  | noseg _ => exact .inl rfl
  | first _ _ _ => exact .inl rfl
  | abort _ _ _ _ => exact .inl rfl
  | cont m q hm _ _ hu _ =>
    rw [hu]
    split
    · exact .inr ⟨m, _, _, _, hm, rfl⟩
    · exact .inl rfl

theorem localStep_count (p : Option Pending) (f : PFrame) :
    (localStep p f).2.length ≤ f.unseg.length + (match f.term with | .seg _ => 1 | _ => 0) := by
  rcases localStep_snd_cases p f with h | ⟨m, _, _, _, hm, h⟩
  · rw [h]; exact Nat.le_add_right _ _
  · rw [h, hm, List.length_append]; exact Nat.le_refl _

theorem walk_payload (ep : Ep) (ver mt : Nat) (r : Bytes) :
    ∀ p ∈ (walk ep ver mt r).1, p.payload.isSome = true := by
  intro p hp
  obtain ⟨_, _, _, _, rfl⟩ := walk_mem ep ver mt r p hp
  rfl

theorem localStep_payload (q : Option Pending) (f : PFrame) (hf : ∀ p ∈ f.unseg, p.payload.isSome = true) :
    ∀ p ∈ (localStep q f).2, p.payload.isSome = true := by
  intro p hp
  rcases localStep_snd_cases q f with h | ⟨_, _, _, _, _, h⟩
  · exact hf p (h ▸ hp)
  · rw [h, List.mem_append, List.mem_singleton] at hp
    rcases hp with hp | rfl
    · exact hf p hp
    · rfl

end AsamCmp.C02
