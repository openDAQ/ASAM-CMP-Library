/-
  Helper lemmas for `Props/SrcSegPkt.lean`: the callees of the translated `Decoder::SegmentedPacket` methods on a message `b`
  sitting at address `pre.length` of the memory `pre ++ b ++ post`, and the vector algebra of the reassembly buffer.
-/
import AsamCmp.GeneratedSrcObj
import AsamCmp.DecoderLL
import AsamCmp.Lemmas.SrcBuilders
import AsamCmp.Lemmas.SrcPacket
import AsamCmp.Props.SrcTieDec
namespace AsamCmp.SrcDec
open AsamCmp AsamCmp.Src AsamCmp.SrcGen AsamCmp.SrcTie

/-! ### the message inside the memory -/

theorem drop_mid (pre b post : Bytes) : (pre ++ b ++ post).drop pre.length = b ++ post := by
  rw [List.append_assoc]; exact List.drop_left' rfl

theorem isValid_obj_eq (s : Decoder_SegmentedPacket_St) (t : Nat) :
    Decoder_SegmentedPacket_isValidSegmentType_obj s t = some (s, isValidSegmentTypeLL s.f_segmentType t) := by
  unfold Decoder_SegmentedPacket_isValidSegmentType_obj isValidSegmentTypeLL
  simp only [pure, Bool.or_eq_true, beq_iff_eq]
  split
  · refine congrArg some (congrArg (Prod.mk s) ?_)
    rw [Bool.eq_iff_iff]; simp
  · split
    · refine congrArg some (congrArg (Prod.mk s) ?_)
      rw [Bool.eq_iff_iff]; simp
    · rfl

/-! ### vector algebra of the reassembly buffer -/

theorem resize_grow (p : Bytes) (n : Nat) : resize p (p.length + n) = p ++ zeros n := by
  unfold resize zeros
  by_cases h : p.length + n ≤ p.length
  · have : n = 0 := by omega
    subst this
    rw [if_pos h]; simp
  · rw [if_neg h]; congr 2; omega

theorem writeAt_zeros (k : Nat) (x : Bytes) (h : x.length = k) : writeAt (zeros k) 0 x = x := by
  unfold writeAt
  rw [List.take_zero, List.nil_append, List.drop_of_length_le (by simp [zeros, h]), List.append_nil]

theorem writeAt_tail (p x : Bytes) (n : Nat) (h : x.length = n) : writeAt (p ++ zeros n) p.length x = p ++ x := by
  unfold writeAt
  rw [List.take_left' rfl, List.drop_of_length_le (by simp [zeros, h]), List.append_nil]

theorem usub_len (L : Nat) : (usub 64 (L % 65536) 16) % 65536 = (L % 65536 + 65536 - 16) % 65536 := by
  unfold usub
  have : (2 : Nat) ^ 64 = 18446744073709551616 := by decide
  rw [this]
  omega

end AsamCmp.SrcDec
