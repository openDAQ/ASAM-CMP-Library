/-
  Helper definitions / lemmas for Props/C08S.lean: a second independent frame walker that KEEPS the
  16 message-header bytes (the tiler of Tile.lean keeps only the two segment bits and the body), and
  what it finds on the serialised bytes of a structured frame.
-/
import AsamCmp.Tile
import AsamCmp.Lemmas.TileBytes
import AsamCmp.Lemmas.EncStruct
namespace AsamCmp.C08S
open AsamCmp

/-- the tiler of Tile.lean (`tileMsgs`), keeping (16 header bytes, body) of every message -/
def tileMsgsH : Nat → Bytes → Option (List (Bytes × Bytes))
  | 0, _ => none
  | fuel+1, r =>
    if allZero r then some []
    else if r.length < 16 then none
    else
      let len := beAt r 14 2
      if r.length < 16 + len then none
      else
        match tileMsgsH fuel (r.drop (16 + len)) with
        | none => none
        | some ms => some ((r.take 16, slice r 16 len) :: ms)

/-- the messages of one frame, as (header bytes, body bytes) -/
def tileFrameH (b : Bytes) : Option (List (Bytes × Bytes)) :=
  if b.length < 8 then none else tileMsgsH (b.length + 1) (b.drop 8)

/-- all messages on the wire, in wire order, over all frames -/
def wireMsgs : List Bytes → Option (List (Bytes × Bytes))
  | [] => some []
  | b :: bs =>
    match tileFrameH b, wireMsgs bs with
    | some f, some fs => some (f ++ fs)
    | _, _ => none

theorem tileMsgsH_eq_walkMsgs : ∀ (fuel : Nat) (r : Bytes),
    tileMsgsH fuel r = (walkMsgs (fun r len => (r.take 16, slice r 16 len)) fuel r).map (·.1) := by
  intro fuel
  induction fuel with
  | zero => intro r; rfl
  | succ fuel ih =>
    intro r
    simp only [tileMsgsH, walkMsgs, ih]
    split
    · rfl
    · split
      · rfl
      · split
        · rfl
        · cases walkMsgs _ fuel (r.drop (16 + beAt r 14 2)) <;> rfl

/-- the walker with headers sees exactly the messages the tiler of Tile.lean sees (same cuts, same
    bodies; the tiler's segment bits are bits 2-3 of header byte 12) -/
theorem tileMsgsH_tileMsgs (fuel : Nat) (r : Bytes) :
    (tileMsgsH fuel r).map (fun ms => ms.map fun hb => (⟨byteAt hb.1 12 &&& 0x0C, hb.2⟩ : SMsg)) =
      (tileMsgs fuel r).map (·.1) := by
  have e : (fun (r : Bytes) (len : Nat) => (⟨byteAt r 12 &&& 0x0C, slice r 16 len⟩ : SMsg)) =
      fun r len => ⟨byteAt (r.take 16) 12 &&& 0x0C, slice r 16 len⟩ := by
    funext r len
    rw [byteAt_take_of_lt r 16 12 (by decide)]
  rw [tileMsgsH_eq_walkMsgs, tileMsgs_eq_walkMsgs, e,
    ← walkMsgs_map (fun hb => (⟨byteAt hb.1 12 &&& 0x0C, hb.2⟩ : SMsg)) (fun r len => (r.take 16, slice r 16 len)),
    Option.map_map, Option.map_map]
  rfl

/-- the walker on the serialised bytes of a frame the encoder can build -/
theorem tileFrameH_bytes (min : Nat) (f : EFrame)
    (hmsgs : ∀ m ∈ f.msgs, 1 ≤ m.body.length ∧ m.body.length < 65536 ∧ (m.seg = 0 ∨ m.seg = 4 ∨ m.seg = 8 ∨ m.seg = 12)) :
    tileFrameH (EFrame.bytes min f) = some (f.msgs.map (fun m => (msgHeader m.pkt m.seg m.body.length, m.body))) := by
  have hl := EFrame.bytes_length min f
  have hk : ∀ m ∈ f.msgs, ∀ rest,
      ((m.bytes ++ rest).take 16, slice (m.bytes ++ rest) 16 m.body.length) =
        (msgHeader m.pkt m.seg m.body.length, m.body) := by
    intro m hm rest
    rw [msg_take16, (msg_fields m rest (hmsgs m hm).2.1 (hmsgs m hm).2.2).2.2.1]
  unfold tileFrameH
  rw [if_neg (by omega), tileMsgsH_eq_walkMsgs, walkMsgs_frame _ _ min f hmsgs hk]
  rfl

theorem wireMsgs_bytes (min : Nat) (fs : List EFrame)
    (hmsgs : ∀ f ∈ fs, ∀ m ∈ f.msgs, 1 ≤ m.body.length ∧ m.body.length < 65536 ∧ (m.seg = 0 ∨ m.seg = 4 ∨ m.seg = 8 ∨ m.seg = 12)) :
    wireMsgs (fs.map (EFrame.bytes min)) =
      some ((fs.flatMap (·.msgs)).map (fun m => (msgHeader m.pkt m.seg m.body.length, m.body))) := by
  induction fs with
  | nil => rfl
  | cons f fs ih =>
    simp only [List.map_cons, wireMsgs]
    rw [tileFrameH_bytes min f (hmsgs f (by simp)), ih (fun g hg => hmsgs g (by simp [hg]))]
    simp

/-- cut `d` into consecutive pieces of the given lengths -/
def cut : List Nat → Bytes → List Bytes
  | [], _ => []
  | n :: ns, d => d.take n :: cut ns (d.drop n)

theorem cut_flatten (bs : List Bytes) (rest : Bytes) : cut (bs.map List.length) (bs.flatten ++ rest) = bs := by
  induction bs with
  | nil => rfl
  | cons b bs ih =>
    simp only [List.map_cons, List.flatten_cons, cut, List.append_assoc]
    rw [List.take_left' rfl, List.drop_left' rfl, ih]

/-- the messages the protocol rules prescribe for packet `p` with `cap` bytes behind the frame header, as
    (16 header bytes, body bytes): one per piece of `pieceShape`, EVERY piece carrying the packet's own header
    (timestamp, interface id / vendor id, flags, payload type) with the piece's segment bits and length, and
    the payload bytes cut consecutively -/
def wireOf (cap : Nat) (p : Packet) : List (Bytes × Bytes) :=
  let sh := pieceShape cap p.data.length
  List.zipWith (fun sl body => (msgHeader p sl.1 sl.2, body)) sh (cut (sh.map (·.2)) p.data)

theorem zipWith_hdr (p : Packet) (ms : List EMsg) (h : ∀ m ∈ ms, m.pkt = p) :
    List.zipWith (fun (sl : Nat × Nat) (body : Bytes) => (msgHeader p sl.1 sl.2, body))
        (ms.map fun m => (m.seg, m.body.length)) (ms.map (·.body)) =
      ms.map (fun m => (msgHeader m.pkt m.seg m.body.length, m.body)) := by
  induction ms with
  | nil => rfl
  | cons m ms ih =>
    simp only [List.map_cons, List.zipWith_cons_cons]
    rw [ih (fun x hx => h x (by simp [hx])), h m (by simp)]

theorem pieces_wire (c : Ctx) (hcap : 17 ≤ c.cap) (i : Nat) (p : Packet) (hp : p.data.length < 65536) :
    (pieces c i p).map (fun m => (msgHeader m.pkt m.seg m.body.length, m.body)) = wireOf c.cap p := by
  have h1 := pieces_shape c hcap i p hp
  have h2 := pieces_body c hcap i p hp
  have h3 : ∀ m ∈ pieces c i p, m.pkt = p := fun m hm => (pieces_mem c hcap i p m hm).1
  unfold wireOf
  simp only
  rw [← h1, List.map_map]
  have : ((fun (x : Nat × Nat) => x.2) ∘ fun (m : EMsg) => (m.seg, m.body.length)) = (List.length ∘ fun (m : EMsg) => m.body) := rfl
  rw [this, ← List.map_map]
  have h4 := cut_flatten ((pieces c i p).map (·.body)) []
  rw [List.append_nil, h2] at h4
  rw [h4]
  exact (zipWith_hdr p _ h3).symm

end AsamCmp.C08S
