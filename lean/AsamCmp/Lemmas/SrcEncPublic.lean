/-
  Source-level encoder: the translated public methods — `putPacket`, `clearEncodingMetadata`, `init`, `getEncodedData` —
  against the model, and the fold of `putPacket` over a batch.
-/
import AsamCmp.Lemmas.SrcEncLoop
set_option linter.unusedSimpArgs false
namespace AsamCmp.SrcEnc
open AsamCmp AsamCmp.Src AsamCmp.SrcGen

/-- with a frame of the packet's message type open: `checkIfSegmented`, then the loop -/
theorem putPacket_src_open (l : EncLL) (p : Packet) (fuel : Nat) (h : Open l) (hmt : l.mt = p.mt) (hf : 65536 ≤ fuel) :
    Open (l.putPacket p) ∧ Encoder_putPacket_obj fuel (stOf l) (pkOf p) = some (stOf (l.putPacket p), ()) := by
  have hl := payloadLength_lt p
  have hc : (l.frames.isEmpty || l.mt != p.mt) = false := by
    rw [isEmpty_of_ne h.ne, hmt]; simp
  obtain ⟨o2, b2⟩ := checkIfSegmented_open l p h
  obtain ⟨o3, a, b, e3⟩ := loop_src p (l.checkIfSegmented p).2 p.payloadLength fuel (p.payloadLength + 1)
    (l.checkIfSegmented p).1 0 0 o2 (fun hp => by have := b2 hp; omega) (by omega) (by omega) (by omega) (Nat.le_refl 0)
  constructor
  · unfold EncLL.putPacket
    simp only [hc, Bool.false_eq_true, if_false]
    exact o3
  · unfold Encoder_putPacket_obj EncLL.putPacket
    src_norm [hc, checkIfSegmented_src l p h.inv, e3]

/-- otherwise `setMessageType` opens one, and the rest is `putPacket` from that state -/
theorem putPacket_src_retype (l : EncLL) (p : Packet) (fuel : Nat) (h : Inv l)
    (hc : (l.frames.isEmpty || l.mt != p.mt) = true) :
    l.putPacket p = (l.setMessageType p).putPacket p ∧
    Encoder_putPacket_obj fuel (stOf l) (pkOf p) = Encoder_putPacket_obj fuel (stOf (l.setMessageType p)) (pkOf p) := by
  have hc' : ((l.setMessageType p).frames.isEmpty || (l.setMessageType p).mt != p.mt) = false := by
    rw [isEmpty_of_ne (setMessageType_open l p h).ne, setMessageType_mt]; simp
  constructor
  · unfold EncLL.putPacket
    simp only [hc, hc', if_true, Bool.false_eq_true, if_false]
  · unfold Encoder_putPacket_obj
    src_norm [hc, hc', setMessageType_src l p h]

theorem putPacket_src (l : EncLL) (p : Packet) (fuel : Nat) (h : Inv l) (hf : 65536 ≤ fuel) :
    Open (l.putPacket p) ∧ Encoder_putPacket_obj fuel (stOf l) (pkOf p) = some (stOf (l.putPacket p), ()) := by
  cases hc : (l.frames.isEmpty || l.mt != p.mt) with
  | true =>
    obtain ⟨e1, e2⟩ := putPacket_src_retype l p fuel h hc
    rw [e1, e2]
    exact putPacket_src_open _ p fuel (setMessageType_open l p h) (setMessageType_mt l p) hf
  | false =>
    have hne : l.frames ≠ [] := by
      intro e; rw [e] at hc; simp at hc
    have hmt : l.mt = p.mt := by
      rw [isEmpty_of_ne hne, Bool.false_or] at hc
      simpa using hc
    exact putPacket_src_open l p fuel ⟨h.cfg, hne, h.last.resolve_left hne⟩ hmt hf

theorem clear_src (l : EncLL) (b : Bool) :
    Encoder_clearEncodingMetadata_obj (stOf l) b =
      some (stOf { l with bytesLeft := 0, frames := [], tmpl := [], seqc := if b then 0 else l.seqc }, ()) := by
  unfold Encoder_clearEncodingMetadata_obj
  cases b <;> src_norm <;> rfl

theorem init_src (l : EncLL) (mn mx : Nat) :
    Encoder_init_obj (stOf l) mn mx = some (stOf (l.init ⟨mn, mx⟩), ()) := by
  unfold Encoder_init_obj EncLL.init
  src_norm [clear_src] <;> rfl

theorem init_inv (l : EncLL) (c : Ctx) (hc : c.ok = true) (hmax : c.max < 2 ^ 32) : Inv (l.init c) := by
  simp only [Ctx.ok, Bool.and_eq_true, decide_eq_true_eq] at hc
  exact ⟨⟨hc.1, hmax, hc.2, Or.inl rfl⟩, Or.inl rfl⟩

theorem getEncodedData_src (l : EncLL) (h : Inv l) :
    Encoder_getEncodedData_obj (stOf l) =
      some (stOf { l.closeLastFrame with bytesLeft := 0, frames := [], tmpl := [] }, l.closeLastFrame.frames) := by
  unfold Encoder_getEncodedData_obj
  src_norm [closeLastFrame_src l h, mk_eq_stOf, clear_src] <;> rfl

theorem fold_src (fuel : Nat) (hf : 65536 ≤ fuel) : ∀ (batch : List Packet) (l : EncLL), Inv l →
    Inv (batch.foldl EncLL.putPacket l) ∧
    batch.foldlM (fun s p => (Encoder_putPacket_obj fuel s (pkOf p)).map (·.1)) (stOf l) =
      some (stOf (batch.foldl EncLL.putPacket l)) := by
  intro batch
  induction batch with
  | nil => intro l h; exact ⟨h, rfl⟩
  | cons p ps ih =>
    intro l h
    obtain ⟨o1, e1⟩ := putPacket_src l p fuel h hf
    rw [List.foldlM_cons, List.foldl_cons, e1, Option.map_some]
    simp only [bind, SrcTie.some_bind]
    exact ih _ o1.inv

end AsamCmp.SrcEnc
