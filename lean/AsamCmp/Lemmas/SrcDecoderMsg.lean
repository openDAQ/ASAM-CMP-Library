/-
  Source-level decoder: the frame-header readers and the message-level callees of
  `Decoder::decode` on a message `r` at address `pre.length` of `pre ++ r ++ post`, the produced packets.
-/
import AsamCmp.Lemmas.SrcDecoderTable
import AsamCmp.Lemmas.Builders
namespace AsamCmp.SrcDec
open AsamCmp AsamCmp.Src AsamCmp.SrcGen AsamCmp.SrcTie AsamCmp.C17b

-- the normalisation lists are kept uniform across the generated getters, whatever shape the translator gives them
set_option linter.unusedSimpArgs false

/-- a produced packet read as a packet of the model: the (untranslated) `Packet` constructor is `Packet.ofMsg` (see `PktOut`) -/
def toPacket (o : PktOut) : Packet :=
  { Packet.ofMsg o.mt o.msg with version := o.version, deviceId := o.deviceId, streamId := o.streamId }

theorem mkPacket_mid (mt : Nat) (pre r post : Bytes) (hb : 16 + beAt r 14 2 ≤ r.length) :
    mkPacket mt ((pre ++ r ++ post).drop pre.length) = some { mt := mt, msg := r.take (16 + beAt r 14 2) } := by
  unfold mkPacket
  rw [drop_mid, beAt_append_of_le r post 14 2 (by omega), if_pos (by rw [List.length_append]; omega),
    List.take_append_of_le_length hb]

/-- the packet constructor looks at the header and the declared bytes only -/
theorem ofMsg_take (mt : Nat) (r : Bytes) :
    Packet.ofMsg mt (r.take (16 + beAt r 14 2)) = Packet.ofMsg mt r := by
  have ht : (r.take (16 + beAt r 14 2)).take (16 + beAt r 14 2) = r.take (16 + beAt r 14 2) := by
    rw [List.take_take, Nat.min_self]
  have hb : ∀ off w, off + w ≤ 16 → beAt (r.take (16 + beAt r 14 2)) off w = beAt r off w :=
    fun off w h => C13.beAt_of_take _ r (16 + beAt r 14 2) off w ht (by omega)
  have hy : ∀ i, i < 16 → byteAt (r.take (16 + beAt r 14 2)) i = byteAt r i :=
    fun i h => C13.byteAt_of_take _ r (16 + beAt r 14 2) i ht (by omega)
  have hs : slice (r.take (16 + beAt r 14 2)) 16 (beAt r 14 2) = slice r 16 (beAt r 14 2) := by
    have := take_drop_slice r (beAt r 14 2)
    unfold slice at this ⊢
    rw [this, List.take_take, Nat.min_self]
  unfold Packet.ofMsg
  rw [hb 14 2 (by omega), hb 0 8 (by omega), hb 8 4 (by omega), hb 10 2 (by omega), hy 12 (by omega),
    hy 13 (by omega), hs]

theorem pktLen_take (mt ver dev stream : Nat) (r : Bytes) :
    pktPayloadLength
      ({ mt := mt, msg := r.take (16 + beAt r 14 2), version := ver, deviceId := dev, streamId := stream } : PktOut) =
      beAt r 14 2 := by
  unfold pktPayloadLength
  exact C13.beAt_of_take _ r (16 + beAt r 14 2) 14 2 (by rw [List.take_take, Nat.min_self]) (by omega)

theorem toPacket_unseg (mt ver dev stream : Nat) (r : Bytes) :
    toPacket { mt := mt, msg := r.take (16 + beAt r 14 2), version := ver, deviceId := dev, streamId := stream } =
      tagPacket (dev, stream) ver (Packet.ofMsg mt r) := by
  unfold toPacket tagPacket
  simp only [ofMsg_take]

theorem getPacket_src (sp : SegPkt) (h16 : 16 ≤ sp.payload.length)
    (hfit : 16 + beAt sp.payload 14 2 ≤ sp.payload.length) :
    Decoder_SegmentedPacket_getPacket_obj (spSt sp) =
      some (spSt sp, { mt := sp.mt, msg := sp.payload.take (16 + beAt sp.payload 14 2), version := sp.ver }) := by
  unfold Decoder_SegmentedPacket_getPacket_obj mkPacket
  simp only [spSt, List.drop_zero, bind, pure]
  rw [if_pos ⟨h16, hfit⟩, some_bind]

theorem toPacket_assembled (sp : SegPkt) (dev stream : Nat) :
    toPacket ({ mt := sp.mt, msg := sp.payload.take (16 + beAt sp.payload 14 2), version := sp.ver,
                deviceId := dev, streamId := stream } : PktOut) =
      { tagPacket (dev, stream) sp.ver sp.getPacket with version := sp.ver } := by
  unfold toPacket tagPacket SegPkt.getPacket
  simp only [ofMsg_take]

end AsamCmp.SrcDec
