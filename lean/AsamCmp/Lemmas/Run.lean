/-
  Runs of a step function `step : σ → ι → σ × ο` over a list of inputs: the state it ends in (`final`) and every input with
  what its step returned (`io`).  The decoder's run functions (`run`, `runLocal`, `runT`, `decodeAll`, `decodeAllT`, `calls`,
  `decodeEach`) are each `final` with a list function of `io` of `step` or `decodeWith`; `Local` says once why endpoints are isolated.
-/
namespace Run

variable {σ σ' ι ι' ο ο' : Type}

def final (step : σ → ι → σ × ο) (s : σ) : List ι → σ
  | [] => s
  | i :: is => final step (step s i).1 is

def io (step : σ → ι → σ × ο) (s : σ) : List ι → List (ι × ο)
  | [] => []
  | i :: is => (i, (step s i).2) :: io step (step s i).1 is

def outs (step : σ → ι → σ × ο) (s : σ) (is : List ι) : List ο := (io step s is).map (·.2)

variable (step : σ → ι → σ × ο)

theorem outs_cons (s : σ) (i : ι) (is : List ι) :
    outs step s (i :: is) = (step s i).2 :: outs step (step s i).1 is := rfl

theorem final_append (s : σ) (is js : List ι) : final step s (is ++ js) = final step (final step s is) js := by
  induction is generalizing s with
  | nil => rfl
  | cons i is ih => exact ih _

theorem io_append (s : σ) (is js : List ι) : io step s (is ++ js) = io step s is ++ io step (final step s is) js := by
  induction is generalizing s with
  | nil => rfl
  | cons i is ih => exact congrArg (_ :: ·) (ih _)

theorem outs_append (s : σ) (is js : List ι) :
    outs step s (is ++ js) = outs step s is ++ outs step (final step s is) js := by
  rw [outs, io_append, List.map_append]; rfl

theorem io_inputs (s : σ) (is : List ι) : (io step s is).map (·.1) = is := by
  induction is generalizing s with
  | nil => rfl
  | cons i is ih => exact congrArg (_ :: ·) (ih _)

theorem zip_outs (s : σ) (is : List ι) : is.zip (outs step s is) = io step s is := by
  induction is generalizing s with
  | nil => rfl
  | cons i is ih => exact congrArg (_ :: ·) (ih _)

theorem outs_length (s : σ) (is : List ι) : (outs step s is).length = is.length := by
  rw [outs, List.length_map, ← List.length_map (as := io step s is) (·.1), io_inputs]

/-- every entry of `io` is one of the inputs with what `step` returned on it from some state -/
theorem io_mem (s : σ) (is : List ι) (x : ι × ο) (hx : x ∈ io step s is) : x.1 ∈ is ∧ ∃ s', x.2 = (step s' x.1).2 := by
  induction is generalizing s with
  | nil => cases hx
  | cons i is ih =>
    rcases List.mem_cons.1 hx with rfl | hx
    · exact ⟨List.mem_cons_self, s, rfl⟩
    · exact ⟨List.mem_cons_of_mem _ (ih _ hx).1, (ih _ hx).2⟩

/-- a function with the two equations of a run that returns, concatenated, what `g` makes of every step -/
theorem eq_flatMap (g : ι × ο → List ο') (run : σ → List ι → σ × List ο') (h0 : ∀ s, run s [] = (s, []))
    (hc : ∀ s i is, run s (i :: is) = ((run (step s i).1 is).1, g (i, (step s i).2) ++ (run (step s i).1 is).2))
    (s : σ) (is : List ι) : run s is = (final step s is, (io step s is).flatMap g) := by
  induction is generalizing s with
  | nil => exact h0 s
  | cons i is ih => rw [hc, ih]; rfl

/-- the same run written as a fold that accumulates the outputs -/
theorem foldl_eq (g : ι × ο → List ο') (s : σ) (acc : List ο') (is : List ι) :
    is.foldl (fun a i => ((step a.1 i).1, a.2 ++ g (i, (step a.1 i).2))) (s, acc) =
      (final step s is, acc ++ (io step s is).flatMap g) := by
  induction is generalizing s acc with
  | nil => exact Prod.ext rfl (List.append_nil _).symm
  | cons i is ih => rw [List.foldl_cons, ih, List.append_assoc]; rfl

/-- `view` reads one component of the state, `mine` says which inputs are addressed to it, `f` reads such an input as an
    input of the component's own step function `step'`: a step on an input of the component acts on it, and returns, as
    `step'` does; a step on any other input leaves the component alone.  Used through `Local.filter`, `.all`, `.congr`. -/
structure Local (step : σ → ι → σ × ο) (step' : σ' → ι' → σ' × ο) (view : σ → σ') (mine : ι → Bool) (f : ι → ι') : Prop where
  own : ∀ s i, mine i = true → step' (view s) (f i) = (view (step s i).1, (step s i).2)
  other : ∀ s i, mine i = false → view (step s i).1 = view s

variable {step} {step' : σ' → ι' → σ' × ο} {view : σ → σ'} {mine : ι → Bool} {f : ι → ι'}

/-- the component after a run, and what the steps addressed to it returned, are those of `step'` run over the inputs
    addressed to it -/
theorem Local.filter (L : Local step step' view mine f) (s : σ) (is : List ι) :
    view (final step s is) = final step' (view s) ((is.filter mine).map f) ∧
    ((io step s is).filter (fun x => mine x.1)).map (·.2) = outs step' (view s) ((is.filter mine).map f) := by
  induction is generalizing s with
  | nil => exact ⟨rfl, rfl⟩
  | cons i is ih =>
    obtain ⟨i1, i2⟩ := ih (step s i).1
    cases hm : mine i with
    | true =>
      rw [io, List.filter_cons_of_pos hm, List.filter_cons_of_pos (p := fun x : ι × ο => mine x.1) hm, List.map_cons,
        List.map_cons, outs_cons, final, final, L.own s i hm]
      exact ⟨i1, congrArg (_ :: ·) i2⟩
    | false =>
      rw [io, List.filter_cons_of_neg (ne_true_of_eq_false hm),
        List.filter_cons_of_neg (p := fun x : ι × ο => mine x.1) (ne_true_of_eq_false hm), final, ← L.other s i hm]
      exact ⟨i1, i2⟩

/-- a run all of whose inputs are addressed to the component is the component's own run -/
theorem Local.all (L : Local step step' view mine f) (s : σ) (is : List ι) (h : ∀ i ∈ is, mine i = true) :
    view (final step s is) = final step' (view s) (is.map f) ∧ outs step s is = outs step' (view s) (is.map f) := by
  have h1 := L.filter s is
  rwa [List.filter_eq_self.2 h, List.filter_eq_self.2 fun x hx => h x.1 (io_mem step s is x hx).1] at h1

/-- from two states with the same component, the run over all inputs and the run over the component's inputs alone
    leave the same component, and the steps addressed to it are the same steps, input and output -/
theorem Local.congr (L : Local step step' view mine f) (is : List ι) : ∀ s t : σ, view s = view t →
    view (final step s is) = view (final step t (is.filter mine)) ∧
    (io step s is).filter (fun x => mine x.1) = io step t (is.filter mine) := by
  induction is with
  | nil => exact fun s t h => ⟨h, rfl⟩
  | cons i is ih =>
    intro s t h
    cases hm : mine i with
    | true =>
      obtain ⟨h1, h2⟩ := Prod.mk.inj ((L.own s i hm).symm.trans (h ▸ L.own t i hm))
      obtain ⟨i1, i2⟩ := ih _ _ h1
      rw [io, List.filter_cons_of_pos hm, List.filter_cons_of_pos (p := fun x : ι × ο => mine x.1) hm, io, final, final, h2]
      exact ⟨i1, congrArg (_ :: ·) i2⟩
    | false =>
      rw [io, List.filter_cons_of_neg (ne_true_of_eq_false hm),
        List.filter_cons_of_neg (p := fun x : ι × ο => mine x.1) (ne_true_of_eq_false hm), final]
      exact ih _ _ ((L.other s i hm).trans h)

/-- a list view of the entries to which only the entries with `p` contribute -/
theorem flatMap_filter {α β : Type} (p : α → Bool) (g g' : α → List β) (l : List α)
    (h : ∀ x ∈ l, g x = if p x then g' x else []) : l.flatMap g = (l.filter p).flatMap g' := by
  induction l with
  | nil => rfl
  | cons x l ih =>
    rw [List.flatMap_cons, ih fun y hy => h y (List.mem_cons_of_mem _ hy), h x List.mem_cons_self]
    cases hx : p x with
    | true => rw [List.filter_cons_of_pos hx, List.flatMap_cons, if_pos rfl]
    | false => rw [List.filter_cons_of_neg (ne_true_of_eq_false hx), if_neg Bool.false_ne_true]; rfl

/-- outputs tagged with a key of their input, kept for one key: those of the inputs with that key -/
theorem filter_tagged {κ ο : Type} [DecidableEq κ] (key : ι → κ) (k : κ) (l : List (ι × List ο)) :
    (l.flatMap fun x => x.2.map fun o => (key x.1, o)).filter (fun y => y.1 = k) =
      (l.filter fun x => key x.1 = k).flatMap fun x => x.2.map fun o => (key x.1, o) := by
  rw [List.filter_flatMap]
  refine flatMap_filter (fun x => key x.1 = k) _ _ l fun x _ => ?_
  by_cases hx : key x.1 = k
  · rw [if_pos (decide_eq_true hx)]
    exact List.filter_eq_self.2 fun y hy => by obtain ⟨o, _, rfl⟩ := List.mem_map.1 hy; exact decide_eq_true hx
  · rw [if_neg (by simpa using hx)]
    exact List.filter_eq_nil_iff.2 fun y hy => by obtain ⟨o, _, rfl⟩ := List.mem_map.1 hy; simpa using hx

/-- where every input has the key `k`, tagging is tagging with `k` -/
theorem tagged_of_all {κ ο : Type} (key : ι → κ) (k : κ) (l : List (ι × List ο)) (h : ∀ x ∈ l, key x.1 = k) :
    (l.flatMap fun x => x.2.map fun o => (key x.1, o)) = (l.map (·.2)).flatten.map fun o => (k, o) := by
  induction l with
  | nil => rfl
  | cons x l ih =>
    rw [List.flatMap_cons, ih fun y hy => h y (List.mem_cons_of_mem _ hy), h x List.mem_cons_self, List.map_cons,
      List.flatten_cons, List.map_append]

end Run
