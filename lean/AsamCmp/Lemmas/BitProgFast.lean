/-
  A second form of the decidable checks, for evaluation by the kernel.

  `classCheck` (Src/FieldCheck.lean) runs every accessor program of a class with `symRun` (Src/BitProg.lean) and compares the
  resulting symbolic memory / value with the layout table; Props/SrcFields*.lean prove it `true` for the fourteen wire classes by
  `decide +kernel`.  Evaluated as written it is slow: `zipBits`, behind every `band` / `bor` / `bxor`, pads both words to a common
  length, zips them and maps over the pairs — some eight passes over 64 symbolic bits, and these operations are most of every
  accessor — and `expectMem` recomputes, bit by bit, the whole object although a setter touches the bytes of one word.

  The definitions here (suffix `F`) compute the same results with less work: `zipF` in one pass, `expectMemF` only the bytes of the
  written field's word (the others are rows of `initMem`, which the kernel has met before), and on them `symStepF`, `symRunF`,
  `Acc.checkF`, `fieldsCheckF`.  Each is proved EQUAL to the definition it stands beside (`zipF_eq`, `expectMemF_eq`, `symRunF_eq`,
  `Acc.checkF_eq`, `fieldsCheckF_eq`), so nothing about soundness is redone: `classCheck_of_fieldsCheckF` turns an evaluation of
  `fieldsCheckF` into `classCheck … = true`, to which `classCheck_sound` (Lemmas/FieldCheckSound.lean) applies.
-/
import AsamCmp.Src.FieldCheck
namespace AsamCmp.Src.Bit
open AsamCmp AsamCmp.Src

/-! ### `zipBits` in one pass -/

/-- the step of `mapOpt`, under a name, so that the equations of `mapOpt`, `zipBits` and `zipF` can be written with it -/
def consOpt : Option SBit → Option SWord → Option SWord
  | some y, some ys => some (y :: ys)
  | _, _ => none

def zipF (f : SBit → SBit → Option SBit) : SWord → SWord → Option SWord
  | [], bs => mapOpt (f .zero) bs
  | as, [] => mapOpt (f · .zero) as
  | a :: as, b :: bs => consOpt (f a b) (zipF f as bs)

theorem mapOpt_cons (g : α → Option SBit) (x : α) (xs : List α) : mapOpt g (x :: xs) = consOpt (g x) (mapOpt g xs) := by
  rw [mapOpt]
  cases g x <;> cases mapOpt g xs <;> rfl

theorem fit_cons (n : Nat) (b : SBit) (bs : SWord) : fit (n + 1) (b :: bs) = b :: fit n bs := by
  simp only [fit, List.cons_append, List.take_succ_cons, List.replicate_succ', ← List.append_assoc]
  rw [List.take_append_of_le_length (by simp)]

theorem fit_nil_succ (n : Nat) : fit (n + 1) [] = SBit.zero :: fit n [] := by
  simp [fit, List.replicate_succ]

theorem zipBits_cons_cons (f : SBit → SBit → Option SBit) (a b : SBit) (as bs : SWord) :
    zipBits f (a :: as) (b :: bs) = consOpt (f a b) (zipBits f as bs) := by
  simp only [zipBits, List.length_cons, Nat.succ_max_succ, fit_cons, List.zip_cons_cons, mapOpt_cons]

/-- beside an exhausted word the other one meets the padding -/
theorem zipBits_nil_left (f : SBit → SBit → Option SBit) (bs : SWord) : zipBits f [] bs = mapOpt (f .zero) bs := by
  induction bs with
  | nil => rfl
  | cons b bs ih =>
    rw [mapOpt_cons, ← ih]
    simp only [zipBits, List.length_cons, List.length_nil, Nat.zero_max, fit_cons, fit_nil_succ, List.zip_cons_cons, mapOpt_cons]

theorem zipBits_nil_right (f : SBit → SBit → Option SBit) (as : SWord) : zipBits f as [] = mapOpt (f · .zero) as := by
  induction as with
  | nil => rfl
  | cons a as ih =>
    rw [mapOpt_cons, ← ih]
    simp only [zipBits, List.length_cons, List.length_nil, Nat.max_zero, fit_cons, fit_nil_succ, List.zip_cons_cons, mapOpt_cons]

theorem zipF_eq (f : SBit → SBit → Option SBit) (a b : SWord) : zipF f a b = zipBits f a b := by
  induction a generalizing b with
  | nil => rw [zipF, zipBits_nil_left]
  | cons a as ih =>
    cases b with
    | nil => rw [zipF, zipBits_nil_right]; exact List.cons_ne_nil a as
    | cons b bs => rw [zipF, ih, zipBits_cons_cons]

/-! ### the checks -/

def symStepF (argBits : Nat → Nat × Nat) (s : SSt) : Op → Option SSt
  | .band a b => (zipF SBit.and (s.val a) (s.val b)).map s.push
  | .bor a b => (zipF SBit.or (s.val a) (s.val b)).map s.push
  | .bxor a b => (zipF SBit.xor (s.val a) (s.val b)).map s.push
  | o => symStep argBits s o

def symRunF (argBits : Nat → Nat × Nat) : SSt → List Op → Option SSt
  | s, [] => some s
  | s, o :: os => (symStepF argBits s o).bind fun s' => symRunF argBits s' os

theorem symStepF_eq (argBits : Nat → Nat × Nat) (s : SSt) (o : Op) : symStepF argBits s o = symStep argBits s o := by
  cases o <;> simp only [symStepF, symStep, zipF_eq]

theorem symRunF_eq (argBits : Nat → Nat × Nat) (s : SSt) (p : List Op) : symRunF argBits s p = symRun argBits s p := by
  induction p generalizing s with
  | nil => rfl
  | cons o os ih => simp only [symRunF, symRun, symStepF_eq, ih]

/-! ### the expected memory of a setter: only the bytes of the field's word are computed, the others are those of `initMem`
  (which the kernel has met before) -/

def expectMemF (size : Nat) (f : Field) (bits : SWord) : List SWord :=
  (initMem size).take f.off ++
  ((List.range f.w).map fun d => (List.range 8).map fun j =>
    let p := (f.w - 1 - d) * 8 + j
    if f.shift ≤ p ∧ p < f.shift + f.bits then bits.getD (p - f.shift) SBit.zero else SBit.mem (f.off + d) j) ++
  (initMem size).drop (f.off + f.w)

theorem expectMemF_eq {size : Nat} {f : Field} (h : f.off + f.w ≤ size) (bits : SWord) :
    expectMemF size f bits = expectMem size f bits := by
  apply List.ext_getElem
  · simp only [expectMemF, initMem, List.length_append, List.length_take, List.length_map, List.length_range, List.length_drop,
      expectMem]
    omega
  · intro i h1 h2
    have hm : min f.off size = f.off := Nat.min_eq_left (by omega)
    simp only [expectMemF, expectMem, initMem, List.getElem_append, List.getElem_map, List.getElem_range, List.length_take,
      List.length_map, List.length_range, List.getElem_take, List.getElem_drop, List.length_append, hm]
    by_cases hlo : i < f.off
    · simp only [show i < f.off + f.w by omega, ↓reduceDIte, hlo, show ¬ f.off ≤ i by omega, false_and, ↓reduceIte]
    · by_cases hhi : i < f.off + f.w
      · have e : f.off + (i - f.off) = i := by omega
        have e2 : f.w - 1 - (i - f.off) = f.off + f.w - 1 - i := by omega
        simp only [hhi, ↓reduceDIte, hlo, e2, e, show f.off ≤ i by omega, and_self, ↓reduceIte]
      · have e : f.off + f.w + (i - (f.off + f.w)) = i := by omega
        simp only [hhi, ↓reduceDIte, e, and_false, ↓reduceIte]

theorem beq_expectMemF (m : List SWord) (size : Nat) (f : Field) (bits : SWord) :
    (m == expectMemF size f bits && f.fits size) = (m == expectMem size f bits && f.fits size) := by
  cases hf : f.fits size
  · simp
  · simp only [Field.fits, Bool.and_eq_true, decide_eq_true_eq] at hf
    rw [expectMemF_eq hf.1.2]

/-- `Acc.check` with the program run by `symRunF` and a setter's memory compared with `expectMemF` -/
def Acc.checkF (size : Nat) (f : Field) : Acc → Bool
  | .get p sh => (symRunF (fun _ => (0, 0)) (SSt.init size) p.1).any fun s =>
      s.m == initMem size && SWord.same (s.val p.2) (List.replicate sh SBit.zero ++ fieldBits f) && f.fits size
  | .getNe0 p => (symRunF (fun _ => (0, 0)) (SSt.init size) p.1).any fun s =>
      s.m == initMem size && (s.val p.2).filter (· != SBit.zero) == fieldBits f && f.fits size
  | .set p k sh => (symRunF (fun k' => if k' = k then (sh, sh + f.bits) else (0, 0)) (SSt.init size) p.1).any fun s =>
      s.m == expectMemF size f ((List.range f.bits).map fun j => SBit.arg k (sh + j)) && f.fits size
  | .setConst p c => (symRunF (fun _ => (0, 0)) (SSt.init size) p.1).any fun s =>
      s.m == expectMemF size f (constBits f.bits c) && f.fits size && decide (c < 2 ^ f.bits)

theorem Acc.checkF_eq (size : Nat) (f : Field) (a : Acc) : a.checkF size f = a.check size f := by
  cases a <;> simp only [checkF, check, chkGet, chkGetNe0, chkSet, chkSetConst, symRunF_eq, beq_expectMemF] <;> split <;>
    simp [*]

/-- `classCheck` with the size and the fields of the class given apart, so that two classes of one size present the kernel with
    the same term for an accessor they share -/
def fieldsCheckF (size : Nat) (fields : List Field) (es : List Entry) : Bool :=
  es.all fun e => (fields.find? (·.name == e.field)).any (e.acc.checkF size)

theorem fieldsCheckF_eq (c : ClassLayout) (es : List Entry) : fieldsCheckF c.size c.fields es = classCheck c es := by
  unfold fieldsCheckF classCheck ClassLayout.find
  congr 1
  funext e
  cases c.fields.find? (·.name == e.field) <;> simp [Acc.checkF_eq]

theorem classCheck_of_fieldsCheckF {c : ClassLayout} {es : List Entry} (h : fieldsCheckF c.size c.fields es = true) :
    classCheck c es = true := fieldsCheckF_eq c es ▸ h

end AsamCmp.Src.Bit
