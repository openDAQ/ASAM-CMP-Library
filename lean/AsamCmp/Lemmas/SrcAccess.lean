/-
  Source-level C03: helpers for the translated accessors of the payload classes (`Props/SrcAccess.lean`).
-/
import AsamCmp.Lemmas.SrcValid
import AsamCmp.Access
namespace AsamCmp.SrcTie
open AsamCmp AsamCmp.Src AsamCmp.SrcGen
attribute [local congr] bind_head_congr bind_head_congr'

theorem udiv_of_ne_zero (w x y : Nat) (h : y ≠ 0) : udiv w x y = some (x / y) := by
  unfold udiv; rw [if_neg h]

/-- a byte used as a signed index / pointer offset (`int` promotion) is non-negative -/
theorem nonneg_byteAt (b : Bytes) (i : Nat) : nonneg 32 (byteAt b i) = some (byteAt b i) := by
  unfold nonneg; rw [if_pos]; have := byteAt_lt_256 b i; omega

/-- Calls whose value is known by unfolding alone (the `getHeader` overloads `…_getHeader_v`, `…_v2`: the suffix is the
    translator's overload counter and may change) are resolved by unification, without naming them: as long as the goal is
    `x.bind f = _`, prove `x = some _` by `rfl` and renormalise (the rules of `src_norm`, re-association of `bind`, and the
    extra rewrite rules given in brackets, side conditions by `omega`). -/
syntax "src_calls" " [" Lean.Parser.Tactic.simpLemma,* "]" : tactic
macro_rules
  | `(tactic| src_calls [$ls,*]) =>
    `(tactic| ((try src_norm [Option.bind_assoc, $ls,*]);
               repeat (guard_target =~ Option.bind _ _ = _; refine bind_of_eq rfl ?_;
                       try src_norm [Option.bind_assoc, $ls,*])))

/-- a pointer `c ? q : nullptr` into the object at `pd ≠ 0`, as the offset of a view (`srcView` unfolded) -/
theorem off_ptr (pd q : Nat) (c : Prop) [Decidable c] (hpd : 0 < pd) (hq : pd ≤ q) :
    (if (if c then 0 else q) = 0 then (none : Option Nat) else some ((if c then 0 else q) - pd))
      = if c then none else some (q - pd) := by
  by_cases hc : c
  · simp only [hc, if_true]
  · have hq0 : ¬ q = 0 := by omega
    simp only [hc, if_false, hq0]

theorem ptr_sub (pd k : Nat) : pd + k - pd = k := Nat.add_sub_cancel_left pd k

/-! ### the payload `b` at any address `a` of any memory `m` (`pd_ = a`, `pdsize_ = b.length`) -/

section
variable {m b : Bytes} {a : Nat} (hA : At m a b) (this : Nat)
include hA

/-! ### analog: sample type and sample count -/

theorem analog_dt_src (h2 : 2 ≤ b.length) :
    AnalogPayload_getSampleDt m a b.length this = some ((byteAt b 1 &&& 3) * 256) := by
  simp only [AnalogPayload_getSampleDt, AnalogPayload_Header_getSampleDt]
  src_calls [hA.rd, hA.rd0]
  simp only [analog_dt, Nat.zero_add]

set_option linter.unusedVariables false in  -- `hb` is used by `omega` (the discharger)
theorem analog_cnt_src (hb : b.length < 2 ^ 64) (h16 : 16 ≤ b.length) :
    AnalogPayload_getSamplesCount m a b.length this
      = some ((b.length - 16) / if byteAt b 1 &&& 3 = 0 then 2 else 4) := by
  have h3 : byteAt b 1 &&& 3 ≤ 3 := Nat.and_le_right
  simp only [AnalogPayload_getSamplesCount, Payload_getLength, AnalogPayload_Header_getSampleDt]
  src_calls [hA.rd, hA.rd0, udiv_of_ne_zero]
  simp only [analog_dt, Nat.zero_add]
  by_cases hz : byteAt b 1 &&& 3 = 0
  · simp only [hz, Nat.zero_mul, if_true]
  · have hz' : ¬ (byteAt b 1 &&& 3) * 256 = 0 := by omega
    simp only [hz, hz', if_false]

/-! ### interface status: the stream-id count, the vendor-data length pointer and the vendor-data length -/

theorem if_count_src (h38 : 38 ≤ b.length) :
    InterfacePayload_getStreamIdsCount m a b.length this = some (beAt b 36 2) := by
  simp only [InterfacePayload_getStreamIdsCount, InterfacePayload_getStreamIdCountPtr, InterfacePayload_toUint16]
  src_norm [hA.rd, hA.rd0]

/-- `getVendorDataLengthPtr`: behind the stream ids, whose count is padded to even (`if (count % 2) ++count`) -/
theorem if_vlptr_src (h38 : 38 ≤ b.length) :
    InterfacePayload_getVendorDataLengthPtr m a b.length this
      = some (a + (38 + (beAt b 36 2 + beAt b 36 2 % 2))) := by
  have hc := beAt_lt_pow b 36 2
  simp only [InterfacePayload_getVendorDataLengthPtr, InterfacePayload_getStreamIdCountPtr, InterfacePayload_toUint16]
  src_norm [hA.rd, hA.rd0]
  split <;> (congr 1; omega)

theorem if_vl_src (h38 : 38 ≤ b.length) (hfit : beAt b 36 2 + beAt b 36 2 % 2 + 2 ≤ b.length - 38) :
    InterfacePayload_getVendorDataLength m a b.length this
      = some (beAt b (38 + (beAt b 36 2 + beAt b 36 2 % 2)) 2) := by
  simp only [InterfacePayload_getVendorDataLength, if_vlptr_src hA this h38, InterfacePayload_toUint16]
  src_norm [hA.rd, hA.rd0]

end

end AsamCmp.SrcTie
