/-
  Simulation between the symbolic and the concrete run of a bit program (Src/BitProg.lean): one lemma per operation,
  then induction over the program.
-/
import AsamCmp.Lemmas.BitProgOps
import AsamCmp.Lemmas.BitProgMem
namespace AsamCmp.Src.Bit
open AsamCmp AsamCmp.Src

/-- the symbolic state `ss` describes the concrete state `st`; `M` is the memory BEFORE the program, the symbolic bits
    `mem i j` refer to the object `slice M this size` in it -/
structure Rel (size : Nat) (M : Bytes) (this : Nat) (args : List Nat) (ss : SSt) (st : St) : Prop where
  len : ss.m.length = size
  len8 : ∀ w ∈ ss.m, w.length = 8
  mem : st.m = writeAt M this (memEval (slice M this size) args ss.m)
  vals : st.vals = ss.vals.map (SWord.eval (slice M this size) args)

section
variable {size : Nat} {M : Bytes} {this : Nat} {args : List Nat} {ss : SSt} {st : St}

theorem Rel.push (r : Rel size M this args ss st) {v : Nat} {w : SWord}
    (h : v = SWord.eval (slice M this size) args w) : Rel size M this args (ss.push w) (st.push v) := by
  refine ⟨r.len, r.len8, r.mem, ?_⟩
  simp only [St.push, SSt.push, List.map_append, r.vals, h, List.map_cons, List.map_nil]

theorem Rel.val (r : Rel size M this args ss st) (i : Nat) :
    st.val i = SWord.eval (slice M this size) args (ss.val i) := by
  unfold St.val SSt.val
  rw [r.vals]
  simp only [List.getD_eq_getElem?_getD, List.getElem?_map]
  cases ss.vals[i]? <;> rfl

theorem Rel.memLen (r : Rel size M this args ss st) (hM : this + size ≤ M.length) : st.m.length = M.length := by
  rw [r.mem]
  exact writeAt_length_of_le _ _ _ (by rw [memEval_length, r.len]; exact hM)

end

theorem rd_writeAt {M X : Bytes} {this off w : Nat} (hX : this + X.length ≤ M.length) (h : off + w ≤ X.length) :
    rd (writeAt M this X) (this + off) w = some (leAt X off w) :=
  (SrcTie.at_writeAt M this X hX).rd off w h

theorem Rel.init (size : Nat) (M : Bytes) (this : Nat) (args : List Nat) (hM : this + size ≤ M.length) :
    Rel size M this args (SSt.init size) ⟨M, []⟩ := by
  refine ⟨initMem_length size, initMem_len8 size, ?_, rfl⟩
  simp only [SSt.init]
  rw [memEval_initMem _ _ size (slice_length_of_le _ _ _ hM), C11.writeAt_slice_self hM]

theorem step_sound (argBits : Nat → Nat × Nat) {size : Nat} {M : Bytes} {this : Nat} {args : List Nat}
    (hM : this + size ≤ M.length) (ha : ArgsOk argBits args) {ss ss' : SSt} {st : St} (o : Op)
    (h : symStep argBits ss o = some ss') (r : Rel size M this args ss st) :
    ∃ st', step this args st o = some st' ∧ Rel size M this args ss' st' := by
  cases o with
  | rd off w =>
    simp only [symStep, Option.ite_none_right_eq_some, Option.some.injEq] at h
    obtain ⟨hle, rfl⟩ := h
    have hX : this + (memEval (slice M this size) args ss.m).length ≤ M.length := by
      rw [memEval_length, r.len]; exact hM
    refine ⟨st.push (leAt (memEval (slice M this size) args ss.m) off w), ?_, ?_⟩
    · simp only [step]
      rw [r.mem, rd_writeAt hX (by rw [memEval_length]; exact hle)]
      rfl
    · apply r.push
      unfold leAt slice
      rw [← memEval_drop, ← memEval_take, leDec_memEval]
      intro x hx
      exact r.len8 x (List.mem_of_mem_drop (List.mem_of_mem_take hx))
  | arg k =>
    simp only [symStep, Option.some.injEq] at h
    subst h
    exact ⟨_, rfl, r.push (eval_argWord _ args k _ _ (ha k).1 (ha k).2).symm⟩
  | const c =>
    simp only [symStep, Option.ite_none_right_eq_some, Option.some.injEq] at h
    obtain ⟨hc, rfl⟩ := h
    exact ⟨_, rfl, r.push (by rw [eval_constBits, Nat.mod_eq_of_lt hc])⟩
  | band a b =>
    simp only [symStep, Option.map_eq_some_iff] at h
    obtain ⟨w, hw, rfl⟩ := h
    exact ⟨_, rfl, r.push (by
      rw [r.val, r.val]
      exact zipBits_eval _ _ (fun _ _ _ => SBit.and_eval _ _) rfl (fun _ _ _ => Nat.testBit_and ..) hw)⟩
  | bor a b =>
    simp only [symStep, Option.map_eq_some_iff] at h
    obtain ⟨w, hw, rfl⟩ := h
    exact ⟨_, rfl, r.push (by
      rw [r.val, r.val]
      exact zipBits_eval _ _ (fun _ _ _ => SBit.or_eval _ _) rfl (fun _ _ _ => Nat.testBit_or ..) hw)⟩
  | bxor a b =>
    simp only [symStep, Option.map_eq_some_iff] at h
    obtain ⟨w, hw, rfl⟩ := h
    exact ⟨_, rfl, r.push (by
      rw [r.val, r.val]
      exact zipBits_eval _ _ (fun _ _ _ => SBit.xor_eval _ _) rfl (fun _ _ _ => Nat.testBit_xor ..) hw)⟩
  | bnot bits a =>
    simp only [symStep, Option.bind_eq_some_iff, Option.ite_none_right_eq_some, Option.some.injEq] at h
    obtain ⟨w, hw, hz, rfl⟩ := h
    exact ⟨_, rfl, r.push (by rw [r.val]; exact bnot_sound _ _ hw hz)⟩
  | trunc bits a =>
    simp only [symStep, Option.some.injEq] at h
    subst h
    exact ⟨_, rfl, r.push (by rw [r.val, eval_take])⟩
  | sext fb tb a =>
    simp only [symStep, Option.ite_none_right_eq_some, Option.some.injEq] at h
    obtain ⟨hz, rfl⟩ := h
    exact ⟨_, rfl, r.push (by rw [r.val]; exact sext_sound _ _ hz.1)⟩
  | ushl bits a n =>
    simp only [symStep, Option.ite_none_right_eq_some, Option.some.injEq] at h
    obtain ⟨hn, rfl⟩ := h
    refine ⟨_, ?_, r.push rfl⟩
    simp only [step]
    rw [r.val, ushl_sound _ _ _ hn]
    rfl
  | sshl bits a n =>
    simp only [symStep, Option.ite_none_right_eq_some, Option.some.injEq] at h
    obtain ⟨hn, rfl⟩ := h
    refine ⟨_, ?_, r.push rfl⟩
    simp only [step]
    rw [r.val, sshl_sound _ _ _ hn.1 hn.2]
    rfl
  | ushr bits a n =>
    simp only [symStep, Option.ite_none_right_eq_some, Option.some.injEq] at h
    obtain ⟨hn, rfl⟩ := h
    refine ⟨_, ?_, r.push rfl⟩
    simp only [step]
    rw [r.val, ushr_sound _ _ _ hn]
    rfl
  | sshr bits a n =>
    simp only [symStep, Option.ite_none_right_eq_some, Option.some.injEq] at h
    obtain ⟨hn, rfl⟩ := h
    refine ⟨_, ?_, r.push rfl⟩
    simp only [step]
    rw [r.val, sshr_sound _ _ _ hn.1 hn.2]
    rfl
  | wr off w a =>
    simp only [symStep, Option.ite_none_right_eq_some, Option.some.injEq] at h
    obtain ⟨hle, rfl⟩ := h
    have hXl : (memEval (slice M this size) args ss.m).length = size := by
      rw [memEval_length, r.len]
    have hX : this + (memEval (slice M this size) args ss.m).length ≤ M.length := by
      rw [hXl]; exact hM
    have hlen := r.memLen hM
    have hsz := r.len
    refine ⟨⟨writeAt st.m (this + off) (leEnc w (st.val a)), st.vals ++ [0]⟩, ?_, ?_, ?_, ?_, ?_⟩
    · simp only [step, wr]
      rw [if_pos (by omega)]
      rfl
    · simp only [List.length_append, List.length_take, List.length_drop, chunks_length]
      omega
    · intro x hx
      simp only [List.mem_append] at hx
      rcases hx with (hx | hx) | hx
      · exact r.len8 x (List.mem_of_mem_take hx)
      · exact chunks_len8 w _ (fit_length _ _) x hx
      · exact r.len8 x (List.mem_of_mem_drop hx)
    · show writeAt st.m (this + off) (leEnc w (st.val a)) = _
      rw [r.mem, writeAt_writeAt_inner hX (by rw [SrcTie.leEnc_length, hXl]; omega), memEval_append, memEval_append,
        memEval_take, memEval_drop, memEval_chunks, eval_fit, leEnc_mod, ← r.val]
      congr 1
      rw [writeAt_eq_append, SrcTie.leEnc_length]
    · show st.vals ++ [0] = _
      rw [r.vals]
      simp

/-- generalisation of `symRun_sound` to an arbitrary pair of related start states -/
theorem run_sound (argBits : Nat → Nat × Nat) {size : Nat} {M : Bytes} {this : Nat} {args : List Nat}
    (hM : this + size ≤ M.length) (ha : ArgsOk argBits args) (prog : List Op) {ss ss' : SSt} {st : St}
    (h : symRun argBits ss prog = some ss') (r : Rel size M this args ss st) :
    ∃ st', run this args st prog = some st' ∧ Rel size M this args ss' st' := by
  induction prog generalizing ss st with
  | nil =>
    simp only [symRun, Option.some.injEq] at h
    subst h
    exact ⟨st, rfl, r⟩
  | cons o os ih =>
    simp only [symRun, Option.bind_eq_some_iff] at h
    obtain ⟨s1, h1, h2⟩ := h
    obtain ⟨st1, e1, r1⟩ := step_sound argBits hM ha o h1 r
    obtain ⟨st2, e2, r2⟩ := ih h2 r1
    refine ⟨st2, ?_, r2⟩
    simp only [run, e1, Option.bind_some, e2]

end AsamCmp.Src.Bit
