/-
  Lemmas about the primitives of `Src/Sem.lean` (`rd`, `wr`, `wrBytes`, `leAt`, `leEnc`, `uadd`, `usub`, shifts): an object inside
  a memory (`At`), reads after a write, and the relation to the big-endian readers and encoders of `Bytes.lean` (`byteAt`, `beAt`,
  `beEnc`).  Nothing here mentions a generated definition.
-/
import AsamCmp.Src.Sem
import AsamCmp.Lemmas.BytesBasic
namespace AsamCmp.SrcTie
open AsamCmp AsamCmp.Src

/-! ### `Option` monad steps

  Deliberately NOT `rfl`-lemmas: `simp` then records an explicit rewrite step.  With core's `Option.bind_some` (a `rfl`-lemma)
  the step is left to the kernel's definitional-equality check, which on terms like `(some v).bind f =?= (ushl 64 v 8).bind g`
  compares the arguments first and unfolds `% 2 ^ 64` on open terms — minutes, then `deep recursion`. -/

theorem some_bind {α β : Type} (a : α) (f : α → Option β) : (some a).bind f = f a := by
  rw [Option.bind_some]

theorem none_bind {α β : Type} (f : α → Option β) : (none : Option α).bind f = none := by
  rw [Option.bind_none]

/-! ### bytes -/

theorem byteAt_of_le (b : Bytes) (i : Nat) (h : b.length ≤ i) : byteAt b i = 0 := by
  simp [byteAt, List.getD_eq_getElem?_getD, List.getElem?_eq_none h]

theorem slice_zero (b : Bytes) (i : Nat) : slice b i 0 = [] := by simp [slice]

theorem slice_of_le (b : Bytes) (i w : Nat) (h : b.length ≤ i) : slice b i w = [] := by
  simp [slice, List.drop_eq_nil_of_le h]

theorem slice_succ (b : Bytes) (i w : Nat) (h : i < b.length) :
    slice b i (w + 1) = b.getD i 0 :: slice b (i + 1) w := by
  unfold slice
  rw [List.drop_eq_getElem_cons h, List.take_succ_cons]
  simp [List.getD_eq_getElem?_getD, List.getElem?_eq_getElem h]

/-- the object `b` inside a larger memory: slices of the memory at `b`'s address are slices of `b` -/
theorem slice_mid (pre b post : Bytes) (i w : Nat) (h : i + w ≤ b.length) :
    slice (pre ++ b ++ post) (pre.length + i) w = slice b i w := by
  unfold slice
  rw [List.append_assoc, List.drop_append, List.drop_append]
  have h1 : pre.length + i - pre.length = i := by omega
  rw [List.drop_eq_nil_of_le (by omega : pre.length ≤ pre.length + i), h1, List.nil_append,
    List.take_append_of_le_length (by simp; omega)]

theorem drop_take_eq_slice (b : Bytes) (k w : Nat) : (b.drop k).take w = slice b k w := rfl

/-! ### little-endian reads -/

theorem leAt_zero (b : Bytes) (i : Nat) : leAt b i 0 = 0 := by simp [leAt, slice_zero, leDec]

theorem leAt_succ (b : Bytes) (i w : Nat) : leAt b i (w + 1) = byteAt b i + 256 * leAt b (i + 1) w := by
  by_cases h : i < b.length
  · simp [leAt, slice_succ b i w h, leDec, byteAt]
  · have h1 : b.length ≤ i := by omega
    simp [leAt, slice_of_le b i _ h1, slice_of_le b (i + 1) _ (by omega : b.length ≤ i + 1), leDec,
      byteAt_of_le b i h1]

theorem leAt_one (b : Bytes) (i : Nat) : leAt b i 1 = byteAt b i := by
  rw [leAt_succ, leAt_zero]; omega

theorem leAt_two (b : Bytes) (i : Nat) : leAt b i 2 = byteAt b i + 256 * byteAt b (i + 1) := by
  rw [leAt_succ, leAt_one]

theorem leAt_four (b : Bytes) (i : Nat) :
    leAt b i 4 = byteAt b i + 256 * byteAt b (i + 1) + 65536 * byteAt b (i + 2) + 16777216 * byteAt b (i + 3) := by
  rw [leAt_succ, leAt_succ, leAt_two]; simp only [Nat.add_assoc, Nat.reduceAdd]; omega

theorem leAt_eight (b : Bytes) (i : Nat) :
    leAt b i 8 = leAt b i 4 + 4294967296 * leAt b (i + 4) 4 := by
  simp only [leAt_succ, leAt_zero, Nat.add_assoc, Nat.reduceAdd]; omega

theorem rd_eq (m : Bytes) (a w : Nat) (h : a + w ≤ m.length) : rd m a w = some (leAt m a w) := by
  unfold rd; rw [if_pos h]

/-! ### an object inside the memory -/

/-- `At m a b`: the bytes `b` occupy the addresses `a … a + b.length` of the memory `m`.  A statement about a translated function
    that reads an object is made once, for any `m`, `a`, `b` with `At m a b`, and uses `At.rd` / `At.rd0` (reads inside the object),
    `At.le` / `At.length_lt` (the object fits) and `At.slice` / `At.leAt` / `At.beAt` (the memory's bytes there are the
    object's).  The memory shapes in which callers meet an object — `b` between two other lists, the rest of `m` from `p` on, all
    of `m`, the bytes just written into `m` — are the instances `at_mid`, `at_drop`, `at_whole`, `at_writeAt`. -/
def At (m : Bytes) (a : Nat) (b : Bytes) : Prop := ∃ pre post, m = pre ++ b ++ post ∧ a = pre.length

theorem at_mid (pre b post : Bytes) : At (pre ++ b ++ post) pre.length b := ⟨pre, post, rfl, rfl⟩

theorem at_drop (m : Bytes) (p : Nat) (h : p ≤ m.length) : At m p (m.drop p) :=
  ⟨m.take p, [], by rw [List.append_nil, List.take_append_drop], by rw [List.length_take, Nat.min_eq_left h]⟩

theorem at_whole (m : Bytes) : At m 0 m := ⟨[], [], by rw [List.nil_append, List.append_nil], rfl⟩

theorem at_writeAt (m : Bytes) (a : Nat) (x : Bytes) (h : a + x.length ≤ m.length) : At (writeAt m a x) a x :=
  ⟨m.take a, m.drop (a + x.length), rfl, by rw [List.length_take, Nat.min_eq_left (by omega)]⟩

section
variable {m b : Bytes} {a : Nat} (hA : At m a b)
include hA

theorem At.le : a + b.length ≤ m.length := by
  obtain ⟨pre, post, rfl, rfl⟩ := hA
  simp only [List.length_append]; omega

/-- an object inside a memory smaller than the address space is smaller than the address space -/
theorem At.length_lt (h : m.length < 2 ^ 64) : b.length < 2 ^ 64 := by
  have := hA.le; omega

theorem At.slice (i w : Nat) (h : i + w ≤ b.length) : slice m (a + i) w = slice b i w := by
  obtain ⟨pre, post, rfl, rfl⟩ := hA
  exact slice_mid pre b post i w h

theorem At.leAt (i w : Nat) (h : i + w ≤ b.length) : leAt m (a + i) w = leAt b i w := by
  unfold Src.leAt; rw [hA.slice i w h]

theorem At.beAt (i w : Nat) (h : i + w ≤ b.length) : beAt m (a + i) w = beAt b i w := by
  unfold AsamCmp.beAt; rw [hA.slice i w h]

/-- a read inside the object -/
theorem At.rd (i w : Nat) (h : i + w ≤ b.length) : Src.rd m (a + i) w = some (Src.leAt b i w) := by
  rw [rd_eq _ _ _ (by have := hA.le; omega), hA.leAt i w h]

/-- a read at the object's first byte -/
theorem At.rd0 (w : Nat) (h : w ≤ b.length) : Src.rd m a w = some (Src.leAt b 0 w) :=
  hA.rd 0 w (by omega)

end

theorem rd_mid (pre b post : Bytes) (i w : Nat) (h : i + w ≤ b.length) :
    rd (pre ++ b ++ post) (pre.length + i) w = some (leAt b i w) :=
  (at_mid pre b post).rd i w h

theorem rd_mid0 (pre b post : Bytes) (w : Nat) (h : w ≤ b.length) :
    rd (pre ++ b ++ post) pre.length w = some (leAt b 0 w) :=
  (at_mid pre b post).rd0 w h

theorem rd_drop0 (m : Bytes) (p w : Nat) (h : p + w ≤ m.length) :
    rd m p w = some (leAt (m.drop p) 0 w) :=
  (at_drop m p (by omega)).rd0 w (by rw [List.length_drop]; omega)

/-! ### big-endian reads -/

theorem beDec_cons (x : UInt8) (xs : Bytes) : beDec (x :: xs) = x.toNat * 256 ^ xs.length + beDec xs := by
  induction xs using snocInd generalizing x with
  | hnil => simp [beDec]
  | hsnoc ys y ih =>
    rw [← List.cons_append, beDec_append_singleton, beDec_append_singleton, ih]
    simp only [List.length_append, List.length_singleton, Nat.pow_succ]
    rw [Nat.add_mul, Nat.mul_assoc, Nat.add_assoc]

theorem beAt_zero (b : Bytes) (i : Nat) : beAt b i 0 = 0 := by simp [beAt, slice_zero]

theorem beAt_succ (b : Bytes) (i w : Nat) (h : i + (w + 1) ≤ b.length) :
    beAt b i (w + 1) = byteAt b i * 256 ^ w + beAt b (i + 1) w := by
  unfold beAt
  rw [slice_succ b i w (by omega), beDec_cons, slice_length_of_le b (i + 1) w (by omega)]
  rfl

theorem beAt_two (b : Bytes) (i : Nat) (h : i + 2 ≤ b.length) :
    beAt b i 2 = byteAt b i * 256 + byteAt b (i + 1) :=
  beAt_two_eq_byteAt b i h

theorem beAt_four (b : Bytes) (i : Nat) (h : i + 4 ≤ b.length) :
    beAt b i 4 = byteAt b i * 16777216 + byteAt b (i + 1) * 65536 + byteAt b (i + 2) * 256 + byteAt b (i + 3) := by
  rw [beAt_succ b i 3 h, beAt_succ b (i + 1) 2 (by omega), beAt_two b (i + 1 + 1) (by omega)]
  simp only [Nat.add_assoc, Nat.reduceAdd]

theorem beAt_eight (b : Bytes) (i : Nat) (h : i + 8 ≤ b.length) :
    beAt b i 8 = beAt b i 4 * 4294967296 + beAt b (i + 4) 4 := by
  rw [beAt_succ b i 7 h, beAt_succ b (i + 1) 6 (by omega), beAt_succ b (i + 1 + 1) 5 (by omega),
    beAt_succ b (i + 1 + 1 + 1) 4 (by omega), beAt_four b i (by omega)]
  simp only [Nat.add_assoc, Nat.reduceAdd]; omega

theorem beAt_drop (b : Bytes) (k i w : Nat) : beAt (b.drop k) i w = beAt b (k + i) w :=
  beAt_drop_add b k i w

/-! ### little-endian encoding, and byte reversal

  `leEnc` inverts `leDec`; the big-endian value of a byte list is the little-endian value of its reversal.  So storing
  `beDec (leEnc w v)` — `v` with its `w` bytes reversed — stores `beEnc w v`, and reversing the bytes of a little-endian
  member gives the big-endian reading of the same bytes. -/

theorem leEnc_length (w v : Nat) : (leEnc w v).length = w := by
  induction w generalizing v with
  | zero => rfl
  | succ w ih => simp only [leEnc, List.length_cons, ih]

theorem leEnc_leDec (l : Bytes) : leEnc l.length (leDec l) = l := by
  induction l with
  | nil => rfl
  | cons x xs ih =>
    have hx := x.toNat_lt
    have e1 : (x.toNat + 256 * leDec xs) % 256 = x.toNat := by omega
    have e2 : (x.toNat + 256 * leDec xs) / 256 = leDec xs := by omega
    simp only [List.length_cons, leEnc, leDec, e1, e2, ih, UInt8.ofNat_toNat]

theorem leDec_reverse (l : Bytes) : leDec l.reverse = beDec l := by
  induction l using snocInd with
  | hnil => rfl
  | hsnoc xs x ih =>
    rw [List.reverse_append, List.reverse_singleton, List.singleton_append, beDec_append_singleton, leDec, ih]
    omega

theorem reverse_leEnc (w v : Nat) : (leEnc w v).reverse = beEnc w v := by
  induction w generalizing v with
  | zero => rfl
  | succ w ih => simp only [leEnc, beEnc, List.reverse_cons, ih]

theorem leEnc_beDec (l : Bytes) : leEnc l.length (beDec l) = l.reverse := by
  have h := leEnc_leDec l.reverse
  rwa [List.length_reverse, leDec_reverse] at h

theorem leEnc_beDec_leEnc (w v : Nat) : leEnc w (beDec (leEnc w v)) = beEnc w v := by
  have h := leEnc_beDec (leEnc w v)
  rwa [leEnc_length, reverse_leEnc] at h

theorem leEnc_leAt (b : Bytes) (i w : Nat) (h : i + w ≤ b.length) : leEnc w (leAt b i w) = slice b i w := by
  have e := leEnc_leDec (slice b i w)
  rwa [slice_length_of_le b i w h] at e

theorem beDec_leEnc_leAt (b : Bytes) (i w : Nat) (h : i + w ≤ b.length) :
    beDec (leEnc w (leAt b i w)) = beAt b i w := by
  rw [leEnc_leAt b i w h]; rfl

theorem beDec_leEnc_zero (v : Nat) : beDec (leEnc 0 v) = 0 := rfl

/-- byte reversal one byte at a time: the lowest byte of `v` goes to the top -/
theorem beDec_leEnc_succ (w v : Nat) :
    beDec (leEnc (w + 1) v) = beDec (leEnc w (v / 256)) + v % 256 * 256 ^ w := by
  rw [leEnc, beDec_cons, leEnc_length, UInt8.toNat_ofNat', Nat.add_comm]
  simp only [Nat.reducePow, Nat.mod_mod]

/-! ### writes, and reads after a write: at the written range, disjoint from it -/

theorem wr_eq (m : Bytes) (a w v : Nat) (h : a + w ≤ m.length) : wr m a w v = some (writeAt m a (leEnc w v)) := by
  unfold wr; rw [if_pos h]

theorem wrBytes_eq (m : Bytes) (a : Nat) (src : Bytes) (n : Nat) (h1 : n ≤ src.length) (h2 : a + n ≤ m.length) :
    wrBytes m a src n = some (writeAt m a (src.take n)) := by
  unfold wrBytes; rw [if_pos ⟨h1, h2⟩]

theorem wr_length (m : Bytes) (a w v : Nat) (h : a + w ≤ m.length) : (writeAt m a (leEnc w v)).length = m.length :=
  writeAt_length_of_le _ _ _ (by rw [leEnc_length]; exact h)

theorem leDec_leEnc (w v : Nat) : leDec (leEnc w v) = v % 256 ^ w := by
  induction w generalizing v with
  | zero => simp [leEnc, leDec, Nat.mod_one]
  | succ w ih =>
    have h : (UInt8.ofNat (v % 256)).toNat = v % 256 := by simp
    simp only [leEnc, leDec, ih, h, Nat.pow_succ]
    rw [Nat.mul_comm (256 ^ w) 256, Nat.mod_mul]

/-- a member read back after it was stored: the value stored, truncated to the member's width -/
theorem leAt_writeAt_same (m : Bytes) (a w v : Nat) (h : a + w ≤ m.length) :
    leAt (writeAt m a (leEnc w v)) a w = v % 256 ^ w := by
  have e := slice_writeAt_of_le m a (leEnc w v) (by omega)
  rw [leEnc_length] at e
  rw [leAt, e, leDec_leEnc]

theorem rd_writeAt_same (m : Bytes) (a w v : Nat) (h : a + w ≤ m.length) :
    rd (writeAt m a (leEnc w v)) a w = some (v % 256 ^ w) := by
  rw [rd_eq _ _ _ (by rw [wr_length m a w v h]; exact h), leAt_writeAt_same m a w v h]

/-- a read that does not overlap the written bytes gives what it gave before, defined or not -/
theorem rd_writeAt_other (m : Bytes) (a : Nat) (x : Bytes) (b w : Nat) (h : a + x.length ≤ m.length)
    (hd : b + w ≤ a ∨ a + x.length ≤ b) : rd (writeAt m a x) b w = rd m b w := by
  unfold rd leAt
  rw [writeAt_length_of_le _ _ _ h, slice_writeAt_other h hd]

/-! ### modular arithmetic of `size_t` that does not wrap -/

theorem usub_eq (x y : Nat) (h1 : y ≤ x) (h2 : x < 2 ^ 64) : usub 64 x y = x - y := by
  unfold usub
  have : x + 2 ^ 64 - y = (x - y) + 2 ^ 64 := by omega
  rw [this, Nat.add_mod_right, Nat.mod_eq_of_lt (by omega)]

theorem uadd_eq (x y : Nat) (h : x + y < 2 ^ 64) : uadd 64 x y = x + y := by
  unfold uadd; exact Nat.mod_eq_of_lt h

/-! ### building a 16-bit value from two bytes: `(hi << 8) | lo` -/

theorem or_byte (x y : Nat) (h : y < 256) : x * 256 ||| y = x * 256 + y := by
  have := Nat.two_pow_add_eq_or_of_lt (i := 8) (b := y) (by omega) x
  rw [Nat.mul_comm] at this
  exact this.symm

theorem ushl_byteAt (b : Bytes) (i : Nat) : ushl 64 (byteAt b i) 8 = some (byteAt b i * 256) := by
  have := byteAt_lt_256 b i
  unfold ushl
  rw [if_pos (by decide), Nat.shiftLeft_eq, Nat.mod_eq_of_lt (by omega)]

theorem or_byteAt (x : Nat) (b : Bytes) (i : Nat) : x * 256 ||| byteAt b i = x * 256 + byteAt b i :=
  or_byte _ _ (byteAt_lt_256 b i)

/-- the 16-bit big-endian read that the C++ writes out as `(p[0] << 8) | p[1]` -/
theorem be16_or (b : Bytes) (i : Nat) (h : i + 2 ≤ b.length) : byteAt b i * 256 ||| byteAt b (i + 1) = beAt b i 2 := by
  rw [or_byteAt, beAt_two b i h]

end AsamCmp.SrcTie
