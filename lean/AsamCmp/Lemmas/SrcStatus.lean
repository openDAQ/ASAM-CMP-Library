/-
  Source-level status tracker: how the model's records are represented as the translated member records (`oPkt`, `ifSt`,
  `devSt`, `stSt`), and the vector primitives of the translated methods (Src/Obj.lean: `findIdxD`, `getIdx`, `swapIdx`,
  `nonEmptyL`) against the list operations of the model (Status.lean: `findIdx`, `List.modify`, `swapRemove`) through that
  representation.  Nothing here mentions a translated method.
-/
import AsamCmp.GeneratedSrcObj
import AsamCmp.Lemmas.Status
import AsamCmp.Lemmas.SrcPrim
namespace AsamCmp.SrcSt
open AsamCmp AsamCmp.Src AsamCmp.SrcGen

/-- what the tracker observes of a packet of the model -/
def oPkt (p : Packet) : OPkt :=
  [("getDeviceId", p.deviceId), ("getPayload.getType", p.pty), ("getPayload.as_InterfacePayload.getInterfaceId", p.payloadIfId)]

/-- the model's state as the translated member records; `img` is how a stored packet is represented (any injective-enough image
    that keeps the observed values: the theorems need only `opq (img p) "getDeviceId" = p.deviceId`) -/
def ifSt (img : Packet → OPkt) (i : IfSt) : InterfaceStatus_St := { f_interfacePacket := img i.pkt, f_interfaceId := i.id }
def devSt (img : Packet → OPkt) (d : DevSt) : DeviceStatus_St := { f_interfaces := d.ifs.map (ifSt img), f_devicePacket := img d.pkt }
def stSt (img : Packet → OPkt) (s : StatusSt) : Status_St := { f_devices := s.map (devSt img) }

/-! ### `find_if` + `distance` -/

theorem findIdxD_map {α β : Type} (f : β → Bool) (g : α → β) (l : List α) :
    findIdxD f (l.map g) = findIdx (fun x => f (g x)) l := by
  induction l with
  | nil => rfl
  | cons x xs ih => simp only [List.map_cons, findIdxD, findIdx, ih]

/-! ### `v[i]`, assignment through `v[i]` -/

theorem getIdx_map {α β : Type} (g : α → β) (l : List α) (i : Nat) (h : i < l.length) :
    getIdx (l.map g) i = some (g l[i]) := by
  simp only [getIdx, List.getElem?_map, List.getElem?_eq_getElem h, Option.map_some]

theorem set_map_eq {α β : Type} (g : α → β) (l : List α) (i : Nat) (x : α) :
    (l.map g).set i (g x) = (l.set i x).map g := List.map_set.symm

theorem modify_eq_set_getElem {α : Type} (f : α → α) (l : List α) (i : Nat) (h : i < l.length) :
    l.modify i f = l.set i (f l[i]) := by
  apply List.ext_getElem?
  intro j
  rw [List.getElem?_modify, List.getElem?_set]
  by_cases hij : i = j
  · subst hij
    simp only [if_true, h, List.getElem?_eq_getElem h, Option.map_eq_map, Option.map_some]
  · simp only [hij, if_false]
    cases l[j]? <;> rfl

/-! ### `std::swap(v[i], v.back()); v.pop_back()` -/

theorem swapIdx_last {α : Type} (l : List α) (i : Nat) (h : i < l.length) (h64 : l.length < 2 ^ 64) :
    swapIdx l i (usub 64 l.length 1) = some (C16.swapped l i h) := by
  have hl : l.length - 1 < l.length := by omega
  rw [SrcTie.usub_eq _ _ (by omega) h64]
  unfold swapIdx C16.swapped
  rw [List.getElem?_eq_getElem h, List.getElem?_eq_getElem hl]

theorem nonEmptyL_swapped {α : Type} (l : List α) (i : Nat) (h : i < l.length) : nonEmptyL (C16.swapped l i h) = some () := by
  have hlen := C16.length_swapped l i h
  unfold nonEmptyL
  cases hs : C16.swapped l i h with
  | nil => rw [hs] at hlen; simp at hlen; omega
  | cons a t => rfl

theorem swapRemove_map {α β : Type} (g : α → β) (l : List α) (i : Nat) :
    swapRemove (l.map g) i = (swapRemove l i).map g := by
  unfold swapRemove
  rw [List.getLast?_map]
  cases l.getLast? with
  | none => rfl
  | some x => simp only [Option.map_some, List.map_dropLast, List.map_set]

/-- the whole removal on the image of a model list (the vector's size already read through the map) -/
theorem swapPop_map {α β : Type} (g : α → β) (l : List α) (i : Nat) (h : i < l.length) (h64 : l.length < 2 ^ 64) :
    ∃ t, swapIdx (l.map g) i (usub 64 l.length 1) = some t ∧ nonEmptyL t = some () ∧ t.dropLast = (swapRemove l i).map g := by
  have h' : i < (l.map g).length := by rw [List.length_map]; exact h
  refine ⟨C16.swapped (l.map g) i h', ?_, nonEmptyL_swapped _ _ _, ?_⟩
  · have := swapIdx_last (l.map g) i h' (by rw [List.length_map]; exact h64)
    rw [List.length_map] at this
    exact this
  · rw [C16.dropLast_swapped, swapRemove_map]

end AsamCmp.SrcSt
