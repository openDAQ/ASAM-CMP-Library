/-
  Source-level C13: helpers for the translated payload builders (`Props/SrcBuilders.lean`).

  The object's memory is kept in the normal form `writeAt R p W` (one write of the concatenation `W` of everything written so
  far, `R` the resized vector): a `memcpy` / member write directly behind the bytes written so far extends `W`.
-/
import AsamCmp.Lemmas.SrcAccess
import AsamCmp.Lemmas.SrcSimpAttr
import AsamCmp.Builders
set_option linter.unusedSimpArgs false
namespace AsamCmp.SrcTie
open AsamCmp AsamCmp.Src AsamCmp.SrcGen

/-! ### lists: `writeAt`, `resize` -/

/-- a write directly behind a write -/
theorem writeAt_writeAt_adj (l : Bytes) (p q : Nat) (u v : Bytes) (hq : q = p + u.length)
    (h : q + v.length ≤ l.length) : writeAt (writeAt l p u) q v = writeAt l p (u ++ v) := by
  subst hq
  have hA : (l.take p).length = p := by simp only [List.length_take]; omega
  have hAu : (l.take p ++ u).length = p + u.length := by simp only [List.length_append, hA]
  have e2 : (l.take p ++ u ++ l.drop (p + u.length)).drop (p + u.length + v.length)
      = l.drop (p + u.length + v.length) := by
    rw [List.drop_append, List.drop_of_length_le (by omega), List.nil_append, List.drop_drop, hAu]
    congr 1; omega
  unfold writeAt
  rw [List.take_left' hAu, e2, List.length_append]
  simp only [List.append_assoc, Nat.add_assoc]

/-- a write directly in front of a write -/
theorem writeAt_writeAt_before (l : Bytes) (p q : Nat) (u v : Bytes) (hq : q = p + u.length)
    (h : q + v.length ≤ l.length) : writeAt (writeAt l q v) p u = writeAt l p (u ++ v) := by
  subst hq
  have hA : (l.take (p + u.length)).length = p + u.length := by simp only [List.length_take]; omega
  have e1 : (l.take (p + u.length) ++ v ++ l.drop (p + u.length + v.length)).take p = l.take p := by
    rw [List.append_assoc, List.take_append_of_le_length (by omega), List.take_take]
    congr 1; omega
  have e2 : (l.take (p + u.length) ++ v ++ l.drop (p + u.length + v.length)).drop (p + u.length)
      = v ++ l.drop (p + u.length + v.length) := by
    rw [List.append_assoc, List.drop_left' hA]
  unfold writeAt
  rw [e1, e2, List.length_append]
  simp only [List.append_assoc, Nat.add_assoc]

/-- a write that ends at the end of the memory -/
theorem writeAt_to_end (l : Bytes) (p : Nat) (w : Bytes) (h : p + w.length = l.length) :
    writeAt l p w = l.take p ++ w := by
  unfold writeAt
  rw [List.drop_of_length_le (by omega), List.append_nil]

/-- shrinking the vector to the end of what was written -/
theorem resize_writeAt (l : Bytes) (p k : Nat) (w : Bytes) (hk : k = p + w.length) (h : k ≤ l.length) :
    resize (writeAt l p w) k = l.take p ++ w := by
  subst hk
  have hA : (l.take p).length = p := by simp only [List.length_take]; omega
  have hl := writeAt_length_of_le l p w h
  unfold resize
  rw [if_pos (by omega)]
  unfold writeAt
  exact List.take_left' (by simp only [List.length_append, hA])

theorem resize_nil (n : Nat) : resize [] n = zeros n := by
  unfold resize zeros
  cases n with
  | zero => rfl
  | succ k => simp

theorem take_resize (m : Bytes) (k n : Nat) (h : k ≤ n) : (resize m n).take k = resize m k := by
  unfold resize
  by_cases h1 : n ≤ m.length
  · rw [if_pos h1, if_pos (by omega), List.take_take]; congr 1; omega
  · rw [if_neg h1]
    by_cases h2 : k ≤ m.length
    · rw [if_pos h2, List.take_append_of_le_length h2]
    · rw [if_neg h2, List.take_append, List.take_of_length_le (by omega), List.take_replicate]
      congr 2; omega

theorem take_resize_self (m : Bytes) (k : Nat) : (resize m k).take k = resize m k :=
  take_resize m k k (Nat.le_refl k)

theorem setTail_eq_resize (hdr : Nat) (m d : Bytes) : setTail hdr m d = resize m hdr ++ d := by
  unfold setTail; rw [take_resize_self]

theorem setTail_length (hdr : Nat) (m d : Bytes) : (setTail hdr m d).length = hdr + d.length := by
  rw [setTail_eq_resize, List.length_append, resize_length]

theorem zeros_length (n : Nat) : (zeros n).length = n := by simp [zeros]

theorem take_all (l : Bytes) (n : Nat) (h : l.length ≤ n) : l.take n = l := List.take_of_length_le h

/-! ### memory writes -/

/-- a `memcpy` of a whole local integer is a store of that integer -/
theorem wrBytes_leEnc (m : Bytes) (a w v : Nat) : wrBytes m a (leEnc w v) w = wr m a w v := by
  unfold wrBytes wr
  rw [List.take_of_length_le (Nat.le_of_eq (leEnc_length w v)), leEnc_length]
  simp only [Nat.le_refl, true_and]

theorem wr_behind (l : Bytes) (p q w v : Nat) (u : Bytes) (hq : q = p + u.length) (h : q + w ≤ l.length) :
    wr (writeAt l p u) q w v = some (writeAt l p (u ++ leEnc w v)) := by
  rw [wr_eq _ _ _ _ (by rw [writeAt_length_of_le l p u (by omega)]; exact h),
    writeAt_writeAt_adj l p q u _ hq (by rw [leEnc_length]; exact h)]

theorem wrBytes_behind (l : Bytes) (p q n : Nat) (u src : Bytes) (hq : q = p + u.length) (hn : n ≤ src.length)
    (h : q + n ≤ l.length) : wrBytes (writeAt l p u) q src n = some (writeAt l p (u ++ src.take n)) := by
  rw [wrBytes_eq _ _ _ _ hn (by rw [writeAt_length_of_le l p u (by omega)]; exact h),
    writeAt_writeAt_adj l p q u _ hq (by rw [List.length_take_of_le hn]; exact h)]

theorem u8_ofNat_mod (v : Nat) : UInt8.ofNat (v % 256) = UInt8.ofNat v := by
  apply UInt8.toNat_inj.mp; simp

theorem leEnc_one (v : Nat) : leEnc 1 v = [UInt8.ofNat v] := by
  simp only [leEnc, u8_ofNat_mod]

/-! ### `int` arithmetic on small non-negative values -/

theorem toInt_small (x : Nat) (h : x < 2 ^ 31) : toInt 32 x = (x : Int) := by
  unfold toInt; rw [if_pos h]

theorem ofInt_small (x : Nat) (h : x < 2 ^ 31) : ofInt 32 (x : Int) = some x := by
  unfold ofInt
  have h1 : -((2 ^ (32 - 1) : Nat) : Int) ≤ (x : Int) ∧ (x : Int) < ((2 ^ (32 - 1) : Nat) : Int) := by
    constructor <;> omega
  rw [if_pos h1]
  have h2 : (x : Int) % ((2 ^ 32 : Nat) : Int) = (x : Int) := by omega
  rw [h2, Int.toNat_natCast]

theorem sle_small (x y : Nat) (hx : x < 2 ^ 31) (hy : y < 2 ^ 31) : sle 32 x y = decide (x ≤ y) := by
  unfold sle; rw [toInt_small x hx, toInt_small y hy]
  simp only [Int.ofNat_le]

theorem sadd_small (x y : Nat) (h : x + y < 2 ^ 31) : sadd 32 x y = some (x + y) := by
  unfold sadd; rw [toInt_small x (by omega), toInt_small y (by omega), ← Int.natCast_add, ofInt_small _ h]

theorem smod_small (x y : Nat) (hx : x < 2 ^ 31) (hy : y < 2 ^ 31) (h0 : y ≠ 0) : smod 32 x y = some (x % y) := by
  unfold smod
  rw [if_neg h0, toInt_small x hx, toInt_small y hy, ← Int.ofNat_tmod, ofInt_small]
  exact Nat.lt_of_le_of_lt (Nat.mod_le x y) hx

theorem nonneg_small (x : Nat) (h : x < 2 ^ 31) : nonneg 32 x = some x := by
  unfold nonneg; rw [if_pos h]

theorem psub_zero (p : Nat) : psub p 0 = some p := by
  unfold psub; rw [if_pos (Nat.zero_le p)]; rfl

/-! ### `CanPayloadBase::encodeDlc` -/

theorem encodeDlc_src (this n : Nat) (h : n < 256) : CanPayloadBase_encodeDlc this n = some (dlcOf n) := by
  unfold CanPayloadBase_encodeDlc dlcOf
  rw [sle_small n 8 (by omega) (by omega), sle_small n 12 (by omega) (by omega), sle_small n 16 (by omega) (by omega),
    sle_small n 20 (by omega) (by omega), sle_small n 24 (by omega) (by omega), sle_small n 32 (by omega) (by omega),
    sle_small n 48 (by omega) (by omega)]
  simp only [pure, decide_eq_true_eq, beq_iff_eq, ite_some]

/-! ### `Payload::setData<Header>` -/

/-- Every instantiation `F` of the template `Payload::setData<Header>` (their generated names carry an overload counter, so
    `F` is found by unification and its body checked by `rfl`): resize to header + data, copy the data behind the header. -/
theorem payload_setData_spec (F : Bytes → Nat → Bytes → Nat → Option Bytes) (hdr : Nat)
    (hF : ∀ m this_ x_data a_size, F m this_ x_data a_size = (do
      let m := resize m (uadd 64 hdr a_size)
      let m ← wrBytes m (0 + hdr) x_data a_size
      pure m))
    (m : Bytes) (this : Nat) (x : Bytes) (n : Nat) (hn : n ≤ x.length) (h64 : hdr + n < 2 ^ 64) :
    F m this x n = some (setTail hdr m (x.take n)) := by
  have hl : (x.take n).length = n := List.length_take_of_le hn
  rw [hF, uadd_eq hdr n h64]
  simp only [Nat.zero_add]
  rw [wrBytes_eq _ _ _ _ hn (by rw [resize_length]; omega)]
  try simp only [bind, pure, some_bind]
  rw [writeAt_to_end _ _ _ (by rw [resize_length, hl]), take_resize m hdr (hdr + n) (by omega), setTail_eq_resize]

/-! ### `cmString` -/

theorem cmString_length_eq (s : Bytes) : (cmString s).length = 2 + (s.length + 1 + (s.length + 1) % 2) := by
  simp only [cmString, List.length_append, beEnc_length, zeros_length]; omega

theorem cmString_even (s : Bytes) (h : (s.length + 1) % 2 = 0) :
    cmString s = beEnc 2 (s.length + 1) ++ (s ++ [0]) := by
  have e : s.length + 1 - s.length = 1 := by omega
  simp only [cmString, h, Nat.add_zero, e, zeros, List.replicate_succ, List.replicate_zero, List.append_assoc]

theorem cmString_odd (s : Bytes) (h : (s.length + 1) % 2 = 1) :
    cmString s = beEnc 2 (s.length + 1 + 1) ++ (s ++ [0, 0]) := by
  have e : s.length + 1 + 1 - s.length = 2 := by omega
  simp only [cmString, h, e, zeros, List.replicate_succ, List.replicate_zero, List.append_assoc]

/-! ### tactics -/

attribute [local congr] bind_head_congr bind_head_congr'

attribute [len_simp] List.length_append List.length_take List.length_cons List.length_nil List.length_replicate
  beEnc_length leEnc_length resize_length zeros_length setTail_length cmString_length_eq writeAt_length_of_le

/-- side conditions about lengths and positions (the trailing `fail` keeps error recovery off in the alternatives) -/
syntax "len_omega" : tactic
macro_rules
  | `(tactic| len_omega) =>
    `(tactic| first
      | omega
      | (simp (disch := len_omega) only [len_simp] <;> omega)
      | fail "len_omega")

attribute [bld_simp ↓] some_bind none_bind wrBytes_leEnc wr_behind wrBytes_behind

-- once more when the arguments are in normal form, before `wr_eq`, `wrBytes_eq`
attribute [bld_simp high] wr_behind wrBytes_behind

attribute [bld_simp] bind pure some_bind Option.bind_assoc wr_eq wrBytes_eq writeAt_writeAt_adj writeAt_writeAt_before
  leEnc_one leEnc_swap16 leEnc_swap16_of_lt swap16_bytes uadd_eq usub_eq take_all List.take_length List.cons_append
  List.nil_append List.append_assoc Nat.zero_add Nat.mod_eq_of_lt

/-- normal form of a builder body (the rules `bld_simp`): every write becomes a `writeAt`, adjacent writes are merged; extra
    rewrite rules in brackets -/
syntax "bld_norm" " [" Lean.Parser.Tactic.simpLemma,* "]" : tactic
macro_rules
  | `(tactic| bld_norm [$ls,*]) => `(tactic| simp (disch := len_omega) only [bld_simp, ↓reduceIte, $ls,*])

/-- `bld_norm`, resolving on the way the calls whose value is known by unfolding (`…_getHeader_v2 0 m.length this`) -/
syntax "bld_calls" " [" Lean.Parser.Tactic.simpLemma,* "]" : tactic
macro_rules
  | `(tactic| bld_calls [$ls,*]) =>
    `(tactic| ((try bld_norm [$ls,*]);
               repeat (guard_target =~ Option.bind _ _ = _; refine bind_of_eq rfl ?_; bld_norm [$ls,*])))

/-! ### `CaptureModulePayload::fillWithString` -/

/-- one string block: `fillWithString` at position `p` of a memory with room for it writes `cmString s` there (16-bit
    length — text + NUL, rounded up to even —, the text, one or two NULs) and returns the position behind it -/
theorem fillWithString_spec (m s : Bytes) (this p : Nat) (hs : s.length < 65534)
    (hp : p + (cmString s).length ≤ m.length) :
    CaptureModulePayload_fillWithString m this p s = some (writeAt m p (cmString s), p + (cmString s).length) := by
  simp (disch := omega) only [CaptureModulePayload_fillWithString, Nat.mod_eq_of_lt, sadd_small, smod_small, usub_eq, bind,
    pure, some_bind]
  -- in each case the parity is put into `hp` and then dropped, so that the side conditions are linear
  by_cases hpar : (s.length + 1) % 2 = 0
  · have hc := cmString_even s hpar
    simp only [cmString_length_eq, hpar, Nat.reduceBNe, Bool.false_eq_true, eq_self, ↓reduceIte, Nat.add_zero] at hp ⊢
    clear hpar
    bld_norm [Nat.add_sub_cancel_left, hc, List.take_succ_cons, List.take_zero]
    congr 2; omega
  · have h1 : (s.length + 1) % 2 = 1 := by omega
    have hc := cmString_odd s h1
    have e : s.length + 1 + 1 - s.length = 2 := by omega
    simp only [cmString_length_eq, h1, Nat.reduceBNe, Bool.false_eq_true, eq_self, ↓reduceIte] at hp ⊢
    clear hpar h1
    bld_norm [e, hc, List.take_succ_cons, List.take_zero]
    congr 2; omega

end AsamCmp.SrcTie
