/-
  Helper lemmas for C11 / C12: bit-range arithmetic on one word (`ext` / `upd`, by `Nat.testBit`)
  and the byte-level facts on `writeAt` / `slice`.
-/
import AsamCmp.Fields
import AsamCmp.Lemmas.BytesBasic
namespace AsamCmp.C11
open AsamCmp

/-- the bit range `[s, s+k)` of `W` -/
def ext (s k W : Nat) : Nat := W / 2 ^ s % 2 ^ k

/-- `W` with the bit range `[s, s+k)` replaced by `v` (as `setField` computes it) -/
def upd (s k v W : Nat) : Nat := W - (W / 2 ^ s % 2 ^ k) * 2 ^ s + v * 2 ^ s

theorem testBit_of_lt {x n i : Nat} (h : x < 2 ^ n) (hi : n ≤ i) : x.testBit i = false :=
  Nat.testBit_lt_two_pow (Nat.lt_of_lt_of_le h (Nat.pow_le_pow_right (by decide) hi))

theorem upd_eq (s k v W : Nat) :
    upd s k v W = 2 ^ s * (2 ^ k * (W / 2 ^ (s + k)) + v) + W % 2 ^ s := by
  unfold upd
  have h : W = 2 ^ s * (2 ^ k * (W / 2 ^ (s + k)) + W / 2 ^ s % 2 ^ k) + W % 2 ^ s := by
    rw [Nat.pow_add, ← Nat.div_div_eq_div_mul, Nat.div_add_mod, Nat.div_add_mod]
  -- with the quotients, remainders and powers as atoms the claim is linear
  generalize W / 2 ^ (s + k) = hi at h ⊢
  generalize hold : W / 2 ^ s % 2 ^ k = old at h ⊢
  generalize W % 2 ^ s = lo at h ⊢
  generalize 2 ^ s = A at h ⊢
  generalize 2 ^ k = B at h ⊢
  rw [h]
  simp only [Nat.mul_add]
  rw [Nat.mul_comm old A, Nat.mul_comm v A]
  generalize A * (B * hi) = X
  generalize A * old = Y
  generalize A * v = Z
  omega

theorem testBit_ext (s k W i : Nat) :
    (ext s k W).testBit i = (decide (i < k) && W.testBit (s + i)) := by
  unfold ext
  rw [Nat.testBit_mod_two_pow, Nat.testBit_div_two_pow, Nat.add_comm]

theorem testBit_upd {s k v : Nat} (W : Nat) (hv : v < 2 ^ k) (i : Nat) :
    (upd s k v W).testBit i =
      if s ≤ i ∧ i < s + k then v.testBit (i - s) else W.testBit i := by
  rw [upd_eq, Nat.testBit_two_pow_mul_add _ (Nat.mod_lt _ (Nat.two_pow_pos s))]
  by_cases h1 : i < s
  · rw [if_pos h1, if_neg (by omega), Nat.testBit_mod_two_pow]
    simp [h1]
  · rw [if_neg h1, Nat.testBit_two_pow_mul_add _ hv]
    by_cases h2 : i - s < k
    · rw [if_pos h2, if_pos (by omega)]
    · rw [if_neg h2, if_neg (by omega), Nat.testBit_div_two_pow]
      congr 1
      omega

theorem ext_lt (s k W : Nat) : ext s k W < 2 ^ k := Nat.mod_lt _ (Nat.two_pow_pos k)

theorem upd_lt {s k v n W : Nat} (hW : W < 2 ^ n) (hn : s + k ≤ n) (hv : v < 2 ^ k) :
    upd s k v W < 2 ^ n := by
  apply Nat.lt_pow_two_of_testBit
  intro i hi
  rw [testBit_upd W hv, if_neg (by omega)]
  exact testBit_of_lt hW hi

theorem ext_upd_same {s k v : Nat} (W : Nat) (hv : v < 2 ^ k) : ext s k (upd s k v W) = v := by
  apply Nat.eq_of_testBit_eq
  intro i
  rw [testBit_ext, testBit_upd W hv]
  by_cases h : i < k
  · rw [if_pos (by omega)]
    simp [h]
  · simp only [h, decide_false, Bool.false_and]
    exact (testBit_of_lt hv (by omega)).symm

theorem ext_upd_other {s k v t m : Nat} (W : Nat) (hv : v < 2 ^ k) (hd : t + m ≤ s ∨ s + k ≤ t) :
    ext t m (upd s k v W) = ext t m W := by
  apply Nat.eq_of_testBit_eq
  intro i
  rw [testBit_ext, testBit_ext, testBit_upd W hv]
  by_cases h : i < m
  · rw [if_neg (by omega)]
  · simp [h]

theorem upd_upd_same {s k u v : Nat} (W : Nat) (hu : u < 2 ^ k) (hv : v < 2 ^ k) :
    upd s k v (upd s k u W) = upd s k v W := by
  apply Nat.eq_of_testBit_eq
  intro i
  rw [testBit_upd _ hv, testBit_upd _ hv, testBit_upd _ hu]
  split
  · rfl
  · rfl

theorem upd_ext_id (s k W : Nat) : upd s k (ext s k W) W = W := by
  apply Nat.eq_of_testBit_eq
  intro i
  rw [testBit_upd _ (ext_lt s k W), testBit_ext]
  split
  · next h =>
    have : s + (i - s) = i := by omega
    rw [this]
    simp
    omega
  · rfl

theorem upd_upd_comm {s k v t m u : Nat} (W : Nat) (hv : v < 2 ^ k) (hu : u < 2 ^ m)
    (hd : t + m ≤ s ∨ s + k ≤ t) :
    upd s k v (upd t m u W) = upd t m u (upd s k v W) := by
  apply Nat.eq_of_testBit_eq
  intro i
  rw [testBit_upd _ hv, testBit_upd _ hu, testBit_upd _ hu, testBit_upd _ hv]
  by_cases h1 : s ≤ i ∧ i < s + k
  · rw [if_pos h1, if_neg (by omega), if_pos h1]
  · rw [if_neg h1, if_neg h1]

theorem upd_full {n v W : Nat} (hW : W < 2 ^ n) (hv : v < 2 ^ n) : upd 0 n v W = v := by
  apply Nat.eq_of_testBit_eq
  intro i
  rw [testBit_upd _ hv]
  split
  · rfl
  · next h =>
    rw [testBit_of_lt hW (by omega), testBit_of_lt hv (by omega)]

theorem writeAt_slice_self {b : Bytes} {off w : Nat} (h : off + w ≤ b.length) :
    writeAt b off (slice b off w) = b := by
  have hl := slice_length_of_le _ _ _ h
  apply List.ext_getElem?
  intro i
  rw [getElem?_writeAt (by omega), hl, getElem?_slice]
  by_cases h1 : i < off
  · simp only [h1, if_true]
  · by_cases h2 : i < off + w
    · have h3 : i - off < w := by omega
      simp only [h1, h2, h3, if_true, if_false]
      congr 1
      omega
    · simp only [h1, h2, if_false]

theorem writeAt_comm {b : Bytes} {off off' : Nat} {x y : Bytes} (h : off + x.length ≤ b.length)
    (h' : off' + y.length ≤ b.length) (hd : off' + y.length ≤ off ∨ off + x.length ≤ off') :
    writeAt (writeAt b off' y) off x = writeAt (writeAt b off x) off' y := by
  have hl := writeAt_length_of_le _ _ _ h
  have hl' := writeAt_length_of_le _ _ _ h'
  apply List.ext_getElem?
  intro i
  rw [getElem?_writeAt (b := writeAt b off' y) (off := off) (x := x) (by omega),
    getElem?_writeAt (b := writeAt b off x) (off := off') (x := y) (by omega),
    getElem?_writeAt h, getElem?_writeAt h']
  by_cases h1 : i < off <;> by_cases h2 : i < off + x.length <;>
    by_cases h3 : i < off' <;> by_cases h4 : i < off' + y.length <;>
    first
      | (exfalso; omega)
      | simp only [h1, h2, h3, h4, if_true, if_false]

theorem pow256 (w : Nat) : 256 ^ w = 2 ^ (8 * w) := by
  rw [Nat.pow_mul]

theorem beAt_writeAt_same {b : Bytes} {off w X : Nat} (h : off + w ≤ b.length)
    (hX : X < 2 ^ (8 * w)) : beAt (writeAt b off (beEnc w X)) off w = X := by
  rw [beAt_writeAt_enc X h, pow256]
  exact Nat.mod_eq_of_lt hX

theorem getField_eq (f : Field) (b : Bytes) :
    getField f b = ext f.shift f.bits (beAt b f.off f.w) := rfl

theorem setField_eq (f : Field) (v : Nat) (b : Bytes) :
    setField f v b =
      writeAt b f.off (beEnc f.w (upd f.shift f.bits v (beAt b f.off f.w))) := rfl

/-- same word, disjoint absolute bit intervals: the shift ranges are disjoint -/
theorem shifts_disjoint {f g : Field} (hf : f.shift + f.bits ≤ 8 * f.w)
    (hg : g.shift + g.bits ≤ 8 * g.w) (ho : f.off = g.off) (hw : f.w = g.w)
    (hd : f.disjoint g = true) :
    g.shift + g.bits ≤ f.shift ∨ f.shift + f.bits ≤ g.shift := by
  unfold Field.disjoint at hd
  simp only [Bool.or_eq_true, decide_eq_true_eq] at hd
  unfold Field.lo Field.hi at hd
  omega

section field
variable {f : Field} {b : Bytes}

theorem length_setField (v : Nat) (hb : f.off + f.w ≤ b.length) :
    (setField f v b).length = b.length := by
  rw [setField_eq]
  exact writeAt_length_of_le _ _ _ (by rw [beEnc_length]; exact hb)

theorem beAt_setField_same {v : Nat} (hs : f.shift + f.bits ≤ 8 * f.w)
    (hb : f.off + f.w ≤ b.length) (hv : v < 2 ^ f.bits) :
    beAt (setField f v b) f.off f.w = upd f.shift f.bits v (beAt b f.off f.w) := by
  rw [setField_eq]
  exact beAt_writeAt_same hb (upd_lt (beAt_lt_two_pow _ _ _) hs hv)

theorem beAt_setField_other {v : Nat} (hb : f.off + f.w ≤ b.length) {off' w' : Nat}
    (hd : off' + w' ≤ f.off ∨ f.off + f.w ≤ off') :
    beAt (setField f v b) off' w' = beAt b off' w' := by
  rw [setField_eq]
  exact beAt_writeAt_other (by rw [beEnc_length]; exact hb) (by rw [beEnc_length]; exact hd)

theorem getField_setField_same {v : Nat} (hs : f.shift + f.bits ≤ 8 * f.w)
    (hb : f.off + f.w ≤ b.length) (hv : v < 2 ^ f.bits) :
    getField f (setField f v b) = v := by
  rw [getField_eq, beAt_setField_same hs hb hv]
  exact ext_upd_same _ hv

theorem getField_setField_other {g : Field} {v : Nat} (hs : f.shift + f.bits ≤ 8 * f.w)
    (hb : f.off + f.w ≤ b.length) (hgs : g.shift + g.bits ≤ 8 * g.w)
    (hv : v < 2 ^ f.bits) (hd : f.disjoint g = true)
    (hw : (f.off = g.off ∧ f.w = g.w) ∨ f.off + f.w ≤ g.off ∨ g.off + g.w ≤ f.off) :
    getField g (setField f v b) = getField g b := by
  rw [getField_eq, getField_eq]
  rcases hw with ⟨ho, hw⟩ | hw
  · rw [← ho, ← hw, beAt_setField_same hs hb hv]
    exact ext_upd_other _ hv (shifts_disjoint hs hgs ho hw hd)
  · rw [beAt_setField_other hb (by omega)]

theorem getElem?_setField_out (v : Nat) (hb : f.off + f.w ≤ b.length) {i : Nat}
    (hi : i < f.off ∨ f.off + f.w ≤ i) : (setField f v b)[i]? = b[i]? := by
  rw [setField_eq]
  exact getElem?_writeAt_out (by rw [beEnc_length]; exact hb) (by rw [beEnc_length]; exact hi)

end field

/-! ### an object of `n` bytes at address `this` of a memory -/

theorem header_mem {M hd : Bytes} {this n : Nat} (hM : this + n ≤ M.length) (hl : hd.length = n) :
    (writeAt M this hd).length = M.length ∧ slice (writeAt M this hd) this n = hd := by
  have := slice_writeAt_of_le M this hd (by omega)
  rw [hl] at this
  exact ⟨writeAt_length_of_le _ _ _ (by omega), this⟩

theorem length_setField_slice {M : Bytes} {this size : Nat} {f : Field} (v : Nat) (hM : this + size ≤ M.length)
    (hf : f.off + f.w ≤ size) : (setField f v (slice M this size)).length = size := by
  rw [length_setField v (by rw [slice_length_of_le _ _ _ hM]; exact hf), slice_length_of_le _ _ _ hM]

end AsamCmp.C11
