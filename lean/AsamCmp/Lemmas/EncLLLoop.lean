/-
  For the refinement of Props/C07b.lean: the `while` loop of `putPacket`, `putPacket` itself, the fold over
  the batch and the `encode` call.
-/
import AsamCmp.Lemmas.EncLLSim
namespace AsamCmp.C07b
open AsamCmp

theorem left_eq {c : Ctx} {s : Enc} {l : EncLL} (h : R c s l) {f : EFrame} (hcur : s.cur = some f) :
    s.left c = l.bytesLeft := by
  rw [(h.left f hcur).1]; simp [Enc.left, hcur]

theorem loop_unseg {c : Ctx} {s : Enc} {l : EncLL} (h : R c s l) {f : EFrame} (hcur : s.cur = some f)
    (i : Nat) (p : Packet) (hpl : p.payloadLength = p.data.length) (h1 : 1 ≤ p.payloadLength)
    (hfit : f.used + (16 + p.payloadLength) ≤ c.cap) :
    R c (s.add ⟨i, p, 0, p.data.take p.payloadLength⟩)
      (EncLL.putLoop p false (p.payloadLength + 1) l 0 0) := by
  obtain ⟨hbl, hu⟩ := h.left f hcur
  have hb16 : ¬ l.bytesLeft < 16 := by omega
  have hn : Nat.min (l.bytesLeft - 16) (p.payloadLength - 0) = p.payloadLength := by
    show min (l.bytesLeft - 16) (p.payloadLength - 0) = p.payloadLength
    omega
  rw [EncLL.putLoop_succ, if_neg (by omega)]
  simp only [EncLL.pre, EncLL.step1, EncLL.bytesToAdd, hb16, if_false, hn, EncLL.segFlag, Bool.false_eq_true]
  rw [if_neg (by decide), putLoop_done _ _ _ _ _ _ (by omega)]
  have hs : slice p.data 0 p.payloadLength = p.data.take p.payloadLength := by simp [slice]
  rw [← hs]
  exact add_R h hcur i p p.payloadLength 0 0 hfit (slice_length_of_le _ _ _ (by omega))

/-- the states at the head of an iteration: related as they are, or the low-level frame is full
    and the structured model has already opened the next one -/
def LoopHead (c : Ctx) (p : Packet) (s : Enc) (l : EncLL) : Prop :=
  (R c s l ∧ ¬ l.bytesLeft < 16) ∨
  (∃ s', R c s' l ∧ NoneNil s' ∧ l.bytesLeft < 16 ∧ s = s'.addNew p)

theorem loopHead_norm {c : Ctx} (hc : c.ok = true) {p : Packet} {s : Enc} {l : EncLL} (h : LoopHead c p s l) :
    R c s (if l.bytesLeft < 16 then l.addNewCMPFrame p else l) := by
  rcases h with ⟨h, hb⟩ | ⟨s', h, hn, hb, rfl⟩
  · rw [if_neg hb]; exact h
  · rw [if_pos hb]; exact addNew_R hc p h hn

/-- the flag the loop computes for the segment at `pos`, `rem` bytes before the end of the payload, is the one `segMsgs`
    gives the next chunk (`segMsgs_chunks`) -/
theorem segFlag_eq (first : Bool) (segInd w rem len pos : Nat) (hsum : pos + rem = len) (hfirst : first = true ↔ segInd = 0) :
    EncLL.segFlag true segInd (Nat.min w rem) len pos = if first = true then 4 else if rem ≤ w then 12 else 8 := by
  unfold EncLL.segFlag
  cases first with
  | true => rw [if_pos rfl, if_pos (hfirst.mp rfl), if_pos rfl]
  | false =>
    rw [if_pos rfl, if_neg (fun e => by cases hfirst.mpr e), if_neg Bool.false_ne_true]
    by_cases hle : rem ≤ w
    · have hm : Nat.min w rem = rem := Nat.min_eq_right hle
      rw [if_pos hle, hm, if_pos hsum]
    · have hm : Nat.min w rem = w := Nat.min_eq_left (by omega)
      rw [if_neg hle, hm, if_neg (by omega)]

/-- `w` is the payload width of a full segment and `rem` what is left of the payload behind `pos` -/
theorem loop_seg {c : Ctx} (hc : c.ok = true) (p : Packet) (hpl : p.payloadLength = p.data.length) (i w : Nat)
    (hw : c.cap = w + 16) (hw0 : 0 < w) :
    ∀ (fuel pos rem segInd : Nat) (first : Bool) (s : Enc) (l : EncLL),
      pos + rem = p.payloadLength → 0 < rem → rem ≤ fuel → (first = true ↔ segInd = 0) →
      LoopHead c p s l → (∃ f, s.cur = some f ∧ f.msgs = []) → (first = true → w < rem) →
      R c (putSegs s p (segMsgs i p first (chunks w (p.data.drop pos))))
        (EncLL.putLoop p true fuel l pos segInd) := by
  intro fuel
  induction fuel with
  | zero => intro pos rem segInd first s l _ h0 hfuel; omega
  | succ fuel ih =>
    intro pos rem segInd first s l hsum hrem hfuel hfirst hpre ⟨f, hcur, hfm⟩ hmulti
    have hR := loopHead_norm hc hpre
    generalize hl1 : (if l.bytesLeft < 16 then l.addNewCMPFrame p else l) = l1 at hR
    have hu0 : f.used = 0 := (used_zero_iff f).mpr hfm
    -- the open frame is empty: behind a message header there is room for `w` bytes
    have hbl : l1.bytesLeft - 16 = w := by
      have := (hR.left f hcur).1
      omega
    have hrm : p.payloadLength - pos = rem := by omega
    have hdl : (p.data.drop pos).length = rem := by rw [List.length_drop, ← hpl]; exact hrm
    have hchunk : (p.data.drop pos).take w = slice p.data pos (Nat.min w rem) := by
      unfold slice
      rw [List.take_eq_take_min (i := w), hdl]
    -- the next segment on both sides: `n` bytes from `pos` with the flag of `segMsgs_chunks`
    rw [segMsgs_chunks i p first w hw0 _ (drop_ne_nil pos p.data (by omega)), hdl, hchunk, List.drop_drop, putSegs,
      EncLL.putLoop_succ, if_neg (show ¬ ¬ pos < p.payloadLength by omega)]
    simp only [EncLL.pre, EncLL.step1, EncLL.bytesToAdd, hl1, hbl, hrm]
    rw [segFlag_eq first segInd w rem _ pos hsum hfirst]
    generalize hn : Nat.min w rem = n
    generalize hfl : (if first = true then 4 else if rem ≤ w then 12 else 8) = flag
    have hnle : n ≤ w ∧ n ≤ rem := hn ▸ ⟨Nat.min_le_left w rem, Nat.min_le_right w rem⟩
    have hslen : (slice p.data pos n).length = n := slice_length_of_le _ _ _ (by omega)
    have hadd := add_R hR hcur i p n flag pos (by omega) hslen
    have hnn := add_noneNil s ⟨i, p, flag, slice p.data pos n⟩ (by rw [hcur]; rfl)
    by_cases hlast : rem ≤ w
    · -- the last chunk: both sides open the next frame and stop
      have hf : first = false := by
        cases first with
        | false => rfl
        | true => have := hmulti rfl; omega
      rw [hf, if_neg Bool.false_ne_true, if_pos hlast] at hfl
      have hm : Nat.min w rem = rem := Nat.min_eq_right hlast
      rw [hm] at hn
      subst hfl hn
      rw [List.drop_eq_nil_of_le (by omega), chunks_nil, if_pos rfl, putLoop_done _ _ _ _ _ _ (by omega)]
      exact addNew_R hc p hadd hnn
    · -- a full chunk, more follow: the low-level frame is full, its successor is opened at the head of the next iteration
      have hfl12 : flag ≠ 12 := by
        rw [← hfl, if_neg hlast]
        cases first <;> decide
      have hm : Nat.min w rem = w := Nat.min_eq_left (by omega)
      rw [hm] at hn
      subst hn
      rw [if_neg hfl12]
      have hbl2 : (llAdd l1 p w flag pos).bytesLeft < 16 := by
        rw [(hadd.left _ (by rw [Enc.add_some s _ f hcur])).1, used_snoc, hu0, EMsg.size, hslen]
        omega
      exact ih (pos + w) (rem - w) (segInd + 1) false _ _ (by omega) (by omega) (by omega) (by simp)
        (Or.inr ⟨_, hadd, hnn, hbl2, rfl⟩) ((Enc.addNew_cur _ p).elim fun _ hq => ⟨_, hq, rfl⟩) (fun h => by cases h)

theorem isEmpty_frames {c : Ctx} {s : Enc} {l : EncLL} (h : R c s l) (hn : NoneNil s) :
    l.frames.isEmpty = s.cur.isNone := by
  cases hcur : s.cur with
  | none => rw [h.frames, hn hcur, hcur]; rfl
  | some f => rw [h.frames, hcur]; simp

theorem st1_R {c : Ctx} (hc : c.ok = true) {s : Enc} {l : EncLL} (p : Packet) (h : R c s l) (hn : NoneNil s) :
    R c (st1 s p) (if l.frames.isEmpty || l.mt != p.mt then l.setMessageType p else l) := by
  rw [isEmpty_frames h hn, h.mt]
  unfold st1
  by_cases hcond : (s.cur.isNone || s.curMt != p.mt) = true
  · rw [if_pos hcond, if_pos hcond]
    unfold EncLL.setMessageType
    refine addNew_R hc p (s := s.retype p.mt) ?_ hn
    exact ⟨h.min, h.max, h.dev, h.stream, h.seqc, rfl, fun _ => rfl, fun t ht => by simp [Enc.retype] at ht,
      h.frames, h.left⟩
  · rw [if_neg hcond, if_neg hcond]; exact h

theorem putPacket_R {c : Ctx} (hc : c.ok = true) {s : Enc} {l : EncLL} (i : Nat) (p : Packet) (hp : p.Enc)
    (h : R c s l) (hn : NoneNil s) :
    R c (putPacket c s (i, p)) (l.putPacket p) := by
  obtain ⟨hcap, hmax, hmin⟩ := Ctx.ok_cap hc
  have hpl : p.payloadLength = p.data.length := hp.plen
  have h1 := st1_R hc p h hn
  have hcur1 := st1_cur s p
  generalize hl1 : (if l.frames.isEmpty || l.mt != p.mt then l.setMessageType p else l) = l1 at h1
  have hn1 : NoneNil (st1 s p) := noneNil_of_some hcur1
  obtain ⟨f1, hf1⟩ := Option.isSome_iff_exists.mp hcur1
  have hleft1 := left_eq h1 hf1
  have hne1 : l1.frames.isEmpty = false := by
    rw [isEmpty_frames h1 hn1, hf1]; rfl
  -- `checkIfSegmented`
  have hchk : R c (st2 c s p) (l1.checkIfSegmented p).1 ∧
      (l1.checkIfSegmented p).2 = decide ((st2 c s p).left c < 16 + p.payloadLength) := by
    unfold EncLL.checkIfSegmented st2
    simp only [hne1, Bool.not_false, Bool.true_and, ← hleft1]
    by_cases hs : (st1 s p).left c < 16 + p.payloadLength
    · have h2 := addNew_R hc p h1 hn1
      obtain ⟨q, hq⟩ := Enc.addNew_cur (st1 s p) p
      have hne2 : (l1.addNewCMPFrame p).frames.isEmpty = false := by
        rw [isEmpty_frames h2 (noneNil_of_some (Enc.addNew_isSome _ p)), hq]; rfl
      have hleft2 := left_eq h2 hq
      simp only [hs, decide_true, if_true, hne2, Bool.not_false, Bool.true_and, ← hleft2]
      exact ⟨h2, trivial⟩
    · simp only [hs, decide_false, if_false, Bool.false_eq_true]
      exact ⟨h1, trivial⟩
  obtain ⟨h2, hr2⟩ := hchk
  obtain ⟨f2, hf2⟩ := Option.isSome_iff_exists.mp (st2_cur c s p)
  have hLL : l.putPacket p = EncLL.putLoop p (l1.checkIfSegmented p).2 (p.payloadLength + 1)
      (l1.checkIfSegmented p).1 0 0 := by
    unfold EncLL.putPacket; simp only [hl1]
  rw [hLL, putPacket_eqS, hr2]
  by_cases h0 : p.payloadLength = 0
  · rw [if_pos h0, putLoop_done _ _ _ _ _ _ (by omega)]
    exact h2
  · rw [if_neg h0]
    by_cases hfit : 16 + p.payloadLength ≤ c.cap
    · rw [if_pos hfit]
      have hl := st2_left c s p hfit
      have hnseg := Nat.not_lt.mpr hl
      have hfit2 : f2.used + (16 + p.payloadLength) ≤ c.cap := by
        have := (h2.left f2 hf2).2
        simp only [Enc.left, hf2] at hl
        omega
      simp only [hnseg, decide_false]
      exact loop_unseg h2 hf2 i p hpl (by omega) hfit2
    · rw [if_neg hfit]
      have hle := Enc.left_le c (st1 s p)
      have e2 : st2 c s p = (st1 s p).addNew p := by
        unfold st2; rw [if_pos (by omega)]
      have hseg : (st2 c s p).left c < 16 + p.payloadLength := by
        rw [e2, Enc.addNew_left]; omega
      simp only [hseg, decide_true]
      rw [e2] at h2
      obtain ⟨q, hq⟩ := Enc.addNew_cur (st1 s p) p
      have hb16 : ¬ (l1.checkIfSegmented p).1.bytesLeft < 16 := by
        rw [← left_eq h2 hq, Enc.addNew_left]; omega
      have hdata : p.data.take p.payloadLength = p.data.drop 0 := by
        rw [hpl, List.take_length]; rfl
      rw [hdata]
      exact loop_seg hc p hpl i (c.cap - 16) (by omega) (by omega) (p.payloadLength + 1) 0 p.payloadLength 0 true _ _
        (by omega) (by omega) (by omega) (by simp) (Or.inl ⟨h2, hb16⟩) ⟨_, hq, rfl⟩ (by intro _; omega)

theorem foldl_R {c : Ctx} (hc : c.ok = true) : ∀ (ib : List (Nat × Packet)) (s : Enc) (l : EncLL),
    (∀ ip ∈ ib, ip.2.Enc) → R c s l → NoneNil s →
    R c (ib.foldl (putPacket c) s) ((ib.map Prod.snd).foldl EncLL.putPacket l) ∧
      NoneNil (ib.foldl (putPacket c) s) := by
  intro ib
  induction ib with
  | nil => intro s l _ h hn; exact ⟨h, hn⟩
  | cons ip ib ih =>
    intro s l hb h hn
    obtain ⟨i, p⟩ := ip
    exact ih _ _ (fun x hx => hb x (by simp [hx])) (putPacket_R hc i p (hb (i, p) (by simp)) h hn)
      (noneNil_of_some (putPacket_cur c s (i, p)))

theorem init_R (e : Enc) (c : Ctx) :
    R c ({ e with closed := [], cur := none, tmpl := none } : Enc) (e.toLL.init c) := by
  refine ⟨rfl, rfl, rfl, rfl, rfl, rfl, fun _ => rfl, fun t ht => by simp at ht, rfl, ?_⟩
  intro f hf; simp at hf

/-- the refinement theorem on the level of the lemma files -/
theorem encode_R (e : Enc) (batch : List Packet) (c : Ctx) (hc : c.ok = true) (hb : ∀ p ∈ batch, p.Enc) :
    (e.toLL.encode batch c).2 = (e.encode batch c).2.map (EFrame.bytes c.min) ∧
    (e.toLL.encode batch c).1.seqc = (e.encode batch c).1.seqc ∧
    (e.toLL.encode batch c).1.mt = (e.encode batch c).1.curMt ∧
    (e.toLL.encode batch c).1.dev = e.dev ∧ (e.toLL.encode batch c).1.stream = e.stream ∧
    (e.toLL.encode batch c).1.frames = [] ∧ (e.toLL.encode batch c).1.tmpl = [] := by
  have hib : ∀ ip ∈ (List.range batch.length).zip batch, ip.2.Enc := by
    intro ip hip
    exact hb _ (List.of_mem_zip hip).2
  obtain ⟨hR, hn⟩ := foldl_R hc ((List.range batch.length).zip batch) _ _ hib (init_R e c)
    (by intro _; rfl)
  rw [zip_snd] at hR
  have hF := closeLast_R hc hR hn
  have hcur := Enc.closeLast_cur (((List.range batch.length).zip batch).foldl (putPacket c)
    { e with closed := [], cur := none, tmpl := none })
  have hfr := hF.frames
  rw [hcur] at hfr
  simp only [List.append_nil] at hfr
  obtain ⟨-, -, hd, hs, -, hf, ht⟩ := C10S.encodeLL_post e.toLL batch c
  exact ⟨hfr, hF.seqc, hF.mt, hd, hs, hf, ht⟩

end AsamCmp.C07b
