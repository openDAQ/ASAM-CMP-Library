/-
  Helper lemmas for Props/C09S.lean: a second invariant of the `putPacket` fold, about WHICH packet of
  the batch every message belongs to and WHICH packet's version the frame carrying it has (the first
  packet of the maximal run of equal message types the message's packet lies in), and that no emitted
  frame is empty.  Independent of the counters (those are `Open.encode_numbered` of Lemmas/EncOpen.lean) and of `Ctx`.
-/
import AsamCmp.EncHist
import AsamCmp.Lemmas.EncOps
namespace AsamCmp.C09S
open AsamCmp

/-- start of the maximal run of consecutive packets of equal message type that ends at index `i` -/
def runStart (batch : List Packet) : Nat → Nat
  | 0 => 0
  | i + 1 => if batch[i]?.map Packet.mt = batch[i + 1]?.map Packet.mt then runStart batch i else i + 1

theorem runStart_le (batch : List Packet) (i : Nat) : runStart batch i ≤ i := by
  induction i with
  | zero => exact Nat.le_refl _
  | succ i ih =>
    show (if _ then runStart batch i else i + 1) ≤ i + 1
    split
    · exact Nat.le_succ_of_le ih
    · exact Nat.le_refl _

theorem runStart_same (batch : List Packet) (i j : Nat) (h1 : runStart batch i ≤ j) (h2 : j ≤ i) :
    batch[j]?.map Packet.mt = batch[i]?.map Packet.mt := by
  induction i with
  | zero =>
    have : j = 0 := by omega
    rw [this]
  | succ i ih =>
    by_cases hj : j = i + 1
    · rw [hj]
    · have hstep : runStart batch (i + 1) =
          if batch[i]?.map Packet.mt = batch[i + 1]?.map Packet.mt then runStart batch i else i + 1 := rfl
      by_cases he : batch[i]?.map Packet.mt = batch[i + 1]?.map Packet.mt
      · rw [hstep, if_pos he] at h1
        rw [ih h1 (by omega), he]
      · rw [hstep, if_neg he] at h1
        omega

theorem runStart_max (batch : List Packet) (i : Nat) :
    runStart batch i = 0 ∨
    batch[runStart batch i - 1]?.map Packet.mt ≠ batch[runStart batch i]?.map Packet.mt := by
  induction i with
  | zero => exact Or.inl rfl
  | succ i ih =>
    have hstep : runStart batch (i + 1) =
        if batch[i]?.map Packet.mt = batch[i + 1]?.map Packet.mt then runStart batch i else i + 1 := rfl
    by_cases he : batch[i]?.map Packet.mt = batch[i + 1]?.map Packet.mt
    · rw [hstep, if_pos he]; exact ih
    · rw [hstep, if_neg he]
      exact Or.inr (by simpa using he)

/-- a fold over a list zipped with its indices, by induction on the number of elements processed -/
theorem foldl_range_zip {σ α : Type} (f : σ → Nat × α → σ) (P : Nat → σ → Prop) (l : List α)
    (step : ∀ k s a, l[k]? = some a → P k s → P (k + 1) (f s (k, a))) :
    ∀ s0, P 0 s0 → P l.length (((List.range l.length).zip l).foldl f s0) := by
  have gen : ∀ (rest : List α) (off : Nat), (∀ i, rest[i]? = l[off + i]?) → off + rest.length = l.length →
      ∀ s, P off s → P l.length (((List.range' off rest.length).zip rest).foldl f s) := by
    intro rest
    induction rest with
    | nil =>
      intro off _ hlen s hP
      simp only [List.length_nil, Nat.add_zero] at hlen
      subst hlen
      exact hP
    | cons a rest ih =>
      intro off hget hlen s hP
      simp only [List.length_cons] at hlen ⊢
      rw [List.range'_succ, List.zip_cons_cons, List.foldl_cons]
      have h0 : l[off]? = some a := by
        have := hget 0
        simpa using this.symm
      apply ih (off + 1)
      · intro i
        have := hget (i + 1)
        rw [List.getElem?_cons_succ] at this
        rw [this]
        congr 1
        omega
      · omega
      · exact step off s a h0 hP
  intro s0 h0
  rw [List.range_eq_range']
  exact gen l 0 (fun i => by rw [Nat.zero_add]) (by omega) s0 h0

/-- what C09S says of one message `m` of a frame `f`: it is labelled with the packet at its index,
    the frame has that packet's message type and the version of the first packet of its run -/
structure MsgOk (batch : List Packet) (f : EFrame) (m : EMsg) : Prop where
  hpkt : batch[m.idx]? = some m.pkt
  hmt : m.pkt.mt = f.mt
  hver : ∃ q, batch[runStart batch m.idx]? = some q ∧ f.ver = q.version % 256

def FrOk (batch : List Packet) (f : EFrame) : Prop := ∀ m ∈ f.msgs, MsgOk batch f m

def ClosedOk (batch : List Packet) (s : Enc) : Prop := ∀ f ∈ s.closed, f.msgs ≠ [] ∧ FrOk batch f

/-- the state while packet `p` (run start `q`) is being put -/
structure Mid (batch : List Packet) (p q : Packet) (s : Enc) : Prop where
  closed : ClosedOk batch s
  cur : ∃ f, s.cur = some f ∧ FrOk batch f ∧ f.ver = q.version % 256 ∧ f.mt = p.mt
  tmpl : s.tmpl = some (q.version % 256, p.mt)
  mt : s.curMt = p.mt

/-- the state between two `putPacket` calls, `k` packets done -/
def Btw (batch : List Packet) (k : Nat) (s : Enc) : Prop :=
  (k = 0 ∧ s.cur = none ∧ ClosedOk batch s) ∨
  (∃ k' p q, k = k' + 1 ∧ batch[k']? = some p ∧ batch[runStart batch k']? = some q ∧ Mid batch p q s)

variable {batch : List Packet} {s : Enc}

theorem closeLast_closed (h : ClosedOk batch s) (hc : ∀ f, s.cur = some f → FrOk batch f) :
    ClosedOk batch s.closeLast := by
  unfold Enc.closeLast
  split
  · exact h
  · next f hf =>
    split
    · intro f' hf'
      exact h f' hf'
    · next hne =>
      intro f' hf'
      simp only [List.mem_append, List.mem_singleton] at hf'
      rcases hf' with hf' | hf'
      · exact h f' hf'
      · subst hf'
        refine ⟨?_, hc _ hf⟩
        intro he
        rw [he] at hne
        exact hne rfl

theorem addNew_mid {p q : Packet} (h : ClosedOk batch s) (hc : ∀ f, s.cur = some f → FrOk batch f)
    (ht : s.tmpl.getD (p.version % 256, p.mt) = (q.version % 256, p.mt)) (hm : s.curMt = p.mt) :
    Mid batch p q (s.addNew p) := by
  have h' := closeLast_closed h hc
  refine ⟨h', ?_, ?_, ?_⟩
  · refine ⟨_, rfl, ?_, ?_, ?_⟩
    · intro m hm'
      exact absurd hm' List.not_mem_nil
    · show (s.closeLast.tmpl.getD (p.version % 256, p.mt)).1 = _
      rw [Enc.closeLast_tmpl, ht]
    · show (s.closeLast.tmpl.getD (p.version % 256, p.mt)).2 = _
      rw [Enc.closeLast_tmpl, ht]
  · rw [Enc.addNew_tmpl, ht]
  · rw [Enc.addNew_curMt, hm]

theorem Mid.curOk {p q : Packet} (h : Mid batch p q s) : ∀ f, s.cur = some f → FrOk batch f := by
  intro f hf
  obtain ⟨f', hf', hok, _⟩ := h.cur
  rw [hf'] at hf
  cases hf
  exact hok

theorem Mid.addNew {p q : Packet} (h : Mid batch p q s) : Mid batch p q (s.addNew p) := by
  apply addNew_mid h.closed h.curOk _ h.mt
  rw [h.tmpl]; rfl

theorem Mid.add {p q : Packet} (h : Mid batch p q s) (m : EMsg) (hp : m.pkt = p)
    (hk : batch[m.idx]? = some p) (hq : batch[runStart batch m.idx]? = some q) :
    Mid batch p q (s.add m) := by
  obtain ⟨f, hf, hok, hv, hmt⟩ := h.cur
  have e : s.add m = { s with cur := some { f with msgs := f.msgs ++ [m] } } := by
    unfold Enc.add; rw [hf]
  rw [e]
  refine ⟨h.closed, ⟨_, rfl, ?_, hv, hmt⟩, h.tmpl, h.mt⟩
  intro m' hm'
  simp only [List.mem_append, List.mem_singleton] at hm'
  rcases hm' with hm' | hm'
  · obtain ⟨a, b, c⟩ := hok m' hm'
    exact ⟨a, b, c⟩
  · subst hm'
    exact ⟨by rw [hk, hp], by rw [hp]; exact hmt.symm, ⟨q, hq, hv⟩⟩

theorem putPacket_btw (c : Ctx) (k : Nat) (p : Packet) (hk : batch[k]? = some p) (h : Btw batch k s) :
    Btw batch (k + 1) (putPacket c s (k, p)) := by
  -- a frame opened for `p` starts a run
  have hnew : ClosedOk batch s → (∀ f, s.cur = some f → FrOk batch f) → Mid batch p p ((s.retype p.mt).addNew p) :=
    fun h1 h2 => addNew_mid (s := s.retype p.mt) h1 h2 rfl rfl
  -- the packet the run of `p` starts with
  have h1 : ∃ q, batch[runStart batch k]? = some q ∧ Mid batch p q (st1 s p) := by
    rcases h with ⟨rfl, hcur, hcl⟩ | ⟨k', p', q', rfl, hp', hq', hmid⟩
    · rw [st1_new (Or.inl hcur)]
      exact ⟨p, hk, hnew hcl fun f hf => by rw [hcur] at hf; cases hf⟩
    · have hstep : runStart batch (k' + 1) =
          if batch[k']?.map Packet.mt = batch[k' + 1]?.map Packet.mt then runStart batch k' else k' + 1 := rfl
      rw [hp', hk, Option.map_some, Option.map_some, ← hmid.mt] at hstep
      by_cases hm : s.curMt = p.mt
      · -- same run
        obtain ⟨f, hf, hfok, hfv, hfm⟩ := hmid.cur
        rw [st1_same hf hm]
        rw [hm, if_pos rfl] at hstep
        exact ⟨q', by rw [hstep]; exact hq',
          hmid.closed, ⟨f, hf, hfok, hfv, by rw [hfm, ← hmid.mt, hm]⟩, by rw [hmid.tmpl, ← hmid.mt, hm], hm⟩
      · -- a new run starts at `k' + 1`
        rw [st1_new (Or.inr hm)]
        rw [if_neg fun he => hm (Option.some.inj he)] at hstep
        exact ⟨p, by rw [hstep]; exact hk, hnew hmid.closed hmid.curOk⟩
  obtain ⟨q, hq, h1⟩ := h1
  refine Or.inr ⟨k, p, q, rfl, hk, hq, ?_⟩
  exact putPacket_keeps c _ (k, p) (fun _ h => h.addNew)
    (fun _ m h hm => h.add m hm.1 (by rw [hm.2]; exact hk) (by rw [hm.2]; exact hq)) h1

/-- the frames of one `encode` call, from ANY encoder state and for ANY configuration: none is empty and
    every message satisfies `MsgOk` -/
theorem encode_closedOk (e : Enc) (batch : List Packet) (c : Ctx) :
    ∀ f ∈ (e.encode batch c).2, f.msgs ≠ [] ∧ FrOk batch f := by
  show ClosedOk batch (((List.range batch.length).zip batch).foldl (putPacket c)
    { e with closed := [], cur := none, tmpl := none }).closeLast
  have hb : Btw batch batch.length
      (((List.range batch.length).zip batch).foldl (putPacket c)
        { e with closed := [], cur := none, tmpl := none }) := by
    apply foldl_range_zip (putPacket c) (Btw batch) batch
    · intro k s a hk h
      exact putPacket_btw c k a hk h
    · refine Or.inl ⟨rfl, rfl, ?_⟩
      intro f hf
      simp at hf
  rcases hb with ⟨_, hcur, hcl⟩ | ⟨_, _, _, _, _, _, hmid⟩
  · rw [Enc.closeLast_none hcur]; exact hcl
  · exact closeLast_closed hmid.closed hmid.curOk

end AsamCmp.C09S
