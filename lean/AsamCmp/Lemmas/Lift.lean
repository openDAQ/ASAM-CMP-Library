/-
  Helper lemmas for the byte-level lifts of C05 / C17 (`Props/C05b.lean`): the segment header and the
  frame that carries one segment, as bytes, and what the decoder's parser reads back from them.
-/
import AsamCmp.Tecmp
import AsamCmp.Props.C05
import AsamCmp.Props.C17
import AsamCmp.Lemmas.LayerB
import AsamCmp.Lemmas.Builders
import AsamCmp.Lemmas.TecmpWire
import AsamCmp.Lemmas.WalkBytes
import AsamCmp.Lemmas.Wire
import AsamCmp.Lemmas.RoundTrip
namespace AsamCmp.C05b
open AsamCmp

/-! ### the 16-byte message header of a segment -/

/-- a segment's 16-byte message header as the protocol lays it out: timestamp u64 @0, id word u32 @8,
    flags u8 @12, payload type u8 @13, payload length u16 @14 -/
structure SegHdr where
  ts : Nat
  idw : Nat
  flags : Nat
  ptype : Nat

def SegHdr.bytes (h : SegHdr) (len : Nat) : Bytes :=
  beEnc 8 h.ts ++ beEnc 4 h.idw ++ [UInt8.ofNat h.flags, UInt8.ofNat h.ptype] ++ beEnc 2 len

def SegHdr.WF (h : SegHdr) (seg : Nat) : Prop :=
  h.ts < 2 ^ 64 ∧ h.idw < 2 ^ 32 ∧ h.flags < 256 ∧ h.flags &&& 0x40 = 0 ∧ h.flags &&& 0x0C = seg ∧ 1 ≤ h.ptype ∧ h.ptype < 256

theorem SegHdr.bytes_hdr (h : SegHdr) (len : Nat) : h.bytes len = msgHdr h.ts h.idw h.flags h.ptype len := rfl

theorem SegHdr.WF.hdrOk {h : SegHdr} {seg : Nat} (hh : h.WF seg) : MsgHdrOk h.ts h.idw h.flags h.ptype :=
  ⟨hh.1, hh.2.1, hh.2.2.1, hh.2.2.2.1, hh.2.2.2.2.2.1, hh.2.2.2.2.2.2⟩

theorem segHdr_length (h : SegHdr) (len : Nat) : (h.bytes len).length = 16 := msgHdr_length ..

theorem segHdr_len (h : SegHdr) (len : Nat) (rest : Bytes) :
    beAt (h.bytes len ++ rest) 14 2 = len % 65536 := (msgHdr_fields ..).2.2.2.2.2.1

theorem segHdr_flags (h : SegHdr) (len : Nat) (rest : Bytes) :
    byteAt (h.bytes len ++ rest) 12 = h.flags % 256 := (msgHdr_fields ..).2.2.2.1

theorem segHdr_writeLen (h : SegHdr) (len n : Nat) :
    writeAt (h.bytes len) 14 (beEnc 2 n) = h.bytes n := msgHdr_writeLen ..

theorem segTypeOf_bytes (h : SegHdr) (seg len : Nat) (hh : h.WF seg) : segTypeOf (h.bytes len) = seg := by
  have := segHdr_flags h len []
  rw [List.append_nil] at this
  rw [segTypeOf, this, Nat.mod_eq_of_lt hh.2.2.1, hh.2.2.2.2.1]

/-! ### the message walk stops at a segment and cuts it at its declared length -/

theorem walk_segment (ep : Ep) (ver mt : Nat) (h : SegHdr) (seg : Nat) (body trail : Bytes)
    (hh : h.WF seg) (hseg : seg ≠ 0) (hb : body.length < 65536) :
    walk ep ver mt (h.bytes body.length ++ body ++ trail) = ([], .seg (h.bytes body.length ++ body)) :=
  walk_msgHdr_seg hh.hdrOk hb trail (by rw [hh.2.2.2.2.1]; exact hseg) ep ver mt

/-- one segment frame on the wire: frame header, the segment's message header with its DECLARED
    length, the declared bytes, and then ANY trailing bytes -/
def segFrame (ver dev mt stream seq : Nat) (h : SegHdr) (body trail : Bytes) : Bytes :=
  frameHeader ver dev mt stream seq ++ h.bytes body.length ++ body ++ trail

theorem segFrame_assoc (ver dev mt stream seq : Nat) (h : SegHdr) (body trail : Bytes) :
    segFrame ver dev mt stream seq h body trail =
      frameHeader ver dev mt stream seq ++ (h.bytes body.length ++ body ++ trail) := by
  simp only [segFrame, List.append_assoc]

theorem parse_segment (ver dev mt stream seq : Nat) (h : SegHdr) (seg : Nat) (body trail : Bytes)
    (hv : ver < 256) (hd : dev < 65536) (hm : mt < 256) (hs : stream < 256) (hq : seq < 65536)
    (hh : h.WF seg) (hseg : seg ≠ 0) (hb : body.length < 65536) :
    parseFrame (segFrame ver dev mt stream seq h body trail) =
      { ep := (dev, stream), ver := ver, mt := mt, seq := seq, unseg := [],
        term := .seg (h.bytes body.length ++ body) } := by
  rw [segFrame_assoc]
  exact (parseFrame_hdr8 0 hv hd hm hs hq _).trans (by rw [walk_segment (dev, stream) ver mt h seg body trail hh hseg hb])

theorem segment_is_frame (ver dev mt stream seq : Nat) (h : SegHdr) (body trail : Bytes)
    (hv : 1 ≤ ver ∧ ver < 256) :
    8 ≤ (segFrame ver dev mt stream seq h body trail).length ∧
    byteAt (segFrame ver dev mt stream seq h body trail) 0 ≠ 0 := by
  obtain ⟨f0, _⟩ := C01.parse_fields ver dev mt stream seq (h.bytes body.length ++ body ++ trail)
  rw [segFrame_assoc]
  refine ⟨by rw [List.length_append, frameHeader_length]; omega, ?_⟩
  rw [f0, Nat.mod_eq_of_lt hv.2]
  omega

/-! ### from buffers to the single-endpoint automaton -/

theorem frames_ep (M : SegMsg) : ∀ f ∈ M.frames, f.ep = M.ep := by
  intro f hf
  unfold SegMsg.frames at hf
  simp only [List.mem_map] at hf
  obtain ⟨⟨i, s⟩, _, rfl⟩ := hf
  rfl

/-- buffers that are capture-module frames of ONE endpoint `e`, decoded from any state: the decoder
    delivers what the single-endpoint automaton delivers from the state stored for `e`, leaves that
    automaton's state at `e`, and touches no other endpoint -/
theorem decodeAll_single_ep (e : Ep) (d : DecState) (bs : List Bytes)
    (hfr : ∀ b ∈ bs, 8 ≤ b.length ∧ byteAt b 0 ≠ 0) (hep : ∀ f ∈ bs.map parseFrame, f.ep = e) :
    (decodeAll tecmpDecode d (bs.map some)).2 = (runLocal (d e) (bs.map parseFrame)).2 ∧
    (decodeAll tecmpDecode d (bs.map some)).1 e = (runLocal (d e) (bs.map parseFrame)).1 ∧
    ∀ x, x ≠ e → (decodeAll tecmpDecode d (bs.map some)).1 x = d x := by
  rw [C01.decodeAll_run tecmpDecode bs d hfr]
  refine ⟨run_snd_eq_runLocal e _ d hep, ?_, ?_⟩
  · rw [run_fst_eq_runLocal, List.filter_eq_self.mpr (fun f hf => by simpa using hep f hf)]
  · intro x hx
    exact run_fst_other x _ d (fun f hf => by rw [hep f hf]; exact fun h => hx h.symm)

/-- buffers that parse to the frames of `M`, which the automaton turns into the one packet `x` at the last
    frame whatever was pending: decoding them from any state delivers nothing before the last buffer and
    `x` at the last one, leaves nothing pending for `M.ep` and touches no other endpoint -/
theorem frames_lift (M : SegMsg) (x : Packet) (d : DecState)
    (hrun : runLocal (d M.ep) M.frames = (none, [x]) ∧ (runLocal (d M.ep) M.frames.dropLast).2 = [])
    (bs : List Bytes) (hfr : ∀ b ∈ bs, 8 ≤ b.length ∧ byteAt b 0 ≠ 0)
    (hparse : bs.map parseFrame = M.frames) :
    (decodeAll tecmpDecode d (bs.map some)).1 M.ep = none ∧
    (∀ y, y ≠ M.ep → (decodeAll tecmpDecode d (bs.map some)).1 y = d y) ∧
    (decodeAll tecmpDecode d (bs.map some).dropLast).2 = [] ∧
    (decodeAll tecmpDecode d (bs.map some)).2 = [x] := by
  have hpd : bs.dropLast.map parseFrame = M.frames.dropLast := by rw [← hparse, List.map_dropLast]
  have hsd : (bs.map some).dropLast = bs.dropLast.map some := by rw [List.map_dropLast]
  obtain ⟨k1, k2, k3⟩ := decodeAll_single_ep M.ep d bs hfr (by rw [hparse]; exact frames_ep M)
  obtain ⟨j1, -, -⟩ := decodeAll_single_ep M.ep d bs.dropLast
    (fun b hb => hfr b (List.dropLast_subset _ hb))
    (fun f hf => frames_ep M f (by rw [hpd] at hf; exact List.dropLast_subset _ hf))
  rw [hparse, hrun.1] at k1 k2
  rw [hpd, hrun.2, ← hsd] at j1
  exact ⟨k2, k3, j1, k1⟩

/-! ### the delivered packet, field by field -/

theorem segHdr_body_take (h : SegHdr) (len k : Nat) (body : Bytes) :
    slice (h.bytes len ++ body) 16 k = body.take k := by
  unfold slice
  rw [List.drop_left' (segHdr_length ..)]

/-- the packet made of the first segment's header and the bytes `B`: all ten fields.  The data are
    read back with the 16-bit length field, so they are `B` cut at `B.length mod 2^16` -/
theorem joined_fields (M : SegMsg) (B : Bytes) (h : SegHdr) (len0 seg : Nat)
    (hfirst : M.first.1 = h.bytes len0) (hh : h.WF seg) :
    tagPacket M.ep M.ver (Packet.ofMsg M.mt (M.joined B)) =
      { payload := some (create (M.mt * 256 + h.ptype) (B.take (B.length % 65536))),
        version := M.ver, deviceId := M.ep.1, streamId := M.ep.2, seq := 0, ts := h.ts,
        ifId := if M.mt = 1 then h.idw else 0,
        vendorId := if M.mt = 3 ∨ M.mt = 0xFF then h.idw % 65536 else 0, flags := h.flags, segType := 0 } := by
  unfold SegMsg.joined
  rw [hfirst, ← writeAt_hdr _ _ (segHdr_length ..) (beEnc_length 2 _), segHdr_writeLen, SegHdr.bytes_hdr,
    msgHdr_ofMsg_take hh.hdrOk, Nat.mod_mod]
  rfl

theorem expected_fields (M : SegMsg) (h : SegHdr) (len0 seg : Nat)
    (hfirst : M.first.1 = h.bytes len0) (hh : h.WF seg) (hlen : M.body.length ≤ 65535) :
    M.expected =
      { payload := some (create (M.mt * 256 + h.ptype) M.body), version := M.ver, deviceId := M.ep.1,
        streamId := M.ep.2, seq := 0, ts := h.ts, ifId := if M.mt = 1 then h.idw else 0,
        vendorId := if M.mt = 3 ∨ M.mt = 0xFF then h.idw % 65536 else 0, flags := h.flags, segType := 0 } := by
  rw [← M.joined_body (by rw [hfirst]; exact segHdr_length ..) hlen,
    joined_fields M M.body h len0 seg hfirst hh, Nat.mod_eq_of_lt (Nat.lt_succ_of_le hlen), List.take_length]

end AsamCmp.C05b
