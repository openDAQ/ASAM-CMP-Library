/-
  Source-level decoder: the translated `unordered_map` operations on the image of a model table.
-/
import AsamCmp.GeneratedSrcObj
import AsamCmp.DecoderLL
import AsamCmp.Lemmas.DecLLLoop
import AsamCmp.Props.SrcSegPkt
namespace AsamCmp.SrcDec
open AsamCmp AsamCmp.Src AsamCmp.SrcGen AsamCmp.C17b

/-- the pending table of the model as the decoder's member -/
def tblSt (t : Table) : Decoder_St := { f_segmentedPackets := t.map fun x => (x.1, spSt x.2) }

/-- its association list: `tblSt t = ⟨tmap t⟩`, and the map operations of the translation act on this field -/
def tmap (t : Table) : SMap Decoder_SegmentedPacket_St := t.map fun x => (x.1, spSt x.2)

theorem default_eq : Decoder_SegmentedPacket_default = spSt {} := rfl

theorem map_erase (t : Table) (k : Ep) : mapErase (tmap t) k = tmap (t.erase k) := by
  unfold mapErase tmap Table.erase
  rw [List.filter_map]
  rfl

theorem map_find (t : Table) (k : Ep) : mapFind (tmap t) k = (t.find k).map spSt := by
  unfold mapFind tmap Table.find
  rw [List.find?_map, Option.map_map, Option.map_map]
  rfl

theorem map_put (t : Table) (k : Ep) (v : SegPkt) : mapPut (tmap t) k (spSt v) = tmap (t.set k v) := by
  unfold mapPut
  rw [map_erase]
  rfl

theorem map_index (t : Table) (k : Ep) :
    mapIndex (tmap t) k Decoder_SegmentedPacket_default = (tmap (t.index k).1, spSt (t.index k).2) := by
  unfold mapIndex Table.index
  rw [map_find]
  cases h : t.find k with
  | none => simp only [Option.map_none, default_eq, map_put]
  | some v => simp only [Option.map_some]

/-- entries within their C types and far from exhausting the address space -/
def TableReg (t : Table) : Prop := ∀ x ∈ t, x.2.seq < 65536 ∧ x.2.payload.length + 65536 < 2 ^ 64

theorem tableReg_erase (t : Table) (k : Ep) (h : TableReg t) : TableReg (t.erase k) :=
  fun x hx => h x (List.mem_filter.mp hx).1

end AsamCmp.SrcDec
