/-
  Packet value mode, part 1: the representation of model values as the generated records (`plRepr`, `repr`, inverse `abs`), the
  predicate `Packet.Fits`, and the translated `PayloadType` / `Payload` functions (GeneratedSrcObj.lean, section "packet value
  mode") evaluated on represented values.
-/
import AsamCmp.GeneratedSrcObj
import AsamCmp.Values
import AsamCmp.Lemmas.SrcPacket
import AsamCmp.Lemmas.SrcSegPkt
set_option linter.unusedSimpArgs false
set_option linter.unusedVariables false

namespace AsamCmp

/-- the payload's members within their C types: `PayloadType::type` is a `uint32_t`, the size of a vector a `size_t` -/
def Payload.Fits (p : Payload) : Prop := p.ty < 2 ^ 32 ∧ p.data.length < 2 ^ 64

/-- the packet's members within their C types (`uint8_t version`, `uint16_t deviceId`, `uint8_t streamId`,
    `uint16_t sequenceCounter`, `uint64_t timestamp`, `uint32_t interfaceId`, `uint16_t vendorId`, `uint8_t commonFlags`,
    `SegmentType : uint8_t`), and so the owned payload's, if there is one -/
def Packet.Fits (p : Packet) : Prop :=
  p.version < 256 ∧ p.deviceId < 65536 ∧ p.streamId < 256 ∧ p.seq < 65536 ∧ p.ts < 2 ^ 64 ∧ p.ifId < 2 ^ 32 ∧
  p.vendorId < 65536 ∧ p.flags < 256 ∧ p.segType < 256 ∧ ∀ pl, p.payload = some pl → pl.Fits

end AsamCmp

namespace AsamCmp.SrcPv
open AsamCmp AsamCmp.Src AsamCmp.SrcGen AsamCmp.SrcTie

/-- a payload of the model as the generated record of `Payload`'s data members -/
def plRepr (p : Payload) : Payload_St := { f_payloadData := p.data, f_type := p.ty }
def plAbs (s : Payload_St) : Payload := { ty := s.f_type, data := s.f_payloadData }

/-- a packet of the model as the generated record of `Packet`'s data members (the `unique_ptr` as an `Option`) -/
def repr (p : Packet) : PacketV_St :=
  { f_payload := p.payload.map plRepr, f_version := p.version, f_deviceId := p.deviceId, f_streamId := p.streamId,
    f_sequenceCounter := p.seq, f_timestamp := p.ts, f_interfaceId := p.ifId, f_vendorId := p.vendorId,
    f_commonFlags := p.flags, f_segmentType := p.segType }

def abs (s : PacketV_St) : Packet :=
  { payload := s.f_payload.map plAbs, version := s.f_version, deviceId := s.f_deviceId, streamId := s.f_streamId,
    seq := s.f_sequenceCounter, ts := s.f_timestamp, ifId := s.f_interfaceId, vendorId := s.f_vendorId,
    flags := s.f_commonFlags, segType := s.f_segmentType }

theorem repr_payload (p : Packet) : (repr p).f_payload = p.payload.map plRepr := rfl

theorem plAbs_plRepr (p : Payload) : plAbs (plRepr p) = p := rfl
theorem plRepr_plAbs (s : Payload_St) : plRepr (plAbs s) = s := rfl

theorem abs_repr (p : Packet) : abs (repr p) = p := by
  cases p with
  | mk pl v d st sq ts i vd f sg => cases pl <;> rfl

theorem repr_abs (s : PacketV_St) : repr (abs s) = s := by
  cases s with
  | mk pl v d st sq ts i vd f sg => cases pl <;> rfl

theorem st_cases (s : PacketV_St) : ∃ p, s = repr p := ⟨abs s, (repr_abs s).symm⟩
theorem pl_cases (s : Payload_St) : ∃ p, s = plRepr p := ⟨plAbs s, rfl⟩

theorem pt_getType (ty : Nat) : PayloadType_getType_pv ty = some (ty, ty) := rfl

theorem pt_ctor32 (ty : Nat) : PayloadType_ctor_u32_pv ty = some ty := rfl

theorem pt_opEq (a b : Nat) : opEq_PayloadType_pv a b = some (a == b) := rfl

theorem pt_opNe (a b : Nat) : opNe_PayloadType_pv a b = some (a != b) := rfl

theorem and_65280 (ty : Nat) : ty &&& 65280 = (ty / 256 % 256) * 256 := by
  rw [and_mask1, Nat.shiftRight_eq_div_pow, Nat.shiftLeft_eq]

theorem pt_getMessageType (ty : Nat) : PayloadType_getMessageType_pv ty = some (ty, ty / 256 % 256) := by
  unfold PayloadType_getMessageType_pv ushr
  rw [if_pos (by decide), and_65280, Nat.shiftRight_eq_div_pow]
  simp only [bind, some_bind, pure, Nat.reducePow, Nat.mul_div_cancel _ (by decide : 0 < 256), Nat.mod_mod]

theorem and_255 (ty : Nat) : ty &&& 255 = ty % 256 := by
  have e : (255 : Nat) = 2 ^ 8 - 1 := by decide
  rw [e, Nat.and_two_pow_sub_one_eq_mod]

theorem pt_getRaw (ty : Nat) : PayloadType_getRawPayloadType_pv ty = some (ty, ty % 256) := by
  unfold PayloadType_getRawPayloadType_pv
  rw [and_255, Nat.mod_mod]; rfl

theorem pt_isValid (ty : Nat) :
    PayloadType_isValid_pv ty = some (ty, (ty % 256 != 0 && ty / 256 % 256 != 0)) := by
  unfold PayloadType_isValid_pv
  rw [and_255, and_65280]
  have e : ((ty / 256 % 256 * 256 != 0) = (ty / 256 % 256 != 0)) := by
    rw [Bool.eq_iff_iff, bne_iff_ne, bne_iff_ne, Ne, Ne, Nat.mul_eq_zero, or_iff_left (by decide)]
  rw [e]; rfl

/-- `PayloadType(msgType, rawPayloadType)`: both arguments are `uint8_t`s -/
theorem pt_ctor8 (mt raw : Nat) (hmt : mt < 256) (hraw : raw < 256) :
    PayloadType_ctor_u8_u8_pv mt raw = some (mt * 256 + raw) := by
  unfold PayloadType_ctor_u8_u8_pv
  refine bind_of_eq (a := mt) rfl ?_
  have e : sshl 32 mt 8 = some (mt * 256) := by
    unfold sshl
    rw [Nat.shiftLeft_eq, if_pos ⟨by decide, by omega, by omega⟩]
  rw [e]
  simp only [bind, some_bind, pure, or_byte _ _ hraw]

theorem pl_getType (p : Payload) : Payload_getType_pv (plRepr p) = some (plRepr p, p.ty) := rfl

theorem pl_getLength (p : Payload) : Payload_getLength_pv (plRepr p) = some (plRepr p, p.data.length) := rfl

theorem pl_getMessageType (p : Payload) : Payload_getMessageType_pv (plRepr p) = some (plRepr p, p.mt) := by
  unfold Payload_getMessageType_pv
  simp only [plRepr, pt_getMessageType, bind, some_bind, pure, Payload.mt]

theorem pl_getRaw (p : Payload) : Payload_getRawPayloadType_pv (plRepr p) = some (plRepr p, p.raw) := by
  unfold Payload_getRawPayloadType_pv
  simp only [plRepr, pt_getRaw, bind, some_bind, pure, Payload.raw]

theorem pl_isValid (p : Payload) : Payload_isValid_pv (plRepr p) = some (plRepr p, p.isValid) := by
  unfold Payload_isValid_pv
  simp only [plRepr, pt_isValid, bind, some_bind, pure, Payload.isValid, Payload.raw, Payload.mt]

theorem pl_copy (p : Payload) : Payload_ctor_copy_pv (plRepr p) = some (plRepr p) := rfl

/-- the constructor on the bytes `d` at address `pre.length`: `size` zero bytes, overwritten with `d` unless the type is
    `invalid` (then the object keeps the zeros) -/
theorem pl_ctor (ty : Nat) (pre d post : Bytes) :
    Payload_ctor_PayloadType_ptr_u64_pv (pre ++ d ++ post) ty pre.length d.length =
      some (plRepr (if ty = 0 then ⟨0, zeros d.length⟩ else ⟨ty, d⟩)) := by
  unfold Payload_ctor_PayloadType_ptr_u64_pv
  simp only [pt_ctor32, pt_opNe, bind, some_bind, pure]
  have hw : wrBytes (zeros d.length) 0 ((pre ++ d ++ post).drop pre.length) d.length = some d := by
    rw [wrBytes_eq _ _ _ _ (by rw [SrcDec.drop_mid]; simp) (by simp [zeros]), SrcDec.drop_mid,
      List.take_left' rfl, SrcDec.writeAt_zeros _ _ rfl]
  by_cases ht : ty = 0
  · -- `PayloadType::invalid`: no `memcpy`, whatever the size
    subst ht
    simp only [plRepr, bne_self_eq_false, ite_self, some_bind, Bool.false_eq_true, if_false, if_true]
  · by_cases h0 : d.length = 0
    · -- size 0: no `memcpy`, and `d` is the empty vector the object holds
      have hd : d = [] := List.eq_nil_of_length_eq_zero h0
      subst hd
      simp only [plRepr, List.length_nil, bne_self_eq_false, Bool.false_eq_true, if_false, some_bind, ht, zeros,
        List.replicate_zero]
    · simp only [bne_iff_ne, ne_eq, h0, not_false_eq_true, ht, if_true, if_false, decide_true, hw, some_bind, plRepr]

end AsamCmp.SrcPv
