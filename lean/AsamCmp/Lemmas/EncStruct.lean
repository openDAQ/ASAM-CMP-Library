/-
  What one `encode` call hands out (`encode_spec`: every frame well-formed, the messages are the pieces of the packets in
  order, greedy fill), from the invariants of the normal form (Lemmas/EncOpen.lean), and its translation to the Bool
  predicates `P_C07` / `P_C08`.
-/
import AsamCmp.Tile
import AsamCmp.Lemmas.TileBytes
import AsamCmp.Lemmas.EncOpen
namespace AsamCmp

theorem encode_spec (e : Enc) (batch : List Packet) (c : Ctx) (hcap : 17 ≤ c.cap) :
    (∀ f ∈ (e.encode batch c).2, FrameOk c f ∧ f.msgs ≠ []) ∧
    (e.encode batch c).2.flatMap (·.msgs) =
      ((List.range batch.length).zip batch).flatMap (fun ip => pieces c ip.1 ip.2) ∧
    ((∀ p ∈ batch, 1 ≤ p.payloadLength) → GreedyE c (e.encode batch c).2) := by
  cases batch with
  | nil => rw [(encode_nil e c).1]; exact ⟨fun _ hf => absurd hf List.not_mem_nil, rfl, fun _ => trivial⟩
  | cons p ps =>
    obtain ⟨hok, hg, hb⟩ := Open.first_ok c e p
    rw [Open.encode_open_frames]
    refine ⟨(Open.foldl_keeps _ _ _ (fun x ip _ => Open.step_ok hcap ip) _ hok).out, ?_, fun hlen => ?_⟩
    · rw [Open.out_msgs, Open.foldl_msgs]; rfl
    · refine (Open.foldl_keeps (Open.step c) (fun x => GreedyE c x.out ∧ Open.Btw c x) _ (fun x ip hip h => ?_) _ ⟨hg, hb⟩).1
      have := hlen _ (List.of_mem_zip hip).2
      exact Open.step_greedy hcap ip (fun h0 => by omega) h.1 h.2

theorem encode_msg_piece (e : Enc) (batch : List Packet) (c : Ctx) (hcap : 17 ≤ c.cap) :
    ∀ f ∈ (e.encode batch c).2, ∀ m ∈ f.msgs, ∃ i, ∃ p ∈ batch, m ∈ pieces c i p := by
  intro f hf m hm
  have : m ∈ (e.encode batch c).2.flatMap (·.msgs) := List.mem_flatMap.mpr ⟨f, hf, hm⟩
  rw [(encode_spec e batch c hcap).2.1] at this
  obtain ⟨ip, hip, hm'⟩ := List.mem_flatMap.mp this
  exact ⟨ip.1, ip.2, (List.of_mem_zip hip).2, hm'⟩

/-- the messages of the frames of an `encode` call are messages the tiler can walk -/
theorem encode_msgs_ok (e : Enc) (batch : List Packet) (c : Ctx) (hc : c.ok = true) :
    ∀ f ∈ (e.encode batch c).2, ∀ m ∈ f.msgs,
      1 ≤ m.body.length ∧ m.body.length < 65536 ∧ (m.seg = 0 ∨ m.seg = 4 ∨ m.seg = 8 ∨ m.seg = 12) := by
  intro f hf m hm
  have hcap := (Ctx.ok_cap hc).1
  obtain ⟨i, p, _, hip⟩ := encode_msg_piece e batch c hcap f hf m hm
  have := pieces_mem c hcap _ _ m hip
  exact ⟨this.2.1, this.2.2.1, this.2.2.2.2.1⟩

/-! ### from the structured frames to the shapes the predicates are evaluated on -/

theorem shape_used (min : Nat) (f : EFrame) : (EFrame.shape min f).used = f.used := by
  simp only [EFrame.shape, SFrame.used, EFrame.used, List.map_map]
  rfl

/-- the frame-local clauses of `P_C07` -/
theorem shape_wf {c : Ctx} (hc : c.ok = true) {f : EFrame} (hf : FrameOk c f) (hne : f.msgs ≠ []) :
    (decide (c.min ≤ (EFrame.shape c.min f).len) && decide ((EFrame.shape c.min f).len ≤ c.max) &&
      !(EFrame.shape c.min f).msgs.isEmpty &&
      decide ((EFrame.shape c.min f).len = 8 + (EFrame.shape c.min f).used + (EFrame.shape c.min f).pad) &&
      ((EFrame.shape c.min f).pad == 0 || (EFrame.shape c.min f).len == c.min)) = true := by
  obtain ⟨_, h2, h3⟩ := Ctx.ok_cap hc
  have hu := hf.used
  rw [shape_used]
  simp only [EFrame.shape, Bool.and_eq_true, Bool.or_eq_true, beq_iff_eq, Bool.not_eq_true',
    List.isEmpty_eq_false_iff, ne_eq, List.map_eq_nil_iff]
  exact ⟨⟨⟨⟨decide_eq_true (by omega), decide_eq_true (by omega)⟩, hne⟩, decide_eq_true (by omega)⟩, by omega⟩

theorem shape_flatMap {β : Type} (min : Nat) (g : SMsg → β) (fs : List EFrame) :
    (fs.map (EFrame.shape min)).flatMap (fun f => f.msgs.map g) =
      (fs.flatMap (·.msgs)).map (fun m => g ⟨m.seg, m.body⟩) := by
  induction fs with
  | nil => rfl
  | cons f fs ih =>
    simp only [List.map_cons, List.flatMap_cons, List.map_append, ih]
    simp [EFrame.shape]

theorem shape_mts {c : Ctx} (min : Nat) (fs : List EFrame) (h : ∀ f ∈ fs, FrameOk c f) :
    (fs.map (EFrame.shape min)).flatMap (fun f => f.msgs.map (fun _ => f.mt)) =
      (fs.flatMap (·.msgs)).map (fun m => m.pkt.mt) := by
  induction fs with
  | nil => rfl
  | cons f fs ih =>
    have hf := h f (by simp)
    simp only [List.map_cons, List.flatMap_cons, List.map_append, ih (fun g hg => h g (by simp [hg]))]
    congr 1
    simp only [EFrame.shape, List.map_map]
    apply List.map_congr_left
    intro m hm
    simp [hf.mts m hm, Nat.mod_eq_of_lt hf.mtlt]

theorem greedyOk_of (c : Ctx) (min : Nat) :
    ∀ fs : List EFrame, (∀ f ∈ fs, f.mt < 256) → GreedyE c fs →
      greedyOk c.cap (fs.map (EFrame.shape min)) = true := by
  intro fs
  induction fs with
  | nil => intro _ _; rfl
  | cons f1 fs ih =>
    cases fs with
    | nil => intro _ _; rfl
    | cons f2 rest =>
      intro hmt hg
      have ih' := ih (fun f hf => hmt f (by simp [hf])) hg.2
      simp only [List.map_cons] at ih' ⊢
      simp only [greedyOk, ih', Bool.and_true]
      cases hm : f2.msgs with
      | nil => simp [EFrame.shape, hm]
      | cons m ms =>
        have hmsgs : (EFrame.shape min f2).msgs =
            ⟨m.seg, m.body⟩ :: ms.map (fun m => ⟨m.seg, m.body⟩) := by simp [EFrame.shape, hm]
        rw [hmsgs, Bool.or_eq_true, Bool.not_eq_true', decide_eq_true_eq, shape_used]
        -- either the guard of the clause is false, or it is the premise of `GreedyPair`
        cases hc : (m.seg == 0 && (EFrame.shape min f1).mt == (EFrame.shape min f2).mt &&
            (EFrame.shape min f1).msgs.all fun x => x.seg == 0) with
        | false => exact Or.inl rfl
        | true =>
          simp only [EFrame.shape, Bool.and_eq_true, beq_iff_eq, List.all_map, List.all_eq_true, Function.comp_apply,
            Nat.mod_eq_of_lt (hmt f1 (by simp)), Nat.mod_eq_of_lt (hmt f2 (by simp))] at hc
          exact Or.inr (hg.1 m ms hm hc.1.1 hc.1.2 hc.2)
end AsamCmp
