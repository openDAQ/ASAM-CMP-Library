/-
  C07  Every encoded frame is well-formed and within the configured size bounds.
  C08  Segmentation and aggregation follow the protocol rules.  (There is no Props/C08.lean: the theorems of C08 on the
       model and on bytes, `C08_seg_rules` and `C07_C08_bytes`, are here; Props/C08S.lean builds on them.)

  Domain: every configuration with 25 ≤ max and min ≤ max, and every batch of packets that own a payload shorter than 2^16
  bytes (`Packet.Enc`; no condition on message types or versions).  `Packet.Enc` allows a payload of length 0, which emits no
  message: `C07_frames_wf` holds for such batches too, `C08_seg_rules` and `C07_C08_bytes` ask for at least one byte per
  payload, as the property does (what happens at length 0 is in Props/C08S.lean).
-/
import AsamCmp.Tile
import AsamCmp.Lemmas.TileBytes
import AsamCmp.Lemmas.EncStruct
namespace AsamCmp

/-- the packets of the domain: a payload is present and shorter than 2^16 -/
def Packet.Enc (p : Packet) : Prop := p.payload.isSome ∧ p.data.length < 65536

theorem Packet.Enc.plen {p : Packet} (h : p.Enc) : p.payloadLength = p.data.length := by
  rw [payloadLength_eq]; exact Nat.mod_eq_of_lt h.2

/-- bridging lemma: the independent tiler, run on the serialised bytes of a frame in which every message body has
    1..65535 bytes and a legal segment flag (as in every frame of an encode call: `encode_msgs_ok`), finds exactly the
    frame's shape -/
theorem tile_bytes (min : Nat) (f : EFrame)
    (hmsgs : ∀ m ∈ f.msgs, 1 ≤ m.body.length ∧ m.body.length < 65536 ∧ (m.seg = 0 ∨ m.seg = 4 ∨ m.seg = 8 ∨ m.seg = 12)) :
    tileFrame (EFrame.bytes min f) = some (EFrame.shape min f) := by
  have hl := EFrame.bytes_length min f
  have hk : ∀ m ∈ f.msgs, ∀ rest,
      (⟨byteAt (m.bytes ++ rest) 12 &&& 0x0C, slice (m.bytes ++ rest) 16 m.body.length⟩ : SMsg) = ⟨m.seg, m.body⟩ := by
    intro m hm rest
    obtain ⟨-, h2, h3, -⟩ := msg_fields m rest (hmsgs m hm).2.1 (hmsgs m hm).2.2
    rw [h2, h3]
  have hmt : byteAt (EFrame.bytes min f) 4 = f.mt % 256 := (EFrame.bytes_fields min f).2.2.2.2.1
  unfold tileFrame
  rw [if_neg (by omega), tileMsgs_eq_walkMsgs, walkMsgs_frame _ _ min f hmsgs hk]
  simp only [hmt, hl, EFrame.shape]

theorem tileFrames_bytes (min : Nat) (fs : List EFrame)
    (hm : ∀ f ∈ fs, ∀ m ∈ f.msgs,
      1 ≤ m.body.length ∧ m.body.length < 65536 ∧ (m.seg = 0 ∨ m.seg = 4 ∨ m.seg = 8 ∨ m.seg = 12)) :
    tileFrames (fs.map (EFrame.bytes min)) = some (fs.map (EFrame.shape min)) := by
  induction fs with
  | nil => rfl
  | cons f fs ih =>
    simp only [List.map_cons, tileFrames]
    rw [tile_bytes min f (hm f (by simp)), ih (fun g hg => hm g (by simp [hg]))]

/-- C07 on the model, for every encoder state, batch and configuration of the domain -/
theorem C07_frames_wf (e : Enc) (batch : List Packet) (c : Ctx) (hc : c.ok = true)
    (hb : ∀ p ∈ batch, p.Enc) :
    P_C07 c (batch.map Packet.data) ((e.encode batch c).2.map (EFrame.shape c.min)) = true := by
  obtain ⟨hcap, _, _⟩ := Ctx.ok_cap hc
  obtain ⟨hok, hall, _⟩ := encode_spec e batch c hcap
  unfold P_C07
  simp only [Bool.and_eq_true]
  refine ⟨⟨?_, ?_⟩, ?_⟩
  · rw [List.all_eq_true]
    intro g hg
    obtain ⟨f, hf, rfl⟩ := List.mem_map.mp hg
    exact shape_wf hc (hok f hf).1 (hok f hf).2
  · rw [beq_iff_eq, shape_flatMap c.min (·.body), hall, List.map_flatMap, List.flatMap_def,
      List.flatten_flatten, List.map_map, ← List.flatMap_def,
      zip_flatMap batch _ Packet.data (fun i p hp => pieces_body c hcap i p (hb p hp).2), List.flatMap_def]
  · cases batch with
    | nil => simp [(encode_nil e c).1]
    | cons p ps => simp

/-- all of `P_C08` but the greedy clause, on the model, for every payload length 0..65535: the prescribed (flag, length)
    sequence, a segment alone in its frame, the announced message types, no overflow (the four conjuncts in the order
    of `P_C08`) -/
theorem C08_without_greedy (e : Enc) (batch : List Packet) (c : Ctx) (hc : c.ok = true) (hb : ∀ p ∈ batch, p.Enc) :
    ((((e.encode batch c).2.map (EFrame.shape c.min)).flatMap fun f => f.msgs.map fun m => (m.seg, m.body.length)) ==
      (batch.map fun p => (p.mt, p.data.length)).flatMap (fun (_, len) => pieceShape c.cap len)) = true ∧
    ((e.encode batch c).2.map (EFrame.shape c.min)).all (fun f => f.msgs.all (·.seg == 0) || f.msgs.length == 1) = true ∧
    ((((e.encode batch c).2.map (EFrame.shape c.min)).flatMap fun f => f.msgs.map fun _ => f.mt) ==
      pieceMts c.cap (batch.map fun p => (p.mt, p.data.length))) = true ∧
    ((e.encode batch c).2.map (EFrame.shape c.min)).all (fun f => decide (f.used ≤ c.cap)) = true := by
  obtain ⟨hcap, _, _⟩ := Ctx.ok_cap hc
  obtain ⟨hok, hall, _⟩ := encode_spec e batch c hcap
  refine ⟨?_, ?_, ?_, ?_⟩
  · rw [beq_iff_eq, shape_flatMap c.min (fun m => (m.seg, m.body.length)), hall, List.map_flatMap, List.flatMap_map]
    exact zip_flatMap batch _ _ (fun i p hp => pieces_shape c hcap i p (hb p hp).2)
  · rw [List.all_eq_true]
    intro g hg
    obtain ⟨f, hf, rfl⟩ := List.mem_map.mp hg
    rcases (hok f hf).1.alone with h | h
    · simp [EFrame.shape, List.all_map, Function.comp_def]
      exact Or.inl h
    · simp [EFrame.shape, h]
  · rw [beq_iff_eq, shape_mts c.min _ (fun f hf => (hok f hf).1), hall, List.map_flatMap, pieceMts, List.flatMap_map]
    exact zip_flatMap batch _ _ (fun i p hp => pieces_mt c hcap i p (hb p hp).2)
  · rw [List.all_eq_true]
    intro g hg
    obtain ⟨f, hf, rfl⟩ := List.mem_map.mp hg
    rw [shape_used]
    exact decide_eq_true (hok f hf).1.used

/-- C08 on the model (payloads of at least one byte, as in the property's domain: a zero-length
    payload emits no message but may still open a frame of its own message type) -/
theorem C08_seg_rules (e : Enc) (batch : List Packet) (c : Ctx) (hc : c.ok = true)
    (hb : ∀ p ∈ batch, p.Enc ∧ 1 ≤ p.data.length) :
    P_C08 c (batch.map fun p => (p.mt, p.data.length)) ((e.encode batch c).2.map (EFrame.shape c.min)) = true := by
  obtain ⟨hcap, _, _⟩ := Ctx.ok_cap hc
  obtain ⟨hok, _, hgr⟩ := encode_spec e batch c hcap
  obtain ⟨h1, h2, h3, h4⟩ := C08_without_greedy e batch c hc (fun p hp => (hb p hp).1)
  have hgr' := greedyOk_of c c.min _ (fun f hf => (hok f hf).1.mtlt)
    (hgr fun p hp => (hb p hp).1.plen ▸ (hb p hp).2)
  unfold P_C08
  rw [h1, h2, h3, h4, hgr']
  rfl

/-- the same two statements on bytes: tiling the serialised frames succeeds and the predicates hold -/
theorem C07_C08_bytes (e : Enc) (batch : List Packet) (c : Ctx) (hc : c.ok = true)
    (hb : ∀ p ∈ batch, p.Enc ∧ 1 ≤ p.data.length) :
    ∃ fs, tileFrames ((e.encode batch c).2.map (EFrame.bytes c.min)) = some fs ∧
      P_C07 c (batch.map Packet.data) fs = true ∧
      P_C08 c (batch.map fun p => (p.mt, p.data.length)) fs = true := by
  exact ⟨_, tileFrames_bytes c.min _ (encode_msgs_ok e batch c hc),
    C07_frames_wf e batch c hc (fun p hp => (hb p hp).1), C08_seg_rules e batch c hc hb⟩

/-- a serialised frame is max(8 + used, min) bytes long: the frame header, the messages with their headers, zero padding
    up to `min` -/
theorem frame_length (min : Nat) (f : EFrame) :
    (EFrame.bytes min f).length = max (8 + f.used) min := by
  exact EFrame.bytes_length min f

/-- the empty batch produces no frames and leaves the counter alone -/
theorem C07_empty (e : Enc) (c : Ctx) : (e.encode [] c).2 = [] ∧ (e.encode [] c).1.seqc = e.seqc :=
  encode_nil e c

end AsamCmp
