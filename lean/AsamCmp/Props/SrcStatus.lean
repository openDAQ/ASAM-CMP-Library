/-
  Source-level status tracker (C16): every method of `Status`, `DeviceStatus` and `InterfaceStatus` that changes or queries the
  tracked set (src/status.cpp, device_status.cpp, interface_status.cpp) is translated from the typed clang AST on every run into a
  state transformer over the record of its members (GeneratedSrcObj.lean: vectors of objects as lists, `std::find_if` with its lambda
  + `std::distance` as `findIdxD`, `std::swap` + `pop_back`, stored packets as opaque tables `OPkt`).  The theorems say the
  translation is DEFINED (no `v[i]` / `swap` / `pop_back` outside a vector) and computes exactly the status model `Status.lean`
  (`statusUpdate`, `statusRemoveDev`, `DevSt.removeIf`, `indexOfDev` …) that `C16.status_refines` is about.
-/
import AsamCmp.GeneratedSrcObj
import AsamCmp.Status
import AsamCmp.Lemmas.C16SImg
set_option linter.unusedSimpArgs false
namespace AsamCmp.SrcSt
open AsamCmp AsamCmp.Src AsamCmp.SrcGen

theorem devSt_ifs (d : DevSt) : (devSt oPkt d).f_interfaces = d.ifs.map (ifSt oPkt) := rfl
theorem devSt_pkt (d : DevSt) : (devSt oPkt d).f_devicePacket = oPkt d.pkt := rfl
theorem stSt_devs (s : StatusSt) : (stSt oPkt s).f_devices = s.map (devSt oPkt) := rfl
theorem ifSt_id (i : IfSt) : (ifSt oPkt i).f_interfaceId = i.id := rfl

/-! ### the translated methods on the table `oPkt`

  Each is the instance `img := oPkt` of the theorem for every packet image that keeps the three observed values
  (`C16S.*_img`, Lemmas/C16SImg.lean). -/

theorem indexOfIf_src (d : DevSt) (iid : Nat) :
    DeviceStatus_getIndexByInterfaceId_obj (devSt oPkt d) iid = some (devSt oPkt d, d.indexOfIf iid) :=
  C16S.indexOfIf_img C16S.obs_oPkt d iid

theorem indexOfDev_src (s : StatusSt) (id : Nat) :
    Status_getIndexByDeviceId_obj (stSt oPkt s) id = some (stSt oPkt s, indexOfDev s id) :=
  C16S.indexOfDev_img C16S.obs_oPkt s id

theorem ifCount_src (d : DevSt) :
    DeviceStatus_getInterfaceStatusCount_obj (devSt oPkt d) = some (devSt oPkt d, d.ifs.length) :=
  C16S.ifCount_img C16S.obs_oPkt d

theorem devCount_src (s : StatusSt) :
    Status_getDeviceStatusCount_obj (stSt oPkt s) = some (stSt oPkt s, s.length) :=
  C16S.devCount_img C16S.obs_oPkt s

theorem ifUpdate_src (i : InterfaceStatus_St) (p : Packet) :
    InterfaceStatus_update_obj i (oPkt p) = some (ifSt oPkt ⟨p.payloadIfId, p⟩, ()) :=
  C16S.ifUpdate_img C16S.obs_oPkt i p

theorem updateIfs_src (d : DevSt) (p : Packet) :
    DeviceStatus_updateInterfaces_obj (devSt oPkt d) (oPkt p) = some (devSt oPkt (d.updateIfs p), ()) :=
  C16S.updateIfs_img C16S.obs_oPkt d p

/-- `DeviceStatus::update(packet)` -/
theorem devUpdate_src (d : DevSt) (p : Packet) :
    DeviceStatus_update_obj (devSt oPkt d) (oPkt p) = some (devSt oPkt (d.update p), ()) :=
  C16S.devUpdate_img C16S.obs_oPkt d p

/-- the unknown-device branch: the default-constructed entry updated with a capture-module status message is the model's fresh
    entry (whose placeholder packet `update` overwrites at once) -/
theorem defaultDev_src (p : Packet) (h : p.pty = 769) :
    DeviceStatus_update_obj DeviceStatus_default (oPkt p) =
      some (devSt oPkt (({ pkt := Packet.mk none 1 0 0 0 0 0 0 0 0, ifs := [] } : DevSt).update p), ()) :=
  C16S.defaultDev_img C16S.obs_oPkt p h

/-- `Status::update(packet)`: a known device is updated in place, an unknown one is added only for a capture-module status message
    (the default-constructed entry's packet is overwritten at once), anything else is ignored -/
theorem update_src (s : StatusSt) (p : Packet) :
    Status_update_obj (stSt oPkt s) (oPkt p) = some (stSt oPkt (statusUpdate s p), ()) :=
  C16S.update_img C16S.obs_oPkt s p

/-- `Status::removeDeviceById`.  Hypothesis `h64` (a `std::vector`'s size fits `size_t`; the list model does not carry that):
    the translated index of the last element is `usub 64 size 1 = (size - 1) mod 2^64`, which is the last index only for
    `size ≤ 2^64` (e.g. `usub 64 (2^64 + 5) 1 = 4`); without it the statement is false. -/
theorem removeDev_src (s : StatusSt) (id : Nat) (h64 : s.length < 2 ^ 64) :
    Status_removeDeviceById_obj (stSt oPkt s) id = some (stSt oPkt (statusRemoveDev s id), ()) :=
  C16S.removeDev_img C16S.obs_oPkt s id h64

/-- `DeviceStatus::removeInterfaceById`.  Hypothesis `h64` for the same reason. -/
theorem removeIf_src (d : DevSt) (id : Nat) (h64 : d.ifs.length < 2 ^ 64) :
    DeviceStatus_removeInterfaceById_obj (devSt oPkt d) id = some (devSt oPkt (d.removeIf id), ()) :=
  C16S.removeIf_img C16S.obs_oPkt d id h64

/-- the queries and `clear` -/
theorem index_src (s : StatusSt) (id : Nat) (d : DevSt) (iid : Nat) :
    Status_getIndexByDeviceId_obj (stSt oPkt s) id = some (stSt oPkt s, indexOfDev s id) ∧
    DeviceStatus_getIndexByInterfaceId_obj (devSt oPkt d) iid = some (devSt oPkt d, d.indexOfIf iid) ∧
    Status_getDeviceStatusCount_obj (stSt oPkt s) = some (stSt oPkt s, s.length) ∧
    Status_clear_obj (stSt oPkt s) = some (stSt oPkt [], ()) :=
  ⟨indexOfDev_src s id, indexOfIf_src d iid, devCount_src s, rfl⟩

end AsamCmp.SrcSt
