/-
  The fourteen wire classes as one statement: every entry of `classEntries` passes its check (`all_checks`) and so does what
  `Acc.Holds` says (`all_src`, `entry_holds`).  Props/SrcFieldsA–D prove the checks class by class; this file sits above them and
  below the files that speak about all classes at once (Props/C11S.lean, Props/C12S.lean).
-/
import AsamCmp.Props.SrcFieldsA
import AsamCmp.Props.SrcFieldsB
import AsamCmp.Props.SrcFieldsC
import AsamCmp.Props.SrcFieldsD
namespace AsamCmp.C11S
open AsamCmp AsamCmp.Src.Bit AsamCmp.SrcGen AsamCmp.SrcFields

/-- the classes with accessor entries are the first 14 tables, in the tables' order -/
theorem classEntries_in_tables : ∀ ce ∈ classEntries, ce.1 ∈ Layout.all := by
  intro ce h
  have e : classEntries.map (·.1) = Layout.all.take 14 := rfl
  exact List.mem_of_mem_take (e ▸ List.mem_map_of_mem h)

theorem all_checks : ∀ ce ∈ classEntries, classCheck ce.1 ce.2 = true := by
  simp only [classEntries, List.forall_mem_cons]
  exact ⟨cmphdr_checks, msghdr_checks, can_checks, canfd_checks, lin_checks, eth_checks, analog_checks, cm_checks, if_checks,
    tecmphdr_checks, tecmpcan_checks, tecmplin_checks, tecmpif_checks, tecmpcm_checks, fun _ h => nomatch h⟩

theorem all_src : ∀ ce ∈ classEntries, ∀ e ∈ ce.2, ∃ f, ce.1.find e.field = some f ∧ e.acc.Holds ce.1.size f :=
  fun ce h => classCheck_sound _ _ (all_checks ce h)

theorem entry_holds {ce : ClassLayout × List Entry} (hce : ce ∈ classEntries) {e : Entry} (he : e ∈ ce.2) {f : Field}
    (hf : ce.1.find e.field = some f) : f ∈ ce.1.fields ∧ e.acc.Holds ce.1.size f := by
  obtain ⟨f', hf', hH⟩ := all_src ce hce e he
  rw [hf] at hf'; cases hf'
  exact ⟨List.mem_of_find?_eq_some hf, hH⟩

end AsamCmp.C11S
