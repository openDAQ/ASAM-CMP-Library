/-
  Source-level C13: the payload builders (`setData` of the six payload classes and the helpers `Payload::setData<Header>`,
  `fillWithString`), translated from /repo's source on every run (GeneratedSrc.lean), compute exactly the builder model
  `Builders.lean` that the C13 theorems are about — for EVERY prior content `m` of the object (its own byte vector, which
  `payloadData.resize` grows or shrinks), every caller buffer and every length the API allows.  The caller's buffers are separate
  read-only byte lists (`x_…` parameters): a `memcpy` that would read more than the caller supplied is `none` (undefined), so
  "= some …" also says the builder reads nothing behind the caller's data; a stale byte surviving from `m` would make the
  results differ.
-/
import AsamCmp.GeneratedSrc
import AsamCmp.Builders
import AsamCmp.Props.SrcTie
import AsamCmp.Lemmas.SrcBuilders
set_option linter.unusedSimpArgs false
namespace AsamCmp.SrcTie
open AsamCmp AsamCmp.Src AsamCmp.SrcGen
attribute [local congr] bind_head_congr bind_head_congr'

theorem can_setData_src (m x : Bytes) (this n : Nat) (hn : n ≤ x.length) (h8 : n < 256) :
    CanPayloadBase_setData m this x n = some (canSetData m (x.take n)) := by
  simp only [CanPayloadBase_setData, CanPayloadBase_Header_setDataLength, CanPayloadBase_Header_setDlc, bind, pure]
  refine bind_of_eq (payload_setData_spec _ 16 (fun _ _ _ _ => rfl) m this x n hn (by omega)) ?_
  bld_calls [encodeDlc_src, canSetData, List.length_take_of_le hn]

theorem lin_setData_src (m x : Bytes) (this n : Nat) (hn : n ≤ x.length) (h8 : n < 256) :
    LinPayload_setData m this x n = some (linSetData m (x.take n)) := by
  simp only [LinPayload_setData, LinPayload_Header_setDataLength, bind, pure]
  refine bind_of_eq (payload_setData_spec _ 8 (fun _ _ _ _ => rfl) m this x n hn (by omega)) ?_
  bld_calls [linSetData, List.length_take_of_le hn]

theorem eth_setData_src (m x : Bytes) (this n : Nat) (hn : n ≤ x.length) (h16 : n < 65536) :
    EthernetPayload_setData m this x n = some (ethSetData m (x.take n)) := by
  simp only [EthernetPayload_setData, EthernetPayload_Header_setDataLength, bind, pure]
  refine bind_of_eq (payload_setData_spec _ 6 (fun _ _ _ _ => rfl) m this x n hn (by omega)) ?_
  bld_calls [ethSetData, List.length_take_of_le hn]

theorem analog_setData_src (m x : Bytes) (this n : Nat) (hn : n ≤ x.length) (h64 : n + 16 < 2 ^ 64) :
    AnalogPayload_setData m this x n = some (analogSetData m (x.take n)) := by
  simp only [AnalogPayload_setData, analogSetData, bind, pure]
  first
    | exact payload_setData_spec _ 16 (fun _ _ _ _ => rfl) m this x n hn (by omega)
    | (refine bind_of_eq (payload_setData_spec _ 16 (fun _ _ _ _ => rfl) m this x n hn (by omega)) ?_; rfl)

theorem if_setData_src (m ids vendor : Bytes) (this c vl : Nat) (hc : c ≤ ids.length) (hv : vl ≤ vendor.length)
    (hc16 : c < 65536) (hv16 : vl < 65536) :
    InterfacePayload_setData m this ids c vendor vl = some (ifSetData m (ids.take c) (vendor.take vl)) := by
  simp only [InterfacePayload_setData, ifSetData, List.length_take, Nat.min_eq_left hc, Nat.min_eq_left hv,
    smod_small c 2 (by omega) (by omega) (by omega), bind, pure, some_bind]
  -- both branches of the parity test are normalised before the parity is looked at: they differ in the padding byte only
  bld_norm [nonneg_small, Nat.reduceBNe, Bool.false_eq_true, eq_self]
  simp (disch := len_omega) only [writeAt_to_end, take_resize]
  by_cases hodd : c % 2 = 0
  · simp only [hodd, Nat.reduceBNe, Bool.false_eq_true, eq_self, ↓reduceIte, zeros, List.replicate_succ,
      List.replicate_zero, List.cons_append, List.nil_append]
    try rfl
  · have h1 : c % 2 = 1 := by omega
    simp only [h1, Nat.reduceBNe, Bool.false_eq_true, eq_self, ↓reduceIte, zeros, List.replicate_succ,
      List.replicate_zero, List.cons_append, List.nil_append]
    try rfl

/-- one string block: `fillWithString` at position `p` of a memory with room for it writes `cmString s` there and returns the
    position behind it -/
theorem fillWithString_src (m s : Bytes) (this p : Nat) (hs : s.length < 65534) (hp : p + (cmString s).length ≤ m.length) :
    CaptureModulePayload_fillWithString m this p s = some (writeAt m p (cmString s), p + (cmString s).length) := by
  exact fillWithString_spec m s this p hs hp

/-- The layout that `CaptureModulePayload::setData` gives to the four string blocks does not depend on what a block is: for
    ANY block format `blk` of at most `text + 4` bytes that `fillWithString` writes at a position and steps over, the
    result is header, four blocks, vendor length, vendor data.  (With the blocks as variables the positions are sums of
    atoms, and no side condition has to look into `cmString`.) -/
theorem cm_setData_blocks (blk : Bytes → Bytes) (hlen : ∀ s, (blk s).length ≤ s.length + 4)
    (hfill : ∀ (M s : Bytes) (this p : Nat), s.length < 65534 → p + (blk s).length ≤ M.length →
      CaptureModulePayload_fillWithString M this p s = some (writeAt M p (blk s), p + (blk s).length))
    (m d s hw sw v : Bytes) (this : Nat)
    (hd : d.length < 65534) (hs : s.length < 65534) (hh : hw.length < 65534) (hw' : sw.length < 65534)
    (hv : v.length < 2 ^ 63) :
    CaptureModulePayload_setData m this d s hw sw v
      = some ((resize m 26).take 26 ++ blk d ++ blk s ++ blk hw ++ blk sw ++ beEnc 2 v.length ++ v) := by
  have h1 := hlen d
  have h2 := hlen s
  have h3 := hlen hw
  have h4 := hlen sw
  simp only [CaptureModulePayload_setData, bind, pure]
  bld_norm [hfill, psub_zero]
  simp (disch := len_omega) only [resize_writeAt, take_resize, beEnc_two_mod]

/-- the translated `CaptureModulePayload::setData` equals the model also for vendor data of 65536 bytes and more (the 16-bit
    length field then holds the length modulo 65536, in the source as in the model) -/
theorem cm_setData_src_any (m d s hw sw v : Bytes) (this : Nat)
    (hd : d.length < 65534) (hs : s.length < 65534) (hh : hw.length < 65534) (hw' : sw.length < 65534)
    (hv : v.length < 2 ^ 63) :
    CaptureModulePayload_setData m this d s hw sw v = some (cmSetData m d s hw sw v) :=
  cm_setData_blocks cmString (fun s => by rw [cmString_length_eq]; omega) fillWithString_spec m d s hw sw v this hd hs hh
    hw' hv

theorem cm_setData_src (m d s hw sw v : Bytes) (this : Nat)
    (hd : d.length < 65534) (hs : s.length < 65534) (hh : hw.length < 65534) (hw' : sw.length < 65534) (hv : v.length < 65536) :
    CaptureModulePayload_setData m this d s hw sw v = some (cmSetData m d s hw sw v) :=
  cm_setData_src_any m d s hw sw v this hd hs hh hw' (by omega)

end AsamCmp.SrcTie
