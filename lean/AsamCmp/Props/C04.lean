/-
  C04  Decoded packets report exactly what is on the wire.

  For every well-formed capture-module frame carrying any number of unsegmented messages, decoding —
  on a decoder with any history — returns one packet per message in wire order whose device id, stream
  id, version, message type, timestamp, interface or vendor id, flags, payload type, length and payload
  bytes equal the big-endian fields at the offsets the ASAM CMP layout prescribes.  A payload whose
  inner structure is inconsistent with its length, or that carries bus-error flags, is returned marked
  invalid rather than misparsed, and a frame cut short yields exactly the packets of the messages it
  still contains completely.
-/
import AsamCmp.Tecmp
import AsamCmp.Lemmas.Wire
namespace AsamCmp.C04
open AsamCmp

/-- a message as the protocol lays it out: timestamp u64 @0, id word u32 @8 (interface id, or
    reserved u16 + vendor id u16), flags u8 @12, payload type u8 @13, payload length u16 @14, payload -/
structure WMsg where
  ts : Nat
  idw : Nat
  flags : Nat
  ptype : Nat
  body : Bytes

def WMsg.bytes (m : WMsg) : Bytes :=
  beEnc 8 m.ts ++ beEnc 4 m.idw ++ [UInt8.ofNat m.flags, UInt8.ofNat m.ptype] ++ beEnc 2 m.body.length ++ m.body

/-- in-range field values of an unsegmented message without the error-in-payload bit -/
def WMsg.WF (m : WMsg) : Prop :=
  m.ts < 2 ^ 64 ∧ m.idw < 2 ^ 32 ∧ m.flags < 256 ∧ m.flags &&& 0x4C = 0 ∧ 1 ≤ m.ptype ∧ m.ptype < 256 ∧ m.body.length < 65536

/-- frame header: version u8 @0, reserved @1, device id u16 @2, message type u8 @4, stream id u8 @5,
    sequence counter u16 @6 -/
structure WFrame where
  ver : Nat
  reserved : Nat
  dev : Nat
  mt : Nat
  stream : Nat
  seq : Nat
  msgs : List WMsg

def WFrame.bytes (F : WFrame) : Bytes :=
  [UInt8.ofNat F.ver, UInt8.ofNat F.reserved] ++ beEnc 2 F.dev ++ [UInt8.ofNat F.mt, UInt8.ofNat F.stream] ++ beEnc 2 F.seq ++
    F.msgs.flatMap WMsg.bytes

def WFrame.WF (F : WFrame) : Prop :=
  1 ≤ F.ver ∧ F.ver < 256 ∧ F.reserved < 256 ∧ F.dev < 65536 ∧ F.mt < 256 ∧ F.stream < 256 ∧ F.seq < 65536 ∧
  ∀ m ∈ F.msgs, m.WF

/-- the packet the decoder must report for message `m` of frame `F`: the typed payload when the
    payload's own structure is consistent (`create`: validators incl. the bus-error flag masks), the
    invalid-marked payload of the same length otherwise -/
def specPacket (F : WFrame) (m : WMsg) : Packet :=
  { payload := some (create (F.mt * 256 + m.ptype) m.body), version := F.ver, deviceId := F.dev, streamId := F.stream,
    seq := 0, ts := m.ts, ifId := if F.mt = 1 then m.idw else 0,
    vendorId := if F.mt = 3 ∨ F.mt = 0xFF then m.idw % 65536 else 0, flags := m.flags, segType := 0 }

/-- `WMsg` with its layout, as the view the lemmas of Lemmas/Wire.lean work on -/
def view : MsgView WMsg := ⟨WMsg.bytes, WMsg.ts, WMsg.idw, WMsg.flags, WMsg.ptype, WMsg.body, fun _ => rfl⟩

theorem frame_bytes (F : WFrame) :
    F.bytes = hdr8 F.ver F.reserved F.dev F.mt F.stream F.seq ++ F.msgs.flatMap WMsg.bytes := rfl

theorem hdrWF {F : WFrame} (hF : F.WF) : HdrWF F.ver F.reserved F.dev F.mt F.stream F.seq :=
  ⟨hF.1, hF.2.1, hF.2.2.1, hF.2.2.2.1, hF.2.2.2.2.1, hF.2.2.2.2.2.1, hF.2.2.2.2.2.2.1⟩

/-- a frame whose well-formed messages are followed by ANY bytes at which the message walk ends at once without a segment:
    the packets of the messages, any decoder history -/
theorem decode_tail (F : WFrame) (hF : F.WF) (d : DecState) (tail : Bytes) {t : Term}
    (ht : t = Term.done ∨ t = Term.invalid) (hw : walk (F.dev, F.stream) F.ver F.mt tail = ([], t)) :
    (decode d (some (F.bytes ++ tail))).2 = F.msgs.map (specPacket F) :=
  wire_tail view (hdrWF hF) F.msgs hF.2.2.2.2.2.2.2 d tail ht hw

/-- C04: whole frame, any decoder history -/
theorem C04_wire (F : WFrame) (hF : F.WF) (d : DecState) :
    (decode d (some F.bytes)).2 = F.msgs.map (specPacket F) := by
  have := decode_tail F hF d [] (Or.inl rfl) (walk_nil_eq ..)
  rwa [List.append_nil] at this

/-- … and zero padding behind the messages changes nothing -/
theorem C04_pad (F : WFrame) (hF : F.WF) (d : DecState) (k : Nat) :
    (decode d (some (F.bytes ++ zeros k))).2 = F.msgs.map (specPacket F) := by
  refine decode_tail F hF d (zeros k) ?_ (C01.walk_zeros ..)
  split
  · exact Or.inl rfl
  · exact Or.inr rfl

/-- number of leading messages wholly contained in the first `n` bytes behind the frame header -/
def fitCount : Nat → List WMsg → Nat
  | _, [] => 0
  | n, m :: ms => if 16 + m.body.length ≤ n then 1 + fitCount (n - (16 + m.body.length)) ms else 0

/-- … and a frame cut short at ANY offset yields exactly the packets of the messages it still
    contains completely -/
theorem C04_truncate (F : WFrame) (hF : F.WF) (d : DecState) (n : Nat) :
    (decode d (some (F.bytes.take n))).2 = ((F.msgs.take (fitCount (n - 8) F.msgs)).map (specPacket F)) :=
  wire_truncate view (hdrWF hF) F.msgs hF.2.2.2.2.2.2.2 d fitCount (fun _ => rfl) (fun _ _ _ => rfl) n

/-- invalid-marked, not misparsed: a typed payload rejected by its validator is reported with
    type 0, the declared length and no bytes of the wire -/
theorem C04_invalid_marked (ty : Nat) (d : Bytes) (v : Bytes → Bool) (hv : validatorOf ty = some v) (hr : v d = false) :
    create ty d = ⟨0, zeros d.length⟩ ∧ (create ty d).isValid = false := by
  have e : create ty d = ⟨0, zeros d.length⟩ := by simp [create, hv, hr]
  refine ⟨e, ?_⟩
  rw [e]
  rfl

instance (m : WMsg) : Decidable m.WF := by unfold WMsg.WF; exact inferInstance
instance (F : WFrame) : Decidable F.WF := by unfold WFrame.WF; exact inferInstance

/-- non-vacuity: a CAN message with the CRC-error flag is reported invalid-marked -/
example : (create tyCan ([0, 1] ++ zeros 14)).isValid = false := by decide

end AsamCmp.C04
