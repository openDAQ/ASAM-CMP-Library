/-
  Source-level tie, TECMP part: the header validity test and the header / payload readers that `TECMP::Decoder` and
  `TECMP::Converter` use, translated from /repo's source on every run (GeneratedSrc.lean), read exactly the bytes the TECMP model
  (`Tecmp.lean`: `tecmpDecode`, `tecmpCan`, `tecmpLin`, `tecmpPacket`) reads — for every memory content.
-/
import AsamCmp.GeneratedSrc
import AsamCmp.Tecmp
import AsamCmp.Props.SrcTie
import AsamCmp.Lemmas.SrcAccess
set_option linter.unusedSimpArgs false
set_option linter.unusedVariables false
namespace AsamCmp.SrcTie
open AsamCmp AsamCmp.Src AsamCmp.SrcGen

/-- the 28-byte TECMP header at the start of the buffer: validity (message type 0xFF or data type 0xFF00 on the wire — the
    library compares the raw little-endian word with 0xFF — mark an invalid header) and the fields the decoder uses -/
theorem tecmp_header_src (b : Bytes) (h : 28 ≤ b.length) :
    TECMP_CmpHeader_isValid b 0 = some (!(decide (byteAt b 5 = 0xFF) || (decide (byteAt b 6 = 0xFF) && decide (byteAt b 7 = 0)))) ∧
    TECMP_CmpHeader_getPayloadLength b 0 = some (beAt b 24 2) ∧
    TECMP_CmpHeader_getMessageType b 0 = some (byteAt b 5) ∧
    TECMP_CmpHeader_getDataType b 0 = some (beAt b 6 2) ∧
    TECMP_CmpHeader_getDeviceId b 0 = some (byteAt b 1) ∧
    TECMP_CmpHeader_getInterfaceId b 0 = some (beAt b 12 4) ∧
    TECMP_CmpHeader_getTimestamp b 0 = some (beAt b 16 8) := by
  have h6 := byteAt_lt_256 b 6
  have h7 := byteAt_lt_256 b 7
  refine ⟨?_, ?_⟩
  · unfold TECMP_CmpHeader_isValid
    simp (disch := omega) only [rd_eq, leAt_one, leAt_two, Nat.zero_add, Nat.reduceAdd]
    src_norm
    simp only [Bool.not_or, Bool.not_and]
    src_finish
  · unfold TECMP_CmpHeader_getPayloadLength TECMP_CmpHeader_getMessageType TECMP_CmpHeader_getDataType
      TECMP_CmpHeader_getDeviceId TECMP_CmpHeader_getInterfaceId TECMP_CmpHeader_getTimestamp swapEndian_u8
    simp (disch := omega) only [rd_eq, leAt_one, swap16_leAt, swap32_leAt, swap64_leAt, bind, some_bind, pure,
      Nat.zero_add, and_self]

/-! ### payload readers, for the owned bytes `p` at any address `a` of any memory `m` smaller than the address space -/

section readers
variable {m p : Bytes} {a : Nat} (hA : At m a p) (this : Nat) (h : m.length < 2 ^ 64)
include hA h

/-- TECMP LIN payload: id byte, length byte, data pointer, checksum byte behind the data (0 when absent) — what `tecmpLin`
    reads -/
theorem tecmp_lin_at (hp : 2 ≤ p.length) :
    TECMP_LinPayload_getPid m a p.length this = some (byteAt p 0) ∧
    TECMP_LinPayload_getDataLength m a p.length this = some (byteAt p 1) ∧
    TECMP_LinPayload_getData a p.length this = some (a + 2) ∧
    TECMP_LinPayload_getCrc m a p.length this =
      some (if p.length ≤ 2 + byteAt p 1 then 0 else byteAt p (2 + byteAt p 1)) := by
  have hb := hA.length_lt h
  have h1 := byteAt_lt_256 p 1
  refine ⟨?_, ?_, rfl, ?_⟩
  · simp only [TECMP_LinPayload_getPid, TECMP_LinPayload_Header_getPid, swapEndian_u8]
    src_calls [hA.rd, hA.rd0]
  · simp only [TECMP_LinPayload_getDataLength, TECMP_LinPayload_Header_getDataLength, swapEndian_u8]
    src_calls [hA.rd, hA.rd0]
  · simp only [TECMP_LinPayload_getCrc, TECMP_LinPayload_Header_getDataLength, swapEndian_u8]
    src_calls [hA.rd, hA.rd0]
    by_cases hle : p.length ≤ 2 + byteAt p 1
    · rw [if_pos hle, if_pos hle]
    · rw [if_neg hle, if_neg hle]
      src_calls [hA.rd, hA.rd0, nonneg_byteAt, Nat.add_assoc]

/-- TECMP CAN payload: arbitration id, length byte, data pointer (null when nothing follows the 5 header bytes) -/
theorem tecmp_can_at (hp : 5 ≤ p.length) :
    TECMP_CanPayload_getArbId m a p.length this = some (beAt p 0 4) ∧
    TECMP_CanPayload_getDlc m a p.length this = some (byteAt p 4) ∧
    TECMP_CanPayload_getData a p.length this = some (if 5 < p.length then a + 5 else 0) := by
  refine ⟨?_, ?_, ?_⟩
  · simp only [TECMP_CanPayload_getArbId, TECMP_CanPayload_Header_getArbId]
    src_calls [hA.rd, hA.rd0]
  · simp only [TECMP_CanPayload_getDlc, TECMP_CanPayload_Header_getDlc, swapEndian_u8]
    src_calls [hA.rd, hA.rd0]
  · simp only [TECMP_CanPayload_getData]
    src_norm
    exact ite_some _ _ _

end readers

/-- TECMP LIN payload `p` (owned bytes at address `pre.length`): id byte, length byte, data pointer, checksum byte behind the data
    (0 when absent) — what `tecmpLin` reads -/
theorem tecmp_lin_src (pre p post : Bytes) (this : Nat) (h : (pre ++ p ++ post).length < 2 ^ 64) (hp : 2 ≤ p.length) :
    TECMP_LinPayload_getPid (pre ++ p ++ post) pre.length p.length this = some (byteAt p 0) ∧
    TECMP_LinPayload_getDataLength (pre ++ p ++ post) pre.length p.length this = some (byteAt p 1) ∧
    TECMP_LinPayload_getData pre.length p.length this = some (pre.length + 2) ∧
    TECMP_LinPayload_getCrc (pre ++ p ++ post) pre.length p.length this =
      some (if p.length ≤ 2 + byteAt p 1 then 0 else byteAt p (2 + byteAt p 1)) :=
  tecmp_lin_at (at_mid pre p post) this h hp

/-- TECMP CAN payload: arbitration id, length byte, data pointer (null when nothing follows the 5 header bytes) -/
theorem tecmp_can_src (pre p post : Bytes) (this : Nat) (h : (pre ++ p ++ post).length < 2 ^ 64) (hp : 5 ≤ p.length) :
    TECMP_CanPayload_getArbId (pre ++ p ++ post) pre.length p.length this = some (beAt p 0 4) ∧
    TECMP_CanPayload_getDlc (pre ++ p ++ post) pre.length p.length this = some (byteAt p 4) ∧
    TECMP_CanPayload_getData pre.length p.length this = some (if 5 < p.length then pre.length + 5 else 0) :=
  tecmp_can_at (at_mid pre p post) this h hp

end AsamCmp.SrcTie
