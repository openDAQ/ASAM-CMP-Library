/-
  Source-level encoder: every method of `ASAM::CMP::Encoder` (src/encoder.cpp) is translated from the typed clang AST on every
  run into a state transformer over the record of its data members (GeneratedSrcObj.lean, vlib/srcobj.py: member vectors as byte
  lists, pointers into them with static provenance, header writes through the translated byte-level functions, the `while` loop as
  recursion on fuel, the `const Packet&` argument as the opaque record `PktIn`).  The theorems say that this translation, started
  in any state a caller can produce, is DEFINED (no undefined behaviour: every `memcpy` / header write inside its vector, `back()` /
  `pop_back()` never on an empty vector, no signed overflow) and computes exactly the hand-written low-level model `EncLL`
  (EncoderLL.lean) — which `C07b.encodeLL_refines` proves equal to the structured encoder model that C01, C06b, C07–C10 are about.
-/
import AsamCmp.GeneratedSrcObj
import AsamCmp.EncoderLL
import AsamCmp.Props.C07
import AsamCmp.Lemmas.SrcEncPublic
namespace AsamCmp.SrcEnc
open AsamCmp AsamCmp.Src AsamCmp.SrcGen

/-- the record of data members read as the low-level model's state (a bijection) -/
def toLL (s : Encoder_St) : EncLL :=
  { min := s.f_minBytesPerMessage, max := s.f_maxBytesPerMessage, dev := s.f_deviceId, stream := s.f_streamId,
    tmpl := s.f_cmpFrameTemplate, bytesLeft := s.f_bytesLeft, seqc := s.f_sequenceCounter, mt := s.f_messageType,
    frames := s.f_cmpFrames }

def ofLL (l : EncLL) : Encoder_St :=
  { f_minBytesPerMessage := l.min, f_maxBytesPerMessage := l.max, f_deviceId := l.dev, f_streamId := l.stream,
    f_cmpFrameTemplate := l.tmpl, f_bytesLeft := l.bytesLeft, f_sequenceCounter := l.seqc, f_messageType := l.mt,
    f_cmpFrames := l.frames }

/-- what the encoder reads from a packet of the model: message type, payload length and bytes, and the raw headers that
    `Packet::getRawCmpHeader` / `getRawMessageHeader` produce (`frameHeader` / `msgHeader` of Packet.lean) -/
def pktIn (p : Packet) : PktIn :=
  { messageType := p.mt, payloadLength := p.payloadLength, rawPayload := p.data,
    rawCmpHeader := frameHeader (p.version % 256) p.deviceId p.mt p.streamId p.seq,
    rawMsgHeader := msgHeader p (p.flags % 256 &&& 0x0C) p.payloadLength }

/-- the member values any sequence of public calls leaves: ids and counter within their C types -/
def Reg (s : Encoder_St) : Prop :=
  s.f_deviceId < 65536 ∧ s.f_streamId < 256 ∧ s.f_sequenceCounter < 65536 ∧ s.f_messageType < 256

/-- the composition `init(ctx); putPacket(p) for every p of the batch; return getEncodedData();` of the translated methods.  The
    iterator-range overloads of `encode` — member TEMPLATES, translated from their bodies in include/asam_cmp/encoder.h
    (vlib/srctmpl.py: `Encoder_encode_range_obj`, `Encoder_encode_ptrRange_obj`) — are exactly this composition: `encode_range_eq` -/
def srcEncodeBatch (fuel : Nat) (s : Encoder_St) (batch : List Packet) (mn mx : Nat) : Option (Encoder_St × List Bytes) := do
  let (s, _) ← Encoder_init_obj s mn mx
  let s ← batch.foldlM (fun s p => (Encoder_putPacket_obj fuel s (pktIn p)).map (·.1)) s
  Encoder_getEncodedData_obj s

/-! The lemma files (Lemmas/SrcEnc*.lean) are stated with their own copies `stOf` / `pkOf` of `ofLL` / `pktIn`. -/

theorem ofLL_eq (l : EncLL) : ofLL l = stOf l := rfl
theorem pktIn_eq (p : Packet) : pktIn p = pkOf p := rfl
theorem toLL_stOf (l : EncLL) : toLL (stOf l) = l := rfl
theorem st_cases (s : Encoder_St) : ∃ l, s = stOf l := ⟨toLL s, rfl⟩

theorem foldlM_range (fuel : Nat) (batch : List Packet) (s : Encoder_St) :
    (batch.map pktIn).foldlM (fun s x => do
        let (s, _) ← Encoder_putPacket_obj fuel s x
        pure s) s
      = batch.foldlM (fun s p => (Encoder_putPacket_obj fuel s (pktIn p)).map (·.1)) s := by
  have step : (fun (s : Encoder_St) (x : PktIn) => (do
        let (s, _) ← Encoder_putPacket_obj fuel s x
        pure s : Option Encoder_St)) = fun s x => (Encoder_putPacket_obj fuel s x).map (·.1) := by
    funext s x
    cases Encoder_putPacket_obj fuel s x <;> rfl
  rw [step, List.foldlM_map]

/-- the iterator-range overloads of `encode` (over a range of `Packet`s and over a range of `shared_ptr<Packet>`), translated from
    the template bodies: on the range designating `batch` both are the composition `srcEncodeBatch` -/
theorem encode_range_eq (fuel : Nat) (s : Encoder_St) (batch : List Packet) (mn mx : Nat) :
    Encoder_encode_range_obj fuel s (batch.map pktIn) mn mx = srcEncodeBatch fuel s batch mn mx ∧
    Encoder_encode_ptrRange_obj fuel s (batch.map pktIn) mn mx = srcEncodeBatch fuel s batch mn mx := by
  unfold Encoder_encode_range_obj Encoder_encode_ptrRange_obj srcEncodeBatch
  simp only [foldlM_range]
  cases Encoder_init_obj s mn mx with
  | none => exact ⟨rfl, rfl⟩
  | some r =>
    obtain ⟨s1, u⟩ := r
    simp only [Option.bind_eq_bind, Option.bind_some]
    cases List.foldlM (fun s p => Option.map (fun x => x.fst) (Encoder_putPacket_obj fuel s (pktIn p))) s1 batch with
    | none => exact ⟨rfl, rfl⟩
    | some s2 =>
      simp only [Option.bind_some]
      cases Encoder_getEncodedData_obj s2 with
      | none => exact ⟨rfl, rfl⟩
      | some r2 => exact ⟨rfl, rfl⟩

/-- the configuration calls -/
theorem config_src (s : Encoder_St) (d st : Nat) :
    Encoder_setDeviceId_obj s d = some (ofLL { (toLL s) with dev := d, bytesLeft := 0, frames := [], tmpl := [], seqc := 0 }, ()) ∧
    Encoder_setStreamId_obj s st = some (ofLL { (toLL s) with stream := st, bytesLeft := 0, frames := [], tmpl := [], seqc := 0 }, ()) ∧
    Encoder_restart_obj s = some (ofLL { (toLL s) with seqc := 0 }, ()) ∧
    Encoder_getSequenceCounter_obj s = some (s, s.f_sequenceCounter) := by
  obtain ⟨l, rfl⟩ := st_cases s
  refine ⟨?_, ?_, rfl, rfl⟩
  · unfold Encoder_setDeviceId_obj
    src_norm [mk_eq_stOf, clear_src, ofLL_eq, toLL_stOf] <;> rfl
  · unfold Encoder_setStreamId_obj
    src_norm [mk_eq_stOf, clear_src, ofLL_eq, toLL_stOf] <;> rfl

/-- `encodeBatch_src` below needs neither `Reg s` nor the bound on the payloads: the member values may be anything (every value the
    encoder writes is reduced to its field's width by the write itself, in the source and in the model alike), and so may the
    payload sizes (`getPayloadLength()` is the 16-bit truncation, in `pktIn` as in the model: both encode that many bytes) -/
theorem encodeBatch_src_gen (s : Encoder_St) (batch : List Packet) (c : Ctx) (fuel : Nat)
    (hc : c.ok = true) (hmax : c.max < 2 ^ 32) (hf : 65536 ≤ fuel) :
    srcEncodeBatch fuel s batch c.min c.max = some (ofLL ((toLL s).encode batch c).1, ((toLL s).encode batch c).2) := by
  obtain ⟨l, rfl⟩ := st_cases s
  obtain ⟨i1, e1⟩ := fold_src fuel hf batch (l.init c) (init_inv _ c hc hmax)
  unfold srcEncodeBatch EncLL.encode
  src_norm [ofLL_eq, pktIn_eq, toLL_stOf, init_src, e1, getEncodedData_src _ i1] <;> rfl

/-- likewise for `encode1_src` below -/
theorem encode1_src_gen (s : Encoder_St) (p : Packet) (c : Ctx) (fuel : Nat)
    (hc : c.ok = true) (hmax : c.max < 2 ^ 32) (hf : 65536 ≤ fuel) :
    Encoder_encode_obj fuel s (pktIn p) c.min c.max = some (ofLL ((toLL s).encode [p] c).1, ((toLL s).encode [p] c).2) := by
  obtain ⟨l, rfl⟩ := st_cases s
  obtain ⟨o1, e1⟩ := putPacket_src (l.init c) p fuel (init_inv _ c hc hmax) hf
  unfold Encoder_encode_obj EncLL.encode
  src_norm [ofLL_eq, pktIn_eq, toLL_stOf, init_src, e1, getEncodedData_src _ o1.inv, List.foldl_cons, List.foldl_nil] <;> rfl

set_option linter.unusedVariables false in   -- `hs`, `hb` are not needed: see `encodeBatch_src_gen`
/-- a whole batch, from ANY encoder state with members in range (whatever earlier calls left in the scratch members), for every
    batch of packets with payloads shorter than 2^16 and every valid configuration: the translated source is defined and returns
    exactly the low-level model's frames and final state -/
theorem encodeBatch_src (s : Encoder_St) (batch : List Packet) (c : Ctx) (fuel : Nat)
    (hs : Reg s) (hc : c.ok = true) (hmax : c.max < 2 ^ 32) (hb : ∀ p ∈ batch, p.Enc ∧ p.mt < 256) (hf : 65536 ≤ fuel) :
    srcEncodeBatch fuel s batch c.min c.max = some (ofLL ((toLL s).encode batch c).1, ((toLL s).encode batch c).2) :=
  encodeBatch_src_gen s batch c fuel hc hmax hf

set_option linter.unusedVariables false in   -- `hs`, `hp` are not needed: see `encode1_src_gen`
/-- the single-packet overload `encode(const Packet&, const DataContext&)`, translated as a whole -/
theorem encode1_src (s : Encoder_St) (p : Packet) (c : Ctx) (fuel : Nat)
    (hs : Reg s) (hc : c.ok = true) (hmax : c.max < 2 ^ 32) (hp : p.Enc ∧ p.mt < 256) (hf : 65536 ≤ fuel) :
    Encoder_encode_obj fuel s (pktIn p) c.min c.max = some (ofLL ((toLL s).encode [p] c).1, ((toLL s).encode [p] c).2) :=
  encode1_src_gen s p c fuel hc hmax hf

/-- the two iterator-range overloads of `encode`, translated from the template bodies, on the range designating `batch`: defined
    from ANY encoder state, equal to the low-level model -/
theorem encodeRange_src (s : Encoder_St) (batch : List Packet) (c : Ctx) (fuel : Nat)
    (hc : c.ok = true) (hmax : c.max < 2 ^ 32) (hf : 65536 ≤ fuel) :
    Encoder_encode_range_obj fuel s (batch.map pktIn) c.min c.max
      = some (ofLL ((toLL s).encode batch c).1, ((toLL s).encode batch c).2) ∧
    Encoder_encode_ptrRange_obj fuel s (batch.map pktIn) c.min c.max
      = some (ofLL ((toLL s).encode batch c).1, ((toLL s).encode batch c).2) := by
  obtain ⟨h1, h2⟩ := encode_range_eq fuel s batch c.min c.max
  rw [h1, h2]
  exact ⟨encodeBatch_src_gen s batch c fuel hc hmax hf, encodeBatch_src_gen s batch c fuel hc hmax hf⟩

end AsamCmp.SrcEnc
