/-
  Byte-level lifts of C05 and C17: the statements of Props/C05.lean and Props/C17.lean are about
  parsed frames (`PFrame`); here they are restated for the byte buffers handed to `decode`.
-/
import AsamCmp.Tecmp
import AsamCmp.Props.C05
import AsamCmp.Props.C17
import AsamCmp.Lemmas.Lift
namespace AsamCmp.C05b
open AsamCmp

/-- buffers that are capture-module frames, parsed; everything else (null, short, TECMP) is dropped -/
def framesOf : List (Option Bytes) → List PFrame
  | [] => []
  | b :: bs =>
    match bufEp b, b with
    | some _, some x => parseFrame x :: framesOf bs
    | _, _ => framesOf bs

theorem _root_.AsamCmp.C05S.framesOf_foreign (b : Option Bytes) (bs : List (Option Bytes)) (h : bufEp b = none) :
    framesOf (b :: bs) = framesOf bs := by
  simp only [framesOf, h]

theorem _root_.AsamCmp.C05S.framesOf_frame (b : Bytes) (bs : List (Option Bytes)) (x : Ep) (h : bufEp (some b) = some x) :
    framesOf (some b :: bs) = parseFrame b :: framesOf bs := by
  simp only [framesOf, h]

/-- `framesOf` as a list function: the buffers that address an endpoint, parsed -/
theorem framesOf_eq (bufs : List (Option Bytes)) :
    framesOf bufs = (bufs.filter fun b => (bufEp b).isSome).map fun b => parseFrame (b.getD []) := by
  induction bufs with
  | nil => rfl
  | cons b bs ih =>
    cases hb : bufEp b with
    | none => rw [C05S.framesOf_foreign b bs hb, List.filter_cons_of_neg (by simp [hb]), ih]
    | some x =>
      obtain ⟨bb, rfl, _, _⟩ := decodeWith_of_bufEp tecmpDecode b x hb
      rw [C05S.framesOf_frame bb bs x hb, List.filter_cons_of_pos (by simp [hb]), ih]
      rfl

/-- a call on a capture-module frame is `step` on the parsed frame; any other call leaves the table alone -/
theorem decodeWith_frames (tecmp : Bytes → List Packet) :
    Run.Local (decodeWith tecmp) step id (fun b => (bufEp b).isSome) (fun b => parseFrame (b.getD [])) where
  own s b hb := by
    obtain ⟨x, hx⟩ := Option.isSome_iff_exists.mp hb
    obtain ⟨bb, rfl, _, hdec⟩ := decodeWith_of_bufEp tecmp b x hx
    rw [hdec]
    rfl
  other s b hb := by
    rw [decodeWith_foreign tecmp s b (Option.not_isSome_iff_eq_none.mp (ne_true_of_eq_false hb))]

/-- the reassembly state after any history of buffers is the state after the parsed frames of that
    history: non-frames never touch it -/
theorem decodeAll_state (s : DecState) (bufs : List (Option Bytes)) :
    (decodeAll tecmpDecode s bufs).1 = (run s (framesOf bufs)).1 := by
  rw [decodeAll_eq, run_eq, framesOf_eq]
  exact ((decodeWith_frames tecmpDecode).filter s bufs).1

theorem framesOf_forall (P : PFrame → Prop) (h : ∀ b, P (parseFrame b)) (bufs : List (Option Bytes)) :
    ∀ f ∈ framesOf bufs, P f := by
  intro f hf
  rw [framesOf_eq] at hf
  obtain ⟨b, _, rfl⟩ := List.mem_map.mp hf
  exact h _

theorem framesOf_wf (bufs : List (Option Bytes)) : ∀ f ∈ framesOf bufs, f.WF :=
  framesOf_forall _ parseFrame_WF bufs

/-- C17 on bytes: after ANY history of buffers from a fresh decoder, endpoint `e` holds a pending
    reassembly exactly when the buffer-free specification automaton run over `e`'s own frames says a
    message is in progress, and then with at most 16 + the segment bytes received for it -/
theorem C17_bytes (bufs : List (Option Bytes)) (e : Ep) :
    ((decodeAll tecmpDecode DecState.empty bufs).1 e).map Pending.descr =
        openAfter ((framesOf bufs).filter (fun f => f.ep = e)) ∧
    (match (decodeAll tecmpDecode DecState.empty bufs).1 e with
     | none => True
     | some q => q.buf.length ≤ 16 + openBytes ((framesOf bufs).filter (fun f => f.ep = e))) := by
  rw [decodeAll_state]
  exact ⟨C17_pending_iff_open _ (framesOf_wf bufs) e, C17_pending_bytes _ (framesOf_wf bufs) e⟩

/-- bytes that follow a segment's declared length in its frame never enter the message: the frame
    parses to a segment terminator holding exactly header + declared bytes, whatever trails -/
theorem segFrame_parse (ver dev mt stream seq : Nat) (h : SegHdr) (seg : Nat) (body trail : Bytes)
    (hv : 1 ≤ ver ∧ ver < 256) (hd : dev < 65536) (hm : mt < 256) (hs : stream < 256) (hq : seq < 65536)
    (hseg : seg = 4 ∨ seg = 8 ∨ seg = 12) (hh : h.WF seg) (hb : body.length < 65536) :
    parseFrame (segFrame ver dev mt stream seq h body trail) =
      { ep := (dev, stream), ver := ver, mt := mt, seq := seq, unseg := [], term := .seg (h.bytes body.length ++ body) } := by
  exact parse_segment ver dev mt stream seq h seg body trail hv.2 hd hm hs hq hh
    (by rcases hseg with rfl | rfl | rfl <;> decide) hb

/-! ### one segmented message on the wire -/

/-- the frames of a message given segment by segment (header fields, declared bytes, trailing bytes):
    one segment per frame, consecutive counters modulo 2^16 from `seq0` -/
def wireFrames (ver dev mt stream seq0 : Nat) (segs : List (SegHdr × Bytes × Bytes)) : List Bytes :=
  ((List.range segs.length).zip segs).map fun (p : Nat × SegHdr × Bytes × Bytes) =>
    segFrame ver dev mt stream ((seq0 + p.1) % 65536) p.2.1 p.2.2.1 p.2.2.2

section Wire
variable (ver dev mt stream seq0 : Nat) (first : SegHdr × Bytes × Bytes)
  (middle : List (SegHdr × Bytes × Bytes)) (last : SegHdr × Bytes × Bytes)

/-- the message of Props/C05.lean these frames parse to -/
def wireSegMsg : SegMsg :=
  ⟨(dev, stream), ver, mt, seq0, (first.1.bytes first.2.1.length, first.2.1),
   middle.map (fun x => (x.1.bytes x.2.1.length, x.2.1)), (last.1.bytes last.2.1.length, last.2.1)⟩

theorem wireSegMsg_wf (hf : first.1.WF 4) (hmid : ∀ x ∈ middle, x.1.WF 8) (hl : last.1.WF 12) :
    (wireSegMsg ver dev mt stream seq0 first middle last).WF := by
  refine ⟨?_, segTypeOf_bytes _ 4 _ hf, ?_, segTypeOf_bytes _ 12 _ hl⟩
  · intro s hs
    simp only [wireSegMsg, SegMsg.segs, List.mem_cons, List.mem_append, List.mem_map, List.not_mem_nil,
      or_false] at hs
    rcases hs with rfl | ⟨x, _, rfl⟩ | rfl <;> exact segHdr_length ..
  · intro s hs
    obtain ⟨x, hx, rfl⟩ := List.mem_map.mp hs
    exact segTypeOf_bytes _ 8 _ (hmid x hx)

theorem wireSegMsg_body :
    (wireSegMsg ver dev mt stream seq0 first middle last).body =
      first.2.1 ++ (middle.map (·.2.1)).flatten ++ last.2.1 := by
  simp [wireSegMsg, SegMsg.body, SegMsg.segs, List.map_map, Function.comp_def]

theorem wireSegs_wf (hf : first.1.WF 4 ∧ first.2.1.length < 65536)
    (hmid : ∀ x ∈ middle, x.1.WF 8 ∧ x.2.1.length < 65536) (hl : last.1.WF 12 ∧ last.2.1.length < 65536) :
    ∀ x ∈ first :: (middle ++ [last]),
      ∃ seg, (seg = 4 ∨ seg = 8 ∨ seg = 12) ∧ x.1.WF seg ∧ x.2.1.length < 65536 := by
  intro x hx
  simp only [List.mem_cons, List.mem_append, List.not_mem_nil, or_false] at hx
  rcases hx with rfl | hx | rfl
  · exact ⟨4, Or.inl rfl, hf⟩
  · exact ⟨8, Or.inr (Or.inl rfl), hmid x hx⟩
  · exact ⟨12, Or.inr (Or.inr rfl), hl⟩

theorem wireFrames_parse (hv : 1 ≤ ver ∧ ver < 256) (hd : dev < 65536) (hm : mt < 256) (hs : stream < 256)
    (hf : first.1.WF 4 ∧ first.2.1.length < 65536) (hmid : ∀ x ∈ middle, x.1.WF 8 ∧ x.2.1.length < 65536)
    (hl : last.1.WF 12 ∧ last.2.1.length < 65536) :
    (wireFrames ver dev mt stream seq0 (first :: (middle ++ [last]))).map parseFrame =
      (wireSegMsg ver dev mt stream seq0 first middle last).frames := by
  have hsegs : (wireSegMsg ver dev mt stream seq0 first middle last).segs =
      (first :: (middle ++ [last])).map (fun x => (x.1.bytes x.2.1.length, x.2.1)) := by
    simp [wireSegMsg, SegMsg.segs]
  unfold SegMsg.frames wireFrames
  rw [hsegs, List.length_map, List.zip_map_right, List.map_map, List.map_map]
  apply List.map_congr_left
  intro ⟨i, x⟩ hx
  obtain ⟨seg, hseg, hwf, hlen⟩ := wireSegs_wf first middle last hf hmid hl x (List.of_mem_zip hx).2
  simp only [Function.comp, Prod.map, id, wireSegMsg,
    segFrame_parse ver dev mt stream _ x.1 seg x.2.1 x.2.2 hv hd hm hs (Nat.mod_lt _ (by decide)) hseg hwf hlen]

theorem wireFrames_valid (segs : List (SegHdr × Bytes × Bytes))
    (hv : 1 ≤ ver ∧ ver < 256) :
    ∀ b ∈ wireFrames ver dev mt stream seq0 segs, 8 ≤ b.length ∧ byteAt b 0 ≠ 0 := by
  intro b hb
  obtain ⟨p, _, rfl⟩ := List.mem_map.mp hb
  exact segment_is_frame ver dev mt stream _ p.2.1 p.2.2.1 p.2.2.2 hv

/-- one message on the wire, whatever its total length, fed to a decoder in any state: nothing before
    the last frame; then one packet, here with all its fields — the data are the concatenation of the
    declared bytes cut at `total mod 2^16`, the length the 16-bit header field can hold; the endpoint's
    entry is released and no other endpoint is touched -/
theorem wire_single (hv : 1 ≤ ver ∧ ver < 256) (hd : dev < 65536) (hm : mt < 256) (hs : stream < 256)
    (hf : first.1.WF 4 ∧ first.2.1.length < 65536) (hmid : ∀ x ∈ middle, x.1.WF 8 ∧ x.2.1.length < 65536)
    (hl : last.1.WF 12 ∧ last.2.1.length < 65536) (d : DecState) :
    let segs := first :: (middle ++ [last])
    let bufs := (List.range segs.length).zip segs |>.map fun p =>
      some (segFrame ver dev mt stream ((seq0 + p.1) % 65536) p.2.1 p.2.2.1 p.2.2.2)
    let body := first.2.1 ++ (middle.map (·.2.1)).flatten ++ last.2.1
    (decodeAll tecmpDecode d bufs).2 =
      [{ payload := some (create (mt * 256 + first.1.ptype) (body.take (body.length % 65536))),
         version := ver, deviceId := dev, streamId := stream, seq := 0, ts := first.1.ts,
         ifId := if mt = 1 then first.1.idw else 0,
         vendorId := if mt = 3 ∨ mt = 0xFF then first.1.idw % 65536 else 0,
         flags := first.1.flags, segType := 0 }] ∧
    (decodeAll tecmpDecode d bufs.dropLast).2 = [] ∧
    (decodeAll tecmpDecode d bufs).1 (dev, stream) = none ∧
    ∀ x, x ≠ (dev, stream) → (decodeAll tecmpDecode d bufs).1 x = d x := by
  intro segs bufs body
  have hbufs : bufs = (wireFrames ver dev mt stream seq0 segs).map some := by
    rw [wireFrames, List.map_map]; rfl
  have hwf := wireSegMsg_wf ver dev mt stream seq0 first middle last hf.1 (fun x hx => (hmid x hx).1) hl.1
  have hparse := wireFrames_parse ver dev mt stream seq0 first middle last hv hd hm hs hf hmid hl
  have hvalid := wireFrames_valid ver dev mt stream seq0 segs hv
  obtain ⟨h1, h2⟩ := (wireSegMsg ver dev mt stream seq0 first middle last).run_frames hwf (d (dev, stream))
  have hpkt := joined_fields (wireSegMsg ver dev mt stream seq0 first middle last) body first.1 first.2.1.length 4
    rfl hf.1
  rw [wireSegMsg_body, hpkt] at h1
  obtain ⟨k1, k2, k3, k4⟩ := frames_lift (wireSegMsg ver dev mt stream seq0 first middle last) _ d ⟨h1, h2⟩ _
    hvalid hparse
  rw [hbufs]
  exact ⟨k4, k3, k1, k2⟩

end Wire

/-- C05 on bytes, one message: first / intermediary* / last segment frames with consecutive counters
    mod 2^16 (from any `seq0`, so across the wrap), arbitrary trailing bytes behind every segment, fed
    to a decoder in ANY state: nothing is delivered before the last frame, and the last frame delivers
    exactly one packet whose payload is `create type (concatenation of the declared bytes)`, with the
    first segment's header fields, version and message type, tagged with the endpoint -/
theorem C05_bytes_single (ver dev mt stream seq0 : Nat)
    (first : SegHdr × Bytes × Bytes) (middle : List (SegHdr × Bytes × Bytes)) (last : SegHdr × Bytes × Bytes)
    (hv : 1 ≤ ver ∧ ver < 256) (hd : dev < 65536) (hm : mt < 256) (hs : stream < 256)
    (hf : first.1.WF 4 ∧ first.2.1.length < 65536) (hmid : ∀ x ∈ middle, x.1.WF 8 ∧ x.2.1.length < 65536)
    (hl : last.1.WF 12 ∧ last.2.1.length < 65536)
    (htotal : (first.2.1 ++ (middle.map (·.2.1)).flatten ++ last.2.1).length ≤ 65535) (d : DecState) :
    let segs := first :: (middle ++ [last])
    let bufs := (List.range segs.length).zip segs |>.map fun (i, x) =>
      some (segFrame ver dev mt stream ((seq0 + i) % 65536) x.1 x.2.1 x.2.2)
    let body := first.2.1 ++ (middle.map (·.2.1)).flatten ++ last.2.1
    let r := decodeAll tecmpDecode d bufs
    r.1 (dev, stream) = none ∧
    (decodeAll tecmpDecode d bufs.dropLast).2 = [] ∧
    ∃ p, r.2 = [p] ∧ p.payload = some (create (mt * 256 + first.1.ptype) body) ∧
      p.version = ver ∧ p.deviceId = dev ∧ p.streamId = stream ∧ p.ts = first.1.ts ∧
      p.ifId = (if mt = 1 then first.1.idw else 0) ∧
      p.vendorId = (if mt = 3 ∨ mt = 0xFF then first.1.idw % 65536 else 0) ∧ p.flags = first.1.flags := by
  intro segs bufs body r
  obtain ⟨h1, h2, h3, -⟩ := wire_single ver dev mt stream seq0 first middle last hv hd hm hs hf hmid hl d
  rw [Nat.mod_eq_of_lt (Nat.lt_succ_of_le htotal), List.take_length] at h1
  exact ⟨h3, h2, _, h1, rfl, rfl, rfl, rfl, rfl, rfl, rfl, rfl⟩

end AsamCmp.C05b

namespace AsamCmp.C05b
open AsamCmp

/-- What happens beyond the hypothesis `total ≤ 65535` of the C05 theorems: the length the decoder
    writes into the reassembled header — and with which it then reads the payload back — is the
    accumulated length modulo 2^16.  So a message whose segments declare more than 65535 bytes in
    total is delivered truncated to `total mod 65536` bytes (recorded as an open finding for C05 in
    known-findings.txt; replayed on the real decoder by the check's `over-65535` case). -/
theorem reassembled_length_wraps (x : Bytes) (h : 16 ≤ x.length) :
    beAt (fixLen x) 14 2 = (x.length - 16) % 65536 := by
  have e : beAt (fixLen x) 14 2 = (x.length % 65536 + 65536 - 16) % 65536 % 65536 := by
    unfold fixLen writeAt beAt
    rw [AsamCmp.slice_mid _ _ _ 14 2 (by simp; omega) (by simp), beDec_beEnc]
  have hf := fixLen_field (x.length - 16)
  rw [Nat.add_sub_cancel' h] at hf
  rw [e, hf, Nat.mod_mod]

/-- the full C05 statement is false of the model (and of the code) without the length bound: a
    concrete accumulated length whose delivered length differs -/
example : (65536 + 16 + 1964 - 16) % 65536 ≠ 65536 + 1964 := by decide

end AsamCmp.C05b
