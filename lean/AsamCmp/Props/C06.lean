/-
  C06  Loss, duplication or reordering never yields a corrupted packet.

  When frames of one encoder stream are dropped, duplicated or reordered, or a segment arrives
  with a different version or message type, every packet the decoder still delivers is
  byte-identical to one that was sent — never a mix of fragments of different messages, and
  never a message with a hole or a repeated part.  The decoder recovers on its own: any later
  message whose frames arrive complete, in order and uninterrupted on its endpoint is delivered.

  Fault model.  `S : SStream` is what one encoder stream sent on one endpoint: `N < 65536` frames
  with consecutive counters `s0 + i` (mod 2^16), each either a frame of unsegmented messages or one
  segment (ghost coordinates: message `uid`, segment `k` of `n`).  What arrives is ANY list whose
  elements are copies of sent frames (so drops, duplicates and every reordering are one
  quantifier); a copy of a segment frame may carry a different (version, message type).
  Side condition forced by the statement itself: if every segment of a message were corrupted to
  the same wrong pair no decoder could tell, so two arrived copies of *different* segments of one
  message that agree on their pair carry the original pair (`Side`).

  `Side` is more than the statement forces.  What it forces is `C06S.Side2`: for no wrong pair do ALL
  segments of a message have an arrived copy carrying it.  Safety is proved under `Side2` as well
  (`C06S.C06_no_corruption2`), by the same step lemma `step_invR`, and `Side` implies `Side2`
  (`C06S.side2_of_side`); the byte-level theorems of `Lemmas/FaultBytesCopy.lean` rest on the `Side2` form.

  The definitions of the fault model (`SStream`, `Copy`, `Side`, `Good`, `PInv`, `cleanRun`) are in
  `AsamCmp/Lemmas/FaultModel.lean`, the step lemmas in `AsamCmp/Lemmas/Fault.lean`.
-/
import AsamCmp.Decoder
import AsamCmp.Props.C05
import AsamCmp.Lemmas.Fault
namespace AsamCmp

/-- C06 safety: whatever subset, order or duplication of sent frames arrives, and whichever
    segment copies carry a wrong (version, type) — as long as two different segments of one
    message are never corrupted to the same pair — every delivered packet is one the sender sent. -/
theorem fault_safe (S : SStream) (all : List PFrame) (hside : Side S all)
    (hcopy : ∀ g ∈ all, ∃ i, Copy S g i) :
    ∀ (gs : List PFrame), (∀ g ∈ gs, g ∈ all) → ∀ p, PInv S all p →
      (∀ o ∈ (runLocal p gs).2, Good S o) ∧ PInv S all (runLocal p gs).1 :=
  runLocal_inv fun p hp g hg => (hcopy g hg).elim fun i hc => step_inv S all hside p hp g hg i hc

/-- from the empty decoder in particular -/
theorem C06_no_corruption (S : SStream) (arrived : List PFrame) (hside : Side S arrived)
    (hcopy : ∀ g ∈ arrived, ∃ i, Copy S g i) :
    ∀ o ∈ (runLocal none arrived).2, Good S o := by
  exact (fault_safe S arrived hside hcopy arrived (fun _ h => h) none trivial).1

/-! The next three theorems carry the namespace of `Props/C06S.lean`, which uses them; they are stated
here because `fault_recovery` below is their corollary. -/

/-- the pending reassembly `q` holds segments `0..j`; copies of segments `j+1 .. n-1` follow, all with
    the pair `q` remembers -/
theorem _root_.AsamCmp.C06S.recover_tail_pair (S : SStream) (i0 : Nat) (f0 : SF) (v t : Nat) (G : Nat → PFrame)
    (hG : ∀ k, k < f0.n → Copy S (G k) (i0 + k) ∧ (G k).ver = v ∧ (G k).mt = t) :
    ∀ (len j : Nat) (q : Pending), j + 1 + len = f0.n → Holds S q i0 f0 j → q.ver = v → q.mt = t →
      runLocal (some q) ((List.range' (j + 1) len).map G) =
        (none, [tagPacket S.ep v (Packet.ofMsg t (fixLen (f0.hdr ++ S.acc i0 (f0.n - 1))))]) := by
  intro len
  induction len with
  | zero => intro j q hn hq; have := hq.lt; omega
  | succ len ih =>
    intro j q hn hq hv ht
    obtain ⟨f, hf, _⟩ := seg_at S i0 f0 hq.at0 hq.first (j + 1) hq.lt
    obtain ⟨hc, gv, gt⟩ := hG (j + 1) hq.lt
    rw [← Nat.add_assoc] at hf hc
    rw [List.range'_succ, List.map_cons, runLocal_cons, C06S.copy_seg_form hc hf, gv, gt, ← hv, ← ht]
    rcases step_next S hq hf with ⟨hl, e⟩ | ⟨q', e, hv', ht', hq'⟩
    · rw [e, show len = 0 by omega]
      rfl
    · rw [e, List.nil_append, hv, ht]
      exact ih (j + 1) q' (by rw [Nat.add_assoc, Nat.add_comm 1 len]; exact hn) hq' (hv'.trans hv) (ht'.trans ht)

/-- Copies of ALL segments of a message, in order, all carrying one pair `(v, t)` — the sender's
    or not — are reassembled and delivered with version `v` and message type `t`, exactly once,
    whatever was pending (`p` is arbitrary), and nothing stays pending. -/
theorem _root_.AsamCmp.C06S.all_corrupted_delivers (S : SStream) (i0 : Nat) (f0 : SF)
    (h0 : S.at_ i0 = some (.segF f0)) (hk : f0.k = 0)
    (v t : Nat) (G : Nat → PFrame)
    (hG : ∀ k, k < f0.n → Copy S (G k) (i0 + k) ∧ (G k).ver = v ∧ (G k).mt = t) (p : Option Pending) :
    runLocal p ((List.range f0.n).map G) =
      (none, [tagPacket S.ep v (Packet.ofMsg t (fixLen (f0.hdr ++ S.acc i0 (f0.n - 1))))]) := by
  have hkn := S.kn i0 f0 h0
  obtain ⟨hc, gv, gt⟩ := hG 0 (Nat.lt_of_lt_of_le (by decide) hkn.2)
  rw [Nat.add_zero] at hc
  obtain ⟨e, hq⟩ := step_first S p h0 hk v t
  have hr : List.range f0.n = 0 :: List.range' (0 + 1) (f0.n - 1) := by
    rw [List.range_eq_range', ← List.range'_succ]
    congr 1
    exact (Nat.sub_add_cancel (Nat.le_of_succ_le hkn.2)).symm
  rw [hr, List.map_cons, runLocal_cons, C06S.copy_seg_form hc h0, gv, gt, e]
  exact C06S.recover_tail_pair S i0 f0 v t G hG (f0.n - 1) 0 _
    (by rw [Nat.add_comm]; exact Nat.sub_add_cancel (Nat.le_of_succ_le hkn.2)) hq rfl rfl

/-- the clean run of a message consists of copies of its segments, in order, with the sender's pair -/
theorem cleanRun_eq (S : SStream) (i0 : Nat) (f0 : SF) (h0 : S.at_ i0 = some (.segF f0)) (hk : f0.k = 0) :
    ∃ G : Nat → PFrame, S.cleanRun i0 f0 = (List.range f0.n).map G ∧
      ∀ k, k < f0.n → Copy S (G k) (i0 + k) ∧ (G k).ver = f0.ver ∧ (G k).mt = f0.mt := by
  refine ⟨fun j => match S.at_ (i0 + j) with
    | some (.segF f) => ⟨S.ep, f.ver, f.mt, S.seq (i0 + j), [], .seg (f.hdr ++ f.body)⟩
    | _ => ⟨S.ep, 0, 0, 0, [], .done⟩, ?_, ?_⟩
  · refine filterMap_eq_map_of _ _ _ fun j hj => ?_
    obtain ⟨f, hf, _⟩ := seg_at S i0 f0 h0 hk j (List.mem_range.1 hj)
    simp only [hf]
  · intro k hkn
    obtain ⟨f, hf, _, _, _, hv, hm⟩ := seg_at S i0 f0 h0 hk k hkn
    simp only [hf]
    exact ⟨Copy.seg _ f f.ver f.mt hf, hv, hm⟩

/-- recovery without a bound on the length: `expected` truncates the length exactly as the decoder does -/
theorem _root_.AsamCmp.C06S.fault_recovery' (S : SStream) (i0 : Nat) (f0 : SF)
    (h0 : S.at_ i0 = some (.segF f0)) (hk : f0.k = 0)
    (p : Option Pending) : runLocal p (S.cleanRun i0 f0) = (none, [S.expected i0 f0]) := by
  obtain ⟨G, e, hG⟩ := cleanRun_eq S i0 f0 h0 hk
  rw [e]
  exact C06S.all_corrupted_delivers S i0 f0 h0 hk f0.ver f0.mt G hG p

/-- C06 recovery: whatever state the faults left behind (`p` is arbitrary, not even required to
    satisfy the invariant), a message whose frames arrive complete, in order, uncorrupted and
    uninterrupted is delivered, exactly once, and nothing stays pending -/
theorem fault_recovery (S : SStream) (i0 : Nat) (f0 : SF) (h0 : S.at_ i0 = some (.segF f0)) (hk : f0.k = 0)
    (hlen : (S.acc i0 (f0.n - 1)).length ≤ 65535) (p : Option Pending) :
    runLocal p (S.cleanRun i0 f0) = (none, [S.expected i0 f0]) :=
  C06S.fault_recovery' S i0 f0 h0 hk p

/-- … and an unsegmented frame is delivered whatever is pending -/
theorem fault_recovery_unseg (p : Option Pending) (f : PFrame) (h : ∀ m, f.term ≠ .seg m) :
    localStep p f = (none, f.unseg) := by
  exact localStep_noseg p f h

/-- lifting to a decoder that also serves other endpoints: the packets delivered for `S.ep` in an
    arbitrary history whose `S.ep`-frames are the arrived copies are all `Good` -/
theorem C06_no_corruption_interleaved (S : SStream) (arrived : List PFrame) (hside : Side S arrived)
    (hcopy : ∀ g ∈ arrived, ∃ i, Copy S g i) (fs : List PFrame)
    (hproj : fs.filter (fun f => f.ep = S.ep) = arrived) :
    ∀ x ∈ (runT DecState.empty fs).2, x.1 = S.ep → Good S x.2 :=
  fun x hx hxe => C06_no_corruption S arrived hside hcopy x.2
    (runT_mem_local S.ep fs DecState.empty arrived rfl hproj x hx hxe)

namespace C06S

/-! ## safety under the side condition the statement really forces

`Side` forbids ANY two arrived copies of two different segments of a message from agreeing on a
wrong (version, type) pair.  What the statement forces is only `Side2`: for no wrong pair do ALL
`n` segments of a message have an arrived copy carrying it (only then is the wrong packet
indistinguishable from a sent one).  `Side2` allows e.g. first(v=9), middle(v=1), last(v=9).
Safety under `Side2` is the step lemma `step_invR` again, with the invariant `PInv2` remembering that
every accepted segment had an arrived copy carrying the entry's pair. -/

def Side2 (S : SStream) (all : List PFrame) : Prop :=
  ∀ i0 f0, S.at_ i0 = some (.segF f0) → f0.k = 0 → ∀ v t, ¬ (v = f0.ver ∧ t = f0.mt) →
    ∃ k, k < f0.n ∧ ∀ g ∈ all, Copy S g (i0 + k) → ¬ (g.ver = v ∧ g.mt = t)

/-- the pending entry holds segments `0..j` of one message, and every one of them has an arrived copy
    carrying the entry's pair -/
def PInv2 (S : SStream) (all : List PFrame) : Option Pending → Prop :=
  PInvR S fun i0 j ver mt => ∀ k, k ≤ j → ∃ g ∈ all, Copy S g (i0 + k) ∧ g.ver = ver ∧ g.mt = mt

theorem step_inv2 (S : SStream) (all : List PFrame) (hside : Side2 S all)
    (p : Option Pending) (hp : PInv2 S all p) (g : PFrame) (hg : g ∈ all) (i : Nat)
    (hc : Copy S g i) :
    (∀ o ∈ (localStep p g).2, Good S o) ∧ PInv2 S all (localStep p g).1 := by
  have hnext : ∀ g ∈ all, ∀ i0 j, Copy S g (i0 + j + 1) →
      (∀ k, k ≤ j → ∃ g' ∈ all, Copy S g' (i0 + k) ∧ g'.ver = g.ver ∧ g'.mt = g.mt) →
      ∀ k, k ≤ j + 1 → ∃ g' ∈ all, Copy S g' (i0 + k) ∧ g'.ver = g.ver ∧ g'.mt = g.mt := by
    intro g hg i0 j hc hr k hkj
    by_cases hkl : k ≤ j
    · exact hr k hkl
    · rw [Nat.le_antisymm hkj (Nat.lt_of_not_le hkl)]
      exact ⟨g, hg, hc, rfl, rfl⟩
  refine step_invR S all _ ?_ hnext ?_ p hp g hg i hc
  · intro g hg i hc k hk0
    rw [Nat.le_zero.1 hk0]
    exact ⟨g, hg, hc, rfl, rfl⟩
  · -- all segments `0 … j+1 = n-1` have an arrived copy with the accepted frame's pair: not a wrong one
    intro g hg i0 f0 j h0 hk0 hl hc hr
    apply Classical.byContradiction
    intro hnp
    obtain ⟨k, hkn, hno⟩ := hside i0 f0 h0 hk0 g.ver g.mt hnp
    obtain ⟨g', hg', hcg', hv', hm'⟩ := hnext g hg i0 j hc hr k
      (by rw [← hl] at hkn; exact Nat.le_of_lt_succ hkn)
    exact hno g' hg' hcg' ⟨hv', hm'⟩

/-- C06 safety under the weakest possible side condition (single endpoint, any start state
    satisfying the invariant) -/
theorem fault_safe2 (S : SStream) (all : List PFrame) (hside : Side2 S all)
    (hcopy : ∀ g ∈ all, ∃ i, Copy S g i) :
    ∀ (gs : List PFrame), (∀ g ∈ gs, g ∈ all) → ∀ p, PInv2 S all p →
      (∀ o ∈ (runLocal p gs).2, Good S o) ∧ PInv2 S all (runLocal p gs).1 :=
  runLocal_inv fun p hp g hg => (hcopy g hg).elim fun i hc => step_inv2 S all hside p hp g hg i hc

/-- single endpoint, empty decoder: the statement of `C06_no_corruption` with `Side2` for `Side` -/
theorem C06_no_corruption2 (S : SStream) (arrived : List PFrame) (hside : Side2 S arrived)
    (hcopy : ∀ g ∈ arrived, ∃ i, Copy S g i) :
    ∀ o ∈ (runLocal none arrived).2, Good S o :=
  (fault_safe2 S arrived hside hcopy arrived (fun _ h => h) none trivial).1

/-- several endpoints, from any decoder state with nothing pending for `S.ep` -/
theorem C06_no_corruption2_interleaved (S : SStream) (arrived : List PFrame) (hside : Side2 S arrived)
    (hcopy : ∀ g ∈ arrived, ∃ i, Copy S g i) (fs : List PFrame) (s : DecState) (hs : s S.ep = none)
    (hproj : fs.filter (fun f => f.ep = S.ep) = arrived) :
    ∀ x ∈ (runT s fs).2, x.1 = S.ep → Good S x.2 :=
  fun x hx hxe => C06_no_corruption2 S arrived hside hcopy x.2 (runT_mem_local S.ep fs s arrived hs hproj x hx hxe)

/-- `Side2` is implied by `Side`, so the theorems above subsume `fault_safe` /
    `C06_no_corruption` / `C06_no_corruption_interleaved` -/
theorem side2_of_side (S : SStream) (all : List PFrame) (h : Side S all) : Side2 S all := by
  intro i0 f0 h0 hk v t hne
  have hkn := S.kn i0 f0 h0
  obtain ⟨f1, hf1, hu1, hk1, _, _, _⟩ := seg_at S i0 f0 h0 hk 1 hkn.2
  by_cases hex : ∃ g ∈ all, Copy S g (i0 + 0) ∧ g.ver = v ∧ g.mt = t
  · obtain ⟨g, hg, hcg, hgv, hgm⟩ := hex
    refine ⟨1, hkn.2, ?_⟩
    intro g' hg' hcg' hp
    have := h g hg g' hg' (i0 + 0) (i0 + 1) f0 f1 hcg hcg' h0 hf1 hu1.symm (Nat.ne_of_lt (Nat.lt_succ_self _))
      (hgv.trans hp.1.symm) (hgm.trans hp.2.symm)
    exact hne ⟨hgv.symm.trans this.1, hgm.symm.trans this.2⟩
  · refine ⟨0, Nat.lt_of_lt_of_le (by decide) hkn.2, ?_⟩
    intro g hg hcg hp
    exact hex ⟨g, hg, hcg, hp.1, hp.2⟩

end C06S

/-! ### a concrete stream: the fault model and the hypotheses are satisfiable -/

namespace C06Example

def hdr0 : Bytes := [0,0,0,0,0,0,0,0, 0,0,0,0, 4, 1, 0, 2]
def hdr1 : Bytes := [0,0,0,0,0,0,0,0, 0,0,0,0, 12, 1, 0, 1]
def sf0 : SF := ⟨1, 2, 7, 0, 2, hdr0, [0xAA, 0xBB]⟩
def sf1 : SF := ⟨1, 2, 7, 1, 2, hdr1, [0xCC]⟩
def pkt : Packet := { payload := some ⟨tyLin, [0,0,0,0,0,0,0,0]⟩, version := 1, deviceId := 3, streamId := 5 }

/-- three sent frames: one frame with an unsegmented message, then a 2-segment message -/
def exAt : Nat → Option Sent
  | 0 => some (.unsegF [pkt] .done)
  | 1 => some (.segF sf0)
  | 2 => some (.segF sf1)
  | _ + 3 => none

theorem exAt_seg {i : Nat} {f : SF} (h : exAt i = some (.segF f)) :
    (i = 1 ∧ f = sf0) ∨ (i = 2 ∧ f = sf1) := by
  match i with
  | 0 => simp [exAt] at h
  | 1 => simp only [exAt, Option.some.injEq, Sent.segF.injEq] at h; exact Or.inl ⟨rfl, h.symm⟩
  | 2 => simp only [exAt, Option.some.injEq, Sent.segF.injEq] at h; exact Or.inr ⟨rfl, h.symm⟩
  | _ + 3 => simp [exAt] at h

def exS : SStream where
  ep := (3, 5)
  N := 3
  s0 := 65534
  at_ := exAt
  hN := by decide
  dom := by
    intro i
    match i with
    | 0 => simp [exAt]
    | 1 => simp [exAt]
    | 2 => simp [exAt]
    | _ + 3 => simp [exAt]
  unsegT := by
    intro i pkts t h
    match i with
    | 0 =>
      simp only [exAt, Option.some.injEq, Sent.unsegF.injEq] at h
      intro m; rw [← h.2]; simp
    | 1 => simp [exAt] at h
    | 2 => simp [exAt] at h
    | _ + 3 => simp [exAt] at h
  next := by
    intro i f h hk
    rcases exAt_seg h with ⟨rfl, rfl⟩ | ⟨rfl, rfl⟩
    · exact ⟨sf1, rfl, rfl, rfl, rfl, rfl, rfl⟩
    · simp [sf1] at hk
  kn := by
    intro i f h
    rcases exAt_seg h with ⟨rfl, rfl⟩ | ⟨rfl, rfl⟩ <;> decide
  hdrOk := by
    intro i f h
    rcases exAt_seg h with ⟨rfl, rfl⟩ | ⟨rfl, rfl⟩ <;> decide

/-- arrived copies: the frame of unsegmented messages, clean copies of both segments, and a copy
    of the second segment whose version was corrupted to 9 -/
def u0 : PFrame := ⟨exS.ep, 1, 2, exS.seq 0, [pkt], .done⟩
def a1 : PFrame := ⟨exS.ep, 1, 2, exS.seq 1, [], .seg (sf0.hdr ++ sf0.body)⟩
def a2 : PFrame := ⟨exS.ep, 1, 2, exS.seq 2, [], .seg (sf1.hdr ++ sf1.body)⟩
def c2 : PFrame := ⟨exS.ep, 9, 2, exS.seq 2, [], .seg (sf1.hdr ++ sf1.body)⟩

/-- out of order, with loss (no first segment before the first `a2`), duplicates and a corrupted copy -/
def arrived : List PFrame := [a2, a1, c2, u0, a1, a1, a2, a2]

theorem arrived_copy : ∀ g ∈ arrived, ∃ i, Copy exS g i := by
  have h1 : ∃ i, Copy exS a1 i := ⟨1, Copy.seg 1 sf0 1 2 rfl⟩
  have h2 : ∃ i, Copy exS a2 i := ⟨2, Copy.seg 2 sf1 1 2 rfl⟩
  simp only [arrived, List.forall_mem_cons]
  exact ⟨h2, h1, ⟨2, Copy.seg 2 sf1 9 2 rfl⟩, ⟨0, Copy.unseg 0 [pkt] .done 1 2 rfl⟩, h1, h1, h2, h2, nofun⟩

theorem arrived_side : Side exS arrived := by
  -- by the counters: the first segment has only clean copies, and `c2` agrees with none of them
  have key : ∀ g ∈ arrived, ∀ g' ∈ arrived, ∀ i ∈ [1, 2], ∀ i' ∈ [1, 2], g.seq = exS.seq i →
      g'.seq = exS.seq i' → i ≠ i' → g.ver = g'.ver → g.ver = 1 ∧ g.mt = 2 := by decide +kernel
  have hseg : ∀ {i f}, exAt i = some (.segF f) → i ∈ [1, 2] ∧ f.ver = 1 ∧ f.mt = 2 := by
    intro i f h
    rcases exAt_seg h with ⟨rfl, rfl⟩ | ⟨rfl, rfl⟩ <;> exact ⟨by simp, rfl, rfl⟩
  intro g hg g' hg' i i' f f' hc hc' hf hf' _ hne hv _
  obtain ⟨hi, hfv, hfm⟩ := hseg hf
  obtain ⟨h1, h2⟩ := key g hg g' hg' i hi i' (hseg hf').1 hc.seq_eq hc'.seq_eq hne hv
  exact ⟨h1.trans hfv.symm, h2.trans hfm.symm⟩

/-- non-vacuity: the hypotheses of `C06_no_corruption` hold for this history (loss, reordering,
    duplicates, one corrupted version, counters wrapping 65534, 65535, 0), and the decoder delivers
    exactly the unsegmented packet and the reassembled message -/
theorem nonvacuous : Side exS arrived ∧ (∀ g ∈ arrived, ∃ i, Copy exS g i) ∧
    (runLocal none arrived).2 = [pkt, exS.expected 1 sf0] :=
  ⟨arrived_side, arrived_copy, by decide +kernel⟩

/-- the expected packet is the concatenation of the two bodies under the first segment's header -/
example : (exS.expected 1 sf0).payload = some ⟨0x0201, [0xAA, 0xBB, 0xCC]⟩ := by decide +kernel

/-- the instance of `fault_recovery` for the example stream -/
example (p : Option Pending) : runLocal p (exS.cleanRun 1 sf0) = (none, [exS.expected 1 sf0]) :=
  fault_recovery exS 1 sf0 rfl rfl (by decide) p

end C06Example

end AsamCmp
