/-
  C02S  C02 ("decoding arbitrary bytes is memory-safe and terminates") at full strength: what the statement audit of
  C02 (DESIGN.md section J.4) asked for, as theorems about the definitions C02 is stated on.

  §A  the library's OWN storage: the reassembly vector.  A checked store `wrB` (`none` = a write outside the vector), the
      reassembly automaton with checked store and checked read-back (`localStepM`), the complete entry point with checked
      reads of the input AND checked accesses of the pending vector (`decodeCk`) and its run over a history (`runCk`).
      `history_safe`: from the fresh decoder NO history makes it fail; `decodeCk_eq`: it cannot fail on a state satisfying
      the invariant `PendingOk`; `localStepM_none_iff`: EXACTLY when it fails (so the invariant of `C02.decode_state_ok` is
      what protects these accesses, and unlike `decodeM` the checked decoder does look at the reassembly buffer:
      `decodeCk_corrupt_state`).
  §B  validator reads ⊆ payload slice ⊆ message ⊆ buffer, composed, in BUFFER coordinates.
  §C  source level, "no read outside the buffer" as an extensional statement: the translated `Decoder::decode` is defined
      with the buffer flush against the END of memory and its result does not depend on a single byte outside the buffer.
  §D  source level: the TECMP seam (`getD []`, `filterMap id`) erases nothing — the raw vector of the translated
      `TECMP::Decoder::Decode` has no null element, every element owns a payload; counts agree.
  §E  the payload object of a delivered message, concretely (`create_cases`, `unseg_packet_object`); the exact
      characterisations of `create` are `C01S.create_keeps_iff` and `C04S.create_exact`.
  §F  "terminates promptly": the fuel of the TECMP bus loop is never exhausted (any larger fuel gives the same list), exact
      iteration count, sharp packet count, the packet bound over histories, linear fuel at source level.
  §G  the C02 statements from the fresh decoder over any history, with literal witnesses on the reassembly branch.

  Two UBSan reports on the C++ concern undefined behaviour the semantics of Src/Sem.lean does not represent (dynamic type
  of a sliced object, null pointer passed to `memcpy` with length 0); `ubsan_witness_in_model` records the input of the
  second: the model, and every theorem about it, is fine with it.
-/
import AsamCmp.Props.C02
import AsamCmp.Props.C02b
import AsamCmp.Props.C03S
import AsamCmp.Props.C15S
import AsamCmp.Props.C17S
import AsamCmp.Props.SrcHistory
namespace AsamCmp.C02S
open AsamCmp

/-! ## §A  the reassembly vector: checked store, checked read-back, histories -/

/-- checked store on one of the library's own vectors (`payload[off .. off+|v|) = v`, as `memcpy` / a store through
    `getHeader()` does it): `none` = a write outside `[0, size())` -/
def wrB (buf : Bytes) (off : Nat) (v : Bytes) : Option Bytes :=
  if off + v.length ≤ buf.length then some (writeAt buf off v) else none

/-- a store inside the vector is a genuine in-place overwrite: same size, bytes in front and behind untouched, and the
    stored bytes read back -/
theorem writeAt_inplace (bs v : Bytes) (off : Nat) (h : off + v.length ≤ bs.length) :
    (writeAt bs off v).length = bs.length ∧ (writeAt bs off v).take off = bs.take off ∧
    (writeAt bs off v).drop (off + v.length) = bs.drop (off + v.length) ∧
    slice (writeAt bs off v) off v.length = v := by
  have hto : (bs.take off).length = off := by rw [List.length_take]; omega
  refine ⟨?_, ?_, ?_, ?_⟩
  · simp only [writeAt, List.length_append, List.length_take, List.length_drop]; omega
  · unfold writeAt
    rw [List.append_assoc, List.take_left' hto]
  · unfold writeAt
    rw [List.drop_left' (by simp only [List.length_append, hto])]
  · unfold writeAt slice
    rw [List.append_assoc, List.drop_left' hto, List.take_left' rfl]

/-- … and the total `writeAt` of the model is NOT in place outside the vector (it re-shapes the list): for a non-empty
    store, "the size is unchanged" holds exactly when the store is inside.  So `wrB` is not an arbitrary annotation:
    it is `some` exactly when the model's total function behaves like a store. -/
theorem wrB_isSome_iff (bs v : Bytes) (off : Nat) (hv : v ≠ []) :
    (wrB bs off v).isSome = true ↔ (writeAt bs off v).length = bs.length := by
  have hv' : 0 < v.length := List.length_pos_iff.mpr hv
  unfold wrB
  by_cases h : off + v.length ≤ bs.length
  · simp only [h, if_true, Option.isSome_some, true_iff]
    exact (writeAt_inplace bs v off h).1
  · simp only [h, if_false, Option.isSome_none, Bool.false_eq_true, false_iff]
    simp only [writeAt, List.length_append, List.length_take, List.length_drop]
    omega

/-- the single-endpoint automaton with the accesses of the pending vector CHECKED and their results USED: the header
    rewrite `getHeader()->setPayloadLength(...)` is a 2-byte store at offset 14 of the accumulated vector (`wrB`), and
    `getPacket()` constructs the packet through the checked-read constructor `ofMsgM` (16 header bytes + the declared
    bytes of the vector).  `none` = an access outside the vector.  Everything else is `localStep`. -/
def localStepM (p : Option Pending) (f : PFrame) : Option (Option Pending × List Packet) :=
  match f.term with
  | .done => some (none, f.unseg)
  | .invalid => some (none, f.unseg)
  | .seg m =>
    if segTypeOf m = 4 then some (some ⟨m, 4, f.ver, f.mt, f.seq⟩, f.unseg)
    else
      match (if f.unseg.isEmpty then p else none) with
      | none => some (none, f.unseg)
      | some q =>
        if q.ver = f.ver ∧ q.mt = f.mt ∧ f.seq = (q.seq + 1) % 65536 ∧ validNext q.last (segTypeOf m) then
          match wrB (q.buf ++ m.drop 16) 14
              (beEnc 2 (((q.buf ++ m.drop 16).length % 65536 + 65536 - 16) % 65536)) with
          | none => none
          | some buf =>
            if segTypeOf m = 12 then
              match ofMsgM q.mt buf with
              | none => none
              | some pk => some (none, f.unseg ++ [tagPacket f.ep q.ver pk])
            else some (some { q with buf := buf, last := segTypeOf m, seq := (q.seq + 1) % 65536 }, f.unseg)
        else some (none, f.unseg)

/-- the frames on which the automaton touches the pending vector: a non-first segment alone in its frame that
    continues the pending message `q` -/
def Continues (p : Option Pending) (f : PFrame) (q : Pending) (m : Bytes) : Prop :=
  f.term = .seg m ∧ segTypeOf m ≠ 4 ∧ f.unseg.isEmpty = true ∧ p = some q ∧
    (q.ver = f.ver ∧ q.mt = f.mt ∧ f.seq = (q.seq + 1) % 65536 ∧ validNext q.last (segTypeOf m) = true)

theorem wrB_fix (acc : Bytes) (h : 16 ≤ acc.length) :
    wrB acc 14 (beEnc 2 ((acc.length % 65536 + 65536 - 16) % 65536)) = some (fixLen acc) := by
  unfold wrB
  rw [if_pos (by rw [beEnc_length]; omega)]
  rfl

theorem wrB_fix_none (acc : Bytes) (h : acc.length < 16) :
    wrB acc 14 (beEnc 2 ((acc.length % 65536 + 65536 - 16) % 65536)) = none := by
  unfold wrB
  rw [if_neg (by rw [beEnc_length]; omega)]

/-- the checked automaton in one pass: it returns the model's result, or it refuses — on a frame that continues the pending
    message while the accumulated vector is shorter than a message header (the 2-byte store at offset 14 is outside) -/
theorem localStepM_cases (p : Option Pending) (f : PFrame) :
    localStepM p f = some (localStep p f) ∨
    (localStepM p f = none ∧ ∃ q m, Continues p f q m ∧ q.buf.length + (m.length - 16) < 16) := by
  unfold localStepM localStep
  cases ht : f.term with
  | done => exact .inl rfl
  | invalid => exact .inl rfl
  | seg m =>
    dsimp only
    by_cases h4 : segTypeOf m = 4
    · rw [if_pos h4, if_pos h4]; exact .inl rfl
    rw [if_neg h4, if_neg h4]
    by_cases he : f.unseg.isEmpty = true
    · rw [if_pos he]
      cases p with
      | none => exact .inl rfl
      | some q =>
        dsimp only
        by_cases hc : q.ver = f.ver ∧ q.mt = f.mt ∧ f.seq = (q.seq + 1) % 65536 ∧ validNext q.last (segTypeOf m) = true
        · rw [if_pos hc, if_pos hc]
          by_cases h16 : 16 ≤ (q.buf ++ m.drop 16).length
          · obtain ⟨hl, hb⟩ := C02.fixLen_read _ h16
            rw [← hl] at hb
            rw [wrB_fix _ h16]
            dsimp only
            rw [C02.ofMsgM_eq _ _ hb]
            by_cases h12 : segTypeOf m = 12
            · rw [if_pos h12, if_pos h12]; exact .inl rfl
            · rw [if_neg h12, if_neg h12]; exact .inl rfl
          · rw [wrB_fix_none _ (by omega)]
            refine .inr ⟨rfl, q, m, ⟨ht, h4, he, rfl, hc⟩, ?_⟩
            rw [List.length_append, List.length_drop] at h16
            omega
        · rw [if_neg hc, if_neg hc]; exact .inl rfl
    · rw [if_neg he]; exact .inl rfl

/-- SOUND for every state (corrupt ones included): whatever the checked automaton returns is what the model returns —
    it can refuse, it cannot compute anything else -/
theorem localStepM_sound (p : Option Pending) (f : PFrame) (r : Option Pending × List Packet)
    (h : localStepM p f = some r) : r = localStep p f := by
  rcases localStepM_cases p f with h' | ⟨h', _⟩
  · exact Option.some.inj (h.symm.trans h')
  · rw [h'] at h; cases h

/-- **EXACTLY when an access of the pending vector is out of range**: on a frame that continues the pending message while
    the accumulated vector (pending bytes + the segment's bytes behind its header) is shorter than a message header.
    (Then the 2-byte store at offset 14 is outside.  When the vector holds 16 bytes or more, the store AND the
    read-back of header + rewritten length are inside — `C02.reassembled_length_inbounds` — whatever was accumulated,
    also beyond 65535 bytes.) -/
theorem localStepM_none_iff (p : Option Pending) (f : PFrame) :
    localStepM p f = none ↔ ∃ q m, Continues p f q m ∧ q.buf.length + (m.length - 16) < 16 := by
  constructor
  · intro h
    rcases localStepM_cases p f with h' | ⟨_, h'⟩
    · rw [h'] at h; cases h
    · exact h'
  · intro ⟨q, m, ⟨ht, h4, he, hp, hc⟩, hlen⟩
    unfold localStepM
    rw [ht]
    simp only
    rw [if_neg h4, if_pos he, hp]
    simp only
    rw [if_pos hc, wrB_fix_none _ (by simp only [List.length_append, List.length_drop]; omega)]

/-- on a state that satisfies the invariant of `C02.decode_state_ok` (stored reassemblies hold at least a message header)
    every access of the pending vector is in range, for EVERY frame -/
theorem localStepM_eq (p : Option Pending) (f : PFrame) (hp : PendingOk p) :
    localStepM p f = some (localStep p f) := by
  cases h : localStepM p f with
  | some r => rw [localStepM_sound p f r h]
  | none =>
    exfalso
    obtain ⟨q, m, ⟨_, _, _, hpq, _⟩, hlen⟩ := (localStepM_none_iff p f).mp h
    subst hpq
    have := hp.2
    omega

/-- `step` with the checked automaton at the frame's endpoint -/
def stepM (s : DecState) (f : PFrame) : Option (DecState × List Packet) :=
  (localStepM (s f.ep) f).map fun r => (s.set f.ep r.1, r.2)

/-- the COMPLETE entry point with every access checked: reads of the supplied buffer through `rdB`/`rdN` (the walk and
    the TECMP path of `decodeM`) and the accesses of the pending vector through `localStepM` -/
def decodeCk (s : DecState) (buf : Option Bytes) : Option (DecState × List Packet) :=
  match buf with
  | none => some (s, [])
  | some b =>
    if b.length < 8 then some (s, [])
    else
      match rdN b 0 1 with
      | none => none
      | some b0 =>
        if b0 = 0 then (tecmpDecodeM b).map fun ps => (s, ps)
        else (parseFrameM b).bind fun f => stepM s f

/-- a history of calls on one decoder: `none` as soon as one call performs an out-of-range access -/
def runCk (s : DecState) : List (Option Bytes) → Option (DecState × List Packet)
  | [] => some (s, [])
  | b :: bs =>
    match decodeCk s b with
    | none => none
    | some r =>
      match runCk r.1 bs with
      | none => none
      | some r' => some (r'.1, r.2 ++ r'.2)

/-- the fully checked decoder in one pass: the model's result, or a refusal by the checked automaton on the parsed frame -/
theorem decodeCk_cases (s : DecState) (buf : Option Bytes) :
    decodeCk s buf = some (decode s buf) ∨
    (decodeCk s buf = none ∧ ∃ b, buf = some b ∧ localStepM (s (parseFrame b).ep) (parseFrame b) = none) := by
  rcases decodeWith_cases tecmpDecode buf with ⟨hk, _, hd⟩ | ⟨b, rfl, h8, h0, _, hd⟩ | ⟨b, rfl, h8, h0, _, hd⟩
  · refine .inl ?_
    rw [decode, hd]
    rcases hk with rfl | ⟨b, rfl, h8⟩
    · rfl
    · rw [decodeCk, if_pos h8]
  · refine .inl ?_
    rw [decode, hd, decodeCk, if_neg (by omega), C02.rdN1_some b 0 (by omega)]
    dsimp only
    rw [if_pos h0, C02.tecmpDecodeM_eq]
    rfl
  · rw [decode, hd, decodeCk, if_neg (by omega), C02.rdN1_some b 0 (by omega)]
    dsimp only
    rw [if_neg h0, C02.parseFrameM_eq b h8, Option.bind_some, stepM]
    rcases localStepM_cases (s (parseFrame b).ep) (parseFrame b) with hl | ⟨hl, _⟩
    · exact .inl (by rw [hl]; rfl)
    · exact .inr ⟨by rw [hl]; rfl, b, rfl, hl⟩

/-- sound on every state: the fully checked decoder can refuse, it cannot return anything but the model's result -/
theorem decodeCk_sound (s : DecState) (buf : Option Bytes) (r : DecState × List Packet)
    (h : decodeCk s buf = some r) : r = decode s buf := by
  rcases decodeCk_cases s buf with h' | ⟨h', _⟩
  · exact Option.some.inj (h.symm.trans h')
  · rw [h'] at h; cases h

/-- **one call, any buffer, any state satisfying the invariant**: no read outside the supplied buffer and no access
    outside the pending vector; the result is the model's -/
theorem decodeCk_eq (s : DecState) (hs : ∀ e, PendingOk (s e)) (buf : Option Bytes) :
    decodeCk s buf = some (decode s buf) := by
  rcases decodeCk_cases s buf with h | ⟨_, b, _, h⟩
  · exact h
  · rw [localStepM_eq _ _ (hs _)] at h; cases h

/-- a history from any state satisfying the invariant -/
theorem history_safe_from (bufs : List (Option Bytes)) : ∀ (s : DecState), (∀ e, PendingOk (s e)) →
    runCk s bufs = some (decodeAll tecmpDecode s bufs) := by
  induction bufs with
  | nil => intro s _; rfl
  | cons b bs ih =>
    intro s hs
    have hd : decodeWith tecmpDecode s b = decode s b := rfl
    simp only [runCk, decodeCk_eq s hs b, ih _ (C02.decode_state_ok s b hs), decodeAll, hd]

/-- **memory safety after any history, in one statement, no hypothesis.**  "For every byte string of every length, presented after
    any history of earlier decode calls": for EVERY list of buffers (null pointers, short buffers, TECMP messages, CMP
    frames, interleaved endpoints, truncated or corrupted in any way) fed to a fresh decoder, NO call reads outside its
    buffer and NO call reads or writes outside a pending reassembly vector; and the packets and the final state are
    the model's `decodeAll`. -/
theorem history_safe (bufs : List (Option Bytes)) :
    runCk DecState.empty bufs = some (decodeAll tecmpDecode DecState.empty bufs) :=
  history_safe_from bufs DecState.empty (fun _ => (trivial : PendingOk none))

/-- … in particular the call made AFTER any history -/
theorem decode_after_history_safe (hist : List (Option Bytes)) (buf : Option Bytes) :
    decodeCk (decodeAll tecmpDecode DecState.empty hist).1 buf =
      some (decode (decodeAll tecmpDecode DecState.empty hist).1 buf) :=
  decodeCk_eq _ (C03S.decodeAll_state_ok hist DecState.empty (fun _ => (trivial : PendingOk none))) buf

/-! ### witnesses for §A -/

/-- a pending entry that VIOLATES the invariant (an empty vector) and an intermediary segment that continues it: the
    checked automaton refuses (the 2-byte store at offset 14 is outside the 1-byte vector) … -/
example : localStepM (some ⟨[], 4, 1, 1, 5⟩) ⟨(0x0102, 7), 1, 1, 6, [], .seg (C17S.exSegMsg 8)⟩ = none := by decide +kernel
/-- … while the model's total `writeAt` silently re-shapes the list (1 byte in, 3 bytes out), which is why the
    theorems about `decode` alone cannot see such a write -/
example : ((localStep (some ⟨[], 4, 1, 1, 5⟩) ⟨(0x0102, 7), 1, 1, 6, [], .seg (C17S.exSegMsg 8)⟩).1.map
    fun q => q.buf.length) = some 3 := by decide +kernel
/-- a healthy pending entry (16 header bytes + 1) and the same segment: store and all in range, 18 bytes afterwards,
    length field rewritten to 2 -/
example : (localStepM (some ⟨C17S.exSegMsg 4, 4, 1, 1, 5⟩) ⟨(0x0102, 7), 1, 1, 6, [], .seg (C17S.exSegMsg 8)⟩).map
    (fun r => (r.1.map fun q => (q.buf.length, beAt q.buf 14 2, q.last, q.seq), r.2.length)) =
    some (some (18, 2, 8, 6), 0) := by decide +kernel
/-- … and a LAST segment on it: one packet, built by the checked constructor from the vector, payload 0x55 0x55 -/
example : (localStepM (some ⟨C17S.exSegMsg 4, 4, 1, 1, 5⟩) ⟨(0x0102, 7), 1, 1, 6, [], .seg (C17S.exSegMsg 12)⟩).map
    (fun r => r.2.map fun p => (p.deviceId, p.streamId, p.payload.map (·.data))) =
    some [(0x0102, 7, some [0x55, 0x55])] := by decide +kernel
example : (localStepM (some ⟨C17S.exSegMsg 4, 4, 1, 1, 5⟩) ⟨(0x0102, 7), 1, 1, 6, [], .seg (C17S.exSegMsg 12)⟩).map
    (fun r => (r.1.isSome, r.2.length)) = some (false, 1) := by decide +kernel
/-- `localStepM_none_iff`, right-hand side on the literal: `Continues` holds and 0 + (17 − 16) < 16 -/
example : Continues (some ⟨[], 4, 1, 1, 5⟩) ⟨(0x0102, 7), 1, 1, 6, [], .seg (C17S.exSegMsg 8)⟩ ⟨[], 4, 1, 1, 5⟩ (C17S.exSegMsg 8) :=
  ⟨rfl, by decide, rfl, rfl, rfl, rfl, rfl, by decide⟩

/-- a decoder state that violates the invariant at endpoint (0x0102, 7) -/
def corruptState : DecState := DecState.empty.set (0x0102, 7) (some ⟨[], 4, 1, 1, 5⟩)

theorem exMid_parse : parseFrame C17S.exMid =
    { ep := (0x0102, 7), ver := 1, mt := 1, seq := 6, unseg := [],
      term := .seg ((⟨9, 3, 8, 0x20⟩ : C05b.SegHdr).bytes 3 ++ [0xCC, 0xDD, 0xEE]) } := by
  have e : C17S.exMid = C05b.segFrame 1 0x0102 1 7 6 ⟨9, 3, 8, 0x20⟩ [0xCC, 0xDD, 0xEE] [0x77] := by decide
  rw [e]
  exact C05b.segFrame_parse 1 0x0102 1 7 6 ⟨9, 3, 8, 0x20⟩ 8 [0xCC, 0xDD, 0xEE] [0x77] (by decide) (by decide) (by decide)
    (by decide) (by decide) (by decide) (by unfold C05b.SegHdr.WF; decide) (by decide)

/-- **the invariant is what protects the accesses.**  On a state violating `PendingOk`, the complete checked
    decoder FAILS on the (perfectly well-formed) frame `exMid`, whereas `decodeM` — which never looks at the pending
    vector — succeeds (`C02.decode_inbounds` holds for every state).  So `history_safe` is not true by construction:
    it needs `C02.decode_state_ok` at every step. -/
theorem decodeCk_corrupt_state :
    decodeCk corruptState (some C17S.exMid) = none ∧ (decodeM corruptState (some C17S.exMid)).isSome = true ∧
    ¬ PendingOk (corruptState (0x0102, 7)) := by
  refine ⟨?_, by rw [C02.decode_inbounds]; rfl, ?_⟩
  · have h8 : ¬ C17S.exMid.length < 8 := by decide
    have hr : rdN C17S.exMid 0 1 = some 1 := by decide
    unfold decodeCk
    simp only [h8, if_false, hr]
    rw [if_neg (by decide), C02.parseFrameM_eq _ (by decide), exMid_parse]
    simp only [Option.bind_some, stepM]
    have : localStepM (corruptState (0x0102, 7))
        { ep := (0x0102, 7), ver := 1, mt := 1, seq := 6, unseg := [],
          term := .seg ((⟨9, 3, 8, 0x20⟩ : C05b.SegHdr).bytes 3 ++ [0xCC, 0xDD, 0xEE]) } = none := by decide +kernel
    rw [this]; rfl
  · intro h
    have : (16 : Nat) ≤ 0 := h.2
    omega

/-- `history_safe` on a literal history exercising first, intermediary and last segment, a second endpoint in between, a
    null pointer, an undersized buffer and a TECMP message -/
example : runCk DecState.empty
      [some C17S.exFirst, none, some C17S.exFirstB, some [1, 2, 3], some C17S.exMid, some SrcTec.exCanFd, some C17S.exLast] =
    some (decodeAll tecmpDecode DecState.empty
      [some C17S.exFirst, none, some C17S.exFirstB, some [1, 2, 3], some C17S.exMid, some SrcTec.exCanFd, some C17S.exLast]) :=
  history_safe _

/-! ### the converter's stores into the payload objects it builds (TECMP path; `Payload::setData<Header>`) -/

theorem wrB_inside (buf : Bytes) (off : Nat) (v : Bytes) (h : off + v.length ≤ buf.length) :
    (wrB buf off v).isSome = true ∧ (writeAt buf off v).length = buf.length := by
  rw [wrB, if_pos h]
  exact ⟨rfl, (writeAt_inplace buf v off h).1⟩

theorem setTail_length (hdr : Nat) (b d : Bytes) : (setTail hdr b d).length = hdr + d.length := by
  rw [setTail, List.length_append, List.length_take, resize_length, Nat.min_self]

/-- CAN / CAN-FD object: the id word (offset 4), the two length bytes `setData` writes behind `resize(16 + n)` (offset 14) and
    the crc word (offset 8) are all stored INSIDE the object's vector, whatever the data length; the object ends up with
    exactly header + data bytes -/
theorem tecmp_can_stores_inbounds (a c : Nat) (data : Bytes) :
    (wrB canDefault 4 (beEnc 4 a)).isSome = true ∧
    (wrB (setTail 16 (writeAt canDefault 4 (beEnc 4 a)) data) 14
        [UInt8.ofNat (dlcOf (data.length % 256)), UInt8.ofNat data.length]).isSome = true ∧
    (wrB (canSetData (writeAt canDefault 4 (beEnc 4 a)) data) 8 (beEnc 4 c)).isSome = true ∧
    (writeAt (canSetData (writeAt canDefault 4 (beEnc 4 a)) data) 8 (beEnc 4 c)).length = 16 + data.length := by
  have ht := setTail_length 16 (writeAt canDefault 4 (beEnc 4 a)) data
  have s1 := wrB_inside canDefault 4 (beEnc 4 a) (by rw [beEnc_length]; decide)
  have s2 := wrB_inside (setTail 16 (writeAt canDefault 4 (beEnc 4 a)) data) 14
    [UInt8.ofNat (dlcOf (data.length % 256)), UInt8.ofNat data.length] (by rw [ht]; exact Nat.le_add_right 16 _)
  have s3 := wrB_inside (canSetData (writeAt canDefault 4 (beEnc 4 a)) data) 8 (beEnc 4 c)
    (by rw [canSetData, s2.2, ht, beEnc_length]; omega)
  exact ⟨s1.1, s2.1, s3.1, by rw [s3.2, canSetData, s2.2, ht]⟩

/-- LIN object: pid (offset 4), checksum (offset 6), the length byte of `setData` (offset 7) -/
theorem tecmp_lin_stores_inbounds (x y : UInt8) (data : Bytes) :
    (wrB linDefault 4 [x]).isSome = true ∧ (wrB (writeAt linDefault 4 [x]) 6 [y]).isSome = true ∧
    (wrB (setTail 8 (writeAt (writeAt linDefault 4 [x]) 6 [y]) data) 7 [UInt8.ofNat data.length]).isSome = true ∧
    (linSetData (writeAt (writeAt linDefault 4 [x]) 6 [y]) data).length = 8 + data.length := by
  have ht := setTail_length 8 (writeAt (writeAt linDefault 4 [x]) 6 [y]) data
  have s1 := wrB_inside linDefault 4 [x] (by decide : 4 + 1 ≤ 8)
  have s2 := wrB_inside (writeAt linDefault 4 [x]) 6 [y] (by rw [s1.2]; exact (by decide : 6 + 1 ≤ 8))
  have s3 := wrB_inside (setTail 8 (writeAt (writeAt linDefault 4 [x]) 6 [y]) data) 7 [UInt8.ofNat data.length]
    (by rw [ht]; exact Nat.le_add_right 8 _)
  exact ⟨s1.1, s2.1, s3.1, by rw [linSetData, s3.2, ht]⟩

/-- interface-status object: interface id (offset 0), messages total (offset 4), errors total (offset 20) in a 40-byte object -/
theorem tecmp_if_stores_inbounds (i m e : Nat) :
    (wrB ifDefault 0 (beEnc 4 i)).isSome = true ∧ (wrB (writeAt ifDefault 0 (beEnc 4 i)) 4 (beEnc 4 m)).isSome = true ∧
    (wrB (writeAt (writeAt ifDefault 0 (beEnc 4 i)) 4 (beEnc 4 m)) 20 (beEnc 4 e)).isSome = true ∧
    (writeAt (writeAt (writeAt ifDefault 0 (beEnc 4 i)) 4 (beEnc 4 m)) 20 (beEnc 4 e)).length = 40 := by
  have s1 := wrB_inside ifDefault 0 (beEnc 4 i) (by rw [beEnc_length]; decide)
  have s2 := wrB_inside (writeAt ifDefault 0 (beEnc 4 i)) 4 (beEnc 4 m) (by rw [s1.2, beEnc_length]; decide)
  have s3 := wrB_inside (writeAt (writeAt ifDefault 0 (beEnc 4 i)) 4 (beEnc 4 m)) 20 (beEnc 4 e)
    (by rw [s2.2, s1.2, beEnc_length]; decide)
  exact ⟨s1.1, s2.1, s3.1, by rw [s3.2, s2.2, s1.2]; rfl⟩

example : writeAt (canSetData (writeAt canDefault 4 (beEnc 4 0x1ABCDEF0)) [1, 2, 3]) 8 (beEnc 4 0x332211) =
    [0, 0, 0, 0, 0x1A, 0xBC, 0xDE, 0xF0, 0, 0x33, 0x22, 0x11, 0, 0, 3, 3, 1, 2, 3] := by decide +kernel

/-! ## §B  validator reads ⊆ payload slice ⊆ message ⊆ buffer -/

/-- none of the six payload validators reads outside `d` (the conclusion of `C02b.validators_inbounds`, as a predicate) -/
def ValidatorsInbounds (d : Bytes) : Prop :=
  C02b.canValidM d = some (canValid d) ∧ C02b.linValidM d = some (linValid d) ∧ C02b.ethValidM d = some (ethValid d) ∧
  C02b.analogValidM d = some (analogValid d) ∧ C02b.cmValidM d = some (cmValid d) ∧ C02b.ifValidM d = some (ifValid d)

/-- a message `Packet::isValidPacket` accepted: the payload handed to `Packet::create` is the checked slice
    `[16, 16 + declared)` of the message — it has the FULL declared length (the total `slice` did not truncate, so no byte
    behind the message was asked for) — and whichever validator `create` runs reads inside that slice -/
theorem msg_payload_validators_inbounds (r : Bytes) (h : msgValid r = true) :
    rdB r 16 (beAt r 14 2) = some (slice r 16 (beAt r 14 2)) ∧
    (slice r 16 (beAt r 14 2)).length = beAt r 14 2 ∧
    ValidatorsInbounds (slice r 16 (beAt r 14 2)) := by
  have hb := msgValid_bound r h
  refine ⟨C02.rdB_some r 16 _ hb, ?_, C02b.validators_inbounds _⟩
  simp only [slice, List.length_take, List.length_drop]; omega

/-- the same for the reassembled message: header + rewritten length of the accumulated vector -/
theorem reassembled_payload_validators_inbounds (x : Bytes) (h : 16 ≤ x.length) :
    rdB (fixLen x) 16 (beAt (fixLen x) 14 2) = some (slice (fixLen x) 16 (beAt (fixLen x) 14 2)) ∧
    (slice (fixLen x) 16 (beAt (fixLen x) 14 2)).length = beAt (fixLen x) 14 2 ∧
    ValidatorsInbounds (slice (fixLen x) 16 (beAt (fixLen x) 14 2)) := by
  obtain ⟨hl, hb⟩ := C02.fixLen_read x h
  rw [← hl] at hb
  refine ⟨C02.rdB_some _ 16 _ hb, ?_, C02b.validators_inbounds _⟩
  simp only [slice, List.length_take, List.length_drop]; omega

/-- **in BUFFER coordinates.**  Every unsegmented packet the message loop delivers for the buffer `b` (any buffer, any
    content) sits at an offset `off ≥ 8` with header and declared payload inside `b`; its payload object is
    `create (message type of the frame, payload type byte at off+13) (the bytes b[off+16 .. off+16+declared))`, that
    slice has the full declared length, the checked read of it succeeds, and no validator reads outside it.  This is the
    composition "validator ⊆ payload ⊆ message ⊆ buffer" that `ofMsgM` only carried as a comment. -/
theorem unseg_payload_from_buffer (b : Bytes) :
    ∀ p ∈ (parseFrame b).unseg, ∃ off, 8 ≤ off ∧ off + 16 + beAt b (off + 14) 2 ≤ b.length ∧
      p.payload = some (create (byteAt b 4 * 256 + byteAt b (off + 13)) (slice b (off + 16) (beAt b (off + 14) 2))) ∧
      (slice b (off + 16) (beAt b (off + 14) 2)).length = beAt b (off + 14) 2 ∧
      rdB b (off + 16) (beAt b (off + 14) 2) = some (slice b (off + 16) (beAt b (off + 14) 2)) ∧
      ValidatorsInbounds (slice b (off + 16) (beAt b (off + 14) 2)) := by
  intro p hp
  have hu : (parseFrame b).unseg = (walk (beAt b 2 2, byteAt b 5) (byteAt b 0) (byteAt b 4) (b.drop 8)).1 := rfl
  rw [hu] at hp
  obtain ⟨off', _, hv, hpe⟩ := C03S.walk_source _ _ _ _ p hp
  rw [List.drop_drop] at hv hpe
  have hb := msgValid_bound _ hv
  rw [C17S.beAt_drop, List.length_drop] at hb
  have hin : 8 + off' + 16 + beAt b (8 + off' + 14) 2 ≤ b.length := by omega
  have hlen : (slice b (8 + off' + 16) (beAt b (8 + off' + 14) 2)).length = beAt b (8 + off' + 14) 2 := by
    simp only [slice, List.length_take, List.length_drop]; omega
  refine ⟨8 + off', by omega, hin, ?_, hlen, C02.rdB_some b _ _ (by omega), C02b.validators_inbounds _⟩
  rw [hpe]
  simp only [tagPacket, Packet.ofMsg, C17S.beAt_drop, C17S.slice_drop, byteAt_drop_add]

/-- `unseg_payload_from_buffer` on a literal frame: one Ethernet message at offset 8 (declared length 8) and a truncated
    second one that is NOT delivered -/
example : ∃ off, 8 ≤ off ∧ off + 16 + beAt SrcDec.exFrame (off + 14) 2 ≤ SrcDec.exFrame.length ∧
    slice SrcDec.exFrame (off + 16) (beAt SrcDec.exFrame (off + 14) 2) = [0, 0, 0, 0, 0, 2, 0xAA, 0xBB] :=
  ⟨8, by decide, by decide, by decide⟩

/-! ## §C  source level: the result depends on no byte outside the buffer -/

section Source
open AsamCmp.Src AsamCmp.SrcGen AsamCmp.SrcDec

/-- **no read outside the buffer, extensionally, for the TRANSLATED `Decoder::decode`** (translated TECMP decoder plugged in), after any history
    (`TableInv B t` is the invariant `SrcHist.decode_history_from` establishes for the table after any list of calls).
    Place the same buffer `b` (ANY bytes, ANY length) at two non-null addresses of two arbitrary memories
    `pre ++ b ++ post`, `pre' ++ b ++ post'`: both calls are defined, leave the SAME member state and return the SAME
    packets — the model's.  So no byte in front of or behind the supplied buffer influences anything the call does; and
    since `post` may be empty (`decode_src_flush_end`), in which case ANY read at or behind `b`'s end is undefined
    (`rd_past_end`), no such read happens. -/
theorem decode_src_buffer_local (B : Nat) (t : Table) (b pre post pre' post' : Bytes) (fuel : Nat)
    (hI : SrcHist.TableInv B t) (hB : B + 65536 < 2 ^ 64) (hpre : 0 < pre.length) (hpre' : 0 < pre'.length)
    (hmem : (pre ++ b ++ post).length < 2 ^ 63) (hmem' : (pre' ++ b ++ post').length < 2 ^ 63) (hf : b.length ≤ fuel) :
    ∃ s' outs outs',
      Decoder_decode_obj fuel (tblSt t) (pre ++ b ++ post) pre.length b.length (SrcTec.tecmpExt fuel) = some (s', outs) ∧
      Decoder_decode_obj fuel (tblSt t) (pre' ++ b ++ post') pre'.length b.length (SrcTec.tecmpExt fuel) = some (s', outs') ∧
      outs.map (Sum.elim toPacket SrcTec.tAbs) = outs'.map (Sum.elim toPacket SrcTec.tAbs) ∧
      outs.map (Sum.elim toPacket SrcTec.tAbs) = (decode t.abs (some b)).2 := by
  obtain ⟨o1, h1, k1⟩ := SrcHist.decode_step_src t pre b post fuel hI.1 (SrcHist.tableInv_reg hI hB) hpre hmem hf
  obtain ⟨o2, h2, k2⟩ := SrcHist.decode_step_src t pre' b post' fuel hI.1 (SrcHist.tableInv_reg hI hB) hpre' hmem' hf
  obtain ⟨_, _, k3⟩ := C17b.decodeLL_refines t (some b) hI.1
  exact ⟨_, o1, o2, h1, h2, by rw [k1, k2], by rw [k1, k3]⟩

/-- in the flat memory of Src/Sem.lean a read that touches the first byte behind the memory is undefined -/
theorem rd_past_end (m : Bytes) (a w : Nat) (h : m.length < a + w) : Src.rd m a w = none := by
  unfold Src.rd
  rw [if_neg (by omega)]

/-- the buffer flush against the END of memory (one byte in front so that the pointer is non-null, nothing behind):
    the translated `Decoder::decode` is defined and returns the model's packets — although every scalar read that
    reaches `data + size` is undefined there (`rd_past_end` with `m = [x] ++ b`) -/
theorem decode_src_flush_end (B : Nat) (t : Table) (b : Bytes) (x : UInt8) (fuel : Nat)
    (hI : SrcHist.TableInv B t) (hB : B + 65536 < 2 ^ 64) (hmem : b.length + 1 < 2 ^ 63) (hf : b.length ≤ fuel) :
    ∃ t' outs, Decoder_decode_obj fuel (tblSt t) ([x] ++ b ++ []) 1 b.length (SrcTec.tecmpExt fuel) = some (tblSt t', outs) ∧
      SrcHist.TableInv (B + b.length) t' ∧ t'.abs = (decode t.abs (some b)).1 ∧
      outs.map (Sum.elim toPacket SrcTec.tAbs) = (decode t.abs (some b)).2 ∧
      (∀ a w, b.length + 1 < a + w → Src.rd ([x] ++ b ++ []) a w = none) := by
  obtain ⟨t', outs, h1, h2, h3, h4⟩ := SrcHist.tableInv_preserved B t [x] b [] fuel hI hB Nat.zero_lt_one
    (by simp only [List.length_append, List.length_cons, List.length_nil]; omega) hf
  refine ⟨t', outs, h1, h2, h3, h4, ?_⟩
  intro a w haw
  exact rd_past_end _ a w (by simp only [List.length_append, List.length_cons, List.length_nil]; omega)

/-- hypotheses satisfiable; two different memories around the CMP frame `exFrame`, fresh decoder -/
example := decode_src_buffer_local 0 [] SrcDec.exFrame [9] [5, 5] [1, 2, 3] [] 64 SrcHist.tableInv_fresh.1 (by decide)
  (by decide) (by decide) (by decide) (by decide) (by decide)
example := decode_src_flush_end 0 [] SrcTec.exCanFd 9 64 SrcHist.tableInv_fresh.1 (by decide) (by decide) (by decide)

/-! ## §D  source level: no null element, every element owns a payload -/

/-- **no null element and a payload in every element, for the TECMP half at source level, in front of the seam.**  `tecmpExt` turns "undefined" into `[]`
    (`getD []`) and drops null pointers (`filterMap id`); this theorem says both never fire: the RAW vector the translated
    `TECMP::Decoder::Decode` returns is defined, contains no null pointer, every packet in it owns a payload object, it
    is literally `tecmpExt`'s list wrapped in `some`, and it has as many elements as the model delivers packets.
    Buffer: any content, any length below 2^64 − 2^16, non-null address. -/
theorem tecmp_raw_no_null (pre b post : Bytes) (fuel : Nat) (hpre : 0 < pre.length)
    (hmem : (pre ++ b ++ post).length < 2 ^ 64) (hf : b.length ≤ fuel) (hsz : b.length + 2 ^ 16 ≤ 2 ^ 64) :
    ∃ l, TECMP_Decoder_Decode_obj fuel (pre ++ b ++ post) pre.length b.length = some l ∧
      (∀ x ∈ l, ∃ tp, x = some tp ∧ tp.payload.isSome = true) ∧
      l = (SrcTec.tecmpExt fuel (pre ++ b ++ post) pre.length b.length).map some ∧
      l.length = (tecmpDecode b).length := by
  have hsz' : byteAt b 5 = 2 → b.length - 16 + beAt b 32 2 < 2 ^ 64 := fun _ => by
    have := beAt_lt_pow b 32 2; omega
  refine ⟨_, SrcTec.tecmpDecode_src_small pre b post fuel hpre hmem hf hsz, ?_, ?_, by rw [List.length_map]⟩
  · intro x hx
    obtain ⟨p, hp, rfl⟩ := List.mem_map.mp hx
    refine ⟨SrcTec.tRepr p, rfl, ?_⟩
    have := C02.tecmpDecode_payload b p hp
    simp only [SrcTec.tRepr, Option.isSome_map, this]
  · rw [SrcTec.tecmpExt_src pre b post fuel hpre hmem hf hsz', List.map_map]
    rfl

example : ∃ l, TECMP_Decoder_Decode_obj 49 ([9] ++ SrcTec.exCanFd ++ [5, 5]) 1 49 = some l ∧
    (∀ x ∈ l, ∃ tp, x = some tp ∧ tp.payload.isSome = true) ∧ l.length = 1 := by
  obtain ⟨l, h1, h2, _, h4⟩ := tecmp_raw_no_null [9] SrcTec.exCanFd [5, 5] 49 (by decide) (by decide) (by decide) (by decide)
  exact ⟨l, h1, h2, by rw [h4]; decide⟩

/-- **packet bound, no null element, a payload in every element: the whole translated `Decoder::decode`, after any history.**  The returned vector has exactly as
    many elements as the model delivers packets (nothing dropped, nothing added by the seam), at most one per 12 input
    bytes, and every element read as a packet owns a payload object.  (Left summands are "arguments of
    `std::make_shared<Packet>`" — non-null by construction; that the translated constructor then gives the packet a
    non-null payload is `SrcPv.wire_ctor_src` / `SrcPv.create_src`.) -/
theorem decode_src_count_payload (B : Nat) (t : Table) (pre b post : Bytes) (fuel : Nat)
    (hI : SrcHist.TableInv B t) (hB : B + 65536 < 2 ^ 64) (hpre : 0 < pre.length)
    (hmem : (pre ++ b ++ post).length < 2 ^ 63) (hf : b.length ≤ fuel) :
    ∃ s' outs, Decoder_decode_obj fuel (tblSt t) (pre ++ b ++ post) pre.length b.length (SrcTec.tecmpExt fuel) = some (s', outs) ∧
      outs.length = (decode t.abs (some b)).2.length ∧ 12 * outs.length ≤ b.length ∧
      ∀ o ∈ outs, (Sum.elim toPacket SrcTec.tAbs o).payload.isSome = true := by
  obtain ⟨t', outs, h1, _, _, h4⟩ := SrcHist.tableInv_preserved B t pre b post fuel hI hB hpre hmem hf
  have hlen : outs.length = (decode t.abs (some b)).2.length := by rw [← h4, List.length_map]
  refine ⟨_, outs, h1, hlen, by rw [hlen]; exact C02.decode_count _ b, ?_⟩
  intro o ho
  apply C02.decode_payload_present t.abs (some b)
  rw [← h4]
  exact List.mem_map_of_mem ho

end Source

/-! ## §E  `create` unfolded; the walk advances by the packet's own length -/

/-- what `Packet::create` can return: the typed / generic payload holding exactly the bytes it was given, or the
    invalid-marked payload of the SAME length holding zeros.  Never anything else, never "no object". -/
theorem create_cases (ty : Nat) (d : Bytes) : create ty d = ⟨ty, d⟩ ∨ create ty d = ⟨0, zeros d.length⟩ :=
  (C03.create_cases ty d).imp And.left id

/-- the two cases on the decode path, with the facts already proved elsewhere: a message the loop accepts yields a packet
    whose payload object is `create …` of the declared bytes, of exactly the declared length, and whose
    `getPayloadLength()` — by which the C++ loop advances (`packet->getPayloadLength() + 16`, taken from the PACKET, 16-bit
    truncated), while the model advances by the header field — IS the declared length (`C17b.ofMsg_payloadLength`,
    `C17b.create_length` = `C04S.create_length`; exact characterisations of `create`: `C01S.create_keeps_iff`, `C04S.create_exact`) -/
theorem unseg_packet_object (ep : Ep) (ver mt : Nat) (r : Bytes) (h : msgValid r = true) :
    ∃ pl, (tagPacket ep ver (Packet.ofMsg mt r)).payload = some pl ∧
      pl = create (mt * 256 + byteAt r 13) (slice r 16 (beAt r 14 2)) ∧ pl.data.length = beAt r 14 2 ∧
      (pl = ⟨mt * 256 + byteAt r 13, slice r 16 (beAt r 14 2)⟩ ∨ pl = ⟨0, zeros (beAt r 14 2)⟩) ∧
      (tagPacket ep ver (Packet.ofMsg mt r)).payloadLength + 16 = 16 + beAt r 14 2 := by
  have hb := msgValid_bound r h
  have hl : (slice r 16 (beAt r 14 2)).length = beAt r 14 2 := by
    simp only [slice, List.length_take, List.length_drop]; omega
  refine ⟨_, rfl, rfl, by rw [C17b.create_length, hl], ?_, by rw [C17b.ofMsg_payloadLength ep ver mt r h]; omega⟩
  have := create_cases (mt * 256 + byteAt r 13) (slice r 16 (beAt r 14 2))
  rw [hl] at this
  exact this

example : create tyEth [0, 0, 0, 0, 0, 2, 0xAA, 0xBB] = ⟨tyEth, [0, 0, 0, 0, 0, 2, 0xAA, 0xBB]⟩ := by decide
example : create tyEth [0, 0, 0, 0, 0, 9, 0xAA, 0xBB] = ⟨0, [0, 0, 0, 0, 0, 0, 0, 0]⟩ := by decide
example : create 0x0155 [1, 2] = ⟨0x0155, [1, 2]⟩ ∧ create 0 [1, 2] = ⟨0, [0, 0]⟩ := by decide

/-! ## §F  "terminates promptly": loop bounds -/

/-- **the fuel of the TECMP bus-status loop is never what stops it.**  Once the fuel covers the number of complete entries
    that remain, ANY additional fuel gives the same list — so the list is the one of the unfuelled loop
    `while (off + 12 + v <= size)`, and a loop that did not advance could not be hidden by the fuel. -/
theorem busEntries_fuel_irrelevant (b p : Bytes) (v : Nat) : ∀ (fuel off k : Nat), (p.length - off) / (12 + v) ≤ fuel →
    tecmpBusEntries b p v (fuel + k) off = tecmpBusEntries b p v fuel off := by
  intro fuel off k h
  rw [C15.tecmpBusEntries_eq_map, C15.tecmpBusEntries_eq_map, Nat.min_eq_right h, Nat.min_eq_right (by omega)]

/-- `tecmpBus` with any fuel at least the model's `p.length / 12 + 1` -/
theorem tecmpBus_any_fuel (b p : Bytes) (fuel : Nat) (hf : p.length / 12 + 1 ≤ fuel) :
    (if p.length < 12 then [] else tecmpBusEntries b p (beAt p 4 2) fuel 12) = tecmpBus b p := by
  have hle := C15.entries_le_fuel p (beAt p 4 2)
  unfold tecmpBus
  split
  · rfl
  · rw [C15.tecmpBusEntries_eq_map, C15.tecmpBusEntries_eq_map, Nat.min_eq_right (by omega), Nat.min_eq_right (by omega)]

/-- exact number of iterations of the bus-status loop = number of packets: the complete entries of `12 + v` bytes behind
    the 12 generic bytes — for EVERY payload, no hypothesis -/
theorem tecmpBus_length (b p : Bytes) :
    (tecmpBus b p).length = if p.length < 12 then 0 else (p.length - 12) / (12 + beAt p 4 2) := by
  rw [C15.tecmpBus_eq_map, List.length_map, List.length_range]
  split
  · rw [show p.length - 12 = 0 by omega, Nat.zero_div]
  · rfl

/-- sharp count for a TECMP message: a single packet, or (bus status) one per complete 12-byte entry behind the 28 header
    and 12 generic bytes -/
theorem tecmpDecode_length_le (b : Bytes) : (tecmpDecode b).length ≤ max 1 ((b.length - 40) / 12) := by
  refine C02.tecmpDecode_ind (Q := fun l => l.length ≤ max 1 ((b.length - 40) / 12)) b
    (Nat.zero_le _) (fun _ _ => Nat.le_max_left _ _) (fun _ => Nat.le_trans ?_ (Nat.le_max_right _ _))
  have := C02.tecmpBus_count b (b.drop 28)
  rw [List.length_drop] at this
  omega

/-- over a whole history, from any state: at most one packet per 12 bytes handed to the decoder -/
theorem history_count (bufs : List (Option Bytes)) : ∀ (s : DecState),
    12 * (decodeAll tecmpDecode s bufs).2.length ≤ (bufs.map fun b => (b.map List.length).getD 0).sum := by
  induction bufs with
  | nil => intro s; simp [decodeAll]
  | cons b bs ih =>
    intro s
    have hd : decodeWith tecmpDecode s b = decode s b := rfl
    have h1 : 12 * (decode s b).2.length ≤ (b.map List.length).getD 0 := by
      cases b with
      | none => simp [C02.decode_null]
      | some x => exact C02.decode_count s x
    have h2 := ih (decode s b).1
    simp only [decodeAll, hd, List.length_append, List.map_cons, List.sum_cons]
    omega

section SourceFuel
open AsamCmp.Src AsamCmp.SrcGen AsamCmp.SrcDec

/-- **source level: linear work.**  After any history, on any buffer, the translated `Decoder::decode` (with the
    translated TECMP decoder) is DEFINED with fuel = the buffer's length: each loop of the call — the message walk, the
    bus-status loop — makes at most `size` iterations (the fuel is what bounds the iterations of each translated `while`;
    running out of it would be `none`).  Work per call linear in the input, independent of the history. -/
theorem decode_src_linear_fuel (B : Nat) (t : Table) (pre b post : Bytes)
    (hI : SrcHist.TableInv B t) (hB : B + 65536 < 2 ^ 64) (hpre : 0 < pre.length)
    (hmem : (pre ++ b ++ post).length < 2 ^ 63) :
    ∃ t' outs, Decoder_decode_obj b.length (tblSt t) (pre ++ b ++ post) pre.length b.length (SrcTec.tecmpExt b.length) =
        some (tblSt t', outs) ∧
      SrcHist.TableInv (B + b.length) t' ∧ t'.abs = (decode t.abs (some b)).1 ∧
      outs.map (Sum.elim toPacket SrcTec.tAbs) = (decode t.abs (some b)).2 :=
  SrcHist.tableInv_preserved B t pre b post b.length hI hB hpre hmem (Nat.le_refl _)

end SourceFuel

example : tecmpBusEntries SrcTec.exBusV (SrcTec.exBusV.drop 28) 4 1000 12 = tecmpBus SrcTec.exBusV (SrcTec.exBusV.drop 28) := by
  have := tecmpBus_any_fuel SrcTec.exBusV (SrcTec.exBusV.drop 28) 1000 (by decide)
  rw [if_neg (by decide)] at this
  rw [← this]
  decide +kernel
example : (tecmpBus SrcTec.exBusV (SrcTec.exBusV.drop 28)).length = 3 ∧ (SrcTec.exBusV.length - 40) / 12 = 5 := by decide +kernel

/-! ## §G  the C02 statements over histories, and witnesses on the reassembly branch -/

/-- every packet of a whole history, from any state, carries a payload -/
theorem history_payload_present (bufs : List (Option Bytes)) : ∀ (s : DecState),
    ∀ p ∈ (decodeAll tecmpDecode s bufs).2, p.payload.isSome = true :=
  fun s => decodeAll_forall tecmpDecode _ bufs s fun s' b _ => C02.decode_payload_present s' b

section Witnesses

/-- first, intermediary and last segment: nothing, nothing, then ONE packet carrying the 6 accumulated bytes; in between
    the endpoint holds a pending entry that satisfies the invariant (`PendingOk (some _)`), afterwards nothing -/
theorem ex_reassembly :
    ((decodeAll tecmpDecode DecState.empty [some C17S.exFirst, some C17S.exMid, some C17S.exLast]).2.map
        fun p => (p.deviceId, p.streamId, p.payload.map (·.data))) = [(0x0102, 7, some [0xAA, 0xBB, 0xCC, 0xDD, 0xEE, 0xFF])] ∧
    ((decodeAll tecmpDecode DecState.empty [some C17S.exFirst, some C17S.exMid]).1 (0x0102, 7)).map
        (fun q => (q.buf.length, q.last, q.seq)) = some (21, 8, 6) ∧
    (decodeAll tecmpDecode DecState.empty [some C17S.exFirst, some C17S.exMid, some C17S.exLast]).1 (0x0102, 7) = none := by
  refine ⟨?_, ?_, ?_⟩
  · rw [← (C17b.runLL_refines _).2.2]; decide +kernel
  · rw [← (C17b.runLL_refines _).2.1]; decide +kernel
  · rw [← (C17b.runLL_refines _).2.1]; decide +kernel

/-- `C02.decode_count`, `C02.decode_payload_present` and `C02.decode_state_ok` on the reassembly branch: the state in
    front of the last segment is a reachable non-empty one, the call delivers one packet (12 · 1 ≤ 25) with a payload -/
example : let s := (decodeAll tecmpDecode DecState.empty [some C17S.exFirst, some C17S.exMid]).1
    (∀ e, PendingOk (s e)) ∧ 12 * (decode s (some C17S.exLast)).2.length ≤ C17S.exLast.length ∧
    ∀ p ∈ (decode s (some C17S.exLast)).2, p.payload.isSome = true :=
  ⟨C03S.decodeAll_state_ok _ _ (fun _ => (trivial : PendingOk none)), C02.decode_count _ _, C02.decode_payload_present _ _⟩

/-- the checked-read decoder on a TRUNCATED frame: `exFrame` cut to 30 bytes, i.e. inside the payload of its first message
    (22 message bytes, 8 declared behind the 16-byte header): defined, nothing is delivered -/
example : (decodeM DecState.empty (some (SrcDec.exFrame.take 30))).map (fun r => r.2.length) = some 0 := by
  rw [C02.decode_inbounds]
  show some (decode (Table.abs []) (some (SrcDec.exFrame.take 30))).2.length = some 0
  rw [← (C17b.decodeLL_refines [] _ C17b.tableOk_empty).2.2]
  decide +kernel
/-- … and the checked message validator itself, evaluated literally on the truncated message (22 bytes, declares 8 behind
    a 16-byte header): `some false`, i.e. rejected WITHOUT an out-of-range read -/
example : msgValidM ((SrcDec.exFrame.take 30).drop 8) = some false := by decide +kernel
example : msgValidM (SrcDec.exFrame.drop 8) = some true ∧ ofMsgM 1 (SrcDec.exFrame.drop 8) ≠ none := by decide +kernel
/-- the checked TECMP path evaluated literally, complete and truncated inside the CAN data -/
example : (tecmpDecodeM SrcTec.exCanFd).map List.length = some 1 ∧
    (tecmpDecodeM (SrcTec.exCanFd.take 40)).map List.length = some 0 := by decide +kernel

/-- **source level, on the reassembly branch** (a non-empty table, `addSegment`, `getPacket`).
    `SrcHist.decode_history_src` on a literal history — first segment, intermediary segment, a null
    pointer, last segment, each buffer in its own memory: the run of the TRANSLATED `Decoder::decode` is defined, returns
    call by call the model's packets — nothing, nothing, nothing, then the one reassembled packet with the six
    accumulated bytes — and leaves no pending entry for the endpoint. -/
example : ∃ t', SrcHist.srcDecodeRun 64 SrcGen.Decoder_default
        [.buf [9] C17S.exFirst [], .buf [9, 9] C17S.exMid [5], .null [] 7, .buf [9] C17S.exLast []] =
      some (SrcDec.tblSt t',
        (SrcHist.decodeEach DecState.empty [some C17S.exFirst, some C17S.exMid, none, some C17S.exLast]).2) ∧
    t'.abs (0x0102, 7) = none ∧
    (SrcHist.decodeEach DecState.empty [some C17S.exFirst, some C17S.exMid, none, some C17S.exLast]).2.length = 4 ∧
    ((SrcHist.decodeEach DecState.empty [some C17S.exFirst, some C17S.exMid, none, some C17S.exLast]).2.flatten.map
        fun p => (p.deviceId, p.streamId, p.payload.map (·.data))) = [(0x0102, 7, some [0xAA, 0xBB, 0xCC, 0xDD, 0xEE, 0xFF])] := by
  obtain ⟨t', h1, _, _, h4, h5, h6⟩ := SrcHist.decode_history_src
    [.buf [9] C17S.exFirst [], .buf [9, 9] C17S.exMid [5], .null [] 7, .buf [9] C17S.exLast []] 64
    (by
      intro c hc
      simp only [List.mem_cons, List.not_mem_nil, or_false] at hc
      rcases hc with rfl | rfl | rfl | rfl <;> simp only [SrcHist.Call.Ok] <;> decide)
    (by decide)
  have e : List.map SrcHist.Call.arg
      [.buf [9] C17S.exFirst [], .buf [9, 9] C17S.exMid [5], .null [] 7, .buf [9] C17S.exLast []] =
      [some C17S.exFirst, some C17S.exMid, none, some C17S.exLast] := rfl
  rw [e] at h1 h4 h5 h6
  refine ⟨t', h1, ?_, h6, ?_⟩
  · rw [h4]
    show (decodeAll tecmpDecode DecState.empty [some C17S.exFirst, some C17S.exMid, none, some C17S.exLast]).1 (0x0102, 7) = none
    rw [← (C17b.runLL_refines _).2.1]; decide +kernel
  · rw [h5]
    show ((decodeAll tecmpDecode DecState.empty [some C17S.exFirst, some C17S.exMid, none, some C17S.exLast]).2.map _) = _
    rw [← (C17b.runLL_refines _).2.2]; decide +kernel

/-- a 33-byte TECMP CAN frame on which UBSan reports the C++ (28-byte header, message type 3, data type 2, declared length
    5, arbitration id, length byte 0).  The MODEL returns one CAN packet with an empty data field, every checked read
    succeeds and every theorem holds — the C++ passes `nullptr` to `memcpy(dst, nullptr, 0)` here
    (tecmp_can_payload.cpp `getData()` returns null when the payload holds no byte behind its 5-byte header), which the
    semantics of Src/Sem.lean (address 0 is an ordinary index, a copy of 0 bytes reads nothing) does not flag. -/
def ubsanFrame : Bytes :=
  [0, 7, 0, 9, 3, 3, 0, 2, 0, 0, 0, 0, 0x11, 0x22, 0x33, 0x44, 1, 2, 3, 4, 5, 6, 7, 8, 0, 5, 0, 0, 0x80, 0, 3, 0x21, 0]
theorem ubsan_witness_in_model :
    ubsanFrame.length = 33 ∧
    (tecmpDecodeM ubsanFrame).map (fun ps => ps.map fun p => (p.payload.map (·.ty), p.payload.map (·.data.length))) =
      some [(some tyCan, some 16)] := by decide +kernel

end Witnesses

end AsamCmp.C02S
