/-
  C16  Status tracker equals a per-device, per-interface latest-message map.

  After any sequence of updates, removals and clears, the status object holds exactly one entry per
  device id that has sent a capture-module status message since it was last removed or cleared,
  holding that device's latest such packet, and under it exactly one entry per interface id seen in
  that device's interface status messages since then, holding the latest one.  Lookups by id return
  the index of the matching entry, or the element count when there is none, and messages for unknown
  devices or of other kinds change nothing.

  The map specification (`specStep`, `setMap`), the abstraction (`absSt`, `absIfs`) and the
  invariant `Inv` are in `AsamCmp/Lemmas/StatusSpec.lean`, the helper lemmas in
  `AsamCmp/Lemmas/Status.lean`.
-/
import AsamCmp.Status
import AsamCmp.Lemmas.Status
namespace AsamCmp.C16
open AsamCmp

theorem inv_init : Inv [] := by
  exact ⟨List.nodup_nil, fun d hd => by cases hd⟩

theorem inv_step (s : StatusSt) (op : StOp) (h : Inv s) : Inv (statusStep s op) := by
  exact inv_statusStep s op h

/-- one concrete step refines one step of the map specification -/
theorem abs_step (s : StatusSt) (op : StOp) (h : Inv s) : absSt (statusStep s op) = specStep (absSt s) op := by
  exact abs_statusStep s op h

/-- C16: after ANY sequence of operations from the empty tracker, what the tracker holds — read
    through its vectors — is exactly the latest-message map, and the vectors hold one entry per key -/
theorem status_refines (ops : List StOp) :
    absSt (statusRun [] ops) = specRun (fun _ => none) ops ∧ Inv (statusRun [] ops) := by
  exact refines_from ops [] inv_init

/-- exactly one entry per key: a device id has an entry iff the map is defined there, entries are
    unique, so the element count is the number of keys -/
theorem entries_are_keys (s : StatusSt) (h : Inv s) (dev : Nat) :
    (absSt s dev).isSome ↔ dev ∈ s.map (·.pkt.deviceId) :=
  absL_isSome_iff kD vD s dev

/-- lookups: `getIndexByDeviceId` returns the position of the entry with that id, or the count -/
theorem index_spec (s : StatusSt) (id : Nat) :
    let i := indexOfDev s id
    (i < s.length → ∃ d, s[i]? = some d ∧ d.pkt.deviceId = id) ∧
    (¬ i < s.length → i = s.length ∧ absSt s id = none) ∧
    (∀ j, j < i → ∀ d, s[j]? = some d → d.pkt.deviceId ≠ id) := by
  intro i
  rcases absL_lookup kD vD s id with ⟨hlt, a, ha, hka, _, hfirst⟩ | ⟨heq, habs, hnone⟩
  · exact ⟨fun _ => ⟨a, ha, hka⟩, fun hn => absurd hlt hn, hfirst⟩
  · exact ⟨fun hlt => absurd heq (Nat.ne_of_lt hlt), fun _ => ⟨heq, habs⟩,
      fun j _ d hd => hnone d (List.mem_of_getElem? hd)⟩

theorem if_index_spec (d : DevSt) (id : Nat) :
    let i := d.indexOfIf id
    (i < d.ifs.length → ∃ x, d.ifs[i]? = some x ∧ x.id = id) ∧
    (¬ i < d.ifs.length → i = d.ifs.length ∧ absIfs d.ifs id = none) := by
  intro i
  rcases absL_lookup kI vI d.ifs id with ⟨hlt, a, ha, hka, _, _⟩ | ⟨heq, habs, _⟩
  · exact ⟨fun _ => ⟨a, ha, hka⟩, fun hn => absurd hlt hn⟩
  · exact ⟨fun hlt => absurd heq (Nat.ne_of_lt hlt), fun _ => ⟨heq, habs⟩⟩

/-- messages of other kinds change nothing -/
theorem update_other_kind (s : StatusSt) (p : Packet) (h1 : p.pty ≠ tyCm) (h2 : p.pty ≠ tyIf) :
    statusUpdate s p = s := by
  by_cases hlt : indexOfDev s p.deviceId < s.length
  · rw [statusUpdate_found s p hlt]
    have hg : (fun d : DevSt => d.update p) = id := by
      funext d
      unfold DevSt.update
      simp only [if_neg h1, if_neg h2, id]
    rw [hg]
    exact List.modify_id ..
  · rw [statusUpdate_new s p hlt, if_neg h1]

/-- interface (or any non capture-module) messages for unknown devices change nothing -/
theorem update_unknown_device (s : StatusSt) (p : Packet) (hdev : absSt s p.deviceId = none) (h1 : p.pty ≠ tyCm) :
    statusUpdate s p = s := by
  have hlt : ¬ indexOfDev s p.deviceId < s.length := by
    intro hlt
    obtain ⟨a, _, _, _, _, habs⟩ := dev_found s p.deviceId hlt
    rw [habs] at hdev
    cases hdev
  rw [statusUpdate_new s p hlt, if_neg h1]

/-- every stored interface entry is keyed by the interface id inside its own packet -/
theorem if_key_is_payload_id (ops : List StOp) :
    ∀ d ∈ statusRun [] ops, ∀ x ∈ d.ifs, x.id = x.pkt.payloadIfId := by
  exact allKeyOk_run ops [] (fun d hd => by cases hd)

/-! ### a concrete run (the removal really reorders the vector; the map does not care) -/

/-- a capture-module status packet of device `dev` -/
def cmPkt (dev : Nat) : Packet := { payload := some ⟨tyCm, []⟩, deviceId := dev }
/-- an interface status packet of device `dev` for interface `ifId` (< 256) -/
def ifPkt (dev ifId : Nat) : Packet :=
  { payload := some ⟨tyIf, [0, 0, 0, UInt8.ofNat ifId]⟩, deviceId := dev }

/-- devices 1, 2, 3 are added, device 1 is removed: device 3 is swapped into slot 0 -/
example : (statusRun [] [.update (cmPkt 1), .update (cmPkt 2), .update (cmPkt 3), .rmDev 1]).map
    (·.pkt.deviceId) = [3, 2] := by decide

/-- interface messages before the device is known are ignored, later ones are stored per id, the
    latest one wins, and removing an interface swaps the last one into its slot -/
example : ((statusRun [] [.update (ifPkt 1 7), .update (cmPkt 1), .update (ifPkt 1 7), .update (ifPkt 1 8),
    .update (ifPkt 1 9), .update (ifPkt 1 7), .rmIf 1 7]).map fun d => d.ifs.map (·.id)) = [[9, 8]] := by
  decide

end AsamCmp.C16
