/-
  Source-level C03: the payload classes' variable-length accessors (`getData`, `getDataLength`, `getSamplesCount`,
  `getStreamIds`, `getStreamIdsCount`, `getVendorData`, `getVendorDataLength`), translated from /repo's source on every run
  (GeneratedSrc.lean; `pd_` / `pdsize_` are the address and size of the bytes the payload object owns), report exactly the views
  of the accessor model `Access.lean` — the model `C03.accessors_inbounds` is proved about — for every payload the class's
  validator accepts, at any position of any memory.  `src*Access` combines the translated accessors the way the harness's
  `access` operation combines the real ones; a null pointer is address 0 (hence `0 < pre.length`).
  The capture-module accessors are included: `std::string_view` is translated as a (pointer, length) pair, `find` /
  `remove_suffix` by the primitives `svFind` / `svRemoveSuffix` of Src/Sem.lean.
-/
import AsamCmp.GeneratedSrc
import AsamCmp.Access
import AsamCmp.Props.SrcTie
import AsamCmp.Lemmas.SrcAccess
import AsamCmp.Lemmas.SrcAccessCm
import AsamCmp.Lemmas.ValidSpec
set_option linter.unusedSimpArgs false
/-! ### the translated accessors as raw (pointer, length) pairs (stated in `C03S`, whose source-level theorems use them) -/

namespace AsamCmp.C03S
open AsamCmp AsamCmp.Src AsamCmp.SrcGen AsamCmp.SrcTie
attribute [local congr] bind_head_congr bind_head_congr'

/-- a view of the accessor model as the raw (pointer, length) pair of an object at address `pd`:
    null is address 0, otherwise `pd + offset` — no subtraction involved -/
def absView (pd : Nat) (v : View) : Nat × Nat := (match v.off with | none => 0 | some o => pd + o, v.len)

theorem absView_dataView (pd : Nat) (name : String) (off len : Nat) :
    absView pd (dataView name off len) = (if len = 0 then 0 else pd + off, len) := by
  unfold absView dataView
  by_cases h : len = 0 <;> simp [h]

def rawCan (m : Bytes) (pd sz this : Nat) : Option (List (Nat × Nat)) := do
  let n ← CanPayloadBase_getDataLength m pd sz this
  let p ← CanPayloadBase_getData m pd sz this
  pure [(p, n)]

def rawLin (m : Bytes) (pd sz this : Nat) : Option (List (Nat × Nat)) := do
  let n ← LinPayload_getDataLength m pd sz this
  let p ← LinPayload_getData m pd sz this
  pure [(p, n)]

def rawEth (m : Bytes) (pd sz this : Nat) : Option (List (Nat × Nat)) := do
  let n ← EthernetPayload_getDataLength m pd sz this
  let p ← EthernetPayload_getData m pd sz this
  pure [(p, n)]

def rawAnalog (m : Bytes) (pd sz this : Nat) : Option (List (Nat × Nat)) := do
  let cnt ← AnalogPayload_getSamplesCount m pd sz this
  let dt ← AnalogPayload_getSampleDt m pd sz this
  let p ← AnalogPayload_getData m pd sz this
  pure [(p, cnt * (if dt = 0 then 2 else 4))]

def rawIf (m : Bytes) (pd sz this : Nat) : Option (List (Nat × Nat)) := do
  let c ← InterfacePayload_getStreamIdsCount m pd sz this
  let p ← InterfacePayload_getStreamIds m pd sz this
  let vl ← InterfacePayload_getVendorDataLength m pd sz this
  let vp ← InterfacePayload_getVendorData m pd sz this
  pure [(p, c), (vp, vl)]

def rawCm (m : Bytes) (pd sz this : Nat) : Option (List (Nat × Nat)) := do
  let d ← CaptureModulePayload_getDeviceDescription m pd sz this
  let s ← CaptureModulePayload_getSerialNumber m pd sz this
  let hw ← CaptureModulePayload_getHardwareVersion m pd sz this
  let sw ← CaptureModulePayload_getSoftwareVersion m pd sz this
  let vl ← CaptureModulePayload_getVendorDataLength m pd sz this
  let vp ← CaptureModulePayload_getVendorData m pd sz this
  pure [d, s, hw, sw, (vp, vl)]

theorem can_raw_src (pre b post : Bytes) (this : Nat) (h : (pre ++ b ++ post).length < 2 ^ 64)
    (hv : canValid b = true) :
    rawCan (pre ++ b ++ post) pre.length b.length this = (canAccess b).map (·.map (absView pre.length)) := by
  have hb := mid_length_lt pre b post h
  have h16 : 16 ≤ b.length := ((canValid_spec b).mp hv).1
  simp only [rawCan, CanPayloadBase_getData, CanPayloadBase_getDataLength, CanPayloadBase_Header_getDataLength]
  src_calls []
  simp (disch := omega) only [canAccess, C03.rd_ok, beAt_one_eq_byteAt, bind, pure, some_bind, absView_dataView, Option.map, List.map]

theorem lin_raw_src (pre b post : Bytes) (this : Nat) (h : (pre ++ b ++ post).length < 2 ^ 64)
    (hv : linValid b = true) :
    rawLin (pre ++ b ++ post) pre.length b.length this = (linAccess b).map (·.map (absView pre.length)) := by
  have hb := mid_length_lt pre b post h
  have h8 : 8 ≤ b.length := ((linValid_spec b).mp hv).1
  simp only [rawLin, LinPayload_getData, LinPayload_getDataLength, LinPayload_Header_getDataLength]
  src_calls []
  simp (disch := omega) only [linAccess, C03.rd_ok, beAt_one_eq_byteAt, bind, pure, some_bind, absView_dataView, Option.map, List.map]

theorem eth_raw_src (pre b post : Bytes) (this : Nat) (h : (pre ++ b ++ post).length < 2 ^ 64)
    (hv : ethValid b = true) :
    rawEth (pre ++ b ++ post) pre.length b.length this = (ethAccess b).map (·.map (absView pre.length)) := by
  have hb := mid_length_lt pre b post h
  have h6 : 6 ≤ b.length := ((ethValid_spec b).mp hv).1
  simp only [rawEth, EthernetPayload_getData, EthernetPayload_getDataLength, EthernetPayload_Header_getDataLength]
  src_calls []
  simp (disch := omega) only [ethAccess, C03.rd_ok, bind, pure, some_bind, absView_dataView, Option.map, List.map]


theorem analog_raw_src (pre b post : Bytes) (this : Nat) (h : (pre ++ b ++ post).length < 2 ^ 64)
    (hv : analogValid b = true) :
    rawAnalog (pre ++ b ++ post) pre.length b.length this = (analogAccess b).map (·.map (absView pre.length)) := by
  have hb := mid_length_lt pre b post h
  have h16 : 16 ≤ b.length := ((analogValid_spec b).mp hv).1
  have h3 : byteAt b 1 &&& 3 ≤ 3 := Nat.and_le_right
  have hz : (byteAt b 1 &&& 3) * 256 = 0 ↔ byteAt b 1 &&& 3 = 0 := by omega
  simp (disch := omega) only [rawAnalog, AnalogPayload_getData, analog_dt_src (at_mid pre b post) this (by omega),
    analog_cnt_src (at_mid pre b post) this hb h16, analogAccess, C03.rd_ok, beAt_one_eq_byteAt, bind, pure, some_bind, bne_iff_ne, ne_eq,
    hz, Option.map, List.map, absView]
  generalize ((b.length - 16) / if byteAt b 1 &&& 3 = 0 then 2 else 4) = c
  by_cases h0 : c = 0 <;> simp [h0]

theorem if_raw_src (pre b post : Bytes) (this : Nat) (h : (pre ++ b ++ post).length < 2 ^ 64)
    (hv : ifValid b = true) :
    rawIf (pre ++ b ++ post) pre.length b.length this = (ifAccess b).map (·.map (absView pre.length)) := by
  have hb := mid_length_lt pre b post h
  obtain ⟨h40, _, hfit, _⟩ := (ifValid_spec b).mp hv
  simp (disch := omega) only [rawIf, InterfacePayload_getStreamIds, InterfacePayload_getVendorData,
    InterfacePayload_getStreamIdCountPtr, if_count_src (at_mid pre b post) this (by omega),
    if_vlptr_src (at_mid pre b post) this (by omega), if_vl_src (at_mid pre b post) this (by omega) (by omega), ifAccess, C03.rd_ok,
    bind, pure, some_bind, bne_iff_ne, ne_eq, ite_some, absView_dataView, Nat.add_assoc, Nat.reduceAdd,
    Option.map, List.map, ite_not]

theorem cm_raw_src (pre b post : Bytes) (this : Nat) (h : (pre ++ b ++ post).length < 2 ^ 64)
    (hv : cmValid b = true) :
    rawCm (pre ++ b ++ post) pre.length b.length this = (cmAccess b).map (·.map (absView pre.length)) := by
  have hb := mid_length_lt pre b post h
  obtain ⟨l1, p2, l2, p3, l3, p4, l4, p5, l5, p6, _, B1, B2, B3, B4, B5, hacc⟩ := C03.cm_blocks b hv
  have hl5 := B5.lt
  rw [hacc]
  simp (disch := omega) only [rawCm, CaptureModulePayload_getDeviceDescription,
    CaptureModulePayload_getSerialNumber, CaptureModulePayload_getHardwareVersion,
    CaptureModulePayload_getSoftwareVersion, CaptureModulePayload_getVendorDataLength,
    CaptureModulePayload_getVendorData, initStringView_blk (at_mid pre b post) B1, initStringView_blk (at_mid pre b post) B2, initStringView_blk (at_mid pre b post) B3, initStringView_blk (at_mid pre b post) B4,
    initStringView_blk (at_mid pre b post) B5, removeTrailingNulls_blk (at_mid pre b post) B1 hb, removeTrailingNulls_blk (at_mid pre b post) B2 hb, removeTrailingNulls_blk (at_mid pre b post) B3 hb,
    removeTrailingNulls_blk (at_mid pre b post) B4 hb, bind, pure, some_bind, Nat.mod_eq_of_lt, Option.map, List.map, absView]

end AsamCmp.C03S

namespace AsamCmp.SrcTie
open AsamCmp AsamCmp.Src AsamCmp.SrcGen
attribute [local congr] bind_head_congr bind_head_congr'

/-- a (pointer, length) pair as a view relative to the payload start -/
def srcView (name : String) (pd p len : Nat) : View := ⟨name, if p = 0 then none else some (p - pd), len⟩

def srcCanAccess (m : Bytes) (pd sz this : Nat) : Option (List View) := do
  let n ← CanPayloadBase_getDataLength m pd sz this
  let p ← CanPayloadBase_getData m pd sz this
  pure [srcView "data" pd p n]

def srcLinAccess (m : Bytes) (pd sz this : Nat) : Option (List View) := do
  let n ← LinPayload_getDataLength m pd sz this
  let p ← LinPayload_getData m pd sz this
  pure [srcView "data" pd p n]

def srcEthAccess (m : Bytes) (pd sz this : Nat) : Option (List View) := do
  let n ← EthernetPayload_getDataLength m pd sz this
  let p ← EthernetPayload_getData m pd sz this
  pure [srcView "data" pd p n]

/-- the harness reports `count * sizeof(sample)` bytes, the sample size chosen by the sample type as the library does -/
def srcAnalogAccess (m : Bytes) (pd sz this : Nat) : Option (List View) := do
  let cnt ← AnalogPayload_getSamplesCount m pd sz this
  let dt ← AnalogPayload_getSampleDt m pd sz this
  let p ← AnalogPayload_getData m pd sz this
  pure [srcView "samples" pd p (cnt * (if dt = 0 then 2 else 4))]

def srcIfAccess (m : Bytes) (pd sz this : Nat) : Option (List View) := do
  let c ← InterfacePayload_getStreamIdsCount m pd sz this
  let p ← InterfacePayload_getStreamIds m pd sz this
  let vl ← InterfacePayload_getVendorDataLength m pd sz this
  let vp ← InterfacePayload_getVendorData m pd sz this
  pure [srcView "streamIds" pd p c, srcView "vendorData" pd vp vl]

/-- a view placed at the address `pd > 0` (`absView`) and made relative to `pd` again (`srcView`) is the view itself: a null
    pointer stays null, and `pd + o - pd = o` -/
theorem srcView_absView {pd : Nat} (hpd : 0 < pd) (v : View) :
    srcView v.name pd (C03S.absView pd v).1 (C03S.absView pd v).2 = v := by
  obtain ⟨name, off, len⟩ := v
  cases off with
  | none => rfl
  | some o =>
    have hne : ¬ pd + o = 0 := by omega
    simp only [srcView, C03S.absView, if_neg hne, Nat.add_sub_cancel_left]

theorem bind_map {α β γ : Type} (F : β → γ) (x : Option α) {f : α → Option β} {g : α → Option γ}
    (h : ∀ a, g a = (f a).map F) : (x >>= g) = (x >>= f).map F := by
  cases x with
  | none => rfl
  | some a => exact h a

/-- an accessor set that the model says reports `vs` (`hacc`), whose raw (pointer, length) list is the model's views placed at
    `pd` (`hr`: the `*_raw_src` theorem) and whose harness view list is that raw list, named like `vs` and made relative to `pd`
    (`hs`: the two do-blocks have the same binds), reports what the model says -/
theorem access_of_raw {pd : Nat} (hpd : 0 < pd) {raw : Option (List (Nat × Nat))} {src acc : Option (List View)}
    {vs : List View} (hacc : acc = some vs) (hr : raw = acc.map (·.map (C03S.absView pd)))
    (hs : src = raw.map (List.zipWith (fun v q => srcView v.name pd q.1 q.2) vs)) : src = acc := by
  subst hacc hs hr
  refine congrArg some ?_
  show List.zipWith _ vs (vs.map (C03S.absView pd)) = vs
  induction vs with
  | nil => rfl
  | cons v vs ih => rw [List.map_cons, List.zipWith_cons_cons, srcView_absView hpd v, ih]

theorem can_access_src (pre b post : Bytes) (this : Nat) (hpre : 0 < pre.length) (h : (pre ++ b ++ post).length < 2 ^ 64)
    (hv : canValid b = true) :
    srcCanAccess (pre ++ b ++ post) pre.length b.length this = canAccess b :=
  access_of_raw hpre (C03.canAccess_eq b ((canValid_spec b).mp hv).1) (C03S.can_raw_src pre b post this h hv)
    (bind_map _ _ fun _ => bind_map _ _ fun _ => rfl)

theorem lin_access_src (pre b post : Bytes) (this : Nat) (hpre : 0 < pre.length) (h : (pre ++ b ++ post).length < 2 ^ 64)
    (hv : linValid b = true) :
    srcLinAccess (pre ++ b ++ post) pre.length b.length this = linAccess b :=
  access_of_raw hpre (C03.linAccess_eq b ((linValid_spec b).mp hv).1) (C03S.lin_raw_src pre b post this h hv)
    (bind_map _ _ fun _ => bind_map _ _ fun _ => rfl)

theorem eth_access_src (pre b post : Bytes) (this : Nat) (hpre : 0 < pre.length) (h : (pre ++ b ++ post).length < 2 ^ 64)
    (hv : ethValid b = true) :
    srcEthAccess (pre ++ b ++ post) pre.length b.length this = ethAccess b :=
  access_of_raw hpre (C03.ethAccess_eq b ((ethValid_spec b).mp hv).1) (C03S.eth_raw_src pre b post this h hv)
    (bind_map _ _ fun _ => bind_map _ _ fun _ => rfl)

theorem analog_access_src (pre b post : Bytes) (this : Nat) (hpre : 0 < pre.length) (h : (pre ++ b ++ post).length < 2 ^ 64)
    (hv : analogValid b = true) :
    srcAnalogAccess (pre ++ b ++ post) pre.length b.length this = analogAccess b :=
  access_of_raw hpre (C03.analogAccess_eq b ((analogValid_spec b).mp hv).1 _ rfl) (C03S.analog_raw_src pre b post this h hv)
    (bind_map _ _ fun _ => bind_map _ _ fun _ => bind_map _ _ fun _ => rfl)

theorem if_access_src (pre b post : Bytes) (this : Nat) (hpre : 0 < pre.length) (h : (pre ++ b ++ post).length < 2 ^ 64)
    (hv : ifValid b = true) :
    srcIfAccess (pre ++ b ++ post) pre.length b.length this = ifAccess b :=
  access_of_raw hpre (C03.ifAccess_eq b _ rfl (by have := (ifValid_spec b).mp hv; omega))
    (C03S.if_raw_src pre b post this h hv)
    (bind_map _ _ fun _ => bind_map _ _ fun _ => bind_map _ _ fun _ => bind_map _ _ fun _ => rfl)

def srcCmAccess (m : Bytes) (pd sz this : Nat) : Option (List View) := do
  let d ← CaptureModulePayload_getDeviceDescription m pd sz this
  let s ← CaptureModulePayload_getSerialNumber m pd sz this
  let hw ← CaptureModulePayload_getHardwareVersion m pd sz this
  let sw ← CaptureModulePayload_getSoftwareVersion m pd sz this
  let vl ← CaptureModulePayload_getVendorDataLength m pd sz this
  let vp ← CaptureModulePayload_getVendorData m pd sz this
  pure [⟨"deviceDescription", some (d.1 - pd), d.2⟩, ⟨"serialNumber", some (s.1 - pd), s.2⟩, ⟨"hardwareVersion", some (hw.1 - pd), hw.2⟩,
        ⟨"softwareVersion", some (sw.1 - pd), sw.2⟩, ⟨"vendorData", some (vp - pd), vl⟩]

theorem cm_access_src (pre b post : Bytes) (this : Nat) (h : (pre ++ b ++ post).length < 2 ^ 64)
    (hv : cmValid b = true) :
    srcCmAccess (pre ++ b ++ post) pre.length b.length this = cmAccess b := by
  have hb := mid_length_lt pre b post h
  obtain ⟨l1, p2, l2, p3, l3, p4, l4, p5, l5, p6, -, B1, B2, B3, B4, B5, hacc⟩ := C03.cm_blocks b hv
  -- every getter walks the blocks from offset 26 with `initStringView` and trims the last view
  simp only [hacc, srcCmAccess, CaptureModulePayload_getDeviceDescription, CaptureModulePayload_getSerialNumber,
    CaptureModulePayload_getHardwareVersion, CaptureModulePayload_getSoftwareVersion,
    CaptureModulePayload_getVendorDataLength, CaptureModulePayload_getVendorData, initStringView_blk (at_mid pre b post) B1,
    initStringView_blk (at_mid pre b post) B2, initStringView_blk (at_mid pre b post) B3, initStringView_blk (at_mid pre b post) B4, initStringView_blk (at_mid pre b post) B5,
    removeTrailingNulls_blk (at_mid pre b post) B1 hb, removeTrailingNulls_blk (at_mid pre b post) B2 hb,
    removeTrailingNulls_blk (at_mid pre b post) B3 hb, removeTrailingNulls_blk (at_mid pre b post) B4 hb, Nat.mod_eq_of_lt B5.lt, bind, pure,
    some_bind, ptr_sub]

end AsamCmp.SrcTie
