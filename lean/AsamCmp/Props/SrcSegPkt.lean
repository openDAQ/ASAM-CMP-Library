/-
  Source-level reassembly buffer: the constructor and `addSegment` / `isAssembled` / `isValidSegmentType` of
  `Decoder::SegmentedPacket` (src/decoder.cpp), translated on every run as state transformers over the record of its members
  (GeneratedSrcObj.lean; the input buffer is the memory `m`, `data` an address in it), compute exactly `SegPkt.first` /
  `SegPkt.addSegment` of the low-level decoder model (DecoderLL.lean, proved to refine the decoder model in Props/C17b.lean) and
  are DEFINED — the `memcpy` reads only the declared bytes inside the supplied buffer and writes inside the resized vector, the
  length rewrite hits the stored header — for every buffer, every position and every stored entry satisfying the table invariant.
-/
import AsamCmp.GeneratedSrcObj
import AsamCmp.DecoderLL
import AsamCmp.Lemmas.SrcSegPkt
namespace AsamCmp.SrcDec
open AsamCmp AsamCmp.Src AsamCmp.SrcGen
open AsamCmp.SrcTie

def spSt (sp : SegPkt) : Decoder_SegmentedPacket_St :=
  { f_payload := sp.payload, f_segmentType := sp.segType, f_curVersion := sp.ver, f_curMessageType := sp.mt, f_curSegment := sp.seq }

/-- `SegmentedPacket(data, size, version, messageType, sequenceCounter)` on a message of at least 16 bytes at `pre.length` -/
theorem ctor_src (s0 : Decoder_SegmentedPacket_St) (pre b post : Bytes) (ver mt seq : Nat) (h16 : 16 ≤ b.length)
    (h : (pre ++ b ++ post).length < 2 ^ 64) :
    Decoder_SegmentedPacket_SegmentedPacket_ctor_obj s0 (pre ++ b ++ post) pre.length b.length ver mt seq =
      some (spSt (SegPkt.first b ver mt seq), ()) := by
  have hlen := payloadLength_at (at_mid pre b post) h16
  have hb := mid_length_lt pre b post h
  have hn := beAt_two_lt_65536 b 14
  unfold Decoder_SegmentedPacket_SegmentedPacket_ctor_obj SegPkt.first
  simp only [bind, pure, hlen, some_bind]
  rw [uadd_eq 16 _ (by omega)]
  have hk : Nat.min b.length (16 + beAt b 14 2) ≤ b.length := Nat.min_le_left _ _
  generalize Nat.min b.length (16 + beAt b 14 2) = k at hk
  have htake : ((b ++ post).take k).length = k := by
    rw [List.length_take, List.length_append]; omega
  rw [resize_nil, drop_mid, wrBytes_eq _ _ _ _ (by rw [List.length_append]; omega) (by rw [zeros_length]; omega),
    some_bind, writeAt_zeros _ _ htake, List.take_append_of_le_length hk]
  rfl

/-- `addSegment` on a stored entry (table invariant of C17b: last accepted segment first or intermediary, at least the 16 header
    bytes, counter in range) -/
theorem addSegment_src (sp : SegPkt) (pre b post : Bytes) (ver mt seq : Nat) (h16 : 16 ≤ b.length)
    (h : (pre ++ b ++ post).length < 2 ^ 64) (hst : sp.segType = 4 ∨ sp.segType = 8) (hpl : 16 ≤ sp.payload.length)
    (hlen : sp.payload.length + 65536 < 2 ^ 64) (hseq : sp.seq < 65536) :
    Decoder_SegmentedPacket_addSegment_obj (spSt sp) (pre ++ b ++ post) pre.length b.length ver mt seq =
      some (spSt (sp.addSegment b ver mt seq).1, (sp.addSegment b ver mt seq).2) := by
  have _ := hst
  have hlen' := payloadLength_at (at_mid pre b post) h16
  have hseg := segType_at (at_mid pre b post) (by omega)
  have hb := mid_length_lt pre b post h
  have hn := beAt_two_lt_65536 b 14
  have hsadd : sadd 32 sp.seq 1 = some (sp.seq + 1) := sadd_small _ _ (by omega)
  have husub : usub 64 b.length 16 = b.length - 16 := usub_eq _ _ h16 hb
  unfold Decoder_SegmentedPacket_addSegment_obj SegPkt.addSegment
  simp only [spSt, bind, pure, hsadd, some_bind, hlen', hseg, isValid_obj_eq, husub, Bool.or_eq_true, bne_iff_ne,
    ne_eq, decide_eq_true_eq, Bool.not_eq_true']
  by_cases hc : ¬sp.ver = ver ∨ ¬sp.mt = mt ∨ ¬seq = (sp.seq + 1) % 65536
  · rw [if_pos hc]
    by_cases h12 : ¬sp.ver = ver ∨ ¬sp.mt = mt
    · simp only [h12, if_true, some_bind]
    · have h3 : ¬ seq = (sp.seq + 1) % 65536 := by
        rcases hc with hc | hc | hc
        · exact absurd (Or.inl hc) h12
        · exact absurd (Or.inr hc) h12
        · exact hc
      simp only [h12, if_false, some_bind, bne_iff_ne, ne_eq, h3, not_false_eq_true, if_true]
  · rw [if_neg hc]
    have h1 : sp.ver = ver := by
      apply Classical.byContradiction; intro hx; exact hc (Or.inl hx)
    have h2 : sp.mt = mt := by
      apply Classical.byContradiction; intro hx; exact hc (Or.inr (Or.inl hx))
    have h3 : seq = (sp.seq + 1) % 65536 := by
      apply Classical.byContradiction; intro hx; exact hc (Or.inr (Or.inr hx))
    subst h1 h2 h3
    simp only [not_true_eq_false, or_self, if_false, some_bind, bne_self_eq_false, Bool.false_eq_true]
    by_cases hgt : beAt b 14 2 > b.length - 16
    · rw [if_pos hgt, if_pos hgt]
    · rw [if_neg hgt, if_neg hgt]
      by_cases hval : isValidSegmentTypeLL sp.segType (byteAt b 12 &&& 12) = false
      · rw [if_pos hval, if_pos hval]
      · have hn16 : beAt b 14 2 ≤ (b.drop 16).length := by rw [List.length_drop]; exact Nat.le_of_not_gt hgt
        have hsrc : ((b.drop 16 ++ post).take (beAt b 14 2)) = slice b 16 (beAt b 14 2) := by
          rw [List.take_append_of_le_length hn16]; rfl
        have hsl : (slice b 16 (beAt b 14 2)).length = beAt b 14 2 := List.length_take_of_le hn16
        rw [if_neg hval, if_neg hval, uadd_eq _ _ (by omega), resize_grow, Nat.zero_add, ← List.drop_drop, drop_mid, List.drop_append_of_le_length h16,
          wrBytes_eq _ _ _ _ (by rw [List.length_append]; omega)
            (by rw [List.length_append, zeros_length]; omega),
          some_bind, hsrc, writeAt_tail _ _ _ hsl,
          SrcEnc.MessageHeader_setPayloadLength_eq _ 0 _ (by rw [List.length_append]; omega), Nat.zero_add, some_bind,
          usub_len]

/-- `addSegment` on the default-constructed entry that `operator[]` inserts for an orphan segment: rejected at once (the frame's
    version byte is never 0), nothing is read or written -/
theorem addSegment_default_src (m : Bytes) (data size ver mt seq : Nat) (hv : ver ≠ 0) :
    Decoder_SegmentedPacket_addSegment_obj (spSt {}) m data size ver mt seq = some (spSt {}, false) := by
  have h0 : ((spSt {}).f_curVersion != ver) = true := by
    have : (0 != ver) = true := by simpa using Ne.symm hv
    exact this
  unfold Decoder_SegmentedPacket_addSegment_obj
  simp only [h0, Bool.true_or, if_true, bind, pure, some_bind]

theorem isAssembled_src (sp : SegPkt) :
    Decoder_SegmentedPacket_isAssembled_obj (spSt sp) = some (spSt sp, sp.segType == 12) := by
  rfl

end AsamCmp.SrcDec
