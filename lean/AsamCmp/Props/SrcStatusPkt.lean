/-
  What the status tracker reads from a packet, closed at source level (C16).  The translated tracker (Props/SrcStatus.lean) sees a
  packet as the opaque table `OPkt` of three getter-chain values, and `SrcSt.oPkt p` says what they are for a packet `p` of the
  model.  With `Packet` / `Payload` translated as values (Props/SrcPacketValue.lean) and the payload accessors translated over the
  payload bytes (GeneratedSrc.lean), the three chains are themselves translated source, and `oPkt` is a theorem:
    `packet.getDeviceId()`, `packet.getPayload().getType()`,
    `static_cast<const InterfacePayload&>(packet.getPayload()).getInterfaceId()`.
-/
import AsamCmp.Props.SrcStatus
import AsamCmp.Props.SrcPacketValue
import AsamCmp.Lemmas.SrcAccess
namespace AsamCmp.SrcSt
open AsamCmp AsamCmp.Src AsamCmp.SrcGen AsamCmp.SrcPv AsamCmp.SrcTie

/-- for every packet of the model that has a payload: the device id and the payload type the translated getters return are the
    entries of `oPkt p`; and if the payload holds at least the four bytes of the interface id (`h4`; `DeviceStatus::update` reads it
    only from interface status messages, whose payload `Packet::create` has validated to at least 40 bytes — a shorter hand-made
    one would be read out of bounds: `none`), the translated `InterfacePayload::getInterfaceId`, run on the payload bytes wherever
    they lie in memory (`pre`, `post`, `this` arbitrary), returns the third entry -/
theorem oPkt_src (p : Packet) (pl : Payload) (hp : p.payload = some pl) (pre post : Bytes) (this : Nat)
    (hmem : (pre ++ pl.data ++ post).length < 2 ^ 64) (h4 : 4 ≤ pl.data.length) :
    Packet_getDeviceId_pv (SrcPv.repr p) = some (SrcPv.repr p, opq (oPkt p) "getDeviceId") ∧
    (∃ q, Packet_getPayload_pv (SrcPv.repr p) = some (SrcPv.repr p, q) ∧ q = plRepr pl ∧
      Payload_getType_pv q = some (q, opq (oPkt p) "getPayload.getType") ∧
      InterfacePayload_getInterfaceId (pre ++ q.f_payloadData ++ post) pre.length q.f_payloadData.length this =
        some (opq (oPkt p) "getPayload.as_InterfacePayload.getInterfaceId")) := by
  refine ⟨?_, plRepr pl, (pk_getPayload p pl hp), rfl, ?_, ?_⟩
  · rw [C16S.obs_oPkt.dev]; exact (scalar_accessors_src p 0).2.2.2.2.2.2.2.2.2.2.1
  · rw [C16S.obs_oPkt.ty, (payload_getters_src pl).1]; simp only [Packet.pty, hp]
  · rw [C16S.obs_oPkt.ifid]
    have hb := mid_length_lt pre pl.data post hmem
    simp only [plRepr, Packet.payloadIfId, Packet.data, hp, InterfacePayload_getInterfaceId, InterfacePayload_getHeader_v,
      InterfacePayload_Header_getInterfaceId]
    src_calls []
/-- the hypotheses are satisfiable (a packet with a 19-byte payload somewhere in memory) -/
example := oPkt_src exPkt ⟨tyCan, exCan⟩ rfl [1] [2] 0 (by decide) (by decide)

end AsamCmp.SrcSt
