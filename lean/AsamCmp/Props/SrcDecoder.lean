/-
  Source-level decoder: `Decoder::decode` (src/decoder.cpp) — the whole function: null / short / TECMP tests, the header-only
  erase, the `while` loop with its `break`s, the unordered_map operations (erase, the default-inserting `operator[]`, assignment),
  the calls into `SegmentedPacket` — is translated from the typed clang AST on every run into a state transformer over the
  decoder's member (GeneratedSrcObj.lean; the map as an association list, the produced packets as `PktOut` = the arguments of
  `std::make_shared<Packet>` plus the setters applied, `TECMP::Decoder::Decode` as an opaque function).  The theorem says that this
  translation, on any table satisfying the invariant of C17b and any buffer of a CMP frame, is DEFINED (no read outside the
  supplied buffer, no write outside a vector; the unsigned `curSize -= packetSize` never wraps) and computes exactly the low-level model `decodeLL`
  (DecoderLL.lean) — which `C17b.decodeLL_refines` proves equal to the decoder model that C01, C02, C04–C06, C17, C18 are about.
-/
import AsamCmp.GeneratedSrcObj
import AsamCmp.DecoderLL
import AsamCmp.Props.C17b
import AsamCmp.Props.SrcSegPkt
import AsamCmp.Lemmas.SrcDecoderLoop
namespace AsamCmp.SrcDec
open AsamCmp AsamCmp.Src AsamCmp.SrcGen

/-- a CMP frame (first byte not 0, at least the 8 header bytes) at a non-null address of any memory.  The returned list has
    elements `PktOut ⊕ F` (`F` = whatever representation the TECMP decoder `ext` uses for its packets): the CMP path produces
    left summands only -/
theorem decode_src {F : Type} (t : Table) (pre b post : Bytes) (fuel : Nat) (ext : Bytes → Nat → Nat → List F)
    (hT : C17b.TableOk t) (hR : TableReg t) (hpre : 0 < pre.length) (h8 : 8 ≤ b.length) (h0 : byteAt b 0 ≠ 0)
    (hmem : (pre ++ b ++ post).length < 2 ^ 63) (hf : b.length ≤ fuel) :
    ∃ outs : List PktOut, Decoder_decode_obj fuel (tblSt t) (pre ++ b ++ post) pre.length b.length ext =
        some (tblSt (decodeLL t (some b)).1, outs.map Sum.inl) ∧
      outs.map toPacket = (decodeLL t (some b)).2 := by
  show ∃ outs : List PktOut, Decoder_decode_obj fuel ⟨tmap t⟩ _ _ _ ext = some (⟨tmap _⟩, _) ∧ _
  have hM : pre ++ b ++ post = (pre ++ b.take 8) ++ b.drop 8 ++ post := by
    simp only [List.append_assoc, List.take_append_drop]
  have hl1 : (pre ++ b.take 8).length = pre.length + 8 := by
    rw [List.length_append, List.length_take]; omega
  have hl2 : (b.drop 8).length = b.length - 8 := List.length_drop
  have hpre0 : (pre.length == 0) = false := by simpa using Nat.ne_of_gt hpre
  have hb0 : (byteAt b 0 == 0) = false := by simpa using h0
  have hb63 : b.length < 2 ^ 63 := by
    have := hmem; simp only [List.length_append] at this; omega
  have hcur : usub 64 b.length 8 = b.length - 8 := SrcTie.usub_eq _ _ h8 (by omega)
  have hrd : Src.rd (pre ++ b ++ post) pre.length 1 = some (byteAt b 0) := by
    rw [SrcTie.rd_mid0 pre b post 1 (by omega), SrcTie.leAt_one]
  have hfh := SrcTie.frame_header_at (SrcTie.at_mid pre b post) h8
  have hloop := fun t' (hok' : C17b.Ok t') (hreg' : TableReg t') =>
    loop_src (F := F) b post (pre ++ b ++ post) pre.length b.length pre.length pre.length (beAt b 2 2) (byteAt b 5)
      (byteAt b 0) (byteAt b 4) (beAt b 6 2) hfh.1 hfh.2.2.2.1
      hfh.2.2.2.2 h0 hmem fuel ((b.length - 8) / 16 + 2) t' 8 [] (b.drop 8)
      (pre ++ b.take 8) default hM rfl (by rw [hl2]; omega) (by rw [hl2]; omega) hok' hreg'
  unfold Decoder_decode_obj decodeLL
  have hlt8 : ¬ b.length < 8 := by omega
  simp only [hpre0, Bool.false_eq_true, if_false, hlt8, decide_false, bind, pure, hrd, SrcTie.some_bind, hb0,
    hfh.2.1, hfh.2.2.1, SrcTie.nonneg_small 1 (by decide), hcur, Nat.one_mul, h0]
  -- the table the loop starts with: the endpoint's entry is erased when the frame holds the header only
  obtain ⟨res, outs', hres, h1, hinl, h2⟩ := hloop (if b.length - 8 = 0 then t.erase (beAt b 2 2, byteAt b 5) else t)
    (by split; exact C17b.ok_erase t _ hT; exact hT) (by split; exact tableReg_erase t _ hR; exact hR)
  rw [hl1, hl2, List.map_nil] at hres
  rw [hl2, List.map_nil] at h1 h2
  refine ⟨outs', ?_, h2⟩
  rw [← h1, ← hinl]
  by_cases hc : b.length - 8 = 0
  · have hcb : ((b.length - 8) == 0) = true := by simpa using hc
    rw [if_pos hc] at hres
    simp only [hcb, if_true, map_erase, SrcTie.some_bind, hres]
  · have hcb : ((b.length - 8) == 0) = false := by simpa using hc
    rw [if_neg hc] at hres
    simp only [hcb, Bool.false_eq_true, if_false, SrcTie.some_bind, hres]

/-- null pointer, buffer shorter than a frame header, TECMP buffer: no state change; the TECMP decoder's result is returned as is
    (right summands only) -/
theorem decode_other_src {F : Type} (s : Decoder_St) (m : Bytes) (data size fuel : Nat) (ext : Bytes → Nat → Nat → List F) :
    Decoder_decode_obj fuel s m 0 size ext = some (s, []) ∧
    (0 < data → size < 8 → Decoder_decode_obj fuel s m data size ext = some (s, [])) ∧
    (0 < data → 8 ≤ size → data + 1 ≤ m.length → byteAt m data = 0 →
      Decoder_decode_obj fuel s m data size ext = some (s, (ext m data size).map Sum.inr)) := by
  refine ⟨?_, ?_, ?_⟩
  · unfold Decoder_decode_obj
    simp only [beq_self_eq_true, if_true, pure]
  · intro hd hs
    have hd0 : (data == 0) = false := by simpa using Nat.ne_of_gt hd
    unfold Decoder_decode_obj
    simp only [hd0, Bool.false_eq_true, if_false, hs, decide_true, if_true, pure]
  · intro hd hs hm hb
    have hd0 : (data == 0) = false := by simpa using Nat.ne_of_gt hd
    have hs' : ¬ size < 8 := by omega
    have hrd : Src.rd m data 1 = some 0 := by
      rw [SrcTie.rd_eq m data 1 hm, SrcTie.leAt_one, hb]
    unfold Decoder_decode_obj
    simp only [hd0, Bool.false_eq_true, if_false, hs', decide_false, bind, pure, hrd, SrcTie.some_bind,
      beq_self_eq_true, if_true]

end AsamCmp.SrcDec
