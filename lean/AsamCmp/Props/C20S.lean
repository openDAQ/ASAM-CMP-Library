/-
  C20S  Strengthening of C20 (outputs never contain or depend on uninitialised memory).

  Theorems about the definitions C20 is stated on that state it at the strength of the property's text (statement audit,
  DESIGN.md section J.4):

   §1  every byte of every frame the ENCODER returns (model `Enc.encode` for every encoder state, every batch, every valid
       configuration; translated `Encoder::encode` from ANY member record, stale scratch members included): header from the
       encoder's logical state, each message a header of a packet of the batch + a contiguous piece of its payload, zero pad.
       The reserved / unused header bytes on the translated `getRawCmpHeader` / `getRawMessageHeader`.
   §2  every header member of every packet `decode` returns, for every state and every buffer; the same for the translated
       wire constructor.
   §3  TECMP conversion — the complete byte layout of every converted payload, for EVERY buffer.
   §4  reassembly — decoder statement composed with the payload statement; independence of the frames' padding,
       on bytes.
   §5  same calls, different memory / different residue in scratch members ⇒ bit-identical results, for the translated
       decoder and encoder over whole histories.
   §6  closed forms of all six `setData` for prior objects of any length; the translated builders on two objects / two
       caller buffers / two addresses; `Packet::create`'s two outcomes; the translated default constructors.
   §7  non-vacuity: literal instances, conclusions computed by the kernel (padded frames; control / vendor / status
       messages; a `SegMsg` with `WF`; stale scratch members full of 0xFF / 0xEE).

  NOT closed: definedness of the real memory — `Src/Sem.lean` has no indeterminate
  byte, and the initial bytes of default-initialised locals / `vector(n)` / `resize(n)` are emitted by the translator.
-/
import AsamCmp.Props.C20
import AsamCmp.Props.C05S
import AsamCmp.Props.C07S
import AsamCmp.Props.C13S
import AsamCmp.Props.C15S
import AsamCmp.Props.C04S
import AsamCmp.Props.C03S
import AsamCmp.Props.SrcHistory
import AsamCmp.Lemmas.TecmpCases
namespace AsamCmp.C20S
open AsamCmp

/-! ## §1 encoder -/

theorem slice_zero_take (l : Bytes) (n : Nat) : slice l 0 (l.take n).length = l.take n := by
  simp only [slice, List.drop_zero, List.length_take]
  by_cases h : n ≤ l.length
  · rw [Nat.min_eq_left h]
  · rw [Nat.min_eq_right (by omega), List.take_of_length_le (Nat.le_refl _), List.take_of_length_le (by omega)]

/-- every chunk is a contiguous piece of the list it was cut from -/
theorem chunks_slice (n : Nat) (hn : 0 < n) (l : Bytes) :
    ∀ x ∈ chunks n l, ∃ k, x = slice l k x.length ∧ k + x.length ≤ l.length := by
  fun_induction chunks n l with
  | case1 l h => simp
  | case2 l h ih =>
    intro x hx
    rcases List.mem_cons.mp hx with hx | hx
    · subst hx
      refine ⟨0, (slice_zero_take _ _).symm, ?_⟩
      simp only [List.length_take]; omega
    · obtain ⟨k, h1, h2⟩ := ih x hx
      have hx1 := (chunks_mem n hn _ x hx).1
      have e : slice (l.drop n) k x.length = slice l (n + k) x.length := by
        simp only [slice, List.drop_drop]
      refine ⟨n + k, ?_, ?_⟩
      · rw [← e]; exact h1
      · simp only [List.length_drop] at h2
        omega

theorem slice_take_of_le (l : Bytes) (n k w : Nat) (h : k + w ≤ n) : slice (l.take n) k w = slice l k w :=
  AsamCmp.slice_take_of_le l n k w h

/-- the body of every message a packet contributes is a contiguous piece of the packet's payload bytes -/
theorem pieces_slice (c : Ctx) (hcap : 17 ≤ c.cap) (i : Nat) (p : Packet) :
    ∀ m ∈ pieces c i p, ∃ k, m.body = slice p.data k m.body.length ∧ k + m.body.length ≤ p.data.length := by
  intro m hm
  have hle : p.payloadLength ≤ p.data.length := by rw [payloadLength_eq]; exact Nat.mod_le _ _
  rcases pieces_cases c i p with ⟨h0, e⟩ | ⟨h0, h1, e⟩ | ⟨h0, h1, e⟩ <;> rw [e] at hm
  · cases hm
  · rw [List.mem_singleton.mp hm]
    refine ⟨0, (slice_zero_take _ _).symm, ?_⟩
    simp only [List.length_take]; omega
  · obtain ⟨_, _, _, h4⟩ := segMsgs_mem _ _ _ _ m hm
    obtain ⟨k, e1, e2⟩ := chunks_slice (c.cap - 16) (by omega) _ _ h4
    simp only [List.length_take] at e2
    refine ⟨k, ?_, by omega⟩
    rw [← slice_take_of_le p.data p.payloadLength k m.body.length (by omega)]
    exact e1

/-- **Every byte of the ENCODER's frames.**  For EVERY encoder object `e` (any history, no bound on the counter), EVERY batch
    (packets without payload, with empty payload, with 2^16 bytes or more included) and every configuration with
    "25 ≤ max, min ≤ max" (`c.ok`, the property's "padded and unpadded frames"), the `i`-th frame `encode` returns is, byte for
    byte,

      frame header (version of a packet of the batch, reserved 0, the ENCODER's device id, the message type `f.mt` of the
      packets inside, the ENCODER's stream id, counter `(e.seqc + i + 1) mod 2^16`)
      ++ for every message: the message header of a packet OF THE BATCH with that message type, followed by a CONTIGUOUS PIECE of
         that packet's payload bytes (`slice m.pkt.data k len`, inside the payload)
      ++ explicit zeros up to `min`.

    Nothing else occurs in a frame: every byte is a function of the encoder's logical state (ids, counter), the batch and the
    configuration. -/
theorem encoder_frames_determined (e : Enc) (batch : List Packet) (c : Ctx) (hc : c.ok = true) :
    ∀ i (h : i < (e.encode batch c).2.length),
      let f := (e.encode batch c).2[i]
      f.dev = e.dev ∧ f.stream = e.stream ∧ f.seq = (e.seqc + i + 1) % 65536 ∧
      (∃ p ∈ batch, f.ver = p.version % 256) ∧ f.mt < 256 ∧ f.msgs ≠ [] ∧
      (∀ m ∈ f.msgs, m.pkt ∈ batch ∧ m.pkt.mt = f.mt ∧ (m.seg = 0 ∨ m.seg = 4 ∨ m.seg = 8 ∨ m.seg = 12) ∧
        1 ≤ m.body.length ∧ m.body.length < 65536 ∧
        ∃ k, m.body = slice m.pkt.data k m.body.length ∧ k + m.body.length ≤ m.pkt.data.length) ∧
      EFrame.bytes c.min f =
        frameHeader f.ver e.dev f.mt e.stream ((e.seqc + i + 1) % 65536) ++
        f.msgs.flatMap (fun m => msgHeader m.pkt m.seg m.body.length ++ m.body) ++
        zeros (c.min - (8 + f.used)) := by
  intro i h f
  have hcap := (Ctx.ok_cap hc).1
  have hok := (encode_spec e batch c hcap).1
  obtain ⟨hq, hd, hs, hv, hmt⟩ := C07S.frames_fields e batch c i h
  have hmem : f ∈ (e.encode batch c).2 := List.getElem_mem h
  refine ⟨hd, hs, hq, hv, (hok f hmem).1.mtlt, (hok f hmem).2, ?_, ?_⟩
  · intro m hm
    obtain ⟨_, p, hp, hm'⟩ := encode_msg_piece e batch c hcap f hmem m hm
    obtain ⟨e1, e2, e3, _, e5, _⟩ := pieces_mem c hcap _ _ m hm'
    have hsl := pieces_slice c hcap _ _ m hm'
    rw [← e1] at hsl
    exact ⟨e1 ▸ hp, hmt m hm, e5, e2, e3, hsl⟩
  · have := C20.frame_bytes_determined c.min f
    rw [this]
    show frameHeader f.ver f.dev f.mt f.stream f.seq ++ _ ++ _ = _
    rw [hd, hs, hq]

open AsamCmp.SrcGen AsamCmp.SrcEnc in
/-- **The reserved and unused header bytes, on the TRANSLATED serialisers (the part that can be said without a
    definedness bit).**  `C20.frame_reserved_zero` and `C20.unused_ids_zero` are statements about the model functions
    `frameHeader` / `msgHeader`; composed with the refinements `rawCmpHeader_src` / `rawMsgHeader_src` they become statements
    about what the translated `Packet::getRawCmpHeader` / `getRawMessageHeader` RETURN for every packet whose members lie in
    their C types (`PktReg`): 8 resp. 16 bytes, the reserved byte 1 of the frame header is 0, bytes 8..11 of a control /
    unknown-type message header are 0 — whatever `interfaceId` / `vendorId` the object holds —, and bytes 8..9 of a status /
    vendor header are 0.  (What is NOT proved here, and cannot be with the present `Src/Sem.lean`: that the initial bytes of the
    local header object the translator emits are the ones a C++ compiler produces.) -/
theorem raw_headers_src_unused_zero (p : Packet) (h : PktReg p) :
    ∃ fh mh, Packet_getRawCmpHeader_obj (pktSt p) p.mt = some (pktSt p, fh) ∧ fh.length = 8 ∧ fh[1]? = some 0 ∧
      Packet_getRawMessageHeader_obj (pktSt p) p.mt p.rawType p.payloadLength = some (pktSt p, mh) ∧ mh.length = 16 ∧
      (p.mt ≠ 1 → p.mt ≠ 3 → p.mt ≠ 0xFF → slice mh 8 4 = [0, 0, 0, 0]) ∧
      ((p.mt = 3 ∨ p.mt = 0xFF) → slice mh 8 2 = [0, 0]) := by
  obtain ⟨u1, u2⟩ := C20.unused_ids_zero p (p.flags &&& 0x0C) p.payloadLength
  exact ⟨_, _, rawCmpHeader_src p h, frameHeader_length .., C20.frame_reserved_zero .., rawMsgHeader_src p h,
    msgHeader_length .., u1, u2⟩

/-- a description of ONE frame purely on bytes: `b` is the `i`-th frame of an `encode` call of an encoder with ids `dev`, `stream`
    and counter `seqc` on `batch`, padded to `min` — header from the encoder's logical state, every message a header of a packet
    of the batch plus a contiguous piece of that packet's payload, then zeros -/
def FrameFrom (dev stream seqc : Nat) (batch : List Packet) (min i : Nat) (b : Bytes) : Prop :=
  ∃ (ver mt : Nat) (msgs : List (Packet × Nat × Bytes)),
    (∃ p ∈ batch, ver = p.version % 256) ∧ mt < 256 ∧ msgs ≠ [] ∧
    (∀ m ∈ msgs, m.1 ∈ batch ∧ m.1.mt = mt ∧ (m.2.1 = 0 ∨ m.2.1 = 4 ∨ m.2.1 = 8 ∨ m.2.1 = 12) ∧
      1 ≤ m.2.2.length ∧ m.2.2.length < 65536 ∧
      ∃ k, m.2.2 = slice m.1.data k m.2.2.length ∧ k + m.2.2.length ≤ m.1.data.length) ∧
    b = frameHeader ver dev mt stream ((seqc + i + 1) % 65536) ++
        msgs.flatMap (fun m => msgHeader m.1 m.2.1 m.2.2.length ++ m.2.2) ++
        zeros (min - (8 + (msgs.map (fun m => 16 + m.2.2.length)).sum))

/-- `encoder_frames_determined` on the returned BYTE VECTORS -/
theorem encoder_bytes_determined (e : Enc) (batch : List Packet) (c : Ctx) (hc : c.ok = true) :
    ∀ i (h : i < ((e.encode batch c).2.map (EFrame.bytes c.min)).length),
      FrameFrom e.dev e.stream e.seqc batch c.min i ((e.encode batch c).2.map (EFrame.bytes c.min))[i] := by
  intro i h
  have hi : i < (e.encode batch c).2.length := by simpa using h
  obtain ⟨_, _, _, hv, hmt, hne, hm, hb⟩ := encoder_frames_determined e batch c hc i hi
  rw [List.getElem_map]
  refine ⟨(e.encode batch c).2[i].ver, (e.encode batch c).2[i].mt,
    (e.encode batch c).2[i].msgs.map (fun m => (m.pkt, m.seg, m.body)), hv, hmt, ?_, ?_, ?_⟩
  · simpa using hne
  · intro m hmm
    obtain ⟨x, hx, rfl⟩ := List.mem_map.mp hmm
    exact hm x hx
  · rw [hb, List.flatMap_map, List.map_map]
    rfl

open AsamCmp.SrcGen AsamCmp.SrcEnc in
/-- **Every byte of the encoder's frames, translated C++ source.**  For EVERY record `s` of the data members of an `Encoder` object — whatever
    earlier calls (complete or aborted) left in the scratch members `cmpFrames`, `cmpFrameTemplate`, `bytesLeft`,
    `min/maxBytesPerMessage`: "whatever the heap contained before" —, every batch of packets that have a payload shorter than
    2^16 bytes (`Packet.Enc`) and every configuration with 25 ≤ max, min ≤ max, max below the 32-bit field: both iterator-range
    overloads of the translated `Encoder::encode` are defined and every frame they return is `FrameFrom` the object's device id,
    stream id and sequence counter, the batch and `min`. -/
theorem encoder_src_bytes_determined (s : Encoder_St) (batch : List Packet) (c : Ctx) (fuel : Nat)
    (hc : c.ok = true) (hmax : c.max < 2 ^ 32) (hb : ∀ p ∈ batch, p.Enc) (hf : 65536 ≤ fuel) :
    ∃ s' frames,
      Encoder_encode_range_obj fuel s (batch.map pktIn) c.min c.max = some (s', frames) ∧
      Encoder_encode_ptrRange_obj fuel s (batch.map pktIn) c.min c.max = some (s', frames) ∧
      (∀ i (h : i < frames.length),
        FrameFrom s.f_deviceId s.f_streamId s.f_sequenceCounter batch c.min i frames[i]) ∧
      s'.f_cmpFrames = [] ∧ s'.f_cmpFrameTemplate = [] := by
  obtain ⟨s', e1, e2, _, _, _, _, e7, e8, _⟩ := C07S.src_encode_any s batch c fuel hc hmax hb hf
  exact ⟨s', _, e1, e2, encoder_bytes_determined (C07S.encOf s) batch c hc, e7, e8⟩

/-! ## §2 decoder: every header field of every returned packet -/

/-- the header members of a packet the decoder built from a capture-module frame with header fields `ver dev stream mt`:
    version / device id / stream id are the FRAME's; `sequenceCounter` and `segmentType` (which the constructor
    `Packet(msgType, data, size)` never writes) are 0; `interfaceId` is 0 unless the frame carries data messages, `vendorId` is 0
    unless it carries status / vendor messages; all members lie in their C types; the packet owns a payload -/
structure CmpHdr (ver dev stream mt : Nat) (p : Packet) : Prop where
  version : p.version = ver
  deviceId : p.deviceId = dev
  streamId : p.streamId = stream
  seq : p.seq = 0
  segType : p.segType = 0
  ifId : (mt ≠ 1 → p.ifId = 0) ∧ p.ifId < 2 ^ 32
  vendorId : (mt ≠ 3 → mt ≠ 0xFF → p.vendorId = 0) ∧ p.vendorId < 65536
  ts : p.ts < 2 ^ 64
  flags : p.flags < 256
  payload : p.payload.isSome

theorem ofMsg_hdr (ep : Ep) (ver mt : Nat) (m : Bytes) :
    CmpHdr ver ep.1 ep.2 mt (tagPacket ep ver (Packet.ofMsg mt m)) := by
  refine ⟨rfl, rfl, rfl, rfl, rfl, ⟨?_, ?_⟩, ⟨?_, ?_⟩, ?_, ?_, rfl⟩
  · intro h; simp [tagPacket, Packet.ofMsg, h]
  · simp only [tagPacket, Packet.ofMsg]
    split
    · exact beAt_lt_pow m 8 4
    · decide
  · intro h3 hf
    have : ¬ (mt = 3 ∨ mt = 0xFF) := fun h => h.elim h3 hf
    simp [tagPacket, Packet.ofMsg, this]
  · simp only [tagPacket, Packet.ofMsg]
    split
    · exact beAt_lt_pow m 10 2
    · decide
  · exact beAt_lt_pow m 0 8
  · exact byteAt_lt_256 m 12

/-- every packet one step of the reassembly automaton returns is an unsegmented packet of the frame or was built by the
    constructor with the FRAME's endpoint, version and message type (the pending entry's version / message type are used, and
    they are checked to equal the frame's) -/
theorem localStep_built (q : Option Pending) (f : PFrame) :
    ∀ p ∈ (localStep q f).2, p ∈ f.unseg ∨ ∃ m, p = tagPacket f.ep f.ver (Packet.ofMsg f.mt m) := by
  have hs := localStep_spec q f
  generalize localStep q f = r at hs ⊢
  intro p hp
  cases hs with
  | noseg _ => exact Or.inl hp
  | first _ _ _ => exact Or.inl hp
  | abort _ _ _ _ => exact Or.inl hp
  | cont _ _ _ _ _ _ hc =>
    split at hp
    · rw [List.mem_singleton.mp hp, hc.1, hc.2.1]; exact Or.inr ⟨_, rfl⟩
    · cases hp

theorem walk_built (ep : Ep) (ver mt : Nat) (r : Bytes) :
    ∀ p ∈ (walk ep ver mt r).1, ∃ m, p = tagPacket ep ver (Packet.ofMsg mt m) := by
  intro p hp
  obtain ⟨off, _, _, h⟩ := C03S.walk_source ep ver mt r p hp
  exact ⟨_, h⟩

/-- **Header fields, capture-module frames.**  For EVERY decoder state `s` (any history, any pending
    reassemblies) and EVERY buffer that is dispatched to the CMP path (at least 8 bytes, first byte ≠ 0): every packet returned
    by this call — unsegmented messages AND a message completed by reassembly — has the header members `CmpHdr` of the 8 frame
    header bytes of THIS buffer, and is literally `Packet(msgType, bytes)` tagged with them, for some message bytes. -/
theorem decode_header_fields (s : DecState) (b : Bytes) (h8 : 8 ≤ b.length) (h0 : byteAt b 0 ≠ 0) :
    ∀ p ∈ (decode s (some b)).2,
      CmpHdr (byteAt b 0) (beAt b 2 2) (byteAt b 5) (byteAt b 4) p ∧
      ∃ m, p = tagPacket (beAt b 2 2, byteAt b 5) (byteAt b 0) (Packet.ofMsg (byteAt b 4) m) := by
  intro p hp
  rw [decode, decodeWith, if_neg (Nat.not_lt.mpr h8), if_neg h0, step_snd] at hp
  obtain ⟨m, rfl⟩ : ∃ m, p = tagPacket (beAt b 2 2, byteAt b 5) (byteAt b 0) (Packet.ofMsg (byteAt b 4) m) :=
    (localStep_built _ _ p hp).elim (walk_built _ _ _ _ p) id
  exact ⟨ofMsg_hdr (beAt b 2 2, byteAt b 5) (byteAt b 0) (byteAt b 4) m, m, rfl⟩

/-! ## §3 TECMP conversion: every byte of every converted payload, for EVERY buffer -/

/-- the byte layout of a payload the TECMP converter builds from the bytes `p` behind the 28-byte TECMP header: every byte is
    either a LITERAL ZERO (the flags / reserved / error-position bytes of CAN, bytes 0–3 and 5 of LIN, the seven counters of the
    interface status the converter never sets, its type / status / feature bytes and its empty stream-id and vendor blocks, the
    26 header bytes and the empty device description of the capture-module status), a length / DLC byte computed from a length
    read from `p`, or a value read from `p` -/
def TecShape (p : Bytes) (pl : Payload) : Prop :=
  (∃ c, (pl.ty = tyCan ∨ pl.ty = tyCanFd) ∧ 5 ≤ p.length ∧ 5 + byteAt p 4 ≤ p.length ∧
      (c = tecmpCanCrc p (byteAt p 4) ∨ c = tecmpCanCrc p (byteAt p 4) % 65536) ∧
      pl.data = [0, 0, 0, 0] ++ beEnc 4 (beAt p 0 4) ++ beEnc 4 c ++
        [0, 0, UInt8.ofNat (dlcOf (byteAt p 4)), UInt8.ofNat (byteAt p 4)] ++ slice p 5 (byteAt p 4)) ∨
  (pl.ty = tyLin ∧ 2 ≤ p.length ∧ 2 + byteAt p 1 ≤ p.length ∧
      pl.data = [0, 0, 0, 0, UInt8.ofNat (byteAt p 0 &&& 0x3F), 0,
        UInt8.ofNat (if p.length ≤ 2 + byteAt p 1 then 0 else byteAt p (2 + byteAt p 1)), UInt8.ofNat (byteAt p 1)] ++
        slice p 2 (byteAt p 1)) ∨
  (pl.ty = tyCm ∧ 18 ≤ p.length ∧
      pl.data = zeros 26 ++ [0, 2, 0, 0] ++ cmString (decimal (beAt p 8 4)) ++
        cmString ([chr 'v'] ++ decimal (byteAt p 16) ++ [chr '.'] ++ decimal (byteAt p 17)) ++
        cmString ([chr 'v'] ++ decimal (byteAt p 13) ++ [chr '.'] ++ decimal (byteAt p 14) ++ [chr '.'] ++
          decimal (byteAt p 15)) ++ [0, 0]) ∨
  (∃ off, pl.ty = tyIf ∧ off + 12 ≤ p.length ∧
      pl.data = beEnc 4 (beAt p off 4) ++ beEnc 4 (beAt p (off + 4) 4) ++ zeros 12 ++ beEnc 4 (beAt p (off + 8) 4) ++ zeros 16)

/-- a packet of the TECMP path: the skeleton `tecmpPacket` (version 1, device id = byte 1, timestamp = bytes 16..23 of the
    buffer, every other header member 0) with a 32-bit interface id and a payload of one of the four layouts -/
def TecOut (b : Bytes) (x : Packet) : Prop :=
  ∃ i pl, x = tecmpPacket b i pl ∧ i < 2 ^ 32 ∧ TecShape (b.drop 28) pl

theorem slice_len_of_le (p : Bytes) (off n : Nat) (h : off + n ≤ p.length) : (slice p off n).length = n :=
  slice_length_of_le p off n h

theorem busObj_bytes (a m e : Nat) :
    C15.busObj a m e = beEnc 4 a ++ beEnc 4 m ++ zeros 12 ++ beEnc 4 e ++ zeros 16 :=
  C15.busObj_bytes a m e

theorem cmObj_bytes (s2 s3 s4 : Bytes) :
    cmSetData cmDefault [] s2 s3 s4 [] = zeros 26 ++ [0, 2, 0, 0] ++ cmString s2 ++ cmString s3 ++ cmString s4 ++ [0, 0] := by
  have h1 : (resize cmDefault 26).take 26 = zeros 26 := by decide
  have h2 : cmString [] = [0, 2, 0, 0] := by decide
  have h3 : beEnc 2 ([] : Bytes).length = [0, 0] := by decide
  unfold cmSetData
  rw [h1, h2, h3, List.append_nil]

theorem can_out (b p : Bytes) : ∀ x ∈ tecmpCan b p, ∃ i pl, x = tecmpPacket b i pl ∧ i < 2 ^ 32 ∧ TecShape p pl := by
  rw [C15.tecmpCan_shape]
  refine C15.forall_mem_ite fun h => ?_
  have hl : (slice p 5 (byteAt p 4)).length = byteAt p 4 := slice_length_of_le p 5 _ (by omega)
  have hn : (slice p 5 (byteAt p 4)).length < 256 := by rw [hl]; exact byteAt_lt_256 p 4
  refine ⟨_, _, rfl, beAt_lt_pow b 12 4, Or.inl ⟨(if byteAt p 4 > 8 then tecmpCanCrc p (byteAt p 4)
    else tecmpCanCrc p (byteAt p 4) % 65536), ?_, by omega, by omega, ?_, ?_⟩⟩
  · show (if byteAt p 4 > 8 then tyCanFd else tyCan) = tyCan ∨ (if byteAt p 4 > 8 then tyCanFd else tyCan) = tyCanFd
    split
    · exact Or.inr rfl
    · exact Or.inl rfl
  · split
    · exact Or.inl rfl
    · exact Or.inr rfl
  · show C15.canObj _ _ _ = _
    rw [C15S.canObj_bytes _ _ _ hn, hl]

theorem lin_out (b p : Bytes) : ∀ x ∈ tecmpLin b p, ∃ i pl, x = tecmpPacket b i pl ∧ i < 2 ^ 32 ∧ TecShape p pl := by
  rw [C15.tecmpLin_shape]
  refine C15.forall_mem_ite fun h => ?_
  have hl : (slice p 2 (byteAt p 1)).length = byteAt p 1 := slice_length_of_le p 2 _ (by omega)
  refine ⟨_, _, rfl, beAt_lt_pow b 12 4, Or.inr (Or.inl ⟨rfl, by omega, by omega, ?_⟩)⟩
  show C15.linObj _ _ _ = _
  rw [C15S.linObj_bytes, hl]

theorem cm_out (b p : Bytes) : ∀ x ∈ tecmpCm b p, ∃ i pl, x = tecmpPacket b i pl ∧ i < 2 ^ 32 ∧ TecShape p pl := by
  rw [C15.tecmpCm_shape]
  exact C15.forall_mem_ite fun h =>
    ⟨_, _, rfl, beAt_lt_pow b 12 4, Or.inr (Or.inr (Or.inl ⟨rfl, by omega, cmObj_bytes _ _ _⟩))⟩

theorem busPkt_out (b p : Bytes) (off : Nat) (h : off + 12 ≤ p.length) :
    ∃ i pl, C15.busPkt b p off = tecmpPacket b i pl ∧ i < 2 ^ 32 ∧ TecShape p pl :=
  ⟨_, _, rfl, beAt_lt_pow p off 4, Or.inr (Or.inr (Or.inr ⟨off, rfl, h, busObj_bytes _ _ _⟩))⟩

theorem busEntries_out (b p : Bytes) (v : Nat) : ∀ fuel off, ∀ x ∈ tecmpBusEntries b p v fuel off,
    ∃ i pl, x = tecmpPacket b i pl ∧ i < 2 ^ 32 ∧ TecShape p pl :=
  fun fuel off => C15.tecmpBusEntries_forall b p v fuel off fun o _ h => busPkt_out b p o (by omega)

theorem bus_out (b p : Bytes) : ∀ x ∈ tecmpBus b p, ∃ i pl, x = tecmpPacket b i pl ∧ i < 2 ^ 32 ∧ TecShape p pl :=
  C15.tecmpBus_forall b p fun o _ h => busPkt_out b p o (by omega)

/-- **The TECMP conversion.**  For EVERY buffer `b` (no hypothesis: any length, any content, any
    declared lengths): every packet `TECMP::Decoder::Decode` returns is `tecmpPacket` of the buffer's device id / timestamp with
    a 32-bit interface id, and its payload has, byte for byte, one of the four layouts of `TecShape` — in particular every byte
    the converter does not set from the input is 0. -/
theorem tecmp_out (b : Bytes) : ∀ x ∈ tecmpDecode b, TecOut b x :=
  tecmpDecode_forall b (cm_out b _) (can_out b _) (lin_out b _) (bus_out b _)

/-- single offsets read back: flags / reserved (0..3) and error position (12..13) of CAN, bytes 0..3 and 5 of LIN,
    the counters 8..19 and everything from 24 on of the interface status, the 26 header bytes of the capture-module status are
    zero in EVERY packet the TECMP path returns for ANY buffer -/
theorem tecmp_unset_bytes_zero (b : Bytes) : ∀ x ∈ tecmpDecode b, ∃ pl, x.payload = some pl ∧
    ((pl.ty = tyCan ∨ pl.ty = tyCanFd) → pl.data.take 4 = zeros 4 ∧ slice pl.data 12 2 = zeros 2) ∧
    (pl.ty = tyLin → pl.data.take 4 = zeros 4 ∧ slice pl.data 5 1 = zeros 1) ∧
    (pl.ty = tyIf → slice pl.data 8 12 = zeros 12 ∧ pl.data.drop 24 = zeros 16 ∧ pl.data.length = 40) ∧
    (pl.ty = tyCm → pl.data.take 26 = zeros 26 ∧ slice pl.data 26 4 = [0, 2, 0, 0]) := by
  intro x hx
  obtain ⟨i, pl, rfl, _, hs⟩ := tecmp_out b x hx
  refine ⟨pl, rfl, ?_⟩
  -- each layout fixes the payload type, so three of the four clauses have a false premise
  rcases hs with ⟨c, hty, _, _, _, hd⟩ | ⟨hty, _, _, hd⟩ | ⟨hty, _, hd⟩ | ⟨off, hty, _, hd⟩
  · have hz : pl.data.take 4 = zeros 4 ∧ slice pl.data 12 2 = zeros 2 := by
      rw [hd, C15S.beEnc4_bytes, C15S.beEnc4_bytes]
      exact ⟨rfl, rfl⟩
    rcases hty with hty | hty <;> rw [hty] <;>
      exact ⟨fun _ => hz, fun h => absurd h (by decide), fun h => absurd h (by decide), fun h => absurd h (by decide)⟩
  · rw [hty, hd]
    exact ⟨fun h => absurd h (by decide), fun _ => ⟨rfl, rfl⟩, fun h => absurd h (by decide), fun h => absurd h (by decide)⟩
  · rw [hty, hd]
    exact ⟨fun h => absurd h (by decide), fun h => absurd h (by decide), fun h => absurd h (by decide), fun _ => ⟨rfl, rfl⟩⟩
  · rw [hty, hd, C15S.beEnc4_bytes, C15S.beEnc4_bytes, C15S.beEnc4_bytes]
    exact ⟨fun h => absurd h (by decide), fun h => absurd h (by decide), fun _ => ⟨rfl, rfl, rfl⟩, fun h => absurd h (by decide)⟩

/-- the ten members of a packet, the way `decode` returns them for ANY buffer: counter and segment type 0, a payload present,
    everything within its C type -/
structure AnyHdr (p : Packet) : Prop where
  seq : p.seq = 0
  segType : p.segType = 0
  payload : p.payload.isSome
  version : p.version < 256
  deviceId : p.deviceId < 65536
  streamId : p.streamId < 256
  ifId : p.ifId < 2 ^ 32
  vendorId : p.vendorId < 65536
  ts : p.ts < 2 ^ 64
  flags : p.flags < 256

/-- **Header fields, the whole entry point.**  EVERY state, EVERY argument (null pointer, short buffer, TECMP
    message, capture-module frame, anything): every returned packet has sequence counter 0, segment type 0, a payload, and all
    members within their C types -/
theorem decode_fields_any (s : DecState) (buf : Option Bytes) : ∀ p ∈ (decode s buf).2, AnyHdr p := by
  intro p hp
  rcases decodeWith_cases tecmpDecode buf with ⟨_, _, hd⟩ | ⟨b, rfl, _, _, _, hd⟩ | ⟨b, rfl, h8, h0, _, _⟩
  · rw [decode, hd] at hp; cases hp
  · rw [decode, hd] at hp
    obtain ⟨i, pl, rfl, hi, _⟩ := tecmp_out b p hp
    exact ⟨rfl, rfl, rfl, show (1 : Nat) < 256 by decide, Nat.lt_trans (byteAt_lt_256 b 1) (by decide),
      show (0 : Nat) < 256 by decide, hi, show (0 : Nat) < 65536 by decide, beAt_lt_pow b 16 8,
      show (0 : Nat) < 256 by decide⟩
  · obtain ⟨h, _⟩ := decode_header_fields s b h8 h0 p hp
    exact ⟨h.seq, h.segType, h.payload, by rw [h.version]; exact byteAt_lt_256 b 0,
      by rw [h.deviceId]; exact beAt_lt_pow b 2 2, by rw [h.streamId]; exact byteAt_lt_256 b 5,
      h.ifId.2, h.vendorId.2, h.ts, h.flags⟩

/-- … and over ANY history of calls ("interleaved traffic"): every packet ever returned -/
theorem decodeAll_fields_any : ∀ (bufs : List (Option Bytes)) (s : DecState),
    ∀ p ∈ (decodeAll tecmpDecode s bufs).2, AnyHdr p :=
  fun bufs s => decodeAll_forall tecmpDecode AnyHdr bufs s fun s b _ => decode_fields_any s b

open AsamCmp.SrcGen in
/-- the same for the TRANSLATED constructor `Packet(msgType, data, size)` (the contract behind `PktOut` / `toPacket`): on a wire
    message lying anywhere in a memory (`pre`, `post` arbitrary) it yields an object whose `sequenceCounter` and `segmentType`
    are 0, whose `version` is the default 1 and device / stream id 0 (until the decoder's setters run), whose `interfaceId` is 0
    unless `msgType` is data and whose `vendorId` is 0 unless it is status / vendor -/
theorem wire_ctor_src_members (mt : Nat) (pre m post : Bytes) (size : Nat) (hmt : mt < 256) (h16 : 16 ≤ m.length)
    (hlen : 16 + beAt m 14 2 ≤ m.length) (hmem : (pre ++ m ++ post).length < 2 ^ 64) :
    ∃ st, Packet_ctor_u8_ptr_u64_pv (pre ++ m ++ post) mt pre.length size = some st ∧
      st.f_sequenceCounter = 0 ∧ st.f_segmentType = 0 ∧ st.f_version = 1 ∧ st.f_deviceId = 0 ∧ st.f_streamId = 0 ∧
      (mt ≠ 1 → st.f_interfaceId = 0) ∧ (mt ≠ 3 → mt ≠ 0xFF → st.f_vendorId = 0) ∧ st.f_payload.isSome := by
  have h := ofMsg_hdr (0, 0) 1 mt m
  refine ⟨_, SrcPv.wire_ctor_src mt pre m post size hmt h16 hlen hmem, rfl, rfl, rfl, rfl, rfl, h.ifId.1, h.vendorId.1, rfl⟩

/-! ## §4 reassembly: the delivered payload is the declared bytes, whatever pads the frames -/

/-- the registered `C20.reassembly_bytes_declared` speaks about the specification packet `M.expected` only; composed with
    `reassemble_single` it speaks about the DECODER's reassembly automaton: whatever was pending before (`p0`), running it over
    the frames of a well-formed message returns exactly one packet, at the last frame, nothing stays pending, and that packet's
    payload is `Packet::create` of the concatenation of the declared segment bytes.  (`hlen`: the 16-bit length field holds the
    total; for larger totals see `C05S.C05_bytes_single_total` / `C05S.C05_violation_witness`.) -/
theorem reassembly_decoder_bytes_declared (M : SegMsg) (hwf : M.WF) (hlen : M.body.length ≤ 65535) (p0 : Option Pending) :
    ∃ x, runLocal p0 M.frames = (none, [x]) ∧ (runLocal p0 M.frames.dropLast).2 = [] ∧
      x.payload = some (create (M.mt * 256 + byteAt M.first.1 13) M.body) ∧
      x.version = M.ver ∧ x.deviceId = M.ep.1 ∧ x.streamId = M.ep.2 ∧ x.seq = 0 ∧ x.segType = 0 := by
  obtain ⟨h1, h2⟩ := reassemble_single M hwf hlen p0
  exact ⟨M.expected, h1, h2, expected_payload M hwf hlen, rfl, rfl, rfl, rfl, rfl⟩

open AsamCmp.C05S in
/-- **Reassembly on BYTES.**  Two well-formed segmented messages (`WireMsg.WF`: the property's
    "reassembly" workloads — first / intermediary* / last, one per frame, consecutive counters) that agree in version, message
    type, the first segment's header fields and the concatenation of the DECLARED bytes — and differ arbitrarily in the bytes
    BEHIND the declared ones in every frame (pad bytes / following garbage), in how the bytes are split into segments, in the
    later segments' header fields, in the counters — are decoded, from any two decoder states, to the same single packet:
    nothing of the frames' padding reaches the delivered packet.  The packet is given with all its members; its payload is
    `Packet::create` of the declared bytes (cut at `total mod 2^16`). -/
theorem reassembly_ignores_padding (dev stream : Nat) (hd : dev < 65536) (hs : stream < 256) (W W' : WireMsg)
    (hW : W.WF) (hW' : W'.WF)
    (hsame : W.ver = W'.ver ∧ W.mt = W'.mt ∧ W.first.1 = W'.first.1 ∧ W.body = W'.body) (d d' : DecState) :
    (decodeAll tecmpDecode d (W.bufs dev stream)).2 = (decodeAll tecmpDecode d' (W'.bufs dev stream)).2 ∧
    (decodeAll tecmpDecode d (W.bufs dev stream)).2 =
      [bytePacket W.ver dev W.mt stream W.first.1 (W.body.take (W.body.length % 65536))] := by
  obtain ⟨_, _, _, h1⟩ := WireMsg.single dev stream hd hs W hW d
  obtain ⟨_, _, _, h2⟩ := WireMsg.single dev stream hd hs W' hW' d'
  obtain ⟨e1, e2, e3, e4⟩ := hsame
  refine ⟨?_, h1⟩
  rw [h1, h2]
  simp only [WireMsg.packet, e1, e2, e3, e4]

/-! ## §5 same calls on fresh objects, different memory ⇒ identical results, translated source -/

open AsamCmp.SrcGen AsamCmp.SrcHist in
/-- **The decoder (translated `Decoder::decode` + `TECMP::Decoder::Decode`).**  Two histories of calls on two freshly
    constructed decoders that hand over the same buffers (`Call.arg`: null pointer or the bytes `b`) — but with every buffer
    lying in a DIFFERENT memory (`pre`, `post` arbitrary and different: "whatever the heap contained before"), at different
    addresses, with different loop fuel —: both runs are defined (no read outside a buffer in any call), and they return, call
    by call, identical packets and leave the same pending table.  Hypotheses: `Call.Ok` (non-null address, memory below 2^63,
    fuel ≥ buffer length) and fewer than 2^64 − 2^16 bytes in total — the addressability conditions of `decode_history_src`. -/
theorem decoder_src_memory_independent (calls calls' : List Call) (fuel fuel' : Nat)
    (hok : ∀ c ∈ calls, c.Ok fuel) (hok' : ∀ c ∈ calls', c.Ok fuel')
    (htot : (calls.map Call.bytes).sum + 65536 < 2 ^ 64) (htot' : (calls'.map Call.bytes).sum + 65536 < 2 ^ 64)
    (hargs : calls.map Call.arg = calls'.map Call.arg) :
    ∃ t t' outs, srcDecodeRun fuel Decoder_default calls = some (SrcDec.tblSt t, outs) ∧
      srcDecodeRun fuel' Decoder_default calls' = some (SrcDec.tblSt t', outs) ∧ t.abs = t'.abs ∧
      outs = (decodeEach DecState.empty (calls.map Call.arg)).2 := by
  obtain ⟨t, h1, _, _, h4, _⟩ := decode_history_src calls fuel hok htot
  obtain ⟨t', k1, _, _, k4, _⟩ := decode_history_src calls' fuel' hok' htot'
  rw [← hargs] at k1 k4
  exact ⟨t, t', _, h1, k1, h4.trans k4.symm, rfl⟩

open AsamCmp.SrcGen AsamCmp.SrcHist in
/-- **The encoder (translated public methods).**  Two `Encoder` objects that agree on their LOGICAL state (device id,
    stream id, sequence counter, message type: `Corr` to the same model encoder) and differ arbitrarily in the scratch members
    (`cmpFrames`, `cmpFrameTemplate`, `bytesLeft`, `min/maxBytesPerMessage` — recycled buffers, residue of earlier or aborted
    calls), driven through the same history of setDeviceId / setStreamId / restart / encode(batch) / encode(packet) calls:
    both runs are defined and every call returns bit-identical frames and getter values. -/
theorem encoder_src_scratch_independent (ops : List Op) (fuel : Nat) (hf : 65536 ≤ fuel) (hok : ∀ op ∈ ops, op.Ok)
    (s t : Encoder_St) (e : Enc) (hs : Corr s e) (ht : Corr t e) :
    ∃ s' t' obs, srcEncRun fuel s ops = some (s', obs) ∧ srcEncRun fuel t ops = some (t', obs) ∧
      obs = (modelRun e ops).2 := by
  obtain ⟨s', h1, _⟩ := encode_history_from fuel hf ops s e hs hok
  obtain ⟨t', h2, _⟩ := encode_history_from fuel hf ops t e ht hok
  exact ⟨s', t', _, h1, h2, rfl⟩

/-! ## §6 payloads built through the API -/

/-- closed form of every `setData`, for a prior object `b` of ANY length and content: the header bytes the builder does not own
    (taken from `b`, zero-extended when `b` is shorter), then ONLY bytes computed from the arguments.  Nothing of `b` behind the
    header survives (no "grow only" residue), and the result's length is header + arguments. -/
theorem setData_closed_form (b : Bytes) :
    (∀ d, canSetData b d = (resize b 16).take 14 ++ ([UInt8.ofNat (dlcOf (d.length % 256)), UInt8.ofNat d.length] ++ d)) ∧
    (∀ d, linSetData b d = (resize b 8).take 7 ++ ([UInt8.ofNat d.length] ++ d)) ∧
    (∀ d, ethSetData b d = (resize b 6).take 4 ++ (beEnc 2 d.length ++ d)) ∧
    (∀ d, analogSetData b d = resize b 16 ++ d) ∧
    (∀ s1 s2 s3 s4 v, cmSetData b s1 s2 s3 s4 v =
      resize b 26 ++ (cmString s1 ++ (cmString s2 ++ (cmString s3 ++ (cmString s4 ++ (beEnc 2 v.length ++ v)))))) ∧
    (∀ ids v, ifSetData b ids v =
      resize b 36 ++ (beEnc 2 ids.length ++ (ids ++ (zeros (ids.length % 2) ++ (beEnc 2 v.length ++ v))))) := by
  refine ⟨?_, ?_, ?_, fun d => (C13S.analog_setData_any b d).1, C13S.cm_setData_shape b, ?_⟩
  · intro d; rw [C13S.can_setData_prior, C13.canSetData_eq _ _ (by simp)]
  · intro d; rw [C13S.lin_setData_prior, C13.linSetData_eq _ _ (by simp)]
  · intro d; rw [C13S.eth_setData_prior, C13.ethSetData_eq _ _ (by simp)]
  · intro ids v; rw [C13S.if_setData_prior, C13.ifSetData_eq _ _ _ (by simp), SrcTie.take_resize_self]

open AsamCmp.SrcGen in
/-- **The builders, translated source.**  The translated `setData` of the six payload classes, run on two objects
    `m₁`, `m₂` of ANY lengths and contents that agree on the (zero-extended) header bytes the builder does not own, with caller
    buffers `x`, `x'` that agree on the `n` bytes handed over (and differ behind them), at different `this`: defined, and
    bit-identical results.  So neither a longer previous content of the object, nor bytes behind the caller's data, nor the
    object's address reach the built payload.  (`n < 256` etc.: the data lengths the API's length fields can hold.) -/
theorem setData_src_canonical (m₁ m₂ x x' : Bytes) (this this' n : Nat) (hn : n ≤ x.length) (hn' : n ≤ x'.length)
    (hx : x.take n = x'.take n) :
    (n < 256 → (resize m₁ 16).take 14 = (resize m₂ 16).take 14 →
      CanPayloadBase_setData m₁ this x n = CanPayloadBase_setData m₂ this' x' n ∧
      CanPayloadBase_setData m₁ this x n = some (canSetData m₁ (x.take n))) ∧
    (n < 256 → (resize m₁ 8).take 7 = (resize m₂ 8).take 7 →
      LinPayload_setData m₁ this x n = LinPayload_setData m₂ this' x' n ∧
      LinPayload_setData m₁ this x n = some (linSetData m₁ (x.take n))) ∧
    (n < 65536 → (resize m₁ 6).take 4 = (resize m₂ 6).take 4 →
      EthernetPayload_setData m₁ this x n = EthernetPayload_setData m₂ this' x' n ∧
      EthernetPayload_setData m₁ this x n = some (ethSetData m₁ (x.take n))) ∧
    (n + 16 < 2 ^ 64 → resize m₁ 16 = resize m₂ 16 →
      AnalogPayload_setData m₁ this x n = AnalogPayload_setData m₂ this' x' n ∧
      AnalogPayload_setData m₁ this x n = some (analogSetData m₁ (x.take n))) := by
  obtain ⟨c1, c2, c3, c4, _, _⟩ := C13S.setData_canonical_any m₁ m₂
  refine ⟨?_, ?_, ?_, ?_⟩
  · intro h8 hh
    rw [SrcTie.can_setData_src m₁ x this n hn h8, SrcTie.can_setData_src m₂ x' this' n hn' h8, ← hx, c1 _ hh]
    exact ⟨rfl, rfl⟩
  · intro h8 hh
    rw [SrcTie.lin_setData_src m₁ x this n hn h8, SrcTie.lin_setData_src m₂ x' this' n hn' h8, ← hx, c2 _ hh]
    exact ⟨rfl, rfl⟩
  · intro h16 hh
    rw [SrcTie.eth_setData_src m₁ x this n hn h16, SrcTie.eth_setData_src m₂ x' this' n hn' h16, ← hx, c3 _ hh]
    exact ⟨rfl, rfl⟩
  · intro h64 hh
    rw [SrcTie.analog_setData_src m₁ x this n hn h64, SrcTie.analog_setData_src m₂ x' this' n hn' h64, ← hx, c4 _ hh]
    exact ⟨rfl, rfl⟩

open AsamCmp.SrcGen in
/-- the two status classes: interface status (stream-id list, pad byte, vendor data) and capture-module status (four strings,
    vendor data).  `c`, `vl` are the element counts handed over; the caller buffers may continue arbitrarily behind them. -/
theorem setData_src_canonical_status (m₁ m₂ : Bytes) (this this' : Nat) :
    (∀ (ids ids' vendor vendor' : Bytes) (c vl : Nat), c ≤ ids.length → c ≤ ids'.length → vl ≤ vendor.length →
      vl ≤ vendor'.length → c < 65536 → vl < 65536 → ids.take c = ids'.take c → vendor.take vl = vendor'.take vl →
      resize m₁ 36 = resize m₂ 36 →
      InterfacePayload_setData m₁ this ids c vendor vl = InterfacePayload_setData m₂ this' ids' c vendor' vl ∧
      InterfacePayload_setData m₁ this ids c vendor vl = some (ifSetData m₁ (ids.take c) (vendor.take vl))) ∧
    (∀ (d s hw sw v : Bytes), d.length < 65534 → s.length < 65534 → hw.length < 65534 → sw.length < 65534 →
      v.length < 65536 → resize m₁ 26 = resize m₂ 26 →
      CaptureModulePayload_setData m₁ this d s hw sw v = CaptureModulePayload_setData m₂ this' d s hw sw v ∧
      CaptureModulePayload_setData m₁ this d s hw sw v = some (cmSetData m₁ d s hw sw v)) := by
  obtain ⟨_, _, _, _, c5, c6⟩ := C13S.setData_canonical_any m₁ m₂
  refine ⟨?_, ?_⟩
  · intro ids ids' vendor vendor' c vl h1 h2 h3 h4 h5 h6 e1 e2 hh
    rw [SrcTie.if_setData_src m₁ ids vendor this c vl h1 h3 h5 h6,
      SrcTie.if_setData_src m₂ ids' vendor' this' c vl h2 h4 h5 h6, ← e1, ← e2, c6 _ _ hh]
    exact ⟨rfl, rfl⟩
  · intro d s hw sw v h1 h2 h3 h4 h5 hh
    rw [SrcTie.cm_setData_src m₁ d s hw sw v this h1 h2 h3 h4 h5, SrcTie.cm_setData_src m₂ d s hw sw v this' h1 h2 h3 h4 h5,
      c5 _ _ _ _ _ hh]
    exact ⟨rfl, rfl⟩

/-- `Packet::create`, every type code, every byte string: the payload either keeps its type and is LITERALLY the input bytes, or
    it is marked invalid and holds `d.length` ZERO bytes (the value-initialised `payloadData(size)` the rejected branch never
    copies into) — no third possibility, so an invalid packet handed to the encoder puts zeros, not residue, on the wire -/
theorem create_bytes (ty : Nat) (d : Bytes) :
    ((create ty d).ty = ty ∧ (create ty d).data = d) ∨ ((create ty d).ty = 0 ∧ (create ty d).data = zeros d.length) := by
  rcases C03.create_cases ty d with ⟨h, _⟩ | h <;> rw [h]
  · exact Or.inl ⟨rfl, rfl⟩
  · exact Or.inr ⟨rfl, rfl⟩

open AsamCmp.SrcGen in
/-- the translated constructors behind the builders: the default-constructed payload objects the TECMP converter starts from
    and `Payload(type, size)` (the rejected branch of `Packet::create`) hold exactly the model's all-zero defaults -/
theorem default_objects_src :
    CanPayload_ctor_v_obj = some ⟨canDefault, tyCan⟩ ∧ CanFdPayload_ctor_v_obj = some ⟨canDefault, tyCanFd⟩ ∧
    LinPayload_ctor_v_obj = some ⟨linDefault, tyLin⟩ ∧ CaptureModulePayload_ctor_v_obj = some ⟨cmDefault, tyCm⟩ ∧
    InterfacePayload_ctor_v_obj = some ⟨ifDefault, tyIf⟩ ∧
    (∀ ty n, Payload_ctor_PayloadType_u64_pv ty n = some ⟨zeros n, ty⟩) ∧
    (∀ ty pre d post, Payload_ctor_PayloadType_ptr_u64_pv (pre ++ d ++ post) ty pre.length d.length =
      some (SrcPv.plRepr (if ty = 0 then ⟨0, zeros d.length⟩ else ⟨ty, d⟩))) :=
  ⟨rfl, rfl, rfl, rfl, rfl, fun _ _ => rfl, SrcPv.payload_ctor_src⟩

/-! ## §7 non-vacuity: the hypotheses hold on literal, non-trivial inputs; the conclusions are literal values -/
namespace Ex
open AsamCmp.SrcGen AsamCmp.SrcEnc

instance (p : Packet) : Decidable p.Enc := by unfold Packet.Enc; exact inferInstance

/-- a CONTROL packet (message type 2) whose object carries non-zero interface id and vendor id members, a VENDOR packet (0xFF)
    and a STATUS packet (3): the three message kinds "whose header leaves id bytes unused" -/
def ctl : Packet :=
  { payload := some ⟨0x0205, [0xC1, 0xC2, 0xC3]⟩, version := 1, ts := 0x0102030405060708, ifId := 0xAABBCCDD, vendorId := 0xEEFF,
    flags := 0x80 }
def vnd : Packet := { payload := some ⟨0xFF42, [9, 8]⟩, version := 1, ts := 7, ifId := 0xAABBCCDD, vendorId := 0x1234 }
def sta : Packet := { payload := some ⟨0x0377, [5]⟩, version := 1, ts := 8, ifId := 0xAABBCCDD, vendorId := 0x4321 }
/-- encoder with history: counter 65535 (wraps), last message type 1 -/
def e0 : Enc := { dev := 0x0A0B, stream := 3, seqc := 65535, curMt := 1 }
/-- min 40 > 8 + used for all three frames: every frame is PADDED -/
def c0 : Ctx := ⟨40, 100⟩

/-- the three frames: reserved byte 0; bytes 8..11 of the control message header 0 (NOT the object's 0xAABBCCDD / 0xEEFF);
    bytes 8..9 of the vendor / status header 0, then the vendor id; zero padding to 40 -/
def frames : List Bytes :=
  [[1, 0, 0x0A, 0x0B, 2, 3, 0, 0,     1, 2, 3, 4, 5, 6, 7, 8,  0, 0, 0, 0,        0x80, 5, 0, 3,     0xC1, 0xC2, 0xC3] ++ zeros 13,
   [1, 0, 0x0A, 0x0B, 0xFF, 3, 0, 1,  0, 0, 0, 0, 0, 0, 0, 7,  0, 0, 0x12, 0x34,  0, 0x42, 0, 2,     9, 8] ++ zeros 14,
   [1, 0, 0x0A, 0x0B, 3, 3, 0, 2,     0, 0, 0, 0, 0, 0, 0, 8,  0, 0, 0x43, 0x21,  0, 0x77, 0, 1,     5] ++ zeros 15]

example : c0.ok = true ∧ ∀ p ∈ [ctl, vnd, sta], p.Enc := by decide +kernel
example : (e0.encode [ctl, vnd, sta] c0).2.map (EFrame.bytes c0.min) = frames := by decide +kernel
example := encoder_frames_determined e0 [ctl, vnd, sta] c0 (by decide)
example := encoder_bytes_determined e0 [ctl, vnd, sta] c0 (by decide)

/-- the control packet's members are within their C types; the translated serialisers, run by the kernel: zeros at 8..11 -/
theorem ctl_reg : PktReg ctl := by unfold PktReg; decide
example := raw_headers_src_unused_zero ctl ctl_reg
example : (Packet_getRawMessageHeader_obj (pktSt ctl) ctl.mt ctl.rawType ctl.payloadLength).map (·.2) =
    some [1, 2, 3, 4, 5, 6, 7, 8, 0, 0, 0, 0, 0x80, 5, 0, 3] := by decide +kernel

/-- an `Encoder` object whose scratch members hold residue: a template of 100 bytes 0xFF, two stale frames full of 0xEE … -/
def sStale : Encoder_St :=
  { f_minBytesPerMessage := 7, f_maxBytesPerMessage := 9, f_deviceId := 0x0A0B, f_streamId := 3,
    f_cmpFrameTemplate := List.replicate 100 0xFF, f_bytesLeft := 55, f_sequenceCounter := 65535, f_messageType := 1,
    f_cmpFrames := [List.replicate 64 0xEE, [1, 2, 3]] }
/-- … the TRANSLATED `Encoder::encode`, run by the kernel on it, returns the same three padded frames: no 0xFF / 0xEE anywhere -/
example : (Encoder_encode_range_obj 65536 sStale ([ctl, vnd, sta].map pktIn) 40 100).map (·.2) = some frames := by
  decide +kernel
example := encoder_src_bytes_determined sStale [ctl, vnd, sta] c0 65536 (by decide) (by decide) (by decide +kernel) (by decide)

/-- encoder: the history setDeviceId / encode(packet) / encode(batch) from the default-constructed object and from an object
    with residue in every scratch member (same logical state): identical observations -/
def sDirty : Encoder_St :=
  { Encoder_default with f_cmpFrameTemplate := List.replicate 30 0xFF, f_cmpFrames := [[0xEE, 0xEE]], f_bytesLeft := 9,
                         f_minBytesPerMessage := 1, f_maxBytesPerMessage := 2 }
example : SrcHist.Corr sDirty (Enc.fresh 0 0) := ⟨rfl, rfl, rfl, rfl, rfl, rfl, rfl, by decide⟩
example := encoder_src_scratch_independent SrcHist.exOps 65536 (by decide) SrcHist.exOps_ok Encoder_default sDirty
  (Enc.fresh 0 0) SrcHist.corr_fresh ⟨rfl, rfl, rfl, rfl, rfl, rfl, rfl, by decide⟩
example : (SrcHist.srcEncRun 65536 sDirty SrcHist.exOps).map (·.2) =
    (SrcHist.srcEncRun 65536 Encoder_default SrcHist.exOps).map (·.2) := by decide +kernel

/-- a capture-module frame holding ONE unsegmented CONTROL message (message type 2) whose wire header has GARBAGE in the unused
    id bytes 8..11 (DE AD BE EF), followed by 13 pad bytes -/
def ctlFrame : Bytes :=
  [1, 0, 0x0A, 0x0B, 2, 3, 0, 0,
   1, 2, 3, 4, 5, 6, 7, 8, 0xDE, 0xAD, 0xBE, 0xEF, 0x80, 5, 0, 3, 0xC1, 0xC2, 0xC3] ++ zeros 13

/-- the decoded packet, all ten members: interface id and vendor id are 0 (not the wire garbage), counter and segment type 0 -/
example : (decodeAll tecmpDecode DecState.empty [some ctlFrame]).2 =
    [{ payload := some ⟨0x0205, [0xC1, 0xC2, 0xC3]⟩, version := 1, deviceId := 0x0A0B, streamId := 3, seq := 0,
       ts := 0x0102030405060708, ifId := 0, vendorId := 0, flags := 0x80, segType := 0 }] := by
  rw [← (C17b.runLL_refines [some ctlFrame]).2.2]
  decide +kernel
/-- `decode_header_fields` applies to it (and to every state) -/
example (s : DecState) := decode_header_fields s ctlFrame (by decide) (by decide)

/-- TECMP: a CAN-FD message, a bus status with vendor data, a capture-module status: every payload byte as a literal; all the
    bytes the converter does not set are 0 -/
example : (tecmpDecode SrcTec.exCanFd).map (·.payload) =
    [some ⟨tyCanFd, [0, 0, 0, 0, 0x9A, 0xBC, 0xDE, 0xF1, 0, 0xCC, 0xBB, 0xAA, 0, 0, 9, 12, 1, 2, 3, 4, 5, 6, 7, 8, 9, 10, 11, 12]⟩] := by
  decide +kernel
example : ((tecmpDecode SrcTec.exBusV).map (·.payload)).head? =
    some (some ⟨tyIf, [0, 0, 0, 0x0A, 0, 0, 0, 100] ++ zeros 12 ++ [0, 0, 0, 1] ++ zeros 16⟩) := by decide +kernel
example : (tecmpDecode (C15S.exCmHdr.bytes ++ C15S.exCmPay)).map (·.payload) =
    [some ⟨tyCm, zeros 26 ++ [0, 2, 0, 0] ++ [0, 10, 49, 50, 51, 52, 53, 54, 55, 56, 0, 0] ++ [0, 6, 118, 52, 46, 53, 0, 0] ++
      [0, 8, 118, 49, 46, 50, 46, 51, 0, 0] ++ [0, 0]⟩] := by decide +kernel
example := tecmp_out SrcTec.exCanFd
example := tecmp_unset_bytes_zero SrcTec.exBusV
/-- `tecmp_out` is not vacuous on these buffers -/
example : (tecmpDecode SrcTec.exCanFd).length = 1 ∧ (tecmpDecode SrcTec.exBusV).length = 3 := by decide +kernel

/-- reassembly: `C05S.WA` (segments of 0 / 3 / 5 declared bytes, trailing EE EE and DD, counters 65535, 0, 1) and a message with
    the same declared bytes cut 4 / 4, other trailing bytes, other counters, another last-segment header -/
def WA' : C05S.WireMsg :=
  ⟨1, 1, 17, (⟨1000, 3, 4, 8⟩, [0, 0, 0, 0], [0x11, 0x22, 0x33]), [], (⟨5, 5, 12, 2⟩, [0, 2, 0xAA, 0xBB], [0x77])⟩
example : C05S.WA.WF ∧ WA'.WF ∧ C05S.WA.ver = WA'.ver ∧ C05S.WA.mt = WA'.mt ∧ C05S.WA.first.1 = WA'.first.1 ∧
    C05S.WA.body = WA'.body := ⟨by decide, by decide, rfl, rfl, rfl, by decide⟩
example : C05S.WA.bufs 0x0200 1 ≠ WA'.bufs 0x0200 1 ∧ (WA'.bufs 0x0200 1).length = 2 := by decide
example (d d' : DecState) :
    (decodeAll tecmpDecode d (C05S.WA.bufs 0x0200 1)).2 = (decodeAll tecmpDecode d' (WA'.bufs 0x0200 1)).2 ∧
    (decodeAll tecmpDecode d (C05S.WA.bufs 0x0200 1)).2 = [C05S.pktA] := by
  obtain ⟨h1, h2⟩ := reassembly_ignores_padding 0x0200 1 (by decide) (by decide) C05S.WA WA' (by decide) (by decide)
    ⟨rfl, rfl, rfl, by decide⟩ d d'
  exact ⟨h1, h2.trans (by decide +kernel)⟩

/-- non-vacuity of the registered `C20.reassembly_bytes_declared`: a `SegMsg` satisfying `WF` and the length bound, and the
    conclusion as a literal: Ethernet payload of the 8 declared bytes -/
example : (C05S.WA.toSegMsg 0x0200 1).expected.payload = some ⟨tyEth, [0, 0, 0, 0, 0, 2, 0xAA, 0xBB]⟩ := by
  rw [C20.reassembly_bytes_declared _ (C05S.WireMsg.toSegMsg_wf _ _ _ (by decide)) (by decide)]
  decide +kernel

example (p0 : Option Pending) := reassembly_decoder_bytes_declared (C05S.WA.toSegMsg 0x0200 1)
  (C05S.WireMsg.toSegMsg_wf _ _ _ (by decide)) (by decide) p0

/-- decoder: the two-call history of `SrcHist.exCalls` with the buffers in OTHER memories (garbage before and behind, other
    addresses), other fuel -/
def exCalls' : List SrcHist.Call :=
  [.buf [0xEE, 0xEE, 0xEE] SrcHist.exSeg1 [0xFF, 0xFF], .buf (List.replicate 9 0xAB) SrcHist.exSeg2 []]
theorem exCalls'_ok : ∀ c ∈ exCalls', c.Ok 100 := by
  intro c hc
  simp only [exCalls', List.mem_cons, List.not_mem_nil, or_false] at hc
  rcases hc with rfl | rfl <;> exact ⟨by decide, by decide, by decide⟩
example := decoder_src_memory_independent SrcHist.exCalls exCalls' 64 100 SrcHist.exCalls_ok exCalls'_ok (by decide) (by decide)
  (by decide)
example : (SrcHist.srcDecodeRun 100 Decoder_default exCalls').map (·.2) = some [[], [SrcHist.exPkt]] := by decide +kernel

/-- a CAN object that held 8 data bytes (and 0xEE residue behind) vs. a fresh one with the same header fields: `setData` of
    2 bytes through the TRANSLATED builder gives the same 18 bytes — nothing of the longer previous content survives -/
def canOld : Bytes := [0, 0, 0, 0, 0, 0, 1, 0x23, 0, 0, 0, 0, 0, 0, 8, 8, 1, 2, 3, 4, 5, 6, 7, 8, 0xEE, 0xEE]
def canNew : Bytes := [0, 0, 0, 0, 0, 0, 1, 0x23, 0, 0, 0, 0, 0, 0, 0, 0]
example : CanPayloadBase_setData canOld 0 [0xAA, 0xBB, 0x99] 2 = CanPayloadBase_setData canNew 64 [0xAA, 0xBB] 2 ∧
    CanPayloadBase_setData canOld 0 [0xAA, 0xBB, 0x99] 2 = some (canSetData canOld ([0xAA, 0xBB, 0x99].take 2)) :=
  (setData_src_canonical canOld canNew [0xAA, 0xBB, 0x99] [0xAA, 0xBB] 0 64 2 (by decide) (by decide) (by decide)).1
    (by decide) (by decide)
example : CanPayloadBase_setData canOld 0 [0xAA, 0xBB, 0x99] 2 =
    some [0, 0, 0, 0, 0, 0, 1, 0x23, 0, 0, 0, 0, 0, 0, 2, 2, 0xAA, 0xBB] := by decide +kernel
example : canSetData canOld [0xAA, 0xBB] = [0, 0, 0, 0, 0, 0, 1, 0x23, 0, 0, 0, 0, 0, 0, 2, 2, 0xAA, 0xBB] := by decide

/-- `create_bytes`, both branches: an accepted Ethernet payload is the input; a rejected one (length field 9 > 3 bytes) is zeros -/
example : create tyEth [0, 0, 0, 0, 0, 3, 1, 2, 3] = ⟨tyEth, [0, 0, 0, 0, 0, 3, 1, 2, 3]⟩ ∧
    create tyEth [0, 0, 0, 0, 0, 9, 1, 2, 3] = ⟨0, [0, 0, 0, 0, 0, 0, 0, 0, 0]⟩ := by decide
/-- … and the encoder, handed the packet with the rejected payload, puts exactly these zeros on the wire (payload type byte 0) -/
example : ((Enc.fresh 1 2).encode [{ payload := some (create tyEth [0, 0, 0, 0, 0, 9, 1, 2, 3]) }] ⟨0, 100⟩).2.map (EFrame.bytes 0) =
    [[1, 0, 0, 1, 0, 2, 0, 1,   0, 0, 0, 0, 0, 0, 0, 0, 0, 0, 0, 0, 0, 0, 0, 9,   0, 0, 0, 0, 0, 0, 0, 0, 0]] := by decide +kernel

end Ex

end AsamCmp.C20S
