/-
  C02 (completion): the payload validators that `Packet::create` runs on the decode path, with
  checked reads.  `create` hands the validator the payload's `d.length` bytes; each validator reads
  header fields only behind its own size guard (C++ short-circuit `&&`) and the length-prefixed blocks
  of the status payloads only after comparing with the bytes that remain.
  Also: builders preserve every header field (C13, in terms of the field tables of C11).
-/
import AsamCmp.DecodeM
import AsamCmp.Access
import AsamCmp.Layout
import AsamCmp.Builders
import AsamCmp.Lemmas.ValidM
namespace AsamCmp.C02b
open AsamCmp

def canValidM (b : Bytes) : Option Bool :=
  if b.length < 16 then some false
  else do
    let fl ← rdN b 0 2
    let ep ← rdN b 12 2
    if (fl &&& 0x03FF) != 0 || ep != 0 then pure false
    else
      let n ← rdN b 15 1
      pure (decide (n ≤ b.length - 16))

def linValidM (b : Bytes) : Option Bool :=
  if b.length < 8 then some false
  else do
    let n ← rdN b 7 1
    pure (decide (n ≤ b.length - 8))

def ethValidM (b : Bytes) : Option Bool :=
  if b.length < 6 then some false
  else do
    let fl ← rdN b 0 2
    if (fl &&& 0x003B) != 0 then pure false
    else
      let n ← rdN b 4 2
      pure (decide (n ≤ b.length - 6))

def analogValidM (b : Bytes) : Option Bool :=
  if b.length < 16 then some false
  else do
    let f ← rdN b 1 1
    pure (decide ((f &&& 3) ≤ 1))

/-- the five length-prefixed blocks of a capture-module status payload, walked as the C++ loop does:
    `pos` is the read position, every read is checked -/
def blocksOkM (b : Bytes) : Nat → Nat → Option Bool
  | 0, _ => some true
  | n+1, pos =>
    if b.length - pos < 2 then some false
    else do
      let l ← rdN b pos 2
      if b.length - (pos + 2) < l then pure false
      else blocksOkM b n (pos + 2 + l)

def cmValidM (b : Bytes) : Option Bool :=
  if b.length < 26 then some false else blocksOkM b 5 26

def ifValidM (b : Bytes) : Option Bool :=
  if b.length < 40 then some false
  else do
    let st ← rdN b 29 1
    if ¬ st ≤ 2 then pure false
    else
      let c ← rdN b 36 2
      let c := c + c % 2
      if b.length - 38 < c + 2 then pure false
      else
        let vl ← rdN b (38 + c) 2
        pure (decide (vl ≤ b.length - (38 + c) - 2))

/-- the checked block walk at read position `pos` computes the plain walk on `b.drop pos`
    (glue for `validators_inbounds`) -/
theorem blocksOkM_eq (b : Bytes) : ∀ (n pos : Nat), blocksOkM b n pos = some (blocksOk n (b.drop pos)) := by
  intro n
  induction n with
  | zero => intro pos; rfl
  | succ n ih =>
    intro pos
    rw [blocksOk_succ_drop]
    unfold blocksOkM
    by_cases h1 : b.length - pos < 2
    · simp only [h1, if_true]
    · simp only [h1, if_false]
      rw [C02.rdN_some b pos 2 (by omega)]
      simp only [bind, Option.bind, pure]
      by_cases h2 : b.length - (pos + 2) < beAt b pos 2
      · simp only [h2, if_true]
      · simp only [h2, if_false]
        exact ih _

/-! Each checked validator computes the plain model's verdict: the size guard makes the header reads succeed, every
    failed check returns `false` early, and a read behind a check relies on that check having passed. -/

theorem canValidM_eq (b : Bytes) : canValidM b = some (canValid b) := by
  unfold canValidM canValid
  simp only [Bool.and_assoc]
  refine verdict_behind_size_guard _ _ _ _ fun h16 => ?_
  rw [C02.rdN_some b 0 2 (by omega), C02.rdN_some b 12 2 (by omega)]
  refine (verdict_behind_check _ _ _ fun _ => by rw [C02.rdN1_some b 15 (by omega)]; rfl).trans ?_
  simp only [Bool.decide_eq_true, Bool.not_or, bne, Bool.not_not, Bool.and_assoc]

theorem linValidM_eq (b : Bytes) : linValidM b = some (linValid b) := by
  refine verdict_behind_size_guard _ _ _ _ fun h8 => ?_
  rw [C02.rdN1_some b 7 (by omega)]; rfl

theorem ethValidM_eq (b : Bytes) : ethValidM b = some (ethValid b) := by
  unfold ethValidM ethValid
  simp only [Bool.and_assoc]
  refine verdict_behind_size_guard _ _ _ _ fun h6 => ?_
  rw [C02.rdN_some b 0 2 (by omega)]
  refine (verdict_behind_check _ _ _ fun _ => by rw [C02.rdN_some b 4 2 (by omega)]; rfl).trans ?_
  simp only [Bool.decide_eq_true, bne, Bool.not_not]

theorem analogValidM_eq (b : Bytes) : analogValidM b = some (analogValid b) := by
  refine verdict_behind_size_guard _ _ _ _ fun h16 => ?_
  rw [C02.rdN1_some b 1 (by omega)]; rfl

theorem cmValidM_eq (b : Bytes) : cmValidM b = some (cmValid b) :=
  verdict_behind_size_guard _ _ _ _ fun _ => blocksOkM_eq b 5 26

theorem ifValidM_eq (b : Bytes) : ifValidM b = some (ifValid b) := by
  unfold ifValidM ifValid
  simp only [Bool.and_assoc]
  refine verdict_behind_size_guard _ _ _ _ fun h40 => ?_
  rw [C02.rdN1_some b 29 (by omega), C02.rdN_some b 36 2 (by omega)]
  dsimp only [bind, Option.bind]
  -- the vendor-data length is read only after the stream-id count was found to fit (`hc`)
  refine (verdict_behind_check _ _ _ fun _ => verdict_behind_check _ _ _ fun hc => by
    rw [C02.rdN_some b _ 2 (by omega)]; rfl).trans ?_
  simp only [decide_not, Bool.not_not, not_decide_lt]

/-- no validator ever reads outside the bytes it was given, and each computes the plain model's verdict -/
theorem validators_inbounds (b : Bytes) :
    canValidM b = some (canValid b) ∧ linValidM b = some (linValid b) ∧ ethValidM b = some (ethValid b) ∧
    analogValidM b = some (analogValid b) ∧ cmValidM b = some (cmValid b) ∧ ifValidM b = some (ifValid b) :=
  ⟨canValidM_eq b, linValidM_eq b, ethValidM_eq b, analogValidM_eq b, cmValidM_eq b, ifValidM_eq b⟩

/-! ### builders preserve header fields (C13, stated with the field tables of C11/C12) -/

/-- a field read depends only on the bytes of its word -/
theorem getField_congr (f : Field) (b₁ b₂ : Bytes) (k : Nat) (hk : f.off + f.w ≤ k) (h : b₁.take k = b₂.take k)
    (h1 : k ≤ b₁.length) (h2 : k ≤ b₂.length) : getField f b₁ = getField f b₂ := by
  have _ := h1
  have _ := h2
  exact getField_of_take f b₁ b₂ k hk h

/-- header fields set earlier are preserved by every builder: every table field that lies in the
    part of the header the builder does not own (CAN: bytes 0..13, LIN: 0..6, Ethernet: 0..3,
    analog: 0..15, capture-module: 0..25, interface: 0..35) reads the same before and after -/
theorem builders_preserve_fields :
    (∀ f ∈ Layout.c_can.fields, f.off + f.w ≤ 14 → ∀ b d : Bytes, 16 ≤ b.length → getField f (canSetData b d) = getField f b) ∧
    (∀ f ∈ Layout.c_canfd.fields, f.off + f.w ≤ 14 → ∀ b d : Bytes, 16 ≤ b.length → getField f (canSetData b d) = getField f b) ∧
    (∀ f ∈ Layout.c_lin.fields, f.off + f.w ≤ 7 → ∀ b d : Bytes, 8 ≤ b.length → getField f (linSetData b d) = getField f b) ∧
    (∀ f ∈ Layout.c_eth.fields, f.off + f.w ≤ 4 → ∀ b d : Bytes, 6 ≤ b.length → getField f (ethSetData b d) = getField f b) ∧
    (∀ f ∈ Layout.c_analog.fields, ∀ b d : Bytes, 16 ≤ b.length → getField f (analogSetData b d) = getField f b) ∧
    (∀ f ∈ Layout.c_cm.fields, ∀ b s1 s2 s3 s4 v : Bytes, 26 ≤ b.length → getField f (cmSetData b s1 s2 s3 s4 v) = getField f b) ∧
    (∀ f ∈ Layout.c_if.fields, ∀ b ids v : Bytes, 36 ≤ b.length → getField f (ifSetData b ids v) = getField f b) := by
  refine ⟨?_, ?_, ?_, ?_, ?_, ?_, ?_⟩
  · exact fun f _ hle b d hb => getField_of_prefix f _ b _ 14 (C13.canSetData_eq b d hb) hle (by omega)
  · exact fun f _ hle b d hb => getField_of_prefix f _ b _ 14 (C13.canSetData_eq b d hb) hle (by omega)
  · exact fun f _ hle b d hb => getField_of_prefix f _ b _ 7 (C13.linSetData_eq b d hb) hle (by omega)
  · exact fun f _ hle b d hb => getField_of_prefix f _ b _ 4 (C13.ethSetData_eq b d hb) hle (by omega)
  · exact fun f hf b d hb => getField_of_prefix f _ b _ 16 (C13.analogSetData_eq b d hb) (analog_bound f hf) hb
  · exact fun f hf b s1 s2 s3 s4 v hb =>
      getField_of_prefix f _ b _ 26 (C13.cmSetData_eq b s1 s2 s3 s4 v hb) (cm_bound f hf) hb
  · exact fun f hf b ids v hb => getField_of_prefix f _ b _ 36 (C13.ifSetData_eq b ids v hb) (if_bound f hf) hb

end AsamCmp.C02b
