/-
  Source-level tie: the functions of `GeneratedSrc.lean` are produced on every run by vlib/srctrans.py from the typed clang
  AST of /repo/src/*.cpp (C++ subset semantics: Src/Sem.lean — bit patterns, one byte array as memory, `none` = undefined
  behaviour such as a read outside the array).  The theorems below say that, for EVERY memory content and every position,
  the translated source of the validators and header readers computes exactly what the hand-written model (Packet.lean,
  Decoder.lean, EncoderLL.lean — the definitions all other theorems are about) says, and is defined — i.e. reads nothing
  outside the object it was given: `b` lies at address `a` of the memory `m` (`At m a b`, Lemmas/SrcPrim.lean), e.g. at
  `pre.length` of `pre ++ b ++ post`; with `post = []` any read past the end of `b` would make the result `none`, and the result
  does not depend on the rest of the memory.
-/
import AsamCmp.GeneratedSrc
import AsamCmp.Packet
import AsamCmp.Decoder
import AsamCmp.Lemmas.SrcValid
set_option linter.unusedSimpArgs false
namespace AsamCmp.SrcTie
open AsamCmp AsamCmp.Src AsamCmp.SrcGen
attribute [local congr] bind_head_congr bind_head_congr'

/-! ### byte order helpers of the library (`swapEndian`) -/

theorem swap16_src (v : Nat) (h : v < 2 ^ 16) : swapEndian_u16 v = some (v / 256 + v % 256 * 256) := by
  rw [swap16_bytes]; congr 1; omega

/-- a 16-bit member read followed by `swapEndian` is the big-endian value of the two bytes -/
theorem rd_swap16_src (m : Bytes) (a : Nat) (h : a + 2 ≤ m.length) :
    (rd m a 2).bind swapEndian_u16 = some (beAt m a 2) := by
  rw [rd_eq m a 2 h, some_bind, swap16_leAt m a h]

theorem rd_swap32_src (m : Bytes) (a : Nat) (h : a + 4 ≤ m.length) :
    (rd m a 4).bind swapEndian_u32 = some (beAt m a 4) :=
  rd_swap32 m a h

theorem rd_swap64_src (m : Bytes) (a : Nat) (h : a + 8 ≤ m.length) :
    (rd m a 8).bind swapEndian_u64 = some (beAt m a 8) := by
  rw [rd_eq m a 8 h, some_bind, swap64_leAt m a h]

/-! ### payload validators `X::isValidPayload(data, size)` and `Packet::isValidPacket`, on an object `b` at any address `a` of
  any memory `m` smaller than the address space -/

section validators
variable {m b : Bytes} {a : Nat} (hA : At m a b) (h : m.length < 2 ^ 64)
include hA h

theorem can_validator_at : CanPayloadBase_isValidPayload m a b.length = some (canValid b) := by
  have hb := hA.length_lt h
  unfold CanPayloadBase_isValidPayload CanPayloadBase_Header_hasError CanPayloadBase_Header_getDataLength canValid
  src_norm [hA.rd, hA.rd0]
  by_cases h16 : 16 ≤ b.length
  · have k1 := can_flags b 0 (by omega)
    have k2 := le_zero_iff_be b 12 (by omega)
    src_finish
  · src_finish

theorem lin_validator_at : LinPayload_isValidPayload m a b.length = some (linValid b) := by
  have hb := hA.length_lt h
  unfold LinPayload_isValidPayload LinPayload_Header_getDataLength linValid
  src_norm [hA.rd, hA.rd0]
  src_finish

theorem eth_validator_at : EthernetPayload_isValidPayload m a b.length = some (ethValid b) := by
  have hb := hA.length_lt h
  unfold EthernetPayload_isValidPayload EthernetPayload_Header_getFlags EthernetPayload_Header_getDataLength ethValid
  src_norm [hA.rd, hA.rd0]
  src_finish

theorem analog_validator_at : AnalogPayload_isValidPayload m a b.length = some (analogValid b) := by
  have hb := hA.length_lt h
  have h3 : byteAt b 1 &&& 3 ≤ 3 := Nat.and_le_right
  unfold AnalogPayload_isValidPayload AnalogPayload_Header_getSampleDt analogValid
  src_norm [hA.rd, hA.rd0]
  simp only [analog_dt, Nat.zero_add]
  src_finish

theorem cm_validator_at : CaptureModulePayload_isValidPayload m a b.length = some (cmValid b) := by
  have hb := hA.length_lt h
  rw [cm_unroll]
  unfold cmValid
  by_cases h26 : 26 ≤ b.length
  · have e1 : decide (b.length < 26) = false := decide_eq_false (by omega)
    have e2 : decide (26 ≤ b.length) = true := decide_eq_true h26
    rw [e1, e2, cmLoop_spec hA hb 5 26 h26]
    rfl
  · have e1 : decide (b.length < 26) = true := decide_eq_true (by omega)
    have e2 : decide (26 ≤ b.length) = false := decide_eq_false h26
    rw [e1, e2]
    rfl

theorem if_validator_at : InterfacePayload_isValidPayload m a b.length = some (ifValid b) := by
  have hb := hA.length_lt h
  have hc := beAt_lt_pow b 36 2
  unfold InterfacePayload_isValidPayload InterfacePayload_Header_getInterfaceStatus ifValid
  -- the two byte pairs are read as the model reads them (`be16_or`, tried before `or_byteAt` splits them)
  src_norm [hA.rd, hA.rd0, ↓be16_or]
  src_finish

theorem isValidPacket_at : Packet_isValidPacket m a b.length = some (msgValid b) := by
  have hb := hA.length_lt h
  unfold Packet_isValidPacket MessageHeader_getPayloadLength MessageHeader_getCommonFlag MessageHeader_getPayloadType
    msgValid
  src_norm [hA.rd, hA.rd0]
  src_finish

end validators

/-! ### the same for `b` at address `pre.length` of `pre ++ b ++ post` -/

theorem can_validator_src (pre b post : Bytes) (h : (pre ++ b ++ post).length < 2 ^ 64) :
    CanPayloadBase_isValidPayload (pre ++ b ++ post) pre.length b.length = some (canValid b) :=
  can_validator_at (at_mid pre b post) h

theorem lin_validator_src (pre b post : Bytes) (h : (pre ++ b ++ post).length < 2 ^ 64) :
    LinPayload_isValidPayload (pre ++ b ++ post) pre.length b.length = some (linValid b) :=
  lin_validator_at (at_mid pre b post) h

theorem eth_validator_src (pre b post : Bytes) (h : (pre ++ b ++ post).length < 2 ^ 64) :
    EthernetPayload_isValidPayload (pre ++ b ++ post) pre.length b.length = some (ethValid b) :=
  eth_validator_at (at_mid pre b post) h

theorem analog_validator_src (pre b post : Bytes) (h : (pre ++ b ++ post).length < 2 ^ 64) :
    AnalogPayload_isValidPayload (pre ++ b ++ post) pre.length b.length = some (analogValid b) :=
  analog_validator_at (at_mid pre b post) h

theorem cm_validator_src (pre b post : Bytes) (h : (pre ++ b ++ post).length < 2 ^ 64) :
    CaptureModulePayload_isValidPayload (pre ++ b ++ post) pre.length b.length = some (cmValid b) :=
  cm_validator_at (at_mid pre b post) h

theorem if_validator_src (pre b post : Bytes) (h : (pre ++ b ++ post).length < 2 ^ 64) :
    InterfacePayload_isValidPayload (pre ++ b ++ post) pre.length b.length = some (ifValid b) :=
  if_validator_at (at_mid pre b post) h

theorem isValidPacket_src (pre b post : Bytes) (h : (pre ++ b ++ post).length < 2 ^ 64) :
    Packet_isValidPacket (pre ++ b ++ post) pre.length b.length = some (msgValid b) :=
  isValidPacket_at (at_mid pre b post) h

end AsamCmp.SrcTie
