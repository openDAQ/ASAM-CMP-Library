/-
  Source-level `PayloadType`, `Payload` and `Packet` AS VALUES (src/payload.cpp, src/packet.cpp, include/asam_cmp/payload_type.h).

  `vlib/srcobj.py` (`PvTranslator`, "packet value mode") translates, on every run, from the typed clang AST: the `PayloadType`
  methods (the class is flattened to its `uint32_t`), the `Payload` constructors / getters / `operator==`, the payload-class
  constructors that `Packet::create` reaches (followed through their base initialisers), and ALL of `Packet`: the four
  constructors, both `operator=`, `swap`, `operator==` / `!=`, `create`, `setMessageHeader`, `setPayload`, `getPayload`, `isValid`,
  the getters that go through the owned payload and the two raw-header serialisers calling them.  The owned payload
  (`std::unique_ptr<Payload>`) is an `Option Payload_St`; dereferencing a null pointer is undefined = `none`.

  The theorems say that these translations, for ALL inputs, are defined and equal the hand-written model (Packet.lean, Values.lean)
  on represented values (`repr`, `plRepr` — bijections between model values and generated records, `abs_repr` / `repr_abs`), so
  the contracts `mkPacket` (Src/Obj.lean: what the decoder's `std::make_shared<Packet>(…)` yields), `pktIn`
  (Props/SrcEncoder.lean: what the encoder reads from a `const Packet&`) and the value-semantics model of C14 are theorems
  about the translated source.  Hypotheses appear only where the C++ needs them; each is explained where it is stated.
-/
import AsamCmp.GeneratedSrcObj
import AsamCmp.Values
import AsamCmp.Props.SrcEncoder
import AsamCmp.Props.SrcDecoder
import AsamCmp.Lemmas.SrcPacketValueCreate
import AsamCmp.Lemmas.SrcPacketValueHdr
set_option linter.unusedVariables false
set_option linter.unusedSimpArgs false
namespace AsamCmp.SrcPv
open AsamCmp AsamCmp.Src AsamCmp.SrcGen

/-! ## 0. representation

  `plRepr : Payload → Payload_St`, `repr : Packet → PacketV_St` (Lemmas/SrcPacketValue.lean) copy the fields; every generated
  state is the representation of exactly one model value, so a theorem about all `repr p` is a theorem about all states. -/

theorem repr_bijective : (∀ p, abs (repr p) = p) ∧ (∀ s, repr (abs s) = s) ∧
    (∀ p, plAbs (plRepr p) = p) ∧ (∀ s, plRepr (plAbs s) = s) :=
  ⟨abs_repr, repr_abs, plAbs_plRepr, plRepr_plAbs⟩

/-! ## 1. `PayloadType`

  No hypothesis: the statements hold for every `Nat` (in particular for every `uint32_t` bit pattern `ty < 2^32`). -/

theorem payloadType_src (p : Payload) :
    PayloadType_getType_pv p.ty = some (p.ty, p.ty) ∧
    PayloadType_getMessageType_pv p.ty = some (p.ty, p.mt) ∧
    PayloadType_getRawPayloadType_pv p.ty = some (p.ty, p.raw) ∧
    PayloadType_isValid_pv p.ty = some (p.ty, p.isValid) ∧
    PayloadType_ctor_u32_pv p.ty = some p.ty ∧
    (∀ q : Payload, opEq_PayloadType_pv p.ty q.ty = some (p.ty == q.ty) ∧
                    opNe_PayloadType_pv p.ty q.ty = some (p.ty != q.ty)) :=
  ⟨pt_getType _, pt_getMessageType _, pt_getRaw _, pt_isValid _, pt_ctor32 _, fun q => ⟨pt_opEq _ _, pt_opNe _ _⟩⟩

/-- `PayloadType(msgType, rawPayloadType)`.  `hmt`, `hraw`: both parameters are `uint8_t` (an enum over `uint8_t` and a
    `uint8_t`); the constructor shifts in `int`, which is defined for these values.  The getters give the two parts back. -/
theorem payloadType_ctor_src (mt raw : Nat) (hmt : mt < 256) (hraw : raw < 256) :
    PayloadType_ctor_u8_u8_pv mt raw = some (mt * 256 + raw) ∧
    (∀ d, (⟨mt * 256 + raw, d⟩ : Payload).mt = mt ∧ (⟨mt * 256 + raw, d⟩ : Payload).raw = raw) := by
  refine ⟨pt_ctor8 mt raw hmt hraw, fun d => ⟨?_, ?_⟩⟩
  · show (mt * 256 + raw) / 256 % 256 = mt
    rw [Nat.mul_comm, Nat.mul_add_div (by decide), Nat.div_eq_of_lt hraw, Nat.add_zero, Nat.mod_eq_of_lt hmt]
  · show (mt * 256 + raw) % 256 = raw
    rw [Nat.mul_add_mod_self_right, Nat.mod_eq_of_lt hraw]

/-- the getters of `Payload` (they forward to the member `type`) -/
theorem payload_getters_src (p : Payload) :
    Payload_getType_pv (plRepr p) = some (plRepr p, p.ty) ∧
    Payload_getMessageType_pv (plRepr p) = some (plRepr p, p.mt) ∧
    Payload_getRawPayloadType_pv (plRepr p) = some (plRepr p, p.raw) ∧
    Payload_isValid_pv (plRepr p) = some (plRepr p, p.isValid) ∧
    Payload_getLength_pv (plRepr p) = some (plRepr p, p.data.length) ∧
    Payload_ctor_copy_pv (plRepr p) = some (plRepr p) :=
  ⟨pl_getType p, pl_getMessageType p, pl_getRaw p, pl_isValid p, pl_getLength p, pl_copy p⟩

/-! ## 2. `Payload(type, data, size)`

  The bytes `d` sit at address `pre.length` of the memory `pre ++ d ++ post`, `size = d.length`.  No hypothesis: the `memcpy` reads
  exactly `d` (with `post = []` a longer read would be `none`), and is skipped for `size == 0` or `PayloadType::invalid`, in which
  case the object keeps the `size` zero bytes of `payloadData(size)`. -/

theorem payload_ctor_src (ty : Nat) (pre d post : Bytes) :
    Payload_ctor_PayloadType_ptr_u64_pv (pre ++ d ++ post) ty pre.length d.length =
      some (plRepr (if ty = 0 then ⟨0, zeros d.length⟩ else ⟨ty, d⟩)) :=
  pl_ctor ty pre d post

/-! ## 3. `Packet::create`

  For EVERY type code and EVERY byte string the translated switch — validator of the case, constructor of the case, fall-through
  to `PayloadType::invalid`, `default` — is defined and builds exactly the model's `create ty d`: a case that validated with another
  class's `isValidPayload`, constructed another class, or forgot the `invalid` fall-through would break this theorem (the tie of C03).
  `hmem`: the memory is smaller than the address space (the validators compute `size - sizeof(Header)` in `size_t`).
  `s` is the packet the (non-static, private) method is called on: it is not touched. -/

theorem create_src (s : PacketV_St) (ty : Nat) (pre d post : Bytes) (hmem : (pre ++ d ++ post).length < 2 ^ 64) :
    Packet_create_pv s (pre ++ d ++ post) ty pre.length d.length = some (s, some (plRepr (create ty d))) :=
  create_eq s ty pre d post hmem

/-! ## 4. `Packet(msgType, data, size)`

  `h16`, `hlen`: the 16 header bytes and the declared number of payload bytes are there (the constructor reads them without
  looking at `size` — `Packet::isValidPacket` is the caller's duty; with fewer bytes the translation is `none`).
  `hmt`: `msgType` is an enum over `uint8_t`.  `hmem` as in `create_src`.  `size` is ignored (any value). -/

theorem wire_ctor_src (mt : Nat) (pre m post : Bytes) (size : Nat) (hmt : mt < 256) (h16 : 16 ≤ m.length)
    (hlen : 16 + beAt m 14 2 ≤ m.length) (hmem : (pre ++ m ++ post).length < 2 ^ 64) :
    Packet_ctor_u8_ptr_u64_pv (pre ++ m ++ post) mt pre.length size = some (repr (Packet.ofMsg mt m)) :=
  wire_ctor_eq mt pre m post size hmt h16 hlen hmem

/-- the contract `mkPacket` of Src/Obj.lean, which the translated decoder uses for `std::make_shared<Packet>(mt, data, size)`, is
    what the translated constructor does: whenever `mkPacket` on the bytes from `p` on succeeds with `o`, the constructor at
    address `p` of the same memory is defined and yields `Packet.ofMsg o.mt o.msg` -/
theorem wire_ctor_mkPacket (mt : Nat) (m : Bytes) (p size : Nat) (o : PktOut) (hmt : mt < 256) (hmem : m.length < 2 ^ 64)
    (h : mkPacket mt (m.drop p) = some o) :
    Packet_ctor_u8_ptr_u64_pv m mt p size = some (repr (Packet.ofMsg o.mt o.msg)) := by
  unfold mkPacket at h
  split at h
  · rename_i hc
    obtain ⟨h16, hlen⟩ := hc
    cases h
    have hp : p ≤ m.length := by
      have : (m.drop p).length = m.length - p := List.length_drop
      omega
    have hpl : (m.take p).length = p := List.length_take_of_le hp
    have hm : m.take p ++ m.drop p ++ [] = m := by rw [List.append_nil, List.take_append_drop]
    have := wire_ctor_eq mt (m.take p) (m.drop p) [] size hmt h16 hlen (by rw [hm]; exact hmem)
    rw [hm, hpl] at this
    rw [this, SrcDec.ofMsg_take]
  · cases h

/-- … and with the three setters `Decoder::decode` / `SegmentedPacket::getPacket` apply afterwards: the model packet
    `SrcDec.toPacket` that `SrcDec.decode_src` delivers -/
theorem toPacket_src (mt : Nat) (m : Bytes) (p size ver dev stream : Nat) (o : PktOut) (hmt : mt < 256)
    (hmem : m.length < 2 ^ 64) (h : mkPacket mt (m.drop p) = some o) :
    (do let s ← Packet_ctor_u8_ptr_u64_pv m mt p size
        let (s, _) ← Packet_setVersion_pv s ver
        let (s, _) ← Packet_setDeviceId_pv s dev
        let (s, _) ← Packet_setStreamId_pv s stream
        pure s) =
      some (repr (SrcDec.toPacket { o with version := ver, deviceId := dev, streamId := stream })) := by
  rw [wire_ctor_mkPacket mt m p size o hmt hmem h]
  rfl

/-! ## 5. what the encoder reads from a packet (`SrcEnc.pktIn`)

  `hf`: the members are within their C types (`Packet.Fits`; the raw-header serialisers store them into fields of those widths).
  `hp`: there is a payload — `getMessageType()`, `getPayloadType()`, `getPayload()` dereference the pointer unconditionally. -/

theorem pktIn_src (p : Packet) (pl : Payload) (hf : p.Fits) (hp : p.payload = some pl) :
    Packet_getMessageType_pv (repr p) = some (repr p, (SrcEnc.pktIn p).messageType) ∧
    Packet_getPayloadLength_pv (repr p) = some (repr p, (SrcEnc.pktIn p).payloadLength) ∧
    (∃ q, Packet_getPayload_pv (repr p) = some (repr p, q) ∧ q.f_payloadData = (SrcEnc.pktIn p).rawPayload) ∧
    Packet_getRawCmpHeader_pv (repr p) = some (repr p, (SrcEnc.pktIn p).rawCmpHeader) ∧
    Packet_getRawMessageHeader_pv (repr p) = some (repr p, (SrcEnc.pktIn p).rawMsgHeader) := by
  have hv : p.version % 256 = p.version := Nat.mod_eq_of_lt hf.1
  have hfl : p.flags % 256 = p.flags := Nat.mod_eq_of_lt hf.2.2.2.2.2.2.2.1
  refine ⟨pk_getMt p pl hp, pk_getLen p, ⟨plRepr pl, pk_getPayload p pl hp, ?_⟩, ?_, ?_⟩
  · simp only [SrcEnc.pktIn, plRepr, Packet.data, hp]
  · rw [rawCmp_pv p pl hp hf]; simp only [SrcEnc.pktIn, hv]
  · rw [rawMsg_pv p pl hp hf]; simp only [SrcEnc.pktIn, hfl]

/-- the other getters: payload type, validity (for every packet, with or without payload) -/
theorem getters_src (p : Packet) :
    Packet_getPayloadLength_pv (repr p) = some (repr p, p.payloadLength) ∧
    Packet_isValid_pv (repr p) = some (repr p, p.isValid) ∧
    (∀ pl, p.payload = some pl → Packet_getPayloadType_pv (repr p) = some (repr p, p.rawType)) :=
  ⟨pk_getLen p, pk_isValid p, fun pl hp => pk_getPt p pl hp⟩

/-- WITHOUT payload (a default-constructed or moved-from packet) `getMessageType()`, `getPayloadType()`, `getPayload()` — and the
    two serialisers, which call `getMessageType()` — are undefined in the source (null dereference) and `none` in the translation;
    `getPayloadLength()` and `isValid()` test the pointer and answer 0 / false.  This documents the guard a caller needs. -/
theorem no_payload_src (p : Packet) (hp : p.payload = none) :
    Packet_getMessageType_pv (repr p) = none ∧ Packet_getPayloadType_pv (repr p) = none ∧
    Packet_getPayload_pv (repr p) = none ∧ Packet_getRawCmpHeader_pv (repr p) = none ∧
    Packet_getRawMessageHeader_pv (repr p) = none ∧
    Packet_getPayloadLength_pv (repr p) = some (repr p, 0) ∧ Packet_isValid_pv (repr p) = some (repr p, false) := by
  obtain ⟨h1, h2, h3⟩ := pk_null p hp
  obtain ⟨h4, h5⟩ := raw_null p hp
  refine ⟨h1, h2, h3, h4, h5, ?_, ?_⟩
  · rw [pk_getLen]; simp only [Packet.payloadLength, hp]
  · rw [pk_isValid]; simp only [Packet.isValid, hp]

/-! ## 6. value semantics (C14): the translated special members = Values.lean

  No hypotheses: for every source and every prior target state (every state is a `repr`, `repr_bijective`). -/

/-- `Packet() = default`: the default member initialisers -/
theorem default_src : Packet_ctor_default_pv = some (repr Packet.dflt) := rfl

/-- copy constructor (a constructor has no prior target state: the new object depends on the source only) -/
theorem copy_src (p : Packet) : Packet_ctor_copy_pv (repr p) = some (repr (copyCtor p)) := by
  unfold Packet_ctor_copy_pv copyCtor
  cases hp : p.payload with
  | none => simp only [repr, hp, Option.map_none, Option.isSome_none, Bool.false_eq_true, if_false, pure]
  | some pl => simp only [repr, hp, Option.map_some, Option.isSome_some, if_true, bind, SrcTie.some_bind, pure, pl_copy]

/-- the move constructor and the one-object `swap` on any state (rewrite rules for the two assignment theorems below, so that
    their proofs survive a body that reaches the same result through these functions) -/
theorem moveCtor_st (s : PacketV_St) : Packet_ctor_move_pv s = some (s, repr Packet.dflt) := by
  unfold Packet_ctor_move_pv
  simp only [swap_eq, bind, SrcTie.some_bind, pure]
  rfl

theorem swap_same_st (s : PacketV_St) : swap_Packet_same_pv s = some s := by
  cases s; rfl

/-- move constructor: (new object, source afterwards) -/
theorem moveCtor_src (p : Packet) :
    Packet_ctor_move_pv (repr p) = some (repr (moveCtor p).1, repr (moveCtor p).2) :=
  moveCtor_st (repr p)

/-- `swap(Packet&, Packet&)` on two distinct objects -/
theorem swap_src (a b : Packet) : swap_Packet_pv (repr a) (repr b) = some (repr b, repr a) := swap_eq _ _

/-- copy assignment, both answers of the address comparison `this != &other` (generated from the one body): onto ANY other
    object, and onto itself -/
theorem copyAssign_src (dst src : Packet) :
    Packet_opAssign_copy_pv (repr dst) (repr src) = some (repr (copyAssign dst src), ()) ∧
    Packet_opAssign_copy_self_pv (repr src) = some (repr (copyAssign src src), ()) := by
  constructor
  · unfold Packet_opAssign_copy_pv
    simp only [copy_src, swap_eq, bind, SrcTie.some_bind, pure, copyAssign, copyCtor, Bool.not_false, if_true]
  · rfl

/-- move assignment onto another object: (target afterwards, source afterwards) -/
theorem moveAssign_src (dst src : Packet) :
    Packet_opAssign_move_pv (repr dst) (repr src) =
      some (repr (moveAssign dst src).1, (), repr (moveAssign dst src).2) := by
  unfold Packet_opAssign_move_pv
  simp only [swap_eq, swap_same_st, moveCtor_st, Packet_ctor_default_pv, bind, SrcTie.some_bind, pure, moveAssign]

/-- the scalar accessors (translated over the same record): a setter changes its member and nothing else — in particular not
    the owned payload —, a getter returns its member and changes nothing -/
theorem scalar_accessors_src (p : Packet) (v : Nat) :
    Packet_setVersion_pv (repr p) v = some (repr { p with version := v }, ()) ∧
    Packet_setDeviceId_pv (repr p) v = some (repr { p with deviceId := v }, ()) ∧
    Packet_setStreamId_pv (repr p) v = some (repr { p with streamId := v }, ()) ∧
    Packet_setSequenceCounter_pv (repr p) v = some (repr { p with seq := v }, ()) ∧
    Packet_setTimestamp_pv (repr p) v = some (repr { p with ts := v }, ()) ∧
    Packet_setInterfaceId_pv (repr p) v = some (repr { p with ifId := v }, ()) ∧
    Packet_setVendorId_pv (repr p) v = some (repr { p with vendorId := v }, ()) ∧
    Packet_setCommonFlags_pv (repr p) v = some (repr { p with flags := v }, ()) ∧
    Packet_setSegmentType_pv (repr p) v = some (repr { p with segType := v }, ()) ∧
    Packet_getVersion_pv (repr p) = some (repr p, p.version) ∧
    Packet_getDeviceId_pv (repr p) = some (repr p, p.deviceId) ∧
    Packet_getStreamId_pv (repr p) = some (repr p, p.streamId) ∧
    Packet_getSequenceCounter_pv (repr p) = some (repr p, p.seq) ∧
    Packet_getTimestamp_pv (repr p) = some (repr p, p.ts) ∧
    Packet_getInterfaceId_pv (repr p) = some (repr p, p.ifId) ∧
    Packet_getVendorId_pv (repr p) = some (repr p, p.vendorId) ∧
    Packet_getCommonFlags_pv (repr p) = some (repr p, p.flags) ∧
    Packet_getSegmentType_pv (repr p) = some (repr p, p.segType) :=
  ⟨rfl, rfl, rfl, rfl, rfl, rfl, rfl, rfl, rfl, rfl, rfl, rfl, rfl, rfl, rfl, rfl, rfl, rfl⟩

/-- `swap(p, p)`: both reference parameters denote the one object (the `_same` variant, generated from the same body with every read
    and write through `lhs` / `rhs` going to the current `s`): the object is unchanged -/
theorem swap_same_src (p : Packet) : swap_Packet_same_pv (repr p) = some (repr p) := swap_same_st _

/-- SELF-move-assignment `p = std::move(p)` (the `_self` variant: the parameter `other` denotes `*this`): the object — payload
    included — is unchanged, which is what the library's swap-based design gives and what "whatever the target held before …
    self-assignment" (C14) asks.  A rewrite that releases or resets the payload before taking it over breaks this theorem. -/
theorem moveAssign_self_src (p : Packet) : Packet_opAssign_move_self_pv (repr p) = some (repr p, ()) := by
  unfold Packet_opAssign_move_self_pv
  simp only [swap_eq, swap_same_st, moveCtor_st, Packet_ctor_default_pv, bind, SrcTie.some_bind, pure]

/-- `setPayload`: the packet owns a copy of the argument -/
theorem setPayload_src (p : Packet) (pl : Payload) :
    Packet_setPayload_pv (repr p) (plRepr pl) = some (repr { p with payload := some pl }, ()) := by
  unfold Packet_setPayload_pv
  simp only [pl_copy, bind, SrcTie.some_bind, pure, repr, Option.map_some]

/-- `operator==(const Payload&, const Payload&)`.  `g` is the answer of the pointer comparison `lhsRaw == rhsRaw`, which values
    cannot decide; `hg`: equal `data()` pointers mean the same (or two empty) vectors, hence equal bytes.
    `h64`: a vector's size is a `size_t` (the loop counter is one).  `hf`: the loop runs `size` rounds plus the final test. -/
theorem payloadEq_src (a b : Payload) (g : Bool) (fuel : Nat) (hg : g = true → a.data = b.data)
    (h64 : a.data.length < 2 ^ 64) (hf : a.data.length < fuel) :
    opEq_Payload_pv fuel g (plRepr a) (plRepr b) = some (payloadEq a b) :=
  plEq a b g fuel hg h64 hf

/-- `operator==(const Packet&, const Packet&)`: nine getters, the real payload sizes, then the payloads.  Hypotheses as in
    `payloadEq_src`, about the two owned payloads if both are there. -/
theorem packetEq_src (a b : Packet) (g : Bool) (fuel : Nat)
    (hg : ∀ x y, a.payload = some x → b.payload = some y → g = true → x.data = y.data)
    (h64 : a.fullLength < 2 ^ 64) (hf : a.fullLength < fuel) :
    opEq_Packet_pv fuel g (repr a) (repr b) = some (packetEq a b) :=
  pkEq a b g fuel hg h64 hf

theorem packetNe_src (a b : Packet) (g : Bool) (fuel : Nat)
    (hg : ∀ x y, a.payload = some x → b.payload = some y → g = true → x.data = y.data)
    (h64 : a.fullLength < 2 ^ 64) (hf : a.fullLength < fuel) :
    opNe_Packet_pv fuel g (repr a) (repr b) = some (packetNe a b) := by
  unfold opNe_Packet_pv
  simp only [packetEq_src a b g fuel hg h64 hf, bind, SrcTie.some_bind, pure, packetNe]

/-! ## 7. the hypotheses are satisfiable: a CAN data message with three data bytes -/

/-- CAN payload: flags 0, id 0x12, 3 data bytes -/
def exCan : Bytes := [0, 0, 0, 0, 0, 0x12, 0, 0, 0, 0, 0, 0, 0, 0, 0, 3, 0xAA, 0xBB, 0xCC]
/-- message: timestamp 1000, interface id 3, flags 0, payload type 1 (CAN), length 19 -/
def exMsg : Bytes := [0, 0, 0, 0, 0, 0, 3, 0xE8, 0, 0, 0, 3, 0, 1, 0, 19] ++ exCan
def exPkt : Packet :=
  { payload := some ⟨tyCan, exCan⟩, version := 1, deviceId := 7, streamId := 2, seq := 5, ts := 1000, ifId := 3 }

theorem exPkt_fits : exPkt.Fits :=
  ⟨by decide, by decide, by decide, by decide, by decide, by decide, by decide, by decide, by decide,
    fun pl h => by cases h; exact ⟨by decide, by decide⟩⟩

example : exPkt.Fits := exPkt_fits

example : canValid exCan = true ∧ create tyCan exCan = ⟨tyCan, exCan⟩ ∧ exPkt.isValid = true := by decide +kernel

example : Packet.ofMsg 1 exMsg = { exPkt with version := 1, deviceId := 0, streamId := 0, seq := 0 } := by decide +kernel

example := payloadType_src ⟨tyCan, exCan⟩
example : PayloadType_ctor_u8_u8_pv 1 1 = some tyCan := (payloadType_ctor_src 1 1 (by decide) (by decide)).1
example : Payload_ctor_PayloadType_ptr_u64_pv ([0xFF] ++ exCan ++ [0xEE]) tyCan 1 19 = some (plRepr ⟨tyCan, exCan⟩) :=
  payload_ctor_src tyCan [0xFF] exCan [0xEE]
example : Packet_create_pv (repr exPkt) ([0xFF] ++ exCan ++ [0xEE]) tyCan 1 19 =
    some (repr exPkt, some (plRepr (create tyCan exCan))) :=
  create_src (repr exPkt) tyCan [0xFF] exCan [0xEE] (by decide)
example : Packet_ctor_u8_ptr_u64_pv ([0xFF] ++ exMsg ++ [0xEE]) 1 1 35 = some (repr (Packet.ofMsg 1 exMsg)) :=
  wire_ctor_src 1 [0xFF] exMsg [0xEE] 35 (by decide) (by decide) (by decide) (by decide)
example : ∃ o, mkPacket 1 (([0xFF] ++ exMsg ++ [0xEE]).drop 1) = some o ∧
    Packet_ctor_u8_ptr_u64_pv ([0xFF] ++ exMsg ++ [0xEE]) 1 1 35 = some (repr (Packet.ofMsg o.mt o.msg)) :=
  ⟨{ mt := 1, msg := exMsg }, by decide +kernel,
    wire_ctor_mkPacket 1 _ 1 35 { mt := 1, msg := exMsg } (by decide) (by decide) (by decide +kernel)⟩
example := pktIn_src exPkt ⟨tyCan, exCan⟩ exPkt_fits rfl
example := no_payload_src Packet.dflt rfl
example := copy_src exPkt
example := moveCtor_src exPkt
example := copyAssign_src Packet.dflt exPkt
example := moveAssign_src Packet.dflt exPkt
example := swap_src Packet.dflt exPkt
example : swap_Packet_same_pv (repr exPkt) = some (repr exPkt) := swap_same_src exPkt
example : Packet_opAssign_move_self_pv (repr exPkt) = some (repr exPkt, ()) := moveAssign_self_src exPkt
example : (Packet_opAssign_move_self_pv (repr exPkt)).map (fun r => r.1.f_payload) = some (some (plRepr ⟨tyCan, exCan⟩)) := by
  decide +kernel
example : opEq_Payload_pv 20 false (plRepr ⟨tyCan, exCan⟩) (plRepr ⟨tyCan, exCan⟩) = some true :=
  payloadEq_src ⟨tyCan, exCan⟩ ⟨tyCan, exCan⟩ false 20 (fun h => by cases h) (by decide) (by decide)
example : opEq_Packet_pv 20 true (repr exPkt) (repr exPkt) = some (packetEq exPkt exPkt) :=
  packetEq_src exPkt exPkt true 20 (fun x y hx hy _ => by rw [hx] at hy; cases hy; rfl) (by decide) (by decide)
example : opNe_Packet_pv 20 false (repr exPkt) (repr Packet.dflt) = some (packetNe exPkt Packet.dflt) :=
  packetNe_src exPkt Packet.dflt false 20 (fun x y _ hy _ => by cases hy) (by decide) (by decide)

/-- the translation itself, evaluated by the kernel on the example (no theorem involved): the wire constructor on the message
    inside a larger memory, and a comparison that finds the differing byte -/
example : Packet_ctor_u8_ptr_u64_pv ([0xFF] ++ exMsg ++ [0xEE]) 1 1 35 =
    some (repr { exPkt with deviceId := 0, streamId := 0, seq := 0 }) := by decide +kernel
example : opEq_Payload_pv 20 false (plRepr ⟨tyCan, exCan⟩) (plRepr ⟨tyCan, exCan.set 17 0⟩) = some false := by decide +kernel

end AsamCmp.SrcPv
