/-
  C06 at full strength (the statement audit of DESIGN.md, section J.4): recovery and safety with
  traffic of other endpoints interleaved, on parsed frames and on bytes; the expected packet in the
  sender's terms; equality of every field on bytes instead of equality after `clearSeg`; the side
  condition `Side2` (safety under it is in `Props/C06.lean`) is strictly weaker than `Side`, is what
  the byte-level condition `SideB2` gives, and is necessary as well as sufficient; streams built by
  several `encode` calls; and what happens at the points the hypotheses exclude (a version byte
  corrupted to 0, a payload that is not `WF`).  All of it is about the model and the fault model of
  `Props/C06.lean` and `Props/C06b.lean`.
-/
import AsamCmp.Props.C06b
namespace AsamCmp.C06S
open AsamCmp

/-! ## three shared list lemmas (`Lemmas/BytesBasic`, `Lemmas/LayerB`) under this file's names -/

theorem slice_append_left (a b : Bytes) (off w : Nat) (h : off + w ≤ a.length) :
    slice (a ++ b) off w = slice a off w :=
  slice_append_of_le a b off w h

theorem slice_take (a : Bytes) (n off w : Nat) (h : off + w ≤ n) :
    slice (a.take n) off w = slice a off w :=
  slice_take_of_le a n off w h

theorem decodeAll_append (t : Bytes → List Packet) (s : DecState) (as bs : List (Option Bytes)) :
    decodeAll t s (as ++ bs) =
      ((decodeAll t (decodeAll t s as).1 bs).1, (decodeAll t s as).2 ++ (decodeAll t (decodeAll t s as).1 bs).2) :=
  decodeAll_append_eq t s as bs

/-! ## recovery with traffic of other endpoints interleaved -/

theorem cleanRun_ep (S : SStream) (i0 : Nat) (f0 : SF) : ∀ f ∈ S.cleanRun i0 f0, f.ep = S.ep := by
  intro f hf
  unfold SStream.cleanRun at hf
  obtain ⟨j, _, hj⟩ := List.mem_filterMap.1 hf
  split at hj
  · cases hj; rfl
  · cases hj

/-- If the frames of endpoint `e` inside an arbitrary history `fs` are `pre`, then `mid`, then `post`,
    and `mid` delivers `out` and leaves nothing pending whatever was pending before it, then the
    packets delivered for `e` are what `pre` delivers, then `out`, then what `post` delivers to a
    decoder with nothing pending; the entry of `e` is what `post` leaves. -/
theorem runT_mid (e : Ep) (fs pre mid post : List PFrame) (s : DecState) (out : List Packet)
    (hproj : fs.filter (fun f => f.ep = e) = pre ++ mid ++ post)
    (hmid : ∀ p, runLocal p mid = (none, out)) :
    (runT s fs).2.filter (fun x => x.1 = e) =
      ((runLocal (s e) pre).2 ++ out ++ (runLocal none post).2).map (fun p => (e, p)) ∧
    (runT s fs).1 e = (runLocal none post).1 := by
  obtain ⟨h1, h2⟩ := runT_proj e fs s
  rw [hproj, runLocal_append, runLocal_append, hmid] at h1 h2
  exact ⟨h1, h2⟩

/-- Recovery, any number of endpoints.  `fs` is an arbitrary history of frames of arbitrary
    endpoints fed to a decoder in an arbitrary state `s`.  If the frames of endpoint `S.ep` inside
    `fs` ("on its endpoint") are `pre`, then the clean frames of one message in order
    ("complete, in order and uninterrupted"), then `post`, the packets delivered for `S.ep` are
    exactly: what `pre` delivers, then the message, once, then what `post` delivers to a decoder
    with nothing pending.  Frames of other endpoints may sit anywhere, also between the segments. -/
theorem C06_recovery_interleaved (S : SStream) (i0 : Nat) (f0 : SF)
    (h0 : S.at_ i0 = some (.segF f0)) (hk : f0.k = 0)
    (fs pre post : List PFrame) (s : DecState)
    (hproj : fs.filter (fun f => f.ep = S.ep) = pre ++ S.cleanRun i0 f0 ++ post) :
    (runT s fs).2.filter (fun x => x.1 = S.ep) =
      ((runLocal (s S.ep) pre).2 ++ [S.expected i0 f0] ++ (runLocal none post).2).map
        (fun p => (S.ep, p)) := by
  exact (runT_mid S.ep fs pre _ post s _ hproj (fault_recovery' S i0 f0 h0 hk)).1

/-- … and afterwards the entry of `S.ep` is whatever `post` leaves behind a decoder with nothing
    pending: the reassembly of the recovered message is closed -/
theorem C06_recovery_interleaved_state (S : SStream) (i0 : Nat) (f0 : SF)
    (h0 : S.at_ i0 = some (.segF f0)) (hk : f0.k = 0)
    (fs pre post : List PFrame) (s : DecState)
    (hproj : fs.filter (fun f => f.ep = S.ep) = pre ++ S.cleanRun i0 f0 ++ post) :
    (runT s fs).1 S.ep = (runLocal none post).1 := by
  exact (runT_mid S.ep fs pre _ post s _ hproj (fault_recovery' S i0 f0 h0 hk)).2

/-- membership form: the recovered message IS delivered, tagged with its endpoint -/
theorem C06_recovery_interleaved_mem (S : SStream) (i0 : Nat) (f0 : SF)
    (h0 : S.at_ i0 = some (.segF f0)) (hk : f0.k = 0)
    (fs pre post : List PFrame) (s : DecState)
    (hproj : fs.filter (fun f => f.ep = S.ep) = pre ++ S.cleanRun i0 f0 ++ post) :
    (S.ep, S.expected i0 f0) ∈ (runT s fs).2 := by
  have h := C06_recovery_interleaved S i0 f0 h0 hk fs pre post s hproj
  have : (S.ep, S.expected i0 f0) ∈ (runT s fs).2.filter (fun x => x.1 = S.ep) := by
    rw [h]; simp
  exact (List.mem_filter.1 this).1

/-- Recovery of unsegmented messages, any number of endpoints: a frame of
    endpoint `e` that holds only unsegmented messages delivers them, whatever the faults left
    pending for `e` and whatever other endpoints sent in between, and closes `e`'s reassembly. -/
theorem C06_recovery_unseg_interleaved (e : Ep) (f : PFrame) (hfe : f.ep = e) (hf : ∀ m, f.term ≠ .seg m)
    (fs pre post : List PFrame) (s : DecState)
    (hproj : fs.filter (fun f => f.ep = e) = pre ++ [f] ++ post) :
    (runT s fs).2.filter (fun x => x.1 = e) =
      ((runLocal (s e) pre).2 ++ f.unseg ++ (runLocal none post).2).map (fun p => (e, p)) := by
  have _ := hfe  -- not needed: `hproj` places `f` among the frames of `e`
  exact (runT_mid e fs pre [f] post s f.unseg hproj fun p => by
    rw [runLocal_cons, localStep_noseg p f hf]; simp [runLocal]).1

/-! ## what `expected` is, in the sender's terms -/

/-- header fields in front of the length field survive the length rewrite -/
theorem beAt_hdr_lo (h v B : Bytes) (off w : Nat) (hh : h.length = 16) (hw : off + w ≤ 14) :
    beAt (h.take 14 ++ v ++ B) off w = beAt h off w := by
  rw [List.append_assoc, beAt_append_of_le _ _ _ _ (by simp [hh]; omega), beAt_take_of_le _ _ _ _ hw]

/-- The expected packet in the sender's terms.  For a message of at most 65535 payload bytes
    (the width of the wire format's length field) the packet `Good` / the recovery theorems speak
    of is: payload built by `Packet::create` from the FIRST segment's payload-type byte and the
    concatenation of the declared bodies of segments `0 … n-1` in order (`S.acc`: no hole, no
    repetition), every header field read from the FIRST segment's header as sent, version and
    message type of the first segment as sent, ids of the endpoint. -/
theorem expected_eq (S : SStream) (i0 : Nat) (f0 : SF) (h0 : S.at_ i0 = some (.segF f0))
    (hlen : (S.acc i0 (f0.n - 1)).length ≤ 65535) :
    S.expected i0 f0 =
      { payload := some (create (f0.mt * 256 + byteAt f0.hdr 13) (S.acc i0 (f0.n - 1)))
        version := f0.ver, deviceId := S.ep.1, streamId := S.ep.2, seq := 0
        ts := beAt f0.hdr 0 8
        ifId := if f0.mt = 1 then beAt f0.hdr 8 4 else 0
        vendorId := if f0.mt = 3 ∨ f0.mt = 0xFF then beAt f0.hdr 10 2 else 0
        flags := byteAt f0.hdr 12, segType := 0 } := by
  have h16 := (S.hdrOk i0 f0 h0).1
  have hmod : (S.acc i0 (f0.n - 1)).length % 65536 = (S.acc i0 (f0.n - 1)).length :=
    Nat.mod_eq_of_lt (Nat.lt_succ_of_le hlen)
  unfold SStream.expected
  rw [fixLen_append _ _ h16, Nat.mod_eq_of_lt (Nat.lt_succ_of_le hlen)]
  simp only [tagPacket, Packet.ofMsg, byteAt_hdr _ _ _ 13 (by decide) h16,
    byteAt_hdr _ _ _ 12 (by decide) h16, beAt_hdr _ _ _ h16, hmod, slice_hdr _ _ _ h16,
    beAt_hdr_lo _ _ _ 0 8 h16 (by decide), beAt_hdr_lo _ _ _ 8 4 h16 (by decide),
    beAt_hdr_lo _ _ _ 10 2 h16 (by decide)]

/-- the flags of a reassembled packet are the first segment's flags byte as sent, whatever the
    length: in particular its segmentation bits read "first segment" (4), never 8 or 12 -/
theorem expected_flags (S : SStream) (i0 : Nat) (f0 : SF) (h0 : S.at_ i0 = some (.segF f0)) (hk : f0.k = 0) :
    (S.expected i0 f0).flags = byteAt f0.hdr 12 ∧ (S.expected i0 f0).flags &&& 0x0C = 4 := by
  obtain ⟨h16, hseg⟩ := S.hdrOk i0 f0 h0
  have : (S.expected i0 f0).flags = byteAt f0.hdr 12 := by
    unfold SStream.expected
    rw [fixLen_append _ _ h16]
    simp only [tagPacket, Packet.ofMsg, byteAt_hdr _ _ _ 12 (by decide) h16]
  refine ⟨this, ?_⟩
  rw [this]
  rw [hk, segCode_zero] at hseg
  exact hseg

/-- an unsegmented message delivered by the message loop never carries segmentation bits -/
theorem walk_flags (ep : Ep) (ver mt : Nat) (r : Bytes) :
    ∀ p ∈ (walk ep ver mt r).1, p.flags &&& 0x0C = 0 := by
  intro p hp
  obtain ⟨_, _, _, h0, rfl⟩ := walk_mem ep ver mt r p hp
  exact h0

/-! ## byte histories of several endpoints

`decodeAllT` is `decodeAll` with every delivered packet tagged by the endpoint the BUFFER that
produced it addresses (`bufEp`: `none` for null / short / TECMP buffers).  It is tied to the
existing `decodeAll` by `decodeAllT_untag`; it is needed only to say "the packets delivered for
endpoint E" on bytes (a packet's own device id does not identify the buffer: TECMP packets carry
arbitrary device ids). -/

def decodeAllT (tecmp : Bytes → List Packet) (s : DecState) :
    List (Option Bytes) → DecState × List (Option Ep × Packet)
  | [] => (s, [])
  | b :: bs =>
    let r := decodeWith tecmp s b
    let r' := decodeAllT tecmp r.1 bs
    (r'.1, r.2.map (fun p => (bufEp b, p)) ++ r'.2)

theorem decodeAllT_eq (t : Bytes → List Packet) (s : DecState) (bs : List (Option Bytes)) :
    decodeAllT t s bs =
      (Run.final (decodeWith t) s bs, (Run.io (decodeWith t) s bs).flatMap fun x => x.2.map fun p => (bufEp x.1, p)) :=
  Run.eq_flatMap (decodeWith t) _ (decodeAllT t) (fun _ => rfl) (fun _ _ _ => rfl) s bs

theorem decodeAllT_untag (t : Bytes → List Packet) (s : DecState) (bs : List (Option Bytes)) :
    (decodeAllT t s bs).1 = (decodeAll t s bs).1 ∧ (decodeAllT t s bs).2.map (·.2) = (decodeAll t s bs).2 := by
  rw [decodeAllT_eq, decodeAll_eq]
  refine ⟨rfl, ?_⟩
  rw [List.map_flatMap]
  simp only [List.map_map, Function.comp_def, List.map_id']
  rfl

/-- C18 on bytes in list form: the packets delivered for endpoint `e` over an arbitrary history of
    buffers, and the final entry of `e`, are those of the sub-history of buffers addressing `e`,
    from any two decoder states that agree at `e` (`decode_local`) -/
theorem decodeAllT_filter (t : Bytes → List Packet) (e : Ep) (bs : List (Option Bytes)) (s s' : DecState) (h : s e = s' e) :
    (decodeAllT t s bs).2.filter (fun x => x.1 = some e) =
      (decodeAllT t s' (bs.filter (fun b => bufEp b = some e))).2 ∧
    (decodeAllT t s bs).1 e = (decodeAllT t s' (bs.filter (fun b => bufEp b = some e))).1 e := by
  obtain ⟨h1, h2⟩ := (decode_local t e).congr bs s s' h
  rw [decodeAllT_eq, decodeAllT_eq, Run.filter_tagged bufEp (some e), h2]
  exact ⟨rfl, h1⟩

/-- on buffers that all address `e` every output is tagged `e` -/
theorem decodeAllT_tags (t : Bytes → List Packet) (e : Ep) (bs : List (Option Bytes)) (s : DecState)
    (h : ∀ b ∈ bs, bufEp b = some e) :
    (decodeAllT t s bs).2 = (decodeAll t s bs).2.map (fun p => (some e, p)) := by
  rw [decodeAllT_eq, decodeAll_eq]
  exact Run.tagged_of_all bufEp (some e) _ fun x hx => h x.1 (Run.io_mem _ s bs x hx).1

theorem filter_addr (e : Ep) (bs : List (Option Bytes)) (h : ∀ b ∈ bs, bufEp b = some e) :
    bs.filter (fun b => bufEp b = some e) = bs := by
  rw [List.filter_eq_self]
  intro b hb
  simp [h b hb]

/-- what buffers addressing `e` deliver, and the entry of `e` they leave, depends on the decoder
    state only through the entry of `e` -/
theorem decodeAll_congr (t : Bytes → List Packet) (e : Ep) (bs : List (Option Bytes))
    (h : ∀ b ∈ bs, bufEp b = some e) (s s' : DecState) (hs : s e = s' e) :
    (decodeAll t s bs).2 = (decodeAll t s' bs).2 ∧ (decodeAll t s bs).1 e = (decodeAll t s' bs).1 e := by
  obtain ⟨h1, h2⟩ := (decode_local t e).all s bs fun b hb => decide_eq_true (h b hb)
  obtain ⟨h3, h4⟩ := (decode_local t e).all s' bs fun b hb => decide_eq_true (h b hb)
  rw [decodeAll_eq, decodeAll_eq, h2, h4, hs]
  exact ⟨rfl, h1.trans (hs ▸ h3.symm)⟩

/-- transfer principle: whatever is delivered for endpoint `e` in an arbitrary byte history, by a
    decoder that starts with nothing pending for `e`, is delivered by the empty decoder on the
    sub-history of buffers addressing `e` -/
theorem isolate_mem (t : Bytes → List Packet) (e : Ep) (bufs arr : List (Option Bytes)) (s : DecState)
    (hs : s e = none) (hproj : bufs.filter (fun b => bufEp b = some e) = arr) :
    ∀ x ∈ (decodeAllT t s bufs).2, x.1 = some e → x.2 ∈ (decodeAll t DecState.empty arr).2 := by
  intro x hx hxe
  have hmem : x ∈ (decodeAllT t s bufs).2.filter (fun x => x.1 = some e) :=
    List.mem_filter.2 ⟨hx, by simp [hxe]⟩
  rw [(decodeAllT_filter t e bufs s DecState.empty hs).1, hproj] at hmem
  rw [← (decodeAllT_untag t DecState.empty arr).2]
  exact List.mem_map.2 ⟨x, hmem, rfl⟩

/-! ## end to end on bytes: exact flags, several endpoints, recovery -/

open AsamCmp.C06b AsamCmp.C01

/-- the packet the decoder must hand out for a sent packet `q`, with NO field masked: the flags
    are `q`'s flags with the two segmentation bits replaced by 0 (the packet fitted one frame of
    capacity `cap`) or by 4 (it was segmented: the reassembled packet keeps the first segment's
    header) -/
def sentAs (dev stream cap : Nat) (q : Packet) : Packet :=
  { payload := q.payload, version := q.version, deviceId := dev, streamId := stream, seq := 0, ts := q.ts,
    ifId := if q.mt = 1 then q.ifId else 0,
    vendorId := if q.mt = 3 ∨ q.mt = 0xFF then q.vendorId else 0,
    flags := (q.flags &&& 0xF3) ||| (if 16 + q.data.length ≤ cap then 0 else 4), segType := 0 }

theorem dec_sentAs (dev stream cap : Nat) (q : Packet) :
    dec dev stream q.version q (if 16 + q.data.length ≤ cap then 0 else 4) = sentAs dev stream cap q := rfl

theorem sentAs_clearSeg (dev stream cap : Nat) (q : Packet) (h : q.WF) :
    clearSeg (sentAs dev stream cap q) = obsSent dev stream q := by
  rw [← dec_sentAs]
  exact clearSeg_dec dev stream q h _ (by split <;> simp)

/-- C06 end to end, exact: the hypotheses of `C06b.C06_bytes`, equality of all fields instead of
    equality after `clearSeg` -/
theorem C06_bytes_exact (e : Enc) (batch : List Packet) (c : Ctx) (v : Nat)
    (hc : c.ok = true) (hwf : ∀ p ∈ batch, p.WF) (hver : ∀ p ∈ batch, p.version = v)
    (hdev : e.dev < 65536) (hstream : e.stream < 256)
    (hN : (e.encode batch c).2.length < 65536)
    (arr : List Bytes)
    (harr : ∀ b ∈ arr, ∃ i, Arrived (e.encode batch c).2 c.min b i)
    (hside : SideB (e.encode batch c).2 c.min v arr) :
    ∀ p ∈ (decodeAll tecmpDecode DecState.empty (arr.map some)).2,
      ∃ q ∈ batch, p = sentAs e.dev e.stream c.cap q :=
  fun p hp => (bytes_exact_core e batch c v hc hwf hver hdev hstream hN arr harr hside p hp).imp
    fun q h => ⟨h.1, by rw [h.2, ← dec_sentAs, hver q h.1]⟩

/-- … and for any number of endpoints.  An encoder `e` (any history) encodes
    a batch; `arr` is any list of copies of its serialised frames (any subset, order, multiplicity;
    copies of segment frames may carry another version / message-type byte, `SideB`).  `bufs` is an
    ARBITRARY history of buffers — frames of other encoders / endpoints, TECMP buffers, short
    buffers, null pointers, interleaved at will — whose sub-history addressing `e`'s endpoint is
    `arr`, fed to a decoder in any state `s` with nothing pending for that endpoint.  Then every packet
    delivered by a buffer addressing the endpoint equals, in EVERY field (no mask), `sentAs` of a
    packet of the batch. -/
theorem C06_bytes_exact_interleaved (e : Enc) (batch : List Packet) (c : Ctx) (v : Nat)
    (hc : c.ok = true) (hwf : ∀ p ∈ batch, p.WF) (hver : ∀ p ∈ batch, p.version = v)
    (hdev : e.dev < 65536) (hstream : e.stream < 256)
    (hN : (e.encode batch c).2.length < 65536)
    (arr : List Bytes)
    (harr : ∀ b ∈ arr, ∃ i, Arrived (e.encode batch c).2 c.min b i)
    (hside : SideB (e.encode batch c).2 c.min v arr)
    (bufs : List (Option Bytes)) (s : DecState) (hs : s (e.dev, e.stream) = none)
    (hproj : bufs.filter (fun b => bufEp b = some (e.dev, e.stream)) = arr.map some) :
    ∀ x ∈ (decodeAllT tecmpDecode s bufs).2, x.1 = some (e.dev, e.stream) →
      ∃ q ∈ batch, x.2 = sentAs e.dev e.stream c.cap q := by
  intro x hx hxe
  exact C06_bytes_exact e batch c v hc hwf hver hdev hstream hN arr harr hside x.2
    (isolate_mem tecmpDecode (e.dev, e.stream) bufs (arr.map some) s hs hproj x hx hxe)

/-- `C06_bytes_exact` implies `C06b.C06_bytes` (nothing is lost by dropping the mask) -/
theorem C06_bytes_of_exact (dev stream cap : Nat) (batch : List Packet) (hwf : ∀ p ∈ batch, p.WF) (p : Packet)
    (h : ∃ q ∈ batch, p = sentAs dev stream cap q) : clearSeg p ∈ batch.map (obsSent dev stream) := by
  obtain ⟨q, hq, rfl⟩ := h
  exact List.mem_map.2 ⟨q, hq, (sentAs_clearSeg dev stream cap q (hwf q hq)).symm⟩

/-- Recovery end to end on bytes, any number of endpoints.  `bufs` is an arbitrary history of
    buffers fed to a decoder in an arbitrary state `s` (whatever earlier faults left behind).  If the
    buffers addressing the encoder's endpoint are `pre` (anything), then the serialised frames of a
    batch — segmented and unsegmented packets mixed — complete and in order, then `post` (anything),
    with buffers of other endpoints / TECMP / short / null buffers anywhere in between, then the packets
    delivered for the endpoint are: what `pre` delivers, then exactly the batch (`P_C01`: every
    packet once, in order), then what `post` delivers to a decoder with nothing pending. -/
theorem C06_recovery_bytes_interleaved (e : Enc) (batch : List Packet) (c : Ctx) (v : Nat)
    (hc : c.ok = true) (hne : batch ≠ []) (hwf : ∀ p ∈ batch, p.WF) (hver : ∀ p ∈ batch, p.version = v)
    (hdev : e.dev < 65536) (hstream : e.stream < 256)
    (bufs pre post : List (Option Bytes)) (s : DecState)
    (hproj : bufs.filter (fun b => bufEp b = some (e.dev, e.stream)) =
      pre ++ ((e.encode batch c).2.map (EFrame.bytes c.min)).map some ++ post) :
    ∃ out, ((decodeAllT tecmpDecode s bufs).2.filter (fun x => x.1 = some (e.dev, e.stream))).map (·.2) =
        (decodeAll tecmpDecode s pre).2 ++ out ++ (decodeAll tecmpDecode DecState.empty post).2 ∧
      P_C01 e.dev e.stream batch out = true := by
  have hpost : ∀ b ∈ post, bufEp b = some (e.dev, e.stream) := by
    intro b hb
    have : b ∈ bufs.filter (fun b => bufEp b = some (e.dev, e.stream)) := by
      rw [hproj]; simp [hb]
    simpa using (List.mem_filter.1 this).2
  obtain ⟨h1, h2⟩ := C01.C01_roundtrip e (decodeAll tecmpDecode s pre).1 batch c v hc hne hwf hver hdev hstream
  refine ⟨_, ?_, h1⟩
  rw [(decodeAllT_filter tecmpDecode (e.dev, e.stream) bufs s s rfl).1, hproj,
    (decodeAllT_untag tecmpDecode s _).2, decodeAll_append, decodeAll_append]
  simp only []
  rw [(decodeAll_congr tecmpDecode (e.dev, e.stream) post hpost _ DecState.empty h2).1]

/-! ## a segment whose version byte is corrupted to 0: the property's text is VIOLATED

`Arrived.corrupted` demands `1 ≤ ver`.  That restriction is not cosmetic: `Decoder::decode` routes
every buffer whose first byte is 0 to the stateless TECMP decoder (decoder.cpp:20-21), which reads
its message type from byte 5 (= the CMP stream id) and its data type from bytes 6-7 (= the CMP
sequence counter).  A first-segment frame of stream 3 with counter 2 whose version byte is flipped
to 0 is therefore parsed as a TECMP CAN data frame and a CAN packet assembled from the bytes of an
Ethernet segment is delivered — a packet byte-identical to nothing that was sent.  Witness below;
every line is checked by evaluation of the existing model. -/

namespace VersionZero

/-- one Ethernet packet of 36 payload bytes (flags 0x0004, 30 data bytes): well-formed -/
def pkt : Packet := { payload := some ⟨tyEth, [0,4,0,0,0,30] ++ List.replicate 30 7⟩, version := 1 }
/-- encoder of device 2, stream 3, one frame sent before -/
def enc : Enc := { dev := 2, stream := 3, seqc := 1 }
/-- frames of at most 48 bytes: the packet is cut into two segments -/
def ctx : Ctx := ⟨0, 48⟩

/-- first-segment frame as serialised by the encoder model -/
def frame0 : Bytes :=
  [1,0,0,2,1,3,0,2, 0,0,0,0,0,0,0,0, 0,0,0,0, 4,8,0,24, 0,4,0,0,0,30,7,7,7,7,7,7,7,7,7,7,7,7,7,7,7,7,7,7]
/-- last-segment frame -/
def frame1 : Bytes :=
  [1,0,0,2,1,3,0,3, 0,0,0,0,0,0,0,0, 0,0,0,0, 12,8,0,12, 7,7,7,7,7,7,7,7,7,7,7,7]

theorem hyps : ctx.ok = true ∧ (∀ p ∈ [pkt], p.WF) ∧ (∀ p ∈ [pkt], p.version = 1) ∧
    enc.dev < 65536 ∧ enc.stream < 256 ∧ (enc.encode [pkt] ctx).2.length < 65536 := by
  refine ⟨by decide, ?_, ?_, by decide, by decide, by decide +kernel⟩
  · intro p hp; simp only [List.mem_singleton] at hp; subst hp
    show pkt.wf = true
    decide +kernel
  · intro p hp; simp only [List.mem_singleton] at hp; subst hp; rfl

theorem sent : (enc.encode [pkt] ctx).2.map (EFrame.bytes ctx.min) = [frame0, frame1] := by
  decide +kernel

theorem seg0 : isSegFrame (enc.encode [pkt] ctx).2 0 = true := by decide +kernel

/-- the arrived buffer: frame 0 with the version byte overwritten by 0 and the message type byte
    left as it was — exactly the shape of `Arrived.corrupted` with `ver = 0` -/
def bad : Bytes := writeAt (writeAt frame0 0 [UInt8.ofNat 0]) 4 [UInt8.ofNat 1]

/-- the packet the decoder hands out for it: a CAN packet (type 0x0101) made of Ethernet bytes -/
def ghost : Packet :=
  { payload := some ⟨tyCan, [0,0,0,0, 0,30,7,7, 0,0,7,7, 0,0,7,7, 7,7,7,7,7,7,7]⟩,
    version := 1, deviceId := 0, streamId := 0, ts := 67633176 }

/-- the clean frames deliver the packet that was sent (so the witness is a well-behaved stream) -/
theorem clean_ok : (decodeAll tecmpDecode DecState.empty [some frame0, some frame1]).2 =
    [sentAs 2 3 ctx.cap pkt] := by decide +kernel

/-- Violation.  The single corrupted copy alone makes the decoder deliver `ghost` … -/
theorem delivered : (decodeAll tecmpDecode DecState.empty [some bad]).2 = [ghost] := by decide +kernel

/-- … also from any decoder state and in the middle of the clean stream (the TECMP path is stateless) … -/
theorem delivered_any (s : DecState) : (decodeWith tecmpDecode s (some bad)).2 = [ghost] ∧
    (decodeWith tecmpDecode s (some bad)).1 = s := by
  have h8 : ¬ bad.length < 8 := by decide
  have h0 : byteAt bad 0 = 0 := by decide
  have ht : tecmpDecode bad = [ghost] := by decide +kernel
  simp only [decodeWith, h8, h0, if_false, if_true, ht, and_self]

/-- … and `ghost` is not a packet that was sent, even after masking the segmentation bits -/
theorem ghost_not_sent : clearSeg ghost ∉ [pkt].map (obsSent enc.dev enc.stream) := by decide +kernel

end VersionZero

/-- The property's text fails for "a segment arrives with a different version" when the different
    version is 0.  There are an encoder, a batch and a configuration satisfying every hypothesis of
    `C06b.C06_bytes`, and a single arrived buffer that is a copy of a segment frame whose version byte
    reads 0 (shape of `Arrived.corrupted` with `ver = 0`), such that the decoder delivers a packet that
    is not one of the packets sent.  Hence `1 ≤ ver` cannot be dropped from `Arrived.corrupted`, and the
    statement "every packet the decoder still delivers is byte-identical to one that was sent" is
    false for this fault. -/
theorem C06_version_zero_violation :
    ∃ (e : Enc) (batch : List Packet) (c : Ctx) (f : EFrame) (mt : Nat),
      c.ok = true ∧ (∀ p ∈ batch, p.WF) ∧ (∀ p ∈ batch, p.version = 1) ∧
      e.dev < 65536 ∧ e.stream < 256 ∧ (e.encode batch c).2.length < 65536 ∧
      (e.encode batch c).2[0]? = some f ∧ isSegFrame (e.encode batch c).2 0 = true ∧ mt < 256 ∧
      ∃ p ∈ (decodeAll tecmpDecode DecState.empty
              [some (writeAt (writeAt (EFrame.bytes c.min f) 0 [UInt8.ofNat 0]) 4 [UInt8.ofNat mt])]).2,
        clearSeg p ∉ batch.map (obsSent e.dev e.stream) := by
  obtain ⟨h1, h2, h3, h4, h5, h6⟩ := VersionZero.hyps
  obtain ⟨f, hf, hb⟩ := frame_of VersionZero.sent (i := 0) rfl
  refine ⟨VersionZero.enc, [VersionZero.pkt], VersionZero.ctx, f, 1, h1, h2, h3, h4, h5, h6,
    hf, VersionZero.seg0, by decide, VersionZero.ghost, ?_, VersionZero.ghost_not_sent⟩
  rw [hb]
  exact VersionZero.delivered ▸ List.mem_singleton_self _

/-! ## the byte-level theorems are not vacuous -/

/-- a buffer is a copy of at most one frame of an `encode` call of fewer than 65536 frames: the
    sequence counter identifies the frame -/
theorem arrived_index (e : Enc) (batch : List Packet) (c : Ctx) (v : Nat)
    (hc : c.ok = true) (hwf : ∀ p ∈ batch, p.WF) (hver : ∀ p ∈ batch, p.version = v)
    (hdev : e.dev < 65536) (hstream : e.stream < 256)
    (hN : (e.encode batch c).2.length < 65536) (hv1 : 1 ≤ v) (hv2 : v < 256)
    {b : Bytes} {i i' : Nat}
    (h : Arrived (e.encode batch c).2 c.min b i) (h' : Arrived (e.encode batch c).2 c.min b i') : i = i' := by
  let X : Setup := mkSetup e batch c v hc hwf hver hdev hstream hN hv1 hv2
  exact copy_index X (copy_of_arrP X (arrP_of_arrived h)).1 (copy_of_arrP X (arrP_of_arrived h')).1

namespace VersionZero

/-- last-segment frame with the version byte corrupted to 9 (a genuinely different, non-zero version) -/
def c1 : Bytes := writeAt (writeAt frame1 0 [UInt8.ofNat 9]) 4 [UInt8.ofNat 1]

/-- what arrives: first segment, a corrupted copy of the last segment (kills the reassembly), then
    the first segment again (duplicate) and the clean last segment -/
def arr : List Bytes := [frame0, c1, frame0, frame1]

/-- the index of the frame a buffer copies, read off its sequence counter (`enc` has sent one frame before) -/
def idx (b : Bytes) : Nat := byteAt b 7 - 2

theorem frames_mt : ∀ f ∈ (enc.encode [pkt] ctx).2, f.mt = 1 := by
  have : ((enc.encode [pkt] ctx).2.all fun f => f.mt == 1) = true := by decide +kernel
  intro f hf
  simpa using List.all_eq_true.1 this f hf

theorem frame_cases {i : Nat} {b : Bytes} (hb : [frame0, frame1][i]? = some b) :
    ∃ f, (enc.encode [pkt] ctx).2[i]? = some f ∧ EFrame.bytes ctx.min f = b :=
  frame_of sent hb

theorem arr_arrived : ∀ b ∈ arr, ∃ i, Arrived (enc.encode [pkt] ctx).2 ctx.min b i := by
  simp only [arr, List.forall_mem_cons]
  exact ⟨⟨0, arrived_clean_of sent rfl⟩,
    ⟨1, arrived_corrupted_of sent rfl (by decide +kernel) 9 1 (by decide) (by decide) (by decide)⟩,
    ⟨0, arrived_clean_of sent rfl⟩, ⟨1, arrived_clean_of sent rfl⟩, nofun⟩

theorem arr_side : SideB (enc.encode [pkt] ctx).2 ctx.min 1 arr := by
  obtain ⟨hc, hwf, hver, hdev, hstream, hN⟩ := hyps
  intro b hb b' hb' i i' f ha ha' hne hf _ _ _ h0 _
  rw [frames_mt f (List.mem_of_getElem? hf)]
  -- clean copies carry the original pair; the corrupted copy agrees with no OTHER arrived buffer
  have : ∀ b ∈ arr, ∀ b' ∈ arr, byteAt b 0 = byteAt b' 0 → (byteAt b 0 = 1 ∧ byteAt b 4 = 1) ∨ b = b' := by
    decide +kernel
  rcases this b hb b' hb' h0 with h | rfl
  · exact h
  · exact absurd (arrived_index enc [pkt] ctx 1 hc hwf hver hdev hstream hN (by decide) (by decide) ha ha') hne

/-- Instance of `C06b.C06_bytes` / `C06_bytes_exact` with a genuinely corrupted copy: all
    hypotheses hold, and the decoder's output is literally the one sent packet (with the
    first-segment bits 0x04 in its flags), delivered once. -/
theorem nonvacuous_bytes :
    (∀ b ∈ arr, ∃ i, Arrived (enc.encode [pkt] ctx).2 ctx.min b i) ∧
    SideB (enc.encode [pkt] ctx).2 ctx.min 1 arr ∧
    (decodeAll tecmpDecode DecState.empty (arr.map some)).2 =
      [{ payload := some ⟨tyEth, [0,4,0,0,0,30] ++ List.replicate 30 7⟩, version := 1,
         deviceId := 2, streamId := 3, flags := 4 }] :=
  ⟨arr_arrived, arr_side, by decide +kernel⟩

example : ∀ p ∈ (decodeAll tecmpDecode DecState.empty (arr.map some)).2,
    ∃ q ∈ [pkt], p = sentAs enc.dev enc.stream ctx.cap q :=
  C06_bytes_exact enc [pkt] ctx 1 hyps.1 hyps.2.1 hyps.2.2.1 hyps.2.2.2.1 hyps.2.2.2.2.1 hyps.2.2.2.2.2
    arr arr_arrived arr_side

example : sentAs enc.dev enc.stream ctx.cap pkt =
    { payload := some ⟨tyEth, [0,4,0,0,0,30] ++ List.replicate 30 7⟩, version := 1,
      deviceId := 2, streamId := 3, flags := 4 } := by decide +kernel

end VersionZero

/-! ### instances of the several-endpoint theorems -/

namespace VersionZero

/-- a frame of ANOTHER endpoint (device 7, stream 1) holding one unsegmented LIN message: the kind
    of frame that would kill endpoint (2,3)'s reassembly if `erase` were `clear` -/
def other : Bytes := [1,0,0,7,1,1,0,1, 0,0,0,0,0,0,0,0, 0,0,0,0, 0,3,0,8, 0,0,0,0,0,0,0,0]

/-- the arrived copies of `arr`, with frames of the other endpoint, a null pointer and a short
    buffer interleaved — also between the two segments of the message that is finally delivered -/
def bufs : List (Option Bytes) :=
  [some frame0, some other, none, some [0,1,2], some c1, some other, some frame0, some other, some frame1]

theorem bufs_proj : bufs.filter (fun b => bufEp b = some (enc.dev, enc.stream)) = arr.map some := by
  decide +kernel

/-- instance of `C06_bytes_exact_interleaved`; the hypotheses hold … -/
example : ∀ x ∈ (decodeAllT tecmpDecode DecState.empty bufs).2, x.1 = some (enc.dev, enc.stream) →
    ∃ q ∈ [pkt], x.2 = sentAs enc.dev enc.stream ctx.cap q :=
  C06_bytes_exact_interleaved enc [pkt] ctx 1 hyps.1 hyps.2.1 hyps.2.2.1 hyps.2.2.2.1 hyps.2.2.2.2.1
    hyps.2.2.2.2.2 arr arr_arrived arr_side bufs DecState.empty rfl bufs_proj

/-- … and the message IS delivered for endpoint (2,3), once, although three frames of endpoint (7,1)
    were decoded while its reassembly was open -/
example : (decodeAllT tecmpDecode DecState.empty bufs).2.filter (fun x => x.1 = some (2, 3)) =
    [(some (2, 3), { payload := some ⟨tyEth, [0,4,0,0,0,30] ++ List.replicate 30 7⟩, version := 1,
                     deviceId := 2, streamId := 3, flags := 4 })] := by decide +kernel

/-- instance of `C06_recovery_bytes_interleaved`: `pre = [frame0, c1]` (a reassembly opened and
    killed), then the clean batch with foreign buffers in between -/
example : ∃ out, ((decodeAllT tecmpDecode DecState.empty bufs).2.filter
      (fun x => x.1 = some (enc.dev, enc.stream))).map (·.2) =
      (decodeAll tecmpDecode DecState.empty [some frame0, some c1]).2 ++ out ++
        (decodeAll tecmpDecode DecState.empty []).2 ∧
    P_C01 enc.dev enc.stream [pkt] out = true :=
  C06_recovery_bytes_interleaved enc [pkt] ctx 1 hyps.1 (by simp) hyps.2.1 hyps.2.2.1 hyps.2.2.2.1
    hyps.2.2.2.2.1 bufs [some frame0, some c1] [] DecState.empty
    (by rw [sent]; decide +kernel)

end VersionZero

namespace AbstractExample
open AsamCmp.C06Example

/-- frames of two other endpoints: an unsegmented frame and a stray last segment -/
def x1 : PFrame := ⟨(9, 9), 1, 2, 17, [pkt], .done⟩
def x2 : PFrame := ⟨(3, 6), 1, 2, 0, [], .seg (sf1.hdr ++ sf1.body)⟩

/-- endpoint (3,5): a stale first segment, then the clean message `a1, a2`, then an unsegmented frame;
    foreign frames everywhere, also between `a1` and `a2` -/
def hist : List PFrame := [x1, a1, x2, a1, x1, x2, a2, x1, u0]

theorem hist_proj : hist.filter (fun f => f.ep = exS.ep) = [a1] ++ exS.cleanRun 1 sf0 ++ [u0] := by rfl

/-- instance of `C06_recovery_interleaved`, from a decoder state that holds garbage for (3,5) -/
example (s : DecState) :
    (runT s hist).2.filter (fun x => x.1 = exS.ep) =
      ((runLocal (s exS.ep) [a1]).2 ++ [exS.expected 1 sf0] ++ (runLocal none [u0]).2).map
        (fun p => (exS.ep, p)) :=
  C06_recovery_interleaved exS 1 sf0 rfl rfl hist [a1] [u0] s hist_proj

/-- the conclusion computes: for endpoint (3,5) exactly the reassembled message and the
    unsegmented packet are delivered -/
example : (runT DecState.empty hist).2.filter (fun x => x.1 = exS.ep) =
    [((3, 5), exS.expected 1 sf0), ((3, 5), pkt)] := by decide +kernel

/-- `expected_eq` on the example: the sender's view of the expected packet, literally -/
example : exS.expected 1 sf0 =
    { payload := some ⟨0x0201, [0xAA, 0xBB, 0xCC]⟩, version := 1, deviceId := 3, streamId := 5, flags := 4 } := by
  rw [expected_eq exS 1 sf0 rfl (by decide)]
  decide +kernel

end AbstractExample

/-! ### `Side2` is strictly weaker than `Side`: first(v=9), middle(v=1), last(v=9) -/

namespace Side2Example

def h0 : Bytes := [0,0,0,0,0,0,0,0, 0,0,0,0, 4, 1, 0, 1]
def h1 : Bytes := [0,0,0,0,0,0,0,0, 0,0,0,0, 8, 1, 0, 1]
def h2 : Bytes := [0,0,0,0,0,0,0,0, 0,0,0,0, 12, 1, 0, 1]
def s0 : SF := ⟨1, 2, 7, 0, 3, h0, [0xAA]⟩
def s1 : SF := ⟨1, 2, 7, 1, 3, h1, [0xBB]⟩
def s2 : SF := ⟨1, 2, 7, 2, 3, h2, [0xCC]⟩

/-- one message of three segments -/
def at3 : Nat → Option Sent
  | 0 => some (.segF s0)
  | 1 => some (.segF s1)
  | 2 => some (.segF s2)
  | _ + 3 => none

theorem at3_seg {i : Nat} {f : SF} (h : at3 i = some (.segF f)) :
    (i = 0 ∧ f = s0) ∨ (i = 1 ∧ f = s1) ∨ (i = 2 ∧ f = s2) := by
  match i with
  | 0 => simp only [at3, Option.some.injEq, Sent.segF.injEq] at h; exact Or.inl ⟨rfl, h.symm⟩
  | 1 => simp only [at3, Option.some.injEq, Sent.segF.injEq] at h; exact Or.inr (Or.inl ⟨rfl, h.symm⟩)
  | 2 => simp only [at3, Option.some.injEq, Sent.segF.injEq] at h; exact Or.inr (Or.inr ⟨rfl, h.symm⟩)
  | _ + 3 => simp [at3] at h

def S3 : SStream where
  ep := (3, 5)
  N := 3
  s0 := 65535
  at_ := at3
  hN := by decide
  dom := by
    intro i
    match i with
    | 0 => simp [at3]
    | 1 => simp [at3]
    | 2 => simp [at3]
    | _ + 3 => simp [at3]
  unsegT := by
    intro i pkts t h
    match i with
    | 0 => simp [at3] at h
    | 1 => simp [at3] at h
    | 2 => simp [at3] at h
    | _ + 3 => simp [at3] at h
  next := by
    intro i f h hk
    rcases at3_seg h with ⟨rfl, rfl⟩ | ⟨rfl, rfl⟩ | ⟨rfl, rfl⟩
    · exact ⟨s1, rfl, rfl, rfl, rfl, rfl, rfl⟩
    · exact ⟨s2, rfl, rfl, rfl, rfl, rfl, rfl⟩
    · simp [s2] at hk
  kn := by
    intro i f h
    rcases at3_seg h with ⟨rfl, rfl⟩ | ⟨rfl, rfl⟩ | ⟨rfl, rfl⟩ <;> decide
  hdrOk := by
    intro i f h
    rcases at3_seg h with ⟨rfl, rfl⟩ | ⟨rfl, rfl⟩ | ⟨rfl, rfl⟩ <;> decide

/-- first and last segment with the version corrupted to 9, the middle one clean; then clean copies -/
def c0 : PFrame := ⟨S3.ep, 9, 2, S3.seq 0, [], .seg (s0.hdr ++ s0.body)⟩
def m1 : PFrame := ⟨S3.ep, 1, 2, S3.seq 1, [], .seg (s1.hdr ++ s1.body)⟩
def c2 : PFrame := ⟨S3.ep, 9, 2, S3.seq 2, [], .seg (s2.hdr ++ s2.body)⟩
def a0 : PFrame := ⟨S3.ep, 1, 2, S3.seq 0, [], .seg (s0.hdr ++ s0.body)⟩
def a2 : PFrame := ⟨S3.ep, 1, 2, S3.seq 2, [], .seg (s2.hdr ++ s2.body)⟩

def arrived : List PFrame := [c0, m1, c2, a0, m1, a2]

theorem arrived_copy : ∀ g ∈ arrived, ∃ i, Copy S3 g i := by
  simp only [arrived, List.forall_mem_cons]
  exact ⟨⟨0, Copy.seg 0 s0 9 2 rfl⟩, ⟨1, Copy.seg 1 s1 1 2 rfl⟩, ⟨2, Copy.seg 2 s2 9 2 rfl⟩,
    ⟨0, Copy.seg 0 s0 1 2 rfl⟩, ⟨1, Copy.seg 1 s1 1 2 rfl⟩, ⟨2, Copy.seg 2 s2 1 2 rfl⟩, nofun⟩

/-- the weak side condition holds: no wrong pair is carried by copies of all three segments -/
theorem arrived_side2 : Side2 S3 arrived := by
  intro i0 f0 hat hk v t hne
  -- the middle segment has only clean copies
  have hcl : ∀ g ∈ arrived, g.seq = S3.seq 1 → g.ver = 1 ∧ g.mt = 2 := by decide +kernel
  rcases at3_seg hat with ⟨rfl, rfl⟩ | ⟨rfl, rfl⟩ | ⟨rfl, rfl⟩
  · refine ⟨1, by decide, fun g hg hc hp => hne ?_⟩
    obtain ⟨h1, h2⟩ := hcl g hg hc.seq_eq
    exact ⟨hp.1.symm.trans h1, hp.2.symm.trans h2⟩
  · simp [s1] at hk
  · simp [s2] at hk

/-- … but the side condition `Side` FAILS on this history -/
theorem arrived_not_side : ¬ Side S3 arrived := by
  intro h
  have := h c0 (by simp [arrived]) c2 (by simp [arrived]) 0 2 s0 s2 (Copy.seg 0 s0 9 2 rfl)
    (Copy.seg 2 s2 9 2 rfl) rfl rfl rfl (by decide) rfl rfl
  exact absurd this.1 (by decide)

/-- non-vacuity of `C06_no_corruption2` outside the domain of `C06_no_corruption`: the corrupted
    attempt is rejected at the middle segment and only the clean message is delivered -/
theorem nonvacuous2 : Side2 S3 arrived ∧ ¬ Side S3 arrived ∧ (∀ g ∈ arrived, ∃ i, Copy S3 g i) ∧
    (runLocal none arrived).2 = [S3.expected 0 s0] ∧
    (S3.expected 0 s0).payload = some ⟨0x0201, [0xAA, 0xBB, 0xCC]⟩ ∧ (S3.expected 0 s0).version = 1 :=
  ⟨arrived_side2, arrived_not_side, arrived_copy, by decide +kernel, by decide +kernel, by decide +kernel⟩

end Side2Example

/-! ### … and end to end on bytes under the weak side condition -/

/-- byte-level `Side2`: for every first-segment frame `i0` (its single message `m` belongs to a packet
    the encoder cut into `nOf c m` segments, which sit in frames `i0 … i0 + nOf c m - 1`) and every
    WRONG (version byte, type byte) pair, some segment of the packet has no arrived copy carrying
    that pair -/
def SideB2 (fs : List EFrame) (c : Ctx) (v : Nat) (arr : List Bytes) : Prop :=
  ∀ i0 f m, fs[i0]? = some f → f.msgs = [m] → m.seg = 4 → ∀ ver t, ¬ (ver = v ∧ t = f.mt) →
    ∃ k, k < nOf c m ∧ ∀ b ∈ arr, Arrived fs c.min b (i0 + k) → ¬ (byteAt b 0 = ver ∧ byteAt b 4 = t)

theorem side2_of (X : Setup) (arr : List Bytes) (harr : ∀ b ∈ arr, ∃ i, ArrP X.fs X.min b i)
    (hmin : X.min = X.c.min) (hside : SideB2 X.fs X.c X.v arr) : Side2 X.S (arr.map parseFrame) := by
  intro i0 f0 hat hk ver t hne
  obtain ⟨f, ip, i0', j, x, hf, hip, hij, hrun, h2, hx, hfm, hfmt, rfl⟩ := sentOf_seg_inv X hat
  simp only at hk
  subst hk
  simp only at hne
  obtain ⟨k, hkn, hno⟩ := hside i0 f _ hf hfm (by simp [segCode]) ver t (by rw [hfmt]; exact hne)
  refine ⟨k, by simpa [nOf] using hkn, ?_⟩
  intro g hg hcg hp
  obtain ⟨b, hb, rfl⟩ := List.mem_map.mp hg
  obtain ⟨j', hj'⟩ := harr b hb
  have e1 := copy_index X hcg (copy_of_arrP X hj').1
  subst e1
  rw [hmin] at hj'
  exact hno b hb (arrived_of_arrP hj') hp

/-- a segment all of whose arrived copies carry the original pair witnesses `SideB2` for its message -/
theorem sideB2_of_clean (fs : List EFrame) (c : Ctx) (v : Nat) (arr : List Bytes)
    (h : ∀ i0 f m, fs[i0]? = some f → f.msgs = [m] → m.seg = 4 →
      ∃ k, k < nOf c m ∧ ∀ b ∈ arr, Arrived fs c.min b (i0 + k) → byteAt b 0 = v ∧ byteAt b 4 = f.mt) :
    SideB2 fs c v arr := by
  intro i0 f m hf hm hseg ver t hne
  obtain ⟨k, hk, hcl⟩ := h i0 f m hf hm hseg
  exact ⟨k, hk, fun b hb ha hp => hne ⟨hp.1.symm.trans (hcl b hb ha).1, hp.2.symm.trans (hcl b hb ha).2⟩⟩

/-- reading a single-message frame off an evaluated table of (message type, segment flags and counts) -/
theorem shape_at {fs : List EFrame} {c : Ctx} {tbl : List (Nat × List (Nat × Nat))}
    (h : fs.map (fun f => (f.mt, f.msgs.map (fun m => (m.seg, nOf c m)))) = tbl)
    {i : Nat} {f : EFrame} {m : EMsg} (hf : fs[i]? = some f) (hm : f.msgs = [m]) :
    tbl[i]? = some (f.mt, [(m.seg, nOf c m)]) := by
  rw [← h, List.getElem?_map, hf, Option.map_some, hm]
  rfl

/-- C06 on bytes for any `Setup` under the weak side condition, every field exact -/
theorem weak_core (X : Setup) (hmin : X.min = X.c.min) (arr : List Bytes)
    (harr : ∀ b ∈ arr, ∃ i, Arrived X.fs X.c.min b i) (hside : SideB2 X.fs X.c X.v arr) :
    ∀ p ∈ (decodeAll tecmpDecode DecState.empty (arr.map some)).2,
      ∃ ip ∈ X.ib, p = dec X.dev X.stream X.v ip.2 (if 16 + ip.2.data.length ≤ X.c.cap then 0 else 4) := by
  have harrX : ∀ b ∈ arr, ∃ i, ArrP X.fs X.min b i := fun b hb => (harr b hb).imp fun _ h => hmin ▸ arrP_of_arrived h
  exact good_of_arrived X arr harrX (side2_of X arr harrX hmin hside)

/-- C06 end to end under the weakest side condition, exact, any number of endpoints: the
    statement of `C06_bytes_exact_interleaved` with `SideB2` for `SideB`.  Allows e.g. a three-segment
    packet whose first and last segment frames arrive (also) with version byte 9 while the middle one
    arrives only clean. -/
theorem C06_bytes_weak_side (e : Enc) (batch : List Packet) (c : Ctx) (v : Nat)
    (hc : c.ok = true) (hwf : ∀ p ∈ batch, p.WF) (hver : ∀ p ∈ batch, p.version = v)
    (hdev : e.dev < 65536) (hstream : e.stream < 256)
    (hN : (e.encode batch c).2.length < 65536)
    (arr : List Bytes)
    (harr : ∀ b ∈ arr, ∃ i, Arrived (e.encode batch c).2 c.min b i)
    (hside : SideB2 (e.encode batch c).2 c v arr)
    (bufs : List (Option Bytes)) (s : DecState) (hs : s (e.dev, e.stream) = none)
    (hproj : bufs.filter (fun b => bufEp b = some (e.dev, e.stream)) = arr.map some) :
    ∀ x ∈ (decodeAllT tecmpDecode s bufs).2, x.1 = some (e.dev, e.stream) →
      ∃ q ∈ batch, x.2 = sentAs e.dev e.stream c.cap q := by
  intro x hx hxe
  have hp := isolate_mem tecmpDecode (e.dev, e.stream) bufs (arr.map some) s hs hproj x hx hxe
  obtain ⟨hv1, hv2⟩ := ver_of_output (fun h => h ▸ (encode_nil e c).1) hwf hver harr hp
  obtain ⟨ip, hip, hpe⟩ := weak_core (mkSetup e batch c v hc hwf hver hdev hstream hN hv1 hv2) rfl arr harr hside x.2 hp
  have hq := zip_mem batch ip hip
  exact ⟨ip.2, hq, by rw [hpe, ← dec_sentAs, hver ip.2 hq]; rfl⟩

/-! ### instance of `C06_bytes_weak_side` outside the domain of `C06b.C06_bytes` -/

namespace WeakSideBytes
open VersionZero

/-- an Ethernet packet of 60 payload bytes: three segments under `ctx` (frames of ≤ 48 bytes) -/
def pkt3 : Packet := { payload := some ⟨tyEth, [0,4,0,0,0,54] ++ List.replicate 54 7⟩, version := 1 }

def g0 : Bytes :=
  [1,0,0,2,1,3,0,2, 0,0,0,0,0,0,0,0, 0,0,0,0, 4,8,0,24, 0,4,0,0,0,54,7,7,7,7,7,7,7,7,7,7,7,7,7,7,7,7,7,7]
def g1 : Bytes :=
  [1,0,0,2,1,3,0,3, 0,0,0,0,0,0,0,0, 0,0,0,0, 8,8,0,24, 7,7,7,7,7,7,7,7,7,7,7,7,7,7,7,7,7,7,7,7,7,7,7,7]
def g2 : Bytes :=
  [1,0,0,2,1,3,0,4, 0,0,0,0,0,0,0,0, 0,0,0,0, 12,8,0,12, 7,7,7,7,7,7,7,7,7,7,7,7]
/-- first and last segment frame with version byte 9 -/
def k0 : Bytes := writeAt (writeAt g0 0 [UInt8.ofNat 9]) 4 [UInt8.ofNat 1]
def k2 : Bytes := writeAt (writeAt g2 0 [UInt8.ofNat 9]) 4 [UInt8.ofNat 1]

/-- first(v=9), middle(clean), last(v=9), then the clean message -/
def arr3 : List Bytes := [k0, g1, k2, g0, g1, g2]

theorem hyps3 : ctx.ok = true ∧ (∀ p ∈ [pkt3], p.WF) ∧ (∀ p ∈ [pkt3], p.version = 1) ∧
    enc.dev < 65536 ∧ enc.stream < 256 ∧ (enc.encode [pkt3] ctx).2.length < 65536 := by
  refine ⟨by decide, ?_, ?_, by decide, by decide, by decide +kernel⟩
  · intro p hp; simp only [List.mem_singleton] at hp; subst hp
    show pkt3.wf = true
    decide +kernel
  · intro p hp; simp only [List.mem_singleton] at hp; subst hp; rfl

theorem sent3 : (enc.encode [pkt3] ctx).2.map (EFrame.bytes ctx.min) = [g0, g1, g2] := by decide +kernel

theorem shape3 : (enc.encode [pkt3] ctx).2.map (fun f => (f.mt, f.msgs.map (fun m => (m.seg, nOf ctx m)))) =
    [(1, [(4, 3)]), (1, [(8, 3)]), (1, [(12, 3)])] := by decide +kernel

theorem frame_cases3 {i : Nat} {b : Bytes} (hb : [g0, g1, g2][i]? = some b) :
    ∃ f, (enc.encode [pkt3] ctx).2[i]? = some f ∧ EFrame.bytes ctx.min f = b :=
  frame_of sent3 hb

theorem arr3_index : ∀ b ∈ arr3, Arrived (enc.encode [pkt3] ctx).2 ctx.min b (idx b) := by
  have a0 : Arrived (enc.encode [pkt3] ctx).2 ctx.min g0 0 := arrived_clean_of sent3 rfl
  have a1 : Arrived (enc.encode [pkt3] ctx).2 ctx.min g1 1 := arrived_clean_of sent3 rfl
  have a2 : Arrived (enc.encode [pkt3] ctx).2 ctx.min g2 2 := arrived_clean_of sent3 rfl
  have b0 : Arrived (enc.encode [pkt3] ctx).2 ctx.min k0 0 :=
    arrived_corrupted_of sent3 rfl (by decide +kernel) 9 1 (by decide) (by decide) (by decide)
  have b2 : Arrived (enc.encode [pkt3] ctx).2 ctx.min k2 2 :=
    arrived_corrupted_of sent3 rfl (by decide +kernel) 9 1 (by decide) (by decide) (by decide)
  simp only [arr3, List.forall_mem_cons]
  exact ⟨b0, a1, b2, a0, a1, a2, nofun⟩

theorem arr3_arrived : ∀ b ∈ arr3, ∃ i, Arrived (enc.encode [pkt3] ctx).2 ctx.min b i :=
  fun b hb => ⟨idx b, arr3_index b hb⟩

theorem arr3_side2 : SideB2 (enc.encode [pkt3] ctx).2 ctx 1 arr3 := by
  obtain ⟨hc, hwf, hver, hdev, hstream, hN⟩ := hyps3
  refine sideB2_of_clean _ _ _ _ fun i0 f m hf hm hseg => ?_
  have hsh := shape_at shape3 hf hm
  rw [hseg] at hsh
  -- the only first-segment frame is frame 0; its message has 3 segments; the middle one arrived only clean
  have hcl : ∀ b ∈ arr3, idx b = 0 + 1 → byteAt b 0 = 1 ∧ byteAt b 4 = 1 := by decide +kernel
  match i0, hsh with
  | 0, hsh =>
    simp only [List.getElem?_cons_zero, Option.some.injEq, Prod.mk.injEq, List.cons.injEq, and_true,
      true_and] at hsh
    rw [← hsh.1, ← hsh.2]
    exact ⟨1, by decide, fun b hb ha => hcl b hb
      (arrived_index enc [pkt3] ctx 1 hc hwf hver hdev hstream hN (by decide) (by decide) (arr3_index b hb) ha)⟩
  | 1, hsh => simp at hsh
  | 2, hsh => simp at hsh
  | _ + 3, hsh => simp at hsh

/-- the side condition `SideB` FAILS on this history (first and last segment frame agree
    on the wrong version 9) … -/
theorem arr3_not_sideB : ¬ SideB (enc.encode [pkt3] ctx).2 ctx.min 1 arr3 := by
  intro h
  obtain ⟨f0, hf0, _⟩ := frame_cases3 (i := 0) rfl
  have := h k0 (by simp [arr3]) k2 (by simp [arr3]) 0 2 f0 (arr3_index k0 (by simp [arr3]))
    (arr3_index k2 (by simp [arr3])) (by decide) hf0
    (by decide +kernel) (by decide +kernel) (by decide +kernel) (by decide) (by decide)
  exact absurd this.1 (by decide)

/-- … while all hypotheses of `C06_bytes_weak_side` hold and the decoder delivers exactly the sent
    packet, once (the corrupted attempt is rejected at the middle segment) -/
theorem nonvacuous_weak :
    (∀ b ∈ arr3, ∃ i, Arrived (enc.encode [pkt3] ctx).2 ctx.min b i) ∧
    SideB2 (enc.encode [pkt3] ctx).2 ctx 1 arr3 ∧ ¬ SideB (enc.encode [pkt3] ctx).2 ctx.min 1 arr3 ∧
    (decodeAll tecmpDecode DecState.empty (arr3.map some)).2 = [sentAs 2 3 ctx.cap pkt3] :=
  ⟨arr3_arrived, arr3_side2, arr3_not_sideB, by decide +kernel⟩

end WeakSideBytes

/-! ## a stream accumulated over SEVERAL `encode` calls

The frames of a history of `encode` calls on one encoder object (existing `Enc.runOps`), all with
the same configuration and protocol version.  Sequence counters continue across the calls
(`C09_encode`), so the concatenation is again ONE sent stream in the sense of the fault model. -/

/-- the frames of consecutive `encode` calls, in order: `Enc.runOps` on a history of encode operations -/
def callsFrames (e : Enc) (c : Ctx) (bs : List (List Packet)) : List EFrame :=
  (e.runOps (bs.map fun b => EncOp.encode b c)).2.flatten

theorem callsFrames_cons (e : Enc) (c : Ctx) (b : List Packet) (bs : List (List Packet)) :
    callsFrames e c (b :: bs) = (e.encode b c).2 ++ callsFrames (e.encode b c).1 c bs := rfl

/-- the (index, packet) pairs of all calls -/
def callsIb (bs : List (List Packet)) : List (Nat × Packet) :=
  bs.flatMap fun b => (List.range b.length).zip b

theorem callsIb_mem (bs : List (List Packet)) : ∀ ip ∈ callsIb bs, ip.2 ∈ bs.flatten := by
  intro ip hip
  obtain ⟨b, hb, hipb⟩ := List.mem_flatMap.1 hip
  exact List.mem_flatten.2 ⟨b, hb, zip_mem b ip hipb⟩

theorem calls_index (c : Ctx) : ∀ (bs : List (List Packet)) (e : Enc), e.Idle →
    ∀ i (h : i < (callsFrames e c bs).length), (callsFrames e c bs)[i].seq = (e.seqc + i + 1) % 65536 := by
  intro bs
  induction bs with
  | nil => intro e _ i h; simp [callsFrames, Enc.runOps] at h
  | cons b bs ih =>
    intro e hidle i h
    obtain ⟨hidle', _, _, hseqc, hidx, _, _⟩ := C09_encode e b c hidle
    have h' : i < ((e.encode b c).2 ++ callsFrames (e.encode b c).1 c bs).length := h
    show ((e.encode b c).2 ++ callsFrames (e.encode b c).1 c bs)[i].seq = _
    rw [List.length_append] at h'
    by_cases hi : i < (e.encode b c).2.length
    · rw [List.getElem_append_left hi]
      exact (hidx i hi).1
    · rw [List.getElem_append_right (Nat.le_of_not_lt hi),
        ih _ hidle' _ (Nat.sub_lt_left_of_lt_add (Nat.le_of_not_lt hi) h'), hseqc,
        Nat.add_assoc ((e.seqc + _) % 65536), Nat.mod_add_mod]
      congr 1
      clear hseqc hidx ih
      omega

theorem calls_frok (c : Ctx) (v dev stream : Nat) (hcap : 17 ≤ c.cap) (hv : v < 256) :
    ∀ (bs : List (List Packet)) (e : Enc), e.Idle → e.dev = dev → e.stream = stream →
    (∀ p ∈ bs.flatten, p.WF ∧ p.version = v) →
    ∀ f ∈ callsFrames e c bs, FrOk dev stream v f := by
  intro bs
  induction bs with
  | nil => intro e _ _ _ _ f hf; simp [callsFrames, Enc.runOps] at hf
  | cons b bs ih =>
    intro e hidle hd hs hall f hf
    obtain ⟨hidle', hd', hs', _⟩ := C09_encode e b c hidle
    rw [callsFrames_cons] at hf
    rcases List.mem_append.1 hf with hf | hf
    · have := encode_good e b c v hcap (fun p hp => (hall p (by simp [hp])).1)
        (fun p hp => (hall p (by simp [hp])).2) hv
      rw [hd, hs] at this
      exact this.1 f hf
    · exact ih _ hidle' (hd'.trans hd) (hs'.trans hs)
        (fun p hp => hall p (by simp only [List.flatten_cons, List.mem_append]; exact Or.inr hp)) f hf

theorem calls_flat (c : Ctx) (hcap : 17 ≤ c.cap) : ∀ (bs : List (List Packet)) (e : Enc),
    (callsFrames e c bs).flatMap (·.msgs) = (callsIb bs).flatMap (fun ip => pieces c ip.1 ip.2) := by
  intro bs
  induction bs with
  | nil => intro e; rfl
  | cons b bs ih =>
    intro e
    rw [callsFrames_cons, List.flatMap_append, (encode_spec e b c hcap).2.1, ih]
    simp [callsIb]

theorem calls_nil (c : Ctx) : ∀ (bs : List (List Packet)) (e : Enc), bs.flatten = [] →
    callsFrames e c bs = [] := by
  intro bs
  induction bs with
  | nil => intro e _; rfl
  | cons b bs ih =>
    intro e h
    obtain ⟨rfl, h'⟩ := List.append_eq_nil_iff.1 (List.flatten_cons ▸ h)
    rw [callsFrames_cons, (encode_nil e c).1, ih _ h']
    rfl

/-- the `Setup` of a history of `encode` calls -/
def mkSetupCalls (e : Enc) (bs : List (List Packet)) (c : Ctx) (v : Nat)
    (hc : c.ok = true) (hidle : e.Idle) (hall : ∀ p ∈ bs.flatten, p.WF ∧ p.version = v)
    (hdev : e.dev < 65536) (hstream : e.stream < 256)
    (hN : (callsFrames e c bs).length < 65536) (hv1 : 1 ≤ v) (hv2 : v < 256) : Setup :=
  { c := c, min := c.min, dev := e.dev, stream := e.stream, v := v,
    ib := callsIb bs, fs := callsFrames e c bs,
    hcap := (Ctx.ok_cap hc).1, hdev := hdev, hstream := hstream, hv1 := hv1, hv := hv2,
    hwf := fun ip hip => (hall _ (callsIb_mem bs ip hip)).1,
    hver := fun ip hip => (hall _ (callsIb_mem bs ip hip)).2,
    hg := ⟨calls_frok c v e.dev e.stream (Ctx.ok_cap hc).1 hv2 bs e hidle rfl rfl hall,
      chain_of_index 1 _ e.seqc (fun i h => by rw [calls_index c bs e hidle i h, Nat.mod_add_mod])⟩,
    hflat := calls_flat c (Ctx.ok_cap hc).1 bs e, hN := hN }

/-- C06 end to end for a stream built by several `encode` calls, several endpoints, exact, weak
    side condition.  `bs` are the batches of consecutive `encode` calls (same configuration `c`, one
    protocol version `v`) on an encoder that is between API calls (`Idle`: nothing half-built, counter
    in range — the state every sequence of API calls leaves, `C09_encode` / `C09_config`); the whole
    stream has fewer than 65536 frames.  `arr` is any list of copies of frames of ANY of the calls
    (drop / duplicate / reorder across call boundaries too), segment copies possibly with another
    version / type byte, `SideB2`.  `bufs` is an arbitrary buffer history whose sub-history addressing
    the encoder's endpoint is `arr`.  Then every packet delivered for the endpoint equals, in every
    field, `sentAs` of a packet given to one of the calls. -/
theorem C06_bytes_calls (e : Enc) (bs : List (List Packet)) (c : Ctx) (v : Nat)
    (hc : c.ok = true) (hidle : e.Idle) (hall : ∀ p ∈ bs.flatten, p.WF ∧ p.version = v)
    (hdev : e.dev < 65536) (hstream : e.stream < 256)
    (hN : (callsFrames e c bs).length < 65536)
    (arr : List Bytes)
    (harr : ∀ b ∈ arr, ∃ i, Arrived (callsFrames e c bs) c.min b i)
    (hside : SideB2 (callsFrames e c bs) c v arr)
    (bufs : List (Option Bytes)) (s : DecState) (hs : s (e.dev, e.stream) = none)
    (hproj : bufs.filter (fun b => bufEp b = some (e.dev, e.stream)) = arr.map some) :
    ∀ x ∈ (decodeAllT tecmpDecode s bufs).2, x.1 = some (e.dev, e.stream) →
      ∃ q ∈ bs.flatten, x.2 = sentAs e.dev e.stream c.cap q := by
  intro x hx hxe
  have hp := isolate_mem tecmpDecode (e.dev, e.stream) bufs (arr.map some) s hs hproj x hx hxe
  obtain ⟨hv1, hv2⟩ := ver_of_output (calls_nil c bs e) (fun p h => (hall p h).1) (fun p h => (hall p h).2) harr hp
  obtain ⟨ip, hip, hpe⟩ :=
    weak_core (mkSetupCalls e bs c v hc hidle hall hdev hstream hN hv1 hv2) rfl arr harr hside x.2 hp
  have hq := callsIb_mem bs ip hip
  exact ⟨ip.2, hq, by rw [hpe, ← dec_sentAs, (hall ip.2 hq).2]; rfl⟩

/-! ### instance of `C06_bytes_calls`: the same packet sent by two consecutive `encode` calls -/

namespace TwoCalls
open VersionZero

def calls : List (List Packet) := [[pkt], [pkt]]

/-- frames of the second call: counters 4 and 5 -/
def frame2 : Bytes :=
  [1,0,0,2,1,3,0,4, 0,0,0,0,0,0,0,0, 0,0,0,0, 4,8,0,24, 0,4,0,0,0,30,7,7,7,7,7,7,7,7,7,7,7,7,7,7,7,7,7,7]
def frame3 : Bytes :=
  [1,0,0,2,1,3,0,5, 0,0,0,0,0,0,0,0, 0,0,0,0, 12,8,0,12, 7,7,7,7,7,7,7,7,7,7,7,7]

/-- arrival order mixes the two calls; one copy of call 1's last segment carries version 9 -/
def arr2 : List Bytes := [frame2, frame0, c1, frame3, frame0, frame1, frame2, frame3]

theorem idle : enc.Idle := ⟨rfl, rfl, rfl, by decide⟩

theorem hyps2 : ctx.ok = true ∧ (∀ p ∈ calls.flatten, p.WF ∧ p.version = 1) ∧
    enc.dev < 65536 ∧ enc.stream < 256 ∧ (callsFrames enc ctx calls).length < 65536 := by
  refine ⟨by decide, ?_, by decide, by decide, by decide +kernel⟩
  intro p hp
  simp only [calls, List.flatten_cons, List.flatten_nil, List.append_nil, List.cons_append, List.nil_append,
    List.mem_cons, List.not_mem_nil, or_false, or_self] at hp
  subst hp
  exact ⟨hyps.2.1 pkt (by simp), rfl⟩

theorem sent2 : (callsFrames enc ctx calls).map (EFrame.bytes ctx.min) = [frame0, frame1, frame2, frame3] := by
  decide +kernel

theorem shape2 : (callsFrames enc ctx calls).map (fun f => (f.mt, f.msgs.map (fun m => (m.seg, nOf ctx m)))) =
    [(1, [(4, 2)]), (1, [(12, 2)]), (1, [(4, 2)]), (1, [(12, 2)])] := by decide +kernel

theorem frame_cases2 {i : Nat} {b : Bytes} (hb : [frame0, frame1, frame2, frame3][i]? = some b) :
    ∃ f, (callsFrames enc ctx calls)[i]? = some f ∧ EFrame.bytes ctx.min f = b :=
  frame_of sent2 hb

theorem arr2_index : ∀ b ∈ arr2, Arrived (callsFrames enc ctx calls) ctx.min b (idx b) := by
  have a0 : Arrived (callsFrames enc ctx calls) ctx.min frame0 0 := arrived_clean_of sent2 rfl
  have a1 : Arrived (callsFrames enc ctx calls) ctx.min frame1 1 := arrived_clean_of sent2 rfl
  have a2 : Arrived (callsFrames enc ctx calls) ctx.min frame2 2 := arrived_clean_of sent2 rfl
  have a3 : Arrived (callsFrames enc ctx calls) ctx.min frame3 3 := arrived_clean_of sent2 rfl
  have b1 : Arrived (callsFrames enc ctx calls) ctx.min c1 1 :=
    arrived_corrupted_of sent2 rfl (by decide +kernel) 9 1 (by decide) (by decide) (by decide)
  simp only [arr2, List.forall_mem_cons]
  exact ⟨a2, a0, b1, a3, a0, a1, a2, a3, nofun⟩

theorem arr2_index' : ∀ b ∈ arr2, ∃ i, Arrived (callsFrames enc ctx calls) ctx.min b i ∧ i = idx b :=
  fun b hb => ⟨idx b, arr2_index b hb, rfl⟩

theorem arr2_arrived : ∀ b ∈ arr2, ∃ i, Arrived (callsFrames enc ctx calls) ctx.min b i :=
  fun b hb => ⟨idx b, arr2_index b hb⟩

theorem arr2_unique {b : Bytes} {i i' : Nat} (h : Arrived (callsFrames enc ctx calls) ctx.min b i)
    (h' : Arrived (callsFrames enc ctx calls) ctx.min b i') : i = i' := by
  obtain ⟨hc, hall, hdev, hstream, hN⟩ := hyps2
  let X : Setup := mkSetupCalls enc calls ctx 1 hc idle hall hdev hstream hN (by decide) (by decide)
  exact copy_index X (copy_of_arrP X (arrP_of_arrived h)).1 (copy_of_arrP X (arrP_of_arrived h')).1

theorem arr2_side2 : SideB2 (callsFrames enc ctx calls) ctx 1 arr2 := by
  refine sideB2_of_clean _ _ _ _ fun i0 f m hf hm hseg => ?_
  have hsh := shape_at shape2 hf hm
  rw [hseg] at hsh
  -- first-segment frames are 0 and 2, and every arrived copy of either is clean
  have hcl : ∀ b ∈ arr2, idx b = 0 ∨ idx b = 2 → byteAt b 0 = 1 ∧ byteAt b 4 = 1 := by decide +kernel
  have key : ∀ i0, i0 = 0 ∨ i0 = 2 → f.mt = 1 → 0 < nOf ctx m →
      ∃ k, k < nOf ctx m ∧ ∀ b ∈ arr2, Arrived (callsFrames enc ctx calls) ctx.min b (i0 + k) →
        byteAt b 0 = 1 ∧ byteAt b 4 = f.mt :=
    fun i0 hi0 hmt hn => ⟨0, hn, fun b hb ha => hmt ▸ hcl b hb (arr2_unique (arr2_index b hb) ha ▸ hi0)⟩
  match i0, hsh with
  | 0, hsh =>
    simp only [List.getElem?_cons_zero, Option.some.injEq, Prod.mk.injEq, List.cons.injEq, and_true,
      true_and] at hsh
    exact key 0 (Or.inl rfl) hsh.1.symm (by omega)
  | 1, hsh => simp at hsh
  | 2, hsh =>
    simp only [List.getElem?_cons_succ, List.getElem?_cons_zero, Option.some.injEq, Prod.mk.injEq,
      List.cons.injEq, and_true, true_and] at hsh
    exact key 2 (Or.inr rfl) hsh.1.symm (by omega)
  | 3, hsh => simp at hsh
  | _ + 4, hsh => simp at hsh

/-- all hypotheses of `C06_bytes_calls` hold (frames of two calls, reordered across the call boundary,
    duplicates, one corrupted version), and the decoder delivers the packet of each call, once each -/
theorem nonvacuous_calls :
    enc.Idle ∧ (∀ b ∈ arr2, ∃ i, Arrived (callsFrames enc ctx calls) ctx.min b i) ∧
    SideB2 (callsFrames enc ctx calls) ctx 1 arr2 ∧
    (decodeAll tecmpDecode DecState.empty (arr2.map some)).2 =
      [sentAs 2 3 ctx.cap pkt, sentAs 2 3 ctx.cap pkt] :=
  ⟨idle, arr2_arrived, arr2_side2, by decide +kernel⟩

end TwoCalls

/-! ## `Side2` is not only sufficient but necessary -/

/-- `Side2` is exactly the condition the statement forces.  If it fails — some message and some
    WRONG pair `(v, t)` such that every one of its segments has an arrived copy carrying `(v, t)` —
    then a selection of the arrived copies makes the decoder deliver a packet carrying version `v`
    and built with message type `t`: a packet with a pair the sender never used for this message.
    (Together with `C06_no_corruption2`: safety for every selection/order of the arrived copies holds
    iff `Side2`, up to the coincidence that the wrong packet equals another sent one.) -/
theorem side2_necessary (S : SStream) (all : List PFrame) (i0 : Nat) (f0 : SF)
    (h0 : S.at_ i0 = some (.segF f0)) (hk : f0.k = 0) (v t : Nat)
    (hall : ∀ k, k < f0.n → ∃ g ∈ all, Copy S g (i0 + k) ∧ g.ver = v ∧ g.mt = t) :
    ∃ gs : List PFrame, (∀ g ∈ gs, g ∈ all) ∧
      (runLocal none gs).2 = [tagPacket S.ep v (Packet.ofMsg t (fixLen (f0.hdr ++ S.acc i0 (f0.n - 1))))] ∧
      ∀ o ∈ (runLocal none gs).2, o.version = v := by
  let G : Nat → PFrame := fun k => if h : k < f0.n then Classical.choose (hall k h) else default
  have hG : ∀ k, k < f0.n → G k ∈ all ∧ Copy S (G k) (i0 + k) ∧ (G k).ver = v ∧ (G k).mt = t := by
    intro k hkn
    have := Classical.choose_spec (hall k hkn)
    simp only [G, dif_pos hkn]
    exact this
  have hrun := all_corrupted_delivers S i0 f0 h0 hk v t G (fun k hkn => (hG k hkn).2) none
  refine ⟨(List.range f0.n).map G, ?_, by rw [hrun], ?_⟩
  · intro g hg
    obtain ⟨k, hkr, rfl⟩ := List.mem_map.1 hg
    exact (hG k (List.mem_range.1 hkr)).1
  · intro o ho
    rw [hrun] at ho
    simp only [List.mem_singleton] at ho
    rw [ho]
    rfl

/-! ## frames that hold unsegmented messages AND a segment -/

/-- an unsegmented message in front of a continuation segment closes the open reassembly: the frame
    delivers exactly its unsegmented messages, nothing is reassembled, nothing stays pending
    ("any unsegmented … message of the endpoint erases its open reassembly", decoder.cpp:39-41) -/
theorem localStep_mixed (p : Option Pending) (f : PFrame) (m : Bytes) (hm : f.term = .seg m)
    (hu : f.unseg ≠ []) (ht : segTypeOf m ≠ 4) : localStep p f = (none, f.unseg) :=
  localStep_abort p f m hm ht fun _ _ he => absurd he hu

/-- whatever is pending and whatever the frame holds, its unsegmented messages are delivered first,
    followed by at most one reassembled packet -/
theorem localStep_unseg_prefix (p : Option Pending) (f : PFrame) :
    ∃ tail, (localStep p f).2 = f.unseg ++ tail ∧ tail.length ≤ 1 := by
  have hs := localStep_spec p f
  generalize localStep p f = r at hs ⊢
  cases hs with
  | noseg _ => exact ⟨[], (List.append_nil _).symm, Nat.zero_le 1⟩
  | first _ _ _ => exact ⟨[], (List.append_nil _).symm, Nat.zero_le 1⟩
  | abort _ _ _ _ => exact ⟨[], (List.append_nil _).symm, Nat.zero_le 1⟩
  | cont _ _ _ _ _ hu _ =>
    -- the only case with a second part: an accepted last segment
    rw [hu]
    split
    · exact ⟨_, rfl, Nat.le_refl 1⟩
    · exact ⟨[], rfl, Nat.zero_le 1⟩

/-- … while in front of a FIRST segment they are delivered and the new reassembly starts -/
theorem localStep_mixed_first (p : Option Pending) (f : PFrame) (m : Bytes) (hm : f.term = .seg m)
    (ht : segTypeOf m = 4) : localStep p f = (some ⟨m, 4, f.ver, f.mt, f.seq⟩, f.unseg) :=
  localStep_first p f m hm ht

/-! ## why the domain `Packet.WF` cannot simply be dropped -/

namespace InvalidPayload
open VersionZero

/-- a packet typed CAN whose 3 payload bytes fail the CAN validator (not `WF`) -/
def q : Packet := { payload := some ⟨tyCan, [1, 2, 3]⟩, version := 1 }

/-- no fault at all: the encoder model serialises `q` into one frame, the decoder model delivers a
    packet whose payload is MARKED INVALID and zeroed by `Packet::create` (type 0, bytes 0,0,0) — not
    byte-identical to `q`.  So "byte-identical" can only be claimed for payloads that pass the
    validator of their type, which is what `Packet.WF` says. -/
theorem not_identical :
    q.wf = false ∧
    (decodeAll tecmpDecode DecState.empty
      (((enc.encode [q] ctx).2.map (EFrame.bytes ctx.min)).map some)).2.map (·.payload) =
      [some ⟨0, [0, 0, 0]⟩] := by
  constructor <;> decide +kernel

end InvalidPayload

end AsamCmp.C06S
