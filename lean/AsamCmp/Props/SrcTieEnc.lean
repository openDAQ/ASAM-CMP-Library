/-
  Source-level tie, encoder part: `Encoder::buildSegmentationFlag`, translated from /repo's source on every run
  (GeneratedSrc.lean), is the `segFlag` of the low-level encoder model (EncoderLL.lean, proved to refine the encoder model).
-/
import AsamCmp.Props.SrcTie
import AsamCmp.EncoderLL
set_option linter.unusedSimpArgs false
namespace AsamCmp.SrcTie
open AsamCmp AsamCmp.Src AsamCmp.SrcGen
attribute [local congr] bind_head_congr bind_head_congr'

/-- `Encoder::buildSegmentationFlag` is the model's `segFlag` (no overflow of `pos + n` in `size_t`) -/
theorem segFlag_src (this : Nat) (isSeg : Bool) (segInd n len pos : Nat) (h : pos + n < 2 ^ 64) :
    Encoder_buildSegmentationFlag this isSeg segInd n len pos = some (EncLL.segFlag isSeg segInd n len pos) := by
  unfold Encoder_buildSegmentationFlag EncLL.segFlag
  src_norm
  (repeat' split) <;> first | rfl | omega

end AsamCmp.SrcTie
