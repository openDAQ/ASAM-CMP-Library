/-
  C04S  strengthening of C04 (decoded packets report exactly what is on the wire).

  The C04 theorems compare `decode` with `specPacket`, whose payload is the model's own `create`.  Here the
  acceptance rules of the seven typed payload kinds are written down a second time, from the ASAM CMP
  tables (offsets, masks, message / payload type numbers as literals, positions counted from the start of
  the payload instead of the model's `drop`s), `create` is proved EQUAL to that table, and the C04 theorems
  are restated against a packet specification that does not mention `create`, `validatorOf` or any of the
  model's validators.
-/
import AsamCmp.Props.C04
import AsamCmp.Props.GenChecks
import AsamCmp.Props.SrcDecoderTotal
namespace AsamCmp.C04S
open AsamCmp AsamCmp.C04

/-! ## 1. specification-side acceptance rules (ASAM CMP payload formats) -/

namespace Spec

/-- CAN / CAN-FD data message payload: 16 header bytes (flags u16 @0, reserved u16 @2, id u32 @4, crc u32 @8,
    error position u16 @12, dlc u8 @14, data length u8 @15) + data.  Accepted iff the header is there, no
    error flag (bits 9..0 of the flags) is set, no error position is reported, and the declared data
    length lies inside the payload. -/
def canOk (b : Bytes) : Prop :=
  16 ≤ b.length ∧ beAt b 0 2 &&& 0x03FF = 0 ∧ beAt b 12 2 = 0 ∧ 16 + byteAt b 15 ≤ b.length

/-- LIN: 8 header bytes, data length u8 @7 -/
def linOk (b : Bytes) : Prop := 8 ≤ b.length ∧ 8 + byteAt b 7 ≤ b.length

/-- Ethernet: 6 header bytes (flags u16 @0, reserved u16 @2, data length u16 @4); error flags are
    bits 0, 1, 3, 4, 5 (FCS error, frame too short, collision, frame too long, PHY error) -/
def ethOk (b : Bytes) : Prop :=
  6 ≤ b.length ∧ beAt b 0 2 &&& 0x003B = 0 ∧ 6 + beAt b 4 2 ≤ b.length

/-- Analog: 16 header bytes, sample data type = bits 1..0 of the flags' low byte @1: 0 = int16, 1 = int32 -/
def analogOk (b : Bytes) : Prop := 16 ≤ b.length ∧ byteAt b 1 &&& 3 ≤ 1

/-- `n` blocks, each a u16 length followed by that many bytes, starting at byte `pos` lie inside `b` -/
def blocksAt (b : Bytes) : Nat → Nat → Prop
  | 0, _ => True
  | n+1, pos => pos + 2 ≤ b.length ∧ pos + 2 + beAt b pos 2 ≤ b.length ∧ blocksAt b n (pos + 2 + beAt b pos 2)

instance (b : Bytes) : ∀ n pos, Decidable (blocksAt b n pos)
  | 0, _ => isTrue trivial
  | n+1, pos => by
    unfold blocksAt
    have := instDecidableBlocksAt b n (pos + 2 + beAt b pos 2)
    exact inferInstance

/-- Capture-module status: 26 header bytes, then device description, serial number, hardware version,
    software version (length-prefixed strings) and the length-prefixed vendor data -/
def cmOk (b : Bytes) : Prop := 26 ≤ b.length ∧ blocksAt b 5 26

/-- Interface status: 36 header bytes (interface status u8 @29: 0 down/disabled, 1 down/enabled, 2 up),
    stream id count u16 @36, the stream ids (padded to an even number of bytes), vendor data length u16,
    vendor data -/
def ifOk (b : Bytes) : Prop :=
  40 ≤ b.length ∧ byteAt b 29 ≤ 2 ∧
    40 + (beAt b 36 2 + beAt b 36 2 % 2) ≤ b.length ∧
    40 + (beAt b 36 2 + beAt b 36 2 % 2) + beAt b (38 + (beAt b 36 2 + beAt b 36 2 % 2)) 2 ≤ b.length

/-- which payloads of (message type, payload type) are delivered typed: data messages (message type 1)
    CAN 1, CAN-FD 2, LIN 3, analog 7, Ethernet 8; status messages (message type 3) capture-module status 1,
    interface status 2; every other combination has no inner structure the library knows -/
def accepts (mt pt : Nat) (b : Bytes) : Prop :=
  if mt = 1 then
    if pt = 1 ∨ pt = 2 then canOk b
    else if pt = 3 then linOk b
    else if pt = 7 then analogOk b
    else if pt = 8 then ethOk b
    else True
  else if mt = 3 then
    if pt = 1 then cmOk b
    else if pt = 2 then ifOk b
    else True
  else True

instance (b : Bytes) : Decidable (canOk b) := by unfold canOk; exact inferInstance
instance (b : Bytes) : Decidable (linOk b) := by unfold linOk; exact inferInstance
instance (b : Bytes) : Decidable (ethOk b) := by unfold ethOk; exact inferInstance
instance (b : Bytes) : Decidable (analogOk b) := by unfold analogOk; exact inferInstance
instance (b : Bytes) : Decidable (cmOk b) := by unfold cmOk; exact inferInstance
instance (b : Bytes) : Decidable (ifOk b) := by unfold ifOk; exact inferInstance
instance (mt pt : Nat) (b : Bytes) : Decidable (accepts mt pt b) := by unfold accepts; exact inferInstance

/-- the payload the decoder must report for a message of message type `mt`, payload type `pt`, payload
    bytes `b`: type, length and bytes of the wire when accepted; type 0 (`PayloadType::invalid`), the
    declared length and no byte of the wire otherwise -/
def payload (mt pt : Nat) (b : Bytes) : Payload :=
  if accepts mt pt b then ⟨mt * 256 + pt, b⟩ else ⟨0, zeros b.length⟩

end Spec

/-! ## 2. the model's validators are the table's rules -/

theorem canValid_iff (b : Bytes) : canValid b = true ↔ Spec.canOk b := canValid_spec b

theorem linValid_iff (b : Bytes) : linValid b = true ↔ Spec.linOk b := linValid_spec b

theorem ethValid_iff (b : Bytes) : ethValid b = true ↔ Spec.ethOk b := ethValid_spec b

theorem analogValid_iff (b : Bytes) : analogValid b = true ↔ Spec.analogOk b := analogValid_spec b

theorem blocksOk_iff (b : Bytes) : ∀ n pos, blocksOk n (b.drop pos) = true ↔ Spec.blocksAt b n pos := by
  intro n
  induction n with
  | zero => intro pos; exact ⟨fun _ => trivial, fun _ => rfl⟩
  | succ n ih =>
    intro pos
    rw [blocksOk_succ_iff, ih]
    rfl

theorem cmValid_iff (b : Bytes) : cmValid b = true ↔ Spec.cmOk b :=
  (cmValid_spec b).trans (and_congr_right fun _ => blocksOk_iff b 5 26)

theorem ifValid_iff (b : Bytes) : ifValid b = true ↔ Spec.ifOk b := ifValid_spec b

/-! ## 3. `Packet::create` is the table -/

theorem accepts_generic {mt pt : Nat} (b : Bytes) (h1 : mt = 1 → pt ≠ 1 ∧ pt ≠ 2 ∧ pt ≠ 3 ∧ pt ≠ 7 ∧ pt ≠ 8)
    (h3 : mt = 3 → pt ≠ 1 ∧ pt ≠ 2) : Spec.accepts mt pt b := by
  unfold Spec.accepts
  by_cases m1 : mt = 1
  · obtain ⟨p1, p2, p3, p7, p8⟩ := h1 m1
    rw [if_pos m1, if_neg (by omega), if_neg p3, if_neg p7, if_neg p8]
    trivial
  · rw [if_neg m1]
    by_cases m3 : mt = 3
    · obtain ⟨p1, p2⟩ := h3 m3
      rw [if_pos m3, if_neg p1, if_neg p2]
      trivial
    · rw [if_neg m3]
      trivial

theorem accepts_other (ty : Nat) (b : Bytes)
    (h : ty ≠ 0x0101 ∧ ty ≠ 0x0102 ∧ ty ≠ 0x0103 ∧ ty ≠ 0x0107 ∧ ty ≠ 0x0108 ∧ ty ≠ 0x0301 ∧ ty ≠ 0x0302) :
    Spec.accepts (ty / 256) (ty % 256) b :=
  accepts_generic b (fun _ => by omega) (fun _ => by omega)

theorem accepted_iff_table (ty : Nat) (b : Bytes) :
    Accepted ty b ↔ Spec.accepts (ty / 256) (ty % 256) b :=
  accepted_iff_by_type (P := fun ty => Spec.accepts (ty / 256) (ty % 256) b) (canValid_iff b) (canValid_iff b) (linValid_iff b)
    (analogValid_iff b) (ethValid_iff b) (cmValid_iff b) (ifValid_iff b)
    (fun ty h => accepts_other ty b h) ty

/-- EXACT characterisation of `Packet::create` for every 16-bit-or-wider type value and every byte string:
    type 0 is invalid; otherwise the payload is reported with the type, length and bytes handed in iff the
    table accepts it, and as type 0 / same length / zero bytes iff not -/
theorem create_exact (ty : Nat) (b : Bytes) :
    create ty b = if ty = 0 then ⟨0, zeros b.length⟩ else Spec.payload (ty / 256) (ty % 256) b := by
  by_cases h0 : ty = 0
  · rw [if_pos h0, h0]
    rfl
  · rw [if_neg h0]
    unfold Spec.payload
    by_cases ha : Spec.accepts (ty / 256) (ty % 256) b
    · rw [if_pos ha, create_of_accepted h0 ((accepted_iff_table ty b).2 ha), Nat.div_add_mod']
    · rw [if_neg ha, create_of_not_accepted (mt (accepted_iff_table ty b).1 ha)]

/-- a type code splits into message type and payload type byte -/
theorem code_div_mod (mt : Nat) {pt : Nat} (hp : pt < 256) : (mt * 256 + pt) / 256 = mt ∧ (mt * 256 + pt) % 256 = pt := by
  rw [Nat.add_comm, Nat.add_mul_div_right _ _ (by decide), Nat.add_mul_mod_self_right, Nat.div_eq_of_lt hp,
    Nat.mod_eq_of_lt hp, Nat.zero_add]
  exact ⟨rfl, rfl⟩

/-- the form the decoder uses: message type from the frame header, payload type from the message header -/
theorem create_wire (mt pt : Nat) (hpt : 1 ≤ pt) (hpt' : pt < 256) (b : Bytes) :
    create (mt * 256 + pt) b = Spec.payload mt pt b := by
  rw [create_exact, if_neg (by omega), (code_div_mod mt hpt').1, (code_div_mod mt hpt').2]

/-! ## 4. C04 restated against a specification that does not mention `create` -/

/-- the packet the decoder must report for message `m` of frame `F`; every field is a field of the wire
    structures `WFrame` / `WMsg`, the payload is decided by the table `Spec.accepts` -/
def specPacket (F : WFrame) (m : WMsg) : Packet :=
  { payload := some (Spec.payload F.mt m.ptype m.body), version := F.ver, deviceId := F.dev, streamId := F.stream,
    seq := 0, ts := m.ts, ifId := if F.mt = 1 then m.idw else 0,
    vendorId := if F.mt = 3 ∨ F.mt = 0xFF then m.idw % 65536 else 0, flags := m.flags, segType := 0 }

theorem specPacket_eq (F : WFrame) (m : WMsg) (hm : m.WF) : C04.specPacket F m = specPacket F m := by
  unfold C04.specPacket specPacket
  rw [create_wire F.mt m.ptype hm.2.2.2.2.1 hm.2.2.2.2.2.1]

theorem map_specPacket (F : WFrame) (l : List WMsg) (hl : ∀ m ∈ l, m.WF) :
    l.map (C04.specPacket F) = l.map (specPacket F) :=
  List.map_congr_left fun m hm => specPacket_eq F m (hl m hm)

/-- decoding a frame whose well-formed messages are followed by ANY bytes on which the message walk ends at once -/
theorem decode_tail (F : WFrame) (hF : F.WF) (d : DecState) (tail : Bytes) {t : Term}
    (ht : t = Term.done ∨ t = Term.invalid) (hw : walk (F.dev, F.stream) F.ver F.mt tail = ([], t)) :
    (decode d (some (F.bytes ++ tail))).2 = F.msgs.map (specPacket F) := by
  rw [C04.decode_tail F hF d tail ht hw, map_specPacket F F.msgs hF.2.2.2.2.2.2.2]

/-- C04 (A)–(D): whole frame, any decoder history, payload type / length / bytes given by the table -/
theorem C04S_wire (F : WFrame) (hF : F.WF) (d : DecState) :
    (decode d (some F.bytes)).2 = F.msgs.map (specPacket F) := by
  rw [C04_wire F hF d, map_specPacket F F.msgs hF.2.2.2.2.2.2.2]

/-- (H) zero padding -/
theorem C04S_pad (F : WFrame) (hF : F.WF) (d : DecState) (k : Nat) :
    (decode d (some (F.bytes ++ zeros k))).2 = F.msgs.map (specPacket F) := by
  rw [C04_pad F hF d k, map_specPacket F F.msgs hF.2.2.2.2.2.2.2]

/-- (G) truncation at any offset -/
theorem C04S_truncate (F : WFrame) (hF : F.WF) (d : DecState) (n : Nat) :
    (decode d (some (F.bytes.take n))).2 = (F.msgs.take (fitCount (n - 8) F.msgs)).map (specPacket F) := by
  rw [C04_truncate F hF d n]
  exact map_specPacket F _ fun m hm => hF.2.2.2.2.2.2.2 m (List.mem_of_mem_take hm)

/-- (B) the `i`-th packet is the `i`-th message's -/
theorem C04S_nth (F : WFrame) (hF : F.WF) (d : DecState) (i : Nat) (hi : i < F.msgs.length) :
    (decode d (some F.bytes)).2[i]? = some (specPacket F F.msgs[i]) := by
  rw [C04S_wire F hF d, List.getElem?_map, List.getElem?_eq_getElem hi]
  rfl

/-- any history: whatever buffers (CMP frames of any endpoint, segments, TECMP messages, garbage, null pointers)
    were decoded before, interleaved in any way, on a decoder started in any state -/
theorem C04S_history (F : WFrame) (hF : F.WF) (d0 : DecState) (hist : List (Option Bytes)) :
    (decode (decodeAll tecmpDecode d0 hist).1 (some F.bytes)).2 = F.msgs.map (specPacket F) :=
  C04S_wire F hF _

/-! ### what the getters of a reported packet return -/

/-- (C) header-derived getters -/
theorem spec_header_getters (F : WFrame) (m : WMsg) :
    (specPacket F m).version = F.ver ∧ (specPacket F m).deviceId = F.dev ∧ (specPacket F m).streamId = F.stream ∧
    (specPacket F m).ts = m.ts ∧ (specPacket F m).flags = m.flags ∧
    (F.mt = 1 → (specPacket F m).ifId = m.idw) ∧
    (F.mt = 3 ∨ F.mt = 0xFF → (specPacket F m).vendorId = m.idw % 65536) := by
  refine ⟨rfl, rfl, rfl, rfl, rfl, ?_, ?_⟩
  · intro h; simp [specPacket, h]
  · intro h; simp [specPacket, h]

theorem code_mt_raw {mt pt : Nat} (hm : mt < 256) (hp : pt < 256) (b : Bytes) :
    (⟨mt * 256 + pt, b⟩ : Payload).mt = mt ∧ (⟨mt * 256 + pt, b⟩ : Payload).raw = pt := by
  show (mt * 256 + pt) / 256 % 256 = mt ∧ (mt * 256 + pt) % 256 = pt
  rw [(code_div_mod mt hp).1, (code_div_mod mt hp).2, Nat.mod_eq_of_lt hm]
  exact ⟨rfl, rfl⟩

/-- (D) payload-derived getters of an accepted payload: message type, raw payload type, length (`getPayloadLength`,
    `getLength`) and bytes are the wire's -/
theorem spec_payload_getters (F : WFrame) (hF : F.WF) (m : WMsg) (hm : m.WF) (ha : Spec.accepts F.mt m.ptype m.body) :
    (specPacket F m).payload = some ⟨F.mt * 256 + m.ptype, m.body⟩ ∧
    (specPacket F m).mt = F.mt ∧ (specPacket F m).rawType = m.ptype ∧ (specPacket F m).data = m.body ∧
    (specPacket F m).payloadLength = m.body.length ∧ ((specPacket F m).isValid = true ↔ F.mt ≠ 0) := by
  have p1 := hm.2.2.2.2.1
  obtain ⟨hmt, hraw⟩ := code_mt_raw hF.2.2.2.2.1 hm.2.2.2.2.2.1 m.body
  have e : (specPacket F m).payload = some ⟨F.mt * 256 + m.ptype, m.body⟩ := congrArg some (if_pos ha)
  refine ⟨e, ?_, ?_, ?_, ?_, ?_⟩
  · simp only [Packet.mt, e, hmt]
  · simp only [Packet.rawType, e, hraw]
  · simp only [Packet.data, e]
  · simp only [Packet.payloadLength, e]
    exact Nat.mod_eq_of_lt hm.2.2.2.2.2.2
  · simp only [Packet.isValid, e, Payload.isValid, hmt, hraw, Bool.and_eq_true, bne_iff_ne, ne_eq]
    exact ⟨fun h => h.2, fun h => ⟨Nat.ne_of_gt p1, h⟩⟩

/-- (E)(F) getters of a rejected payload: marked invalid (type 0, so message type 0 and raw type 0, `isValid()` false), the
    declared length kept (so the walk to the next message is unaffected), and no byte of the wire handed out -/
theorem spec_rejected_getters (F : WFrame) (m : WMsg) (hm : m.WF) (ha : ¬ Spec.accepts F.mt m.ptype m.body) :
    (specPacket F m).payload = some ⟨0, zeros m.body.length⟩ ∧
    (specPacket F m).mt = 0 ∧ (specPacket F m).rawType = 0 ∧ (specPacket F m).data = zeros m.body.length ∧
    (specPacket F m).payloadLength = m.body.length ∧ (specPacket F m).isValid = false := by
  have p3 := hm.2.2.2.2.2.2
  have e : (specPacket F m).payload = some ⟨0, zeros m.body.length⟩ := congrArg some (if_neg ha)
  refine ⟨e, ?_, ?_, ?_, ?_, ?_⟩
  · simp only [Packet.mt, e, Payload.mt]
  · simp only [Packet.rawType, e, Payload.raw]
  · simp only [Packet.data, e]
  · simp only [Packet.payloadLength, e, zeros, List.length_replicate]; omega
  · simp only [Packet.isValid, e]; rfl

/-- the length every reported packet carries is the wire's length field, accepted or not: advancing by
    `getPayloadLength() + 16` (decoder.cpp) and advancing by the header field are the same thing -/
theorem spec_payloadLength (F : WFrame) (m : WMsg) (hm : m.WF) : (specPacket F m).payloadLength = m.body.length := by
  by_cases ha : Spec.accepts F.mt m.ptype m.body
  · have p3 := hm.2.2.2.2.2.2
    have e : (specPacket F m).payload = some ⟨F.mt * 256 + m.ptype, m.body⟩ := congrArg some (if_pos ha)
    simp only [Packet.payloadLength, e]; omega
  · exact (spec_rejected_getters F m hm ha).2.2.2.2.1

/-! ## 5. (E) / (F): WHICH payloads are marked invalid -/

/-- "(CAN, CAN-FD, Ethernet) that carries bus-error flags": data message (message type 1) of payload type CAN 1 / CAN-FD 2
    with one of the flag bits 9..0 set, or of payload type Ethernet 8 with one of the flag bits 0, 1, 3, 4, 5 set -/
def BusError (mt pt : Nat) (b : Bytes) : Prop :=
  mt = 1 ∧ (((pt = 1 ∨ pt = 2) ∧ beAt b 0 2 &&& 0x03FF ≠ 0) ∨ (pt = 8 ∧ beAt b 0 2 &&& 0x003B ≠ 0))

/-- "a payload whose inner structure is inconsistent with its length": the fixed header of the payload kind or what the
    header's own length fields announce does not fit into the payload -/
def InnerBad (mt pt : Nat) (b : Bytes) : Prop :=
  (mt = 1 ∧ (pt = 1 ∨ pt = 2) ∧ b.length < 16 + byteAt b 15) ∨
  (mt = 1 ∧ pt = 3 ∧ b.length < 8 + byteAt b 7) ∨
  (mt = 1 ∧ pt = 7 ∧ b.length < 16) ∨
  (mt = 1 ∧ pt = 8 ∧ b.length < 6 + beAt b 4 2) ∨
  (mt = 3 ∧ pt = 1 ∧ ¬ (26 ≤ b.length ∧ Spec.blocksAt b 5 26)) ∨
  (mt = 3 ∧ pt = 2 ∧ (b.length < 40 + (beAt b 36 2 + beAt b 36 2 % 2) ∨
     b.length < 40 + (beAt b 36 2 + beAt b 36 2 % 2) + beAt b (38 + (beAt b 36 2 + beAt b 36 2 % 2)) 2))

/-- three further reasons for which the library marks a payload invalid and which the text of C04 does NOT name:
    a CAN / CAN-FD error position ≠ 0 (without any error flag), an analog sample data type other than int16 / int32,
    an interface status above 2 -/
def OtherReject (mt pt : Nat) (b : Bytes) : Prop :=
  (mt = 1 ∧ (pt = 1 ∨ pt = 2) ∧ beAt b 12 2 ≠ 0) ∨
  (mt = 1 ∧ pt = 7 ∧ 2 ≤ byteAt b 1 &&& 3) ∨
  (mt = 3 ∧ pt = 2 ∧ 2 < byteAt b 29)

instance (mt pt : Nat) (b : Bytes) : Decidable (BusError mt pt b) := by unfold BusError; exact inferInstance
instance (mt pt : Nat) (b : Bytes) : Decidable (InnerBad mt pt b) := by unfold InnerBad; exact inferInstance
instance (mt pt : Nat) (b : Bytes) : Decidable (OtherReject mt pt b) := by unfold OtherReject; exact inferInstance

/-- EXACTLY these payloads are rejected -/
theorem rejected_iff (mt pt : Nat) (b : Bytes) :
    ¬ Spec.accepts mt pt b ↔ BusError mt pt b ∨ InnerBad mt pt b ∨ OtherReject mt pt b := by
  unfold Spec.accepts BusError InnerBad OtherReject Spec.canOk Spec.linOk Spec.analogOk Spec.ethOk Spec.cmOk Spec.ifOk
  by_cases m1 : mt = 1
  · subst m1
    by_cases p1 : pt = 1
    · subst p1; simp only [Nat.reduceEqDiff, if_true, true_and, false_and, or_false]; omega
    by_cases p2 : pt = 2
    · subst p2; simp only [Nat.reduceEqDiff, if_true, true_and, false_and, or_false, or_true]; omega
    by_cases p3 : pt = 3
    · subst p3; simp only [Nat.reduceEqDiff, if_true, if_false, true_and, false_and, or_false, false_or, or_self]; omega
    by_cases p7 : pt = 7
    · subst p7; simp only [Nat.reduceEqDiff, if_true, if_false, true_and, false_and, or_false, false_or, or_self]; omega
    by_cases p8 : pt = 8
    · subst p8; simp only [Nat.reduceEqDiff, if_true, if_false, true_and, false_and, or_false, false_or, or_self]; omega
    simp only [p1, p2, p3, p7, p8, Nat.reduceEqDiff, if_true, if_false, true_and, false_and, or_self,
      not_true_eq_false]
  by_cases m3 : mt = 3
  · subst m3
    by_cases p1 : pt = 1
    · subst p1; simp only [Nat.reduceEqDiff, if_true, if_false, true_and, false_and, or_false, false_or, or_self]
    by_cases p2 : pt = 2
    · subst p2; simp only [Nat.reduceEqDiff, if_true, if_false, true_and, false_and, or_false, false_or]; omega
    simp only [p1, p2, Nat.reduceEqDiff, if_true, if_false, true_and, false_and, false_or, or_self, not_true_eq_false]
  simp only [m1, m3, if_false, false_and, or_self, not_true_eq_false]

/-- which of its two values `Spec.payload` takes; they differ in the type code, since a payload type byte is not 0 -/
theorem payload_eq_iff (mt : Nat) {pt : Nat} (hpt : 1 ≤ pt) (b : Bytes) :
    (Spec.payload mt pt b = ⟨mt * 256 + pt, b⟩ ↔ Spec.accepts mt pt b) ∧
    (Spec.payload mt pt b = ⟨0, zeros b.length⟩ ↔ ¬ Spec.accepts mt pt b) := by
  have hne : (⟨0, zeros b.length⟩ : Payload) ≠ ⟨mt * 256 + pt, b⟩ := by
    intro h
    have := congrArg Payload.ty h
    simp only at this
    omega
  unfold Spec.payload
  by_cases ha : Spec.accepts mt pt b
  · rw [if_pos ha]
    exact ⟨⟨fun _ => ha, fun _ => rfl⟩, ⟨fun h => absurd h.symm hne, fun h => absurd ha h⟩⟩
  · rw [if_neg ha]
    exact ⟨⟨fun h => absurd h hne, fun h => absurd h ha⟩, ⟨fun _ => ha, fun _ => rfl⟩⟩

/-- (E)+(F) for `Packet::create` itself, every message type / payload type pair the decoder can form: the invalid-marked
    payload comes back EXACTLY for the listed reasons (in particular `create` neither rejects everything nor nothing) -/
theorem create_rejected_iff (mt pt : Nat) (hpt : 1 ≤ pt) (hpt' : pt < 256) (b : Bytes) :
    create (mt * 256 + pt) b = ⟨0, zeros b.length⟩ ↔ BusError mt pt b ∨ InnerBad mt pt b ∨ OtherReject mt pt b := by
  rw [create_wire mt pt hpt hpt' b, ← rejected_iff]
  exact (payload_eq_iff mt hpt b).2

/-- (E)+(F) at `decode` level, in the property's words: a message of a well-formed frame (any position, any neighbours,
    any decoder history) whose payload carries bus-error flags or whose inner structure is inconsistent with its length
    is returned — at its place in the packet list — marked invalid: payload type 0, `isValid()` false, the declared
    length, zero bytes instead of the wire's; all header-derived fields still those of the wire -/
theorem C04S_marked_invalid (F : WFrame) (hF : F.WF) (d : DecState) (i : Nat) (hi : i < F.msgs.length)
    (h : BusError F.mt F.msgs[i].ptype F.msgs[i].body ∨ InnerBad F.mt F.msgs[i].ptype F.msgs[i].body) :
    ∃ p, (decode d (some F.bytes)).2[i]? = some p ∧ p = specPacket F F.msgs[i] ∧
      p.payload = some ⟨0, zeros F.msgs[i].body.length⟩ ∧ p.isValid = false ∧ p.rawType = 0 ∧
      p.payloadLength = F.msgs[i].body.length := by
  have hm := hF.2.2.2.2.2.2.2 F.msgs[i] (List.getElem_mem hi)
  have ha : ¬ Spec.accepts F.mt F.msgs[i].ptype F.msgs[i].body := by
    rw [rejected_iff]
    rcases h with h | h
    · exact Or.inl h
    · exact Or.inr (Or.inl h)
  obtain ⟨g1, _, g3, _, g5, g6⟩ := spec_rejected_getters F F.msgs[i] hm ha
  exact ⟨_, C04S_nth F hF d i hi, rfl, g1, g6, g3, g5⟩

/-- … and conversely ("not misparsed" in the other direction): a message is reported with the wire's payload type, length
    and bytes EXACTLY when none of the rejection reasons applies -/
theorem C04S_faithful_iff (F : WFrame) (hF : F.WF) (d : DecState) (i : Nat) (hi : i < F.msgs.length) :
    ((decode d (some F.bytes)).2[i]?.bind Packet.payload = some ⟨F.mt * 256 + F.msgs[i].ptype, F.msgs[i].body⟩ ↔
      ¬ (BusError F.mt F.msgs[i].ptype F.msgs[i].body ∨ InnerBad F.mt F.msgs[i].ptype F.msgs[i].body ∨
         OtherReject F.mt F.msgs[i].ptype F.msgs[i].body)) ∧
    ((decode d (some F.bytes)).2[i]?.bind Packet.payload = some ⟨0, zeros F.msgs[i].body.length⟩ ↔
      (BusError F.mt F.msgs[i].ptype F.msgs[i].body ∨ InnerBad F.mt F.msgs[i].ptype F.msgs[i].body ∨
         OtherReject F.mt F.msgs[i].ptype F.msgs[i].body)) := by
  have hp := payload_eq_iff F.mt (hF.2.2.2.2.2.2.2 F.msgs[i] (List.getElem_mem hi)).2.2.2.2.1 F.msgs[i].body
  rw [C04S_nth F hF d i hi, ← rejected_iff]
  simp only [Option.bind_some, specPacket, Option.some.injEq]
  exact ⟨hp.1.trans Decidable.not_not.symm, hp.2⟩

/-! ## 6. (A) the two excluded field values: a message with the error-in-payload bit or payload type 0 ends the frame -/

/-! `WMsg` instances of the view lemmas of Lemmas/Wire.lean (`view.bytes m` is `m.bytes` only up to unfolding `view`) -/

theorem frame_bytes (F : WFrame) :
    F.bytes = hdr8 F.ver F.reserved F.dev F.mt F.stream F.seq ++ F.msgs.flatMap WMsg.bytes := rfl

theorem hdrWF {F : WFrame} (hF : F.WF) : HdrWF F.ver F.reserved F.dev F.mt F.stream F.seq := C04.hdrWF hF

theorem view_pkt (F : WFrame) (l : List WMsg) (hl : ∀ m ∈ l, m.WF) :
    l.map (view.pkt F.ver F.dev F.mt F.stream) = l.map (specPacket F) :=
  map_specPacket F l hl

theorem bytes_length (m : WMsg) : m.bytes.length = 16 + m.body.length := msg_bytes_length view m

theorem bytes_flags (m : WMsg) (rest : Bytes) (h : m.flags < 256) : byteAt (m.bytes ++ rest) 12 = m.flags :=
  msg_flags_of_lt view m rest h

theorem bytes_ptype (m : WMsg) (rest : Bytes) (h : m.ptype < 256) : byteAt (m.bytes ++ rest) 13 = m.ptype :=
  msg_ptype_of_lt view m rest h

theorem walk_cut_pad (ep : Ep) (ver mt : Nat) (m : WMsg) (hm : m.WF) (k j : Nat)
    (hcut : k + j < 16 ∨ (16 ≤ k ∧ k + j < 16 + m.body.length)) :
    ∃ t, (t = Term.done ∨ t = Term.invalid) ∧ walk ep ver mt (m.bytes.take k ++ zeros j) = ([], t) :=
  C04.walk_cut_pad view m hm ep ver mt k j hcut

/-- a message (in-range flags and payload type, anything else arbitrary) that carries the error-in-payload bit (0x40 of the
    common flags) or payload type 0 -/
def WMsg.Stops (m : WMsg) : Prop := m.flags < 256 ∧ m.ptype < 256 ∧ (m.flags &&& 0x40 ≠ 0 ∨ m.ptype = 0)

theorem walk_stops (ep : Ep) (ver mt : Nat) (m : WMsg) (hm : WMsg.Stops m) (rest : Bytes) :
    walk ep ver mt (m.bytes ++ rest) = ([], Term.invalid) := by
  refine walk_invalid_eq ep ver mt _ (by rw [List.length_append, bytes_length]; omega) ?_
  simp only [msgValid, bytes_flags m rest hm.1, bytes_ptype m rest hm.2.1, Bool.and_eq_false_iff,
    beq_eq_false_iff_ne, bne_eq_false_iff_eq, ne_eq]
  rcases hm.2.2 with h | h
  · exact Or.inl (Or.inr h)
  · exact Or.inr h

/-- such a message is not delivered and nothing behind it is: the frame yields exactly the packets of the messages in
    front of it — whatever follows (further well-formed messages included), whatever the decoder history -/
theorem C04S_stop (F : WFrame) (hF : F.WF) (m : WMsg) (hm : WMsg.Stops m) (rest : Bytes) (d : DecState) :
    (decode d (some (F.bytes ++ m.bytes ++ rest))).2 = F.msgs.map (specPacket F) := by
  rw [List.append_assoc]
  exact decode_tail F hF d _ (Or.inr rfl) (walk_stops _ _ _ m hm rest)

/-! ## 7. (G)+(H) combined: a frame cut short and then zero-padded -/

/-- a frame cut inside (or in front of) its message `m` — `k` bytes of `m` survive — and then padded with `j` zero bytes
    (e.g. to the Ethernet minimum): exactly the packets of the messages in front of `m`, PROVIDED the padded remains cannot
    be taken for a message (`hcut`).  Without that proviso the statement is false, see `C04S_truncate_pad_ambiguous`. -/
theorem C04S_truncate_pad (F : WFrame) (hF : F.WF) (pre post : List WMsg) (m : WMsg) (hmsgs : F.msgs = pre ++ m :: post)
    (k j : Nat) (hcut : k + j < 16 ∨ (16 ≤ k ∧ k + j < 16 + m.body.length)) (d : DecState) :
    (decode d (some (F.bytes.take (8 + (pre.flatMap WMsg.bytes).length + k) ++ zeros j))).2 = pre.map (specPacket F) := by
  have hl := hF.2.2.2.2.2.2.2
  have hm : m.WF := hl m (by rw [hmsgs]; simp)
  have hk : k ≤ m.bytes.length := by rw [bytes_length]; omega
  -- the frame made of the messages in front of `m`
  have hG : ({ F with msgs := pre } : WFrame).WF :=
    ⟨hF.1, hF.2.1, hF.2.2.1, hF.2.2.2.1, hF.2.2.2.2.1, hF.2.2.2.2.2.1, hF.2.2.2.2.2.2.1,
      fun x hx => hl x (by rw [hmsgs]; simp [hx])⟩
  have hlen : ({ F with msgs := pre } : WFrame).bytes.length = 8 + (pre.flatMap WMsg.bytes).length := by
    rw [frame_bytes, List.length_append, hdr8_length]
  have e : F.bytes.take (8 + (pre.flatMap WMsg.bytes).length + k) =
      ({ F with msgs := pre } : WFrame).bytes ++ m.bytes.take k := by
    rw [← hlen, frame_bytes F, hmsgs, List.flatMap_append, List.flatMap_cons, ← List.append_assoc,
      ← frame_bytes { F with msgs := pre }, List.take_length_add_append, List.take_append_of_le_length hk]
  obtain ⟨t, ht, hw⟩ := walk_cut_pad (F.dev, F.stream) F.ver F.mt m hm k j hcut
  rw [e, List.append_assoc]
  exact decode_tail { F with msgs := pre } hG d _ ht hw

/-! ## 8. literal instances: hypotheses satisfiable, conclusions compute to the expected values -/

/-- payload of the independent wireshark capture of `PacketFixture.IsHeaderCorrect` (tests/test_packet.cpp): CAN, flags 0,
    id 0x182, dlc 5, data length 5, data 00 9f c6 00 1e -/
def capCan : Bytes :=
  [0x00, 0x00, 0x00, 0x00, 0x00, 0x00, 0x01, 0x82, 0x00, 0x00, 0x00, 0x00, 0x00, 0x00, 0x05, 0x05, 0x00, 0x9f, 0xc6, 0x00, 0x1e]

/-- an Ethernet payload: flags 0, data length 4, four bytes and one trailing byte -/
def exEth : Bytes := [0x00, 0x00, 0x00, 0x00, 0x00, 0x04, 0xde, 0xad, 0xbe, 0xef, 0x77]

/-- a CAN-FD payload with the CRC-error flag (bit 0) -/
def exCanFdErr : Bytes := [0x00, 0x01, 0, 0, 0, 0, 0, 1, 0, 0, 0, 0, 0, 0, 1, 1, 0xAB]

/-- data frame: version 1, reserved 0, device 0x0102, message type 1 (data), stream 7, counter 5; the captured CAN message
    (timestamp 0x17e03e886b8663cd, interface 1), an Ethernet message with common flag bit 0, a CAN-FD message with a
    bus-error flag, a payload of an unknown type 0x55 -/
def exF : WFrame :=
  ⟨1, 0, 0x0102, 1, 7, 5,
    [⟨0x17e03e886b8663cd, 1, 0, 1, capCan⟩, ⟨1000, 0x11223344, 0x01, 8, exEth⟩, ⟨1001, 2, 0, 2, exCanFdErr⟩,
     ⟨1002, 3, 0x80, 0x55, [9, 8]⟩]⟩

theorem exF_wf : exF.WF := by decide +kernel

/-- the frame as bytes on the wire, written out -/
def exFBytes : Bytes :=
  [0x01, 0x00, 0x01, 0x02, 0x01, 0x07, 0x00, 0x05,
   -- message 1 (the capture, verbatim)
   0x17, 0xe0, 0x3e, 0x88, 0x6b, 0x86, 0x63, 0xcd, 0x00, 0x00, 0x00, 0x01, 0x00, 0x01, 0x00, 0x15,
   0x00, 0x00, 0x00, 0x00, 0x00, 0x00, 0x01, 0x82, 0x00, 0x00, 0x00, 0x00, 0x00, 0x00, 0x05, 0x05, 0x00, 0x9f, 0xc6, 0x00, 0x1e,
   -- message 2
   0, 0, 0, 0, 0, 0, 0x03, 0xe8, 0x11, 0x22, 0x33, 0x44, 0x01, 0x08, 0x00, 0x0b,
   0x00, 0x00, 0x00, 0x00, 0x00, 0x04, 0xde, 0xad, 0xbe, 0xef, 0x77,
   -- message 3
   0, 0, 0, 0, 0, 0, 0x03, 0xe9, 0, 0, 0, 2, 0x00, 0x02, 0x00, 0x11,
   0x00, 0x01, 0, 0, 0, 0, 0, 1, 0, 0, 0, 0, 0, 0, 1, 1, 0xAB,
   -- message 4
   0, 0, 0, 0, 0, 0, 0x03, 0xea, 0, 0, 0, 3, 0x80, 0x55, 0x00, 0x02, 9, 8]

theorem exF_bytes : exF.bytes = exFBytes := by decide +kernel

/-- what must come out, written out: every field literal; payloads `⟨type, bytes⟩` -/
def exFPackets : List Packet :=
  [{ payload := some ⟨0x0101, capCan⟩, version := 1, deviceId := 0x0102, streamId := 7, seq := 0,
     ts := 0x17e03e886b8663cd, ifId := 1, vendorId := 0, flags := 0, segType := 0 },
   { payload := some ⟨0x0108, exEth⟩, version := 1, deviceId := 0x0102, streamId := 7, seq := 0,
     ts := 1000, ifId := 0x11223344, vendorId := 0, flags := 1, segType := 0 },
   { payload := some ⟨0, [0, 0, 0, 0, 0, 0, 0, 0, 0, 0, 0, 0, 0, 0, 0, 0, 0]⟩, version := 1, deviceId := 0x0102, streamId := 7,
     seq := 0, ts := 1001, ifId := 2, vendorId := 0, flags := 0, segType := 0 },
   { payload := some ⟨0x0155, [9, 8]⟩, version := 1, deviceId := 0x0102, streamId := 7, seq := 0,
     ts := 1002, ifId := 3, vendorId := 0, flags := 0x80, segType := 0 }]

theorem exF_spec : exF.msgs.map (specPacket exF) = exFPackets := by decide +kernel

/-- C04S_wire on the literal bytes, any decoder history -/
example (d : DecState) : (decode d (some exFBytes)).2 = exFPackets := by
  rw [← exF_bytes, C04S_wire exF exF_wf d, exF_spec]

/-- C04S_pad: the 123 bytes padded to 200 -/
example (d : DecState) : (decode d (some (exFBytes ++ zeros 77))).2 = exFPackets := by
  rw [← exF_bytes, C04S_pad exF exF_wf d 77, exF_spec]

/-- C04S_truncate: cut inside the third message (byte 90): the first two packets -/
example (d : DecState) : (decode d (some (exFBytes.take 90))).2 = exFPackets.take 2 := by
  rw [← exF_bytes, C04S_truncate exF exF_wf d 90]
  decide +kernel

/-- C04S_truncate: cut inside the frame header: nothing -/
example (d : DecState) : (decode d (some (exFBytes.take 5))).2 = [] := by
  rw [← exF_bytes, C04S_truncate exF exF_wf d 5]
  decide +kernel

/-- C04S_marked_invalid applies to the third message (bus-error flag) -/
example : BusError exF.mt exF.msgs[2].ptype exF.msgs[2].body := by decide +kernel

/-- … `rejected_iff`: the first, second and fourth are not rejected -/
example : ¬ (BusError exF.mt exF.msgs[0].ptype exF.msgs[0].body ∨ InnerBad exF.mt exF.msgs[0].ptype exF.msgs[0].body ∨
    OtherReject exF.mt exF.msgs[0].ptype exF.msgs[0].body) := by
  rw [← rejected_iff]; decide +kernel

/-- capture-module status payload: 26 header bytes, device description "AB", three empty strings, one byte of vendor data -/
def exCm : Bytes := zeros 26 ++ [0, 2, 0x41, 0x42] ++ [0, 0] ++ [0, 0] ++ [0, 0] ++ [0, 1, 0x7F]
/-- the same with a vendor-data length of 5 although one byte is left -/
def exCmBad : Bytes := zeros 26 ++ [0, 2, 0x41, 0x42] ++ [0, 0] ++ [0, 0] ++ [0, 0] ++ [0, 5, 0x7F]
/-- interface status payload: interface status 2 @29, three stream ids (padded to four bytes), two bytes of vendor data -/
def exIf : Bytes := zeros 29 ++ [2] ++ zeros 6 ++ [0, 3, 10, 11, 12, 0] ++ [0, 2, 0xCA, 0xFE]
/-- the same announcing 9 stream ids -/
def exIfBad : Bytes := zeros 29 ++ [2] ++ zeros 6 ++ [0, 9, 10, 11, 12, 0] ++ [0, 2, 0xCA, 0xFE]

/-- status frame (message type 3), version 2, device 0xBEEF, stream 0: the id word's low half is the vendor id -/
def exS : WFrame :=
  ⟨2, 0xEE, 0xBEEF, 3, 0, 0xFFFF,
    [⟨5, 0xAAAA1234, 0, 1, exCm⟩, ⟨6, 0x00000001, 0x20, 1, exCmBad⟩, ⟨7, 0x12345678, 0, 2, exIf⟩, ⟨8, 0, 0, 2, exIfBad⟩]⟩

theorem exS_wf : exS.WF := by decide +kernel

example (d : DecState) : (decode d (some exS.bytes)).2 =
    [{ payload := some ⟨0x0301, exCm⟩, version := 2, deviceId := 0xBEEF, streamId := 0, seq := 0, ts := 5, ifId := 0,
       vendorId := 0x1234, flags := 0, segType := 0 },
     { payload := some ⟨0, zeros 39⟩, version := 2, deviceId := 0xBEEF, streamId := 0, seq := 0, ts := 6, ifId := 0,
       vendorId := 1, flags := 0x20, segType := 0 },
     { payload := some ⟨0x0302, exIf⟩, version := 2, deviceId := 0xBEEF, streamId := 0, seq := 0, ts := 7, ifId := 0,
       vendorId := 0x5678, flags := 0, segType := 0 },
     { payload := some ⟨0, zeros 46⟩, version := 2, deviceId := 0xBEEF, streamId := 0, seq := 0, ts := 8, ifId := 0,
       vendorId := 0, flags := 0, segType := 0 }] := by
  rw [C04S_wire exS exS_wf d]; decide +kernel

/-- `InnerBad` holds of the two rejected ones (the capture-module blocks / the stream-id list do not fit) -/
example : InnerBad 3 1 exCmBad ∧ InnerBad 3 2 exIfBad ∧ ¬ InnerBad 3 1 exCm ∧ ¬ InnerBad 3 2 exIf := by decide +kernel

/-- C04S_stop: the captured CAN message, then a message with the error-in-payload bit, then another good message: one packet -/
example (d : DecState) :
    (decode d (some (({ exF with msgs := exF.msgs.take 1 } : WFrame).bytes ++ (⟨1, 1, 0x40, 1, capCan⟩ : WMsg).bytes ++
      (⟨2, 1, 0, 1, capCan⟩ : WMsg).bytes))).2 = exFPackets.take 1 := by
  rw [C04S_stop _ (by decide +kernel) ⟨1, 1, 0x40, 1, capCan⟩ (by unfold WMsg.Stops; decide)]
  decide +kernel

/-- C04S_truncate_pad: `exF` cut 20 bytes into its second message (length field intact, 7 payload bytes missing) and padded
    with 6 zero bytes: the first packet only -/
example (d : DecState) : (decode d (some (exFBytes.take (8 + 37 + 20) ++ zeros 6))).2 = exFPackets.take 1 := by
  have := C04S_truncate_pad exF exF_wf (exF.msgs.take 1) (exF.msgs.drop 2) exF.msgs[1] (by rfl) 20 6 (by decide) d
  rw [← exF_bytes]
  exact this.trans (by decide +kernel)

/-! ## 9. negative results: where the text of C04 and the code part -/

/-- data frame with a CAN message whose error POSITION is 1 while no error flag is set and the data length fits, and an analog
    message with sample data type 2 (reserved) -/
def exW : WFrame :=
  ⟨1, 0, 1, 1, 1, 0,
    [⟨1, 1, 0, 1, [0, 0, 0, 0, 0, 0, 0, 1, 0, 0, 0, 0, 0, 1, 1, 1, 0xAB]⟩,
     ⟨2, 1, 0, 7, [0, 2, 0, 0, 0, 0, 0, 0, 0, 0, 0, 0, 0, 0, 0, 0, 1, 2]⟩]⟩
/-- status frame with an interface status message whose interface status is 3 -/
def exW3 : WFrame := ⟨1, 0, 1, 3, 1, 0, [⟨3, 0, 0, 2, zeros 29 ++ [3] ++ zeros 6 ++ [0, 0, 0, 0]⟩]⟩

theorem exW_wf : exW.WF := by decide +kernel

theorem exW3_wf : exW3.WF := by decide +kernel

/-- NEGATIVE (text of C04 vs. code): the property names two reasons for a payload to come back marked invalid — inner structure
    inconsistent with the length, bus-error flags.  The library (and the model, exactly: `rejected_iff`) has three more:
    CAN / CAN-FD error position ≠ 0, analog sample data type ∉ {int16, int32}, interface status > 2.  On these well-formed
    frames NEITHER named reason applies to any message, yet every packet is reported with payload type 0 and zero bytes, i.e.
    payload type and payload bytes do NOT equal the wire's. -/
theorem C04S_unnamed_rejections (d : DecState) :
    exW.WF ∧ exW3.WF ∧
    (∀ m ∈ exW.msgs, ¬ BusError exW.mt m.ptype m.body ∧ ¬ InnerBad exW.mt m.ptype m.body) ∧
    (∀ m ∈ exW3.msgs, ¬ BusError exW3.mt m.ptype m.body ∧ ¬ InnerBad exW3.mt m.ptype m.body) ∧
    (decode d (some exW.bytes)).2 =
      [{ payload := some ⟨0, zeros 17⟩, version := 1, deviceId := 1, streamId := 1, seq := 0, ts := 1, ifId := 1 },
       { payload := some ⟨0, zeros 18⟩, version := 1, deviceId := 1, streamId := 1, seq := 0, ts := 2, ifId := 1 }] ∧
    (decode d (some exW3.bytes)).2 =
      [{ payload := some ⟨0, zeros 40⟩, version := 1, deviceId := 1, streamId := 1, seq := 0, ts := 3 }] := by
  refine ⟨exW_wf, exW3_wf, by decide, by decide, ?_, ?_⟩
  · rw [C04S_wire exW exW_wf d]; decide +kernel
  · rw [C04S_wire exW3 exW3_wf d]; decide +kernel

/-- the general form: a message to which one of the three unnamed reasons applies is reported invalid-marked -/
theorem C04S_other_reject (F : WFrame) (hF : F.WF) (d : DecState) (i : Nat) (hi : i < F.msgs.length)
    (h : OtherReject F.mt F.msgs[i].ptype F.msgs[i].body) :
    (decode d (some F.bytes)).2[i]?.bind Packet.payload = some ⟨0, zeros F.msgs[i].body.length⟩ :=
  (C04S_faithful_iff F hF d i hi).2.2 (Or.inr (Or.inr h))

/-- NEGATIVE (G)+(H) combined: "a frame cut short yields exactly the packets of the messages it still contains completely"
    does NOT survive zero padding of the cut frame.  `exF` cut 14 bytes into its first message and padded with 2 zero bytes
    contains no complete message (`fitCount = 0`), yet one packet comes out (the CAN message's header with length 0,
    invalid-marked); cut 8 bytes into the PAYLOAD of its second message and padded with 3 zero bytes, two packets come out,
    the second an Ethernet payload whose last three bytes are padding, not wire bytes.  In both cases the bytes handed to the
    decoder are byte for byte a well-formed frame (`G.bytes`), so no decoder can do better: the combination is
    ambiguous in the format itself, and only `C04S_truncate_pad` (with its proviso) can hold. -/
theorem C04S_truncate_pad_ambiguous (d : DecState) :
    -- cut in a message header
    (fitCount (22 - 8) exF.msgs = 0 ∧
      ∃ G : WFrame, G.WF ∧ exF.bytes.take 22 ++ zeros 2 = G.bytes ∧
      (decode d (some (exF.bytes.take 22 ++ zeros 2))).2 =
        [{ payload := some ⟨0, []⟩, version := 1, deviceId := 0x0102, streamId := 7, seq := 0, ts := 0x17e03e886b8663cd,
           ifId := 1 }]) ∧
    -- cut in a payload
    (fitCount (69 - 8) exF.msgs = 1 ∧
      ∃ G : WFrame, G.WF ∧ exF.bytes.take 69 ++ zeros 3 = G.bytes ∧
      (decode d (some (exF.bytes.take 69 ++ zeros 3))).2 =
        [{ payload := some ⟨0x0101, capCan⟩, version := 1, deviceId := 0x0102, streamId := 7, seq := 0,
           ts := 0x17e03e886b8663cd, ifId := 1 },
         { payload := some ⟨0x0108, [0x00, 0x00, 0x00, 0x00, 0x00, 0x04, 0xde, 0xad, 0, 0, 0]⟩, version := 1,
           deviceId := 0x0102, streamId := 7, seq := 0, ts := 1000, ifId := 0x11223344, flags := 1 }]) := by
  -- in both cases the bytes handed to the decoder are the bytes of a well-formed frame `G`
  have e1 : exF.bytes.take 22 ++ zeros 2 =
      (⟨1, 0, 0x0102, 1, 7, 5, [⟨0x17e03e886b8663cd, 1, 0, 1, []⟩]⟩ : WFrame).bytes := by decide +kernel
  have e2 : exF.bytes.take 69 ++ zeros 3 =
      (⟨1, 0, 0x0102, 1, 7, 5, [⟨0x17e03e886b8663cd, 1, 0, 1, capCan⟩,
        ⟨1000, 0x11223344, 0x01, 8, [0x00, 0x00, 0x00, 0x00, 0x00, 0x04, 0xde, 0xad, 0, 0, 0]⟩]⟩ : WFrame).bytes := by
    decide +kernel
  refine ⟨⟨by decide, _, by decide, e1, ?_⟩, ⟨by decide, _, by decide, e2, ?_⟩⟩
  · rw [e1, C04S_wire _ (by decide)]
    decide +kernel
  · rw [e2, C04S_wire _ (by decide)]
    decide +kernel

/-! ## 10. anchors for the model's dispatch and for the reflected rule list -/

/-- the validator `create` applies to each of the seven typed payload types (so `C04.C04_invalid_marked` is not vacuous for any
    of them), and no other type has one -/
theorem validatorOf_table :
    validatorOf 0x0101 = some canValid ∧ validatorOf 0x0102 = some canValid ∧ validatorOf 0x0103 = some linValid ∧
    validatorOf 0x0107 = some analogValid ∧ validatorOf 0x0108 = some ethValid ∧ validatorOf 0x0301 = some cmValid ∧
    validatorOf 0x0302 = some ifValid ∧
    ∀ ty, (ty ≠ 0x0101 ∧ ty ≠ 0x0102 ∧ ty ≠ 0x0103 ∧ ty ≠ 0x0107 ∧ ty ≠ 0x0108 ∧ ty ≠ 0x0301 ∧ ty ≠ 0x0302 ↔
      validatorOf ty = none) :=
  ⟨rfl, rfl, rfl, rfl, rfl, rfl, rfl, fun ty => (validatorOf_eq_none_iff ty).symm⟩

/-- reviewer's `create_faithful`: a payload of a non-zero type that its validator (if it has one) accepts is handed out with
    the type and the bytes given -/
theorem create_faithful (ty : Nat) (d : Bytes) (hv : ∀ v, validatorOf ty = some v → v d = true) (h0 : ty ≠ 0) :
    create ty d = ⟨ty, d⟩ :=
  create_of_accepted h0 hv

/-- reviewer's `create_length`: accepted or not, the reported payload has the length handed in -/
theorem create_length (ty : Nat) (d : Bytes) : (create ty d).data.length = d.length := by
  rw [create_exact]
  unfold Spec.payload
  split
  · simp [zeros]
  · split <;> simp [zeros]

/-- the rules the dumper checked exhaustively on the real functions, compared TEXT for text (not only "five rules, all passed") -/
theorem rules_literal :
    Generated.rules =
      [("PayloadType: valid iff both bytes non-zero; message type = high byte, raw type = low byte (all 65536 types)", 1),
       ("swapEndian(uint16_t) swaps the two bytes (all 65536 values)", 1),
       ("swapEndian(uint32_t / uint64_t) reverse the bytes (64 probe values incl. every single bit)", 1),
       ("TECMP header valid iff message type != 0xFF and data type bytes != FF 00 (256 x 256 x 12 headers)", 1),
       ("message header: segment type = flags & 0x0C, error-in-payload = bit 6 (all 256 flag bytes)", 1)] := rfl

/-- the validator masks of the reflected headers are the ones the table `Spec` uses -/
theorem masks_literal :
    GenChecks.lookupNat Generated.masks "can.errorMask" = some 0x03FF ∧
    GenChecks.lookupNat Generated.masks "eth.errorMask" = some 0x003B ∧
    GenChecks.lookupNat Generated.masks "packet.errorInPayload" = some 0x40 ∧
    GenChecks.lookupNat Generated.masks "msghdr.seg" = some 0x0C := by decide +kernel

/-! ## 11. end to end: the TRANSLATED C++ `Decoder::decode` against the create-free specification, buffers of any length -/

section src
open AsamCmp.Src AsamCmp.SrcGen AsamCmp.SrcDec

/-- every buffer, of any length (`std::size_t curSize = size - 8`, decoder.cpp), at a non-null address of a memory
    smaller than 2^63 bytes, any pending table satisfying the decoder's invariant: the translated source is defined and returns
    the model's packets -/
theorem src_of_model (t : Table) (pre b post : Bytes) (fuel : Nat)
    (hT : C17b.TableOk t) (hR : TableReg t) (hpre : 0 < pre.length)
    (hmem : (pre ++ b ++ post).length < 2 ^ 63) (hf : b.length ≤ fuel) :
    ∃ t' outs, Decoder_decode_obj fuel (tblSt t) (pre ++ b ++ post) pre.length b.length (SrcTec.tecmpExt fuel) =
        some (tblSt t', outs) ∧ C17b.TableOk t' ∧
      outs.map (Sum.elim toPacket SrcTec.tAbs) = (decode t.abs (some b)).2 := by
  by_cases h8 : 8 ≤ b.length
  · obtain ⟨t', outs, h1, h2, _, h4⟩ := decode_total_src t pre b post fuel hT hR hpre h8 hmem hf
    exact ⟨t', outs, h1, h2, h4⟩
  · obtain ⟨h1, h2⟩ := decode_total_short_src t (pre ++ b ++ post) b pre.length fuel hpre (by omega)
    exact ⟨t, [], h1, hT, by rw [h2]; rfl⟩

/-- C04 (A)–(D) for the translated source -/
theorem C04S_src_wire (F : WFrame) (hF : F.WF) (t : Table) (pre post : Bytes) (fuel : Nat)
    (hT : C17b.TableOk t) (hR : TableReg t) (hpre : 0 < pre.length)
    (hmem : (pre ++ F.bytes ++ post).length < 2 ^ 63) (hf : F.bytes.length ≤ fuel) :
    ∃ t' outs, Decoder_decode_obj fuel (tblSt t) (pre ++ F.bytes ++ post) pre.length F.bytes.length (SrcTec.tecmpExt fuel) =
        some (tblSt t', outs) ∧ C17b.TableOk t' ∧
      outs.map (Sum.elim toPacket SrcTec.tAbs) = F.msgs.map (specPacket F) := by
  obtain ⟨t', outs, h1, h2, h3⟩ := src_of_model t pre F.bytes post fuel hT hR hpre hmem hf
  exact ⟨t', outs, h1, h2, by rw [h3, C04S_wire F hF]⟩

/-- (H) for the translated source -/
theorem C04S_src_pad (F : WFrame) (hF : F.WF) (k : Nat) (t : Table) (pre post : Bytes) (fuel : Nat)
    (hT : C17b.TableOk t) (hR : TableReg t) (hpre : 0 < pre.length)
    (hmem : (pre ++ (F.bytes ++ zeros k) ++ post).length < 2 ^ 63)
    (hf : (F.bytes ++ zeros k).length ≤ fuel) :
    ∃ t' outs, Decoder_decode_obj fuel (tblSt t) (pre ++ (F.bytes ++ zeros k) ++ post) pre.length (F.bytes ++ zeros k).length
        (SrcTec.tecmpExt fuel) = some (tblSt t', outs) ∧ C17b.TableOk t' ∧
      outs.map (Sum.elim toPacket SrcTec.tAbs) = F.msgs.map (specPacket F) := by
  obtain ⟨t', outs, h1, h2, h3⟩ := src_of_model t pre (F.bytes ++ zeros k) post fuel hT hR hpre hmem hf
  exact ⟨t', outs, h1, h2, by rw [h3, C04S_pad F hF]⟩

/-- (G) for the translated source, every cut offset (inside the frame header included) -/
theorem C04S_src_truncate (F : WFrame) (hF : F.WF) (n : Nat) (t : Table) (pre post : Bytes) (fuel : Nat)
    (hT : C17b.TableOk t) (hR : TableReg t) (hpre : 0 < pre.length)
    (hmem : (pre ++ F.bytes.take n ++ post).length < 2 ^ 63)
    (hf : (F.bytes.take n).length ≤ fuel) :
    ∃ t' outs, Decoder_decode_obj fuel (tblSt t) (pre ++ F.bytes.take n ++ post) pre.length (F.bytes.take n).length
        (SrcTec.tecmpExt fuel) = some (tblSt t', outs) ∧ C17b.TableOk t' ∧
      outs.map (Sum.elim toPacket SrcTec.tAbs) = (F.msgs.take (fitCount (n - 8) F.msgs)).map (specPacket F) := by
  obtain ⟨t', outs, h1, h2, h3⟩ := src_of_model t pre (F.bytes.take n) post fuel hT hR hpre hmem hf
  exact ⟨t', outs, h1, h2, by rw [h3, C04S_truncate F hF]⟩

set_option maxRecDepth 8000 in
/-- the hypotheses are satisfiable: the literal frame `exF` (123 bytes) at address 1 of a 126-byte memory, empty pending table;
    the translated source returns the four literal packets -/
example : ∃ t' outs, Decoder_decode_obj 128 (tblSt []) ([9] ++ exF.bytes ++ [5, 5]) 1 exF.bytes.length (SrcTec.tecmpExt 128) =
      some (tblSt t', outs) ∧ C17b.TableOk t' ∧ outs.map (Sum.elim toPacket SrcTec.tAbs) = exFPackets := by
  have := C04S_src_wire exF exF_wf [] [9] [5, 5] 128 tableOk_nil tableReg_nil (by decide) (by decide) (by decide)
  rw [exF_spec] at this
  exact this

end src

end AsamCmp.C04S
