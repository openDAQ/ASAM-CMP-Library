/-
  C13S  Strengthening of C13 (payload builders store data faithfully and produce self-valid payloads).

  Theorems about the definitions of Builders.lean, Access.lean, Packet.lean that state C13 at the strength of the property's text
  (statement audit, DESIGN.md section J.4):

   §A  prior objects of ANY length (also shorter than the header): `setData` sees only `resize b hdr`
   §B  analog getters (`getSamplesCount` / `getData`) on a built payload, exact characterisation
   §C  capture-module: exported normal form, total length, concrete offsets, length prefixes, NUL padding
       and what happens to vendor data of 65536 bytes or more (NEGATIVE: the getter's length wraps)
   §D  CAN DLC: complete characterisation of `dlcOf` on every length, and the lengths without a DLC code
       (a length without an ISO code gets the next larger code, so the DLC code always COVERS the data length)
   §E  built payloads pushed through the message framing (`msgValid`, `Packet.ofMsg`, the decoder's `walk`)
   §F  `TECMP::LinPayload::setData`, from the translated source
   §G  evaluated examples
-/
import AsamCmp.Props.C13
import AsamCmp.Lemmas.Wire
import AsamCmp.Props.C04
import AsamCmp.Props.GenChecks
import AsamCmp.Props.SrcBuilders
namespace AsamCmp.C13S
open AsamCmp AsamCmp.C13

/-! ## §A  prior contents of any length

  The property quantifies over "all prior contents of the object (longer, shorter, different data set before)".  The registered
  theorems assume `hdr ≤ b.length`.  Here: for EVERY `b`, `setData` only sees `resize b hdr` (the first `hdr` bytes, missing ones
  zero-filled) — so every registered C13 theorem applies to `resize b hdr`, whose length is exactly `hdr`. -/

/-- an object shorter than the header: the missing header bytes are zero -/
theorem resize_short (b : Bytes) (n : Nat) (h : b.length ≤ n) : resize b n = b ++ zeros (n - b.length) := by
  unfold resize zeros
  split
  · have e : n = b.length := by omega
    subst e
    simp
  · rfl

/-- an object at least as long as the header: its first `n` bytes -/
theorem resize_long (b : Bytes) (n : Nat) (h : n ≤ b.length) : resize b n = b.take n := by
  unfold resize; rw [if_pos h]

theorem resize_idem (b : Bytes) (n : Nat) : resize (resize b n) n = resize b n :=
  (resize_long _ n (Nat.le_of_eq (resize_length b n).symm)).trans (SrcTie.take_resize_self b n)

theorem setTail_resize (hdr : Nat) (b d : Bytes) : setTail hdr b d = setTail hdr (resize b hdr) d := by
  unfold setTail; rw [resize_idem]

theorem can_setData_prior (b d : Bytes) : canSetData b d = canSetData (resize b 16) d := by
  unfold canSetData; rw [setTail_resize]

theorem lin_setData_prior (b d : Bytes) : linSetData b d = linSetData (resize b 8) d := by
  unfold linSetData; rw [setTail_resize]

theorem eth_setData_prior (b d : Bytes) : ethSetData b d = ethSetData (resize b 6) d := by
  unfold ethSetData; rw [setTail_resize]

theorem analog_setData_prior (b d : Bytes) : analogSetData b d = analogSetData (resize b 16) d := by
  unfold analogSetData; rw [setTail_resize]

theorem cm_setData_prior (b s1 s2 s3 s4 v : Bytes) :
    cmSetData b s1 s2 s3 s4 v = cmSetData (resize b 26) s1 s2 s3 s4 v := by
  unfold cmSetData; rw [resize_idem]

theorem if_setData_prior (b ids v : Bytes) : ifSetData b ids v = ifSetData (resize b 36) ids v := by
  unfold ifSetData; rw [resize_idem]

/-- "The raw bytes depend only on the final logical content, not on what the object held before", at full strength,
    for prior objects of ANY length: two objects whose (zero-extended) header fields agree give the same bytes.
    The only hypothesis is equality of the header bytes the builder does not own. -/
theorem setData_canonical_any (b₁ b₂ : Bytes) :
    (∀ d, (resize b₁ 16).take 14 = (resize b₂ 16).take 14 → canSetData b₁ d = canSetData b₂ d) ∧
    (∀ d, (resize b₁ 8).take 7 = (resize b₂ 8).take 7 → linSetData b₁ d = linSetData b₂ d) ∧
    (∀ d, (resize b₁ 6).take 4 = (resize b₂ 6).take 4 → ethSetData b₁ d = ethSetData b₂ d) ∧
    (∀ d, resize b₁ 16 = resize b₂ 16 → analogSetData b₁ d = analogSetData b₂ d) ∧
    (∀ s1 s2 s3 s4 v, resize b₁ 26 = resize b₂ 26 → cmSetData b₁ s1 s2 s3 s4 v = cmSetData b₂ s1 s2 s3 s4 v) ∧
    (∀ ids v, resize b₁ 36 = resize b₂ 36 → ifSetData b₁ ids v = ifSetData b₂ ids v) := by
  refine ⟨?_, ?_, ?_, ?_, ?_, ?_⟩
  · intro d h
    rw [can_setData_prior b₁, can_setData_prior b₂]
    exact can_setData_canonical _ _ d (by simp) (by simp) h
  · intro d h
    rw [lin_setData_prior b₁, lin_setData_prior b₂]
    exact lin_setData_canonical _ _ d (by simp) (by simp) h
  · intro d h
    rw [eth_setData_prior b₁, eth_setData_prior b₂]
    exact eth_setData_canonical _ _ d (by simp) (by simp) h
  · intro d h
    rw [analog_setData_prior b₁, analog_setData_prior b₂, h]
  · intro s1 s2 s3 s4 v h
    rw [cm_setData_prior b₁, cm_setData_prior b₂, h]
  · intro ids v h
    rw [if_setData_prior b₁, if_setData_prior b₂, h]

/-- the registered per-class facts without the `hdr ≤ b.length` hypothesis: `b` of any length, header = `resize b hdr`.
    CAN / CAN-FD ("0..255 for CAN" is `hd`). -/
theorem can_setData_any (b d : Bytes) (hd : d.length < 256) :
    let o := canSetData b d
    let h := resize b 16
    o.length = 16 + d.length ∧ o.take 14 = h.take 14 ∧ byteAt o 14 = dlcOf d.length ∧ byteAt o 15 = d.length ∧
    o.drop 16 = d ∧ canAccess o = some [dataView "data" 16 d.length] ∧
    (beAt h 0 2 &&& 0x03FF = 0 → beAt h 12 2 = 0 →
      canValid o = true ∧ create tyCan o = ⟨tyCan, o⟩ ∧ create tyCanFd o = ⟨tyCanFd, o⟩) := by
  have hl : 16 ≤ (resize b 16).length := by simp
  rw [can_setData_prior b d]
  obtain ⟨f1, f2, f3, f4, f5, f6⟩ := can_setData (resize b 16) d hl hd
  exact ⟨f1, f2, f3, f4, f5, f6, can_setData_valid (resize b 16) d hl hd⟩

theorem lin_setData_any (b d : Bytes) (hd : d.length < 256) :
    let o := linSetData b d
    let h := resize b 8
    o.length = 8 + d.length ∧ o.take 7 = h.take 7 ∧ byteAt o 7 = d.length ∧ o.drop 8 = d ∧
    linAccess o = some [dataView "data" 8 d.length] ∧ linValid o = true ∧ create tyLin o = ⟨tyLin, o⟩ := by
  rw [lin_setData_prior b d]
  exact lin_setData (resize b 8) d (by simp) hd

theorem eth_setData_any (b d : Bytes) (hd : d.length < 65536) :
    let o := ethSetData b d
    let h := resize b 6
    o.length = 6 + d.length ∧ o.take 4 = h.take 4 ∧ beAt o 4 2 = d.length ∧ o.drop 6 = d ∧
    ethAccess o = some [dataView "data" 6 d.length] ∧
    (beAt h 0 2 &&& 0x003B = 0 → ethValid o = true ∧ create tyEth o = ⟨tyEth, o⟩) := by
  rw [eth_setData_prior b d]
  exact eth_setData (resize b 6) d (by simp) hd

theorem analog_setData_any (b d : Bytes) :
    let o := analogSetData b d
    let h := resize b 16
    o = h ++ d ∧ o.length = 16 + d.length ∧ o.take 16 = h ∧ o.drop 16 = d ∧
    (byteAt h 1 &&& 3 ≤ 1 → analogValid o = true ∧ create tyAnalog o = ⟨tyAnalog, o⟩) := by
  rw [analog_setData_prior b d]
  obtain ⟨f1, f2, f3, f4⟩ := analog_setData (resize b 16) d (by simp)
  rw [SrcTie.take_resize_self] at f2
  exact ⟨by rw [← List.take_append_drop 16 (analogSetData _ d), f2, f3], f1, f2, f3, f4⟩

theorem if_setData_any (b ids v : Bytes) (hi : ids.length < 65536) (hv : v.length < 65536) :
    let o := ifSetData b ids v
    let h := resize b 36
    let pad := ids.length % 2
    o.take 36 = h ∧ o.length = 36 + 2 + ids.length + pad + 2 + v.length ∧
    beAt o 36 2 = ids.length ∧ slice o 38 ids.length = ids ∧
    slice o (38 + ids.length) pad = zeros pad ∧
    beAt o (38 + ids.length + pad) 2 = v.length ∧ slice o (38 + ids.length + pad + 2) v.length = v ∧
    38 + ids.length + pad + 2 + v.length = o.length ∧
    ifAccess o = some [dataView "streamIds" 38 ids.length, dataView "vendorData" (38 + ids.length + pad + 2) v.length] ∧
    (byteAt h 29 ≤ 2 → ifValid o = true ∧ create tyIf o = ⟨tyIf, o⟩) := by
  rw [if_setData_prior b ids v]
  obtain ⟨f1, f2, f3, f4, f5, f6, f7, f8, f9⟩ := if_setData (resize b 36) ids v (by simp) hi hv
  rw [SrcTie.take_resize_self] at f1
  exact ⟨f1, f2, f3, f4, f5, f6, f7, by omega, f8, f9⟩

/-! ## §B  analog getters

  `analogAccess` is `AnalogPayload::getSamplesCount()` / `getData()`: sample width 2 iff the header's sample type (low two bits of
  byte 1) is 0 (`aInt16`), otherwise 4; count = (length − 16) / width; data pointer = offset 16, null when the count is 0. -/

/-- the getters on a payload built by `setData`, for every prior object and every data length: the samples view starts directly
    behind the 16-byte header, covers `⌊|d| / w⌋` whole samples, its bytes are the first bytes of the data supplied, and it is
    null exactly when no whole sample was supplied.  It covers ALL the bytes supplied iff `|d|` is a multiple of the sample width. -/
theorem analog_getters (b d : Bytes) :
    let o := analogSetData b d
    let w := if byteAt (resize b 16) 1 &&& 3 = 0 then 2 else 4
    analogAccess o = some [⟨"samples", if d.length / w = 0 then none else some 16, d.length / w * w⟩] ∧
    slice o 16 (d.length / w * w) = d.take (d.length / w * w) ∧
    (d.length / w * w = d.length ↔ d.length % w = 0) ∧
    (d.length % w = 0 → slice o 16 (d.length / w * w) = d) := by
  intro o w
  have hlen : o.length = 16 + d.length := (analog_setData_any b d).2.1
  have htake : o.take 16 = resize b 16 := (analog_setData_any b d).2.2.1
  have hdrop : o.drop 16 = d := (analog_setData_any b d).2.2.2.1
  have h1 : byteAt o 1 = byteAt (resize b 16) 1 :=
    byteAt_of_take o _ 16 1 (htake.trans (SrcTie.take_resize_self b 16).symm) (by omega)
  have hs : slice o 16 (d.length / w * w) = d.take (d.length / w * w) := by
    unfold slice; rw [hdrop]
  have hiff : d.length / w * w = d.length ↔ d.length % w = 0 := by
    have := Nat.div_add_mod d.length w
    rw [Nat.mul_comm] at this
    omega
  refine ⟨?_, hs, hiff, ?_⟩
  · have hsub : o.length - 16 = d.length := by omega
    rw [C03.analogAccess_eq o (by omega) w (by rw [h1]), hsub]
  · intro hm
    rw [hs, hiff.mpr hm]
    exact List.take_of_length_le (Nat.le_refl _)

/-- the same with the two sample types spelled out ("lengths supplied": a 16-bit payload reports `2·⌊|d|/2⌋` bytes, a 32-bit
    one `4·⌊|d|/4⌋`) -/
theorem analog_getters_cases (b d : Bytes) :
    (byteAt (resize b 16) 1 &&& 3 = 0 →
      analogAccess (analogSetData b d) = some [⟨"samples", if d.length / 2 = 0 then none else some 16, d.length / 2 * 2⟩]) ∧
    (byteAt (resize b 16) 1 &&& 3 ≠ 0 →
      analogAccess (analogSetData b d) = some [⟨"samples", if d.length / 4 = 0 then none else some 16, d.length / 4 * 4⟩]) := by
  have h := (analog_getters b d).1
  constructor
  · intro h0; rw [if_pos h0] at h; exact h
  · intro h0; rw [if_neg h0] at h; exact h

/-- NEGATIVE (limit of "the getters return exactly the … lengths supplied" for analog): whenever the number of bytes supplied
    is not a multiple of the sample width, the getters report strictly fewer bytes than were supplied (the raw payload still
    holds all of them: `analog_setData`, `o.drop 16 = d`). -/
theorem analog_getter_drops_partial_sample (b d : Bytes) :
    let w := if byteAt (resize b 16) 1 &&& 3 = 0 then 2 else 4
    d.length % w ≠ 0 →
    ∃ off len, analogAccess (analogSetData b d) = some [⟨"samples", off, len⟩] ∧ len < d.length := by
  intro w hm
  refine ⟨_, _, (analog_getters b d).1, ?_⟩
  have hiff := (analog_getters b d).2.2.1
  have hle : d.length / w * w ≤ d.length := Nat.div_mul_le_self _ _
  have hne : d.length / w * w ≠ d.length := fun h => hm (hiff.mp h)
  exact Nat.lt_of_le_of_ne hle hne

/-! ## §C  capture-module status -/

/-- the length field of a string block, in closed form: text + NUL, rounded up to even -/
theorem cmLen_eq (s : Bytes) : cmLen s = if s.length % 2 = 1 then s.length + 1 else s.length + 2 := by
  unfold cmLen; split <;> omega

/-- even; at least one NUL, at most two -/
theorem cmLen_facts (s : Bytes) : cmLen s % 2 = 0 ∧ s.length + 1 ≤ cmLen s ∧ cmLen s ≤ s.length + 2 := by
  unfold cmLen; omega

/-- the normal form of `CaptureModulePayload::setData`, for a prior object of any length -/
theorem cm_setData_normal_form (b s1 s2 s3 s4 v : Bytes) :
    cmSetData b s1 s2 s3 s4 v =
      resize b 26 ++ cmString s1 ++ cmString s2 ++ cmString s3 ++ cmString s4 ++ beEnc 2 v.length ++ v := by
  unfold cmSetData
  rw [SrcTie.take_resize_self]

/-- … bracketed the way `cm_shape_facts` reads it -/
theorem cm_setData_shape (b s1 s2 s3 s4 v : Bytes) :
    cmSetData b s1 s2 s3 s4 v =
      resize b 26 ++ (cmString s1 ++ (cmString s2 ++ (cmString s3 ++ (cmString s4 ++ (beEnc 2 v.length ++ v))))) := by
  rw [cm_setData_normal_form]
  simp only [List.append_assoc]

/-- The capture-module payload at full strength.  Hypotheses: "strings of length 0..~1000" (`h_i`, the
    16-bit length field), "without NUL" (`n_i`), vendor data that fits its 16-bit length field (`hv`); prior object `b` arbitrary.
    * the exact byte string (header, four blocks, vendor length, vendor data, NOTHING behind it) and its total length;
    * concrete offsets: first block at 26, every block directly behind the previous one, the vendor data ends the payload;
    * every string block: length prefix = `cmLen s` (even, text + 1 or 2), the text, then NULs only up to the end of the block;
    * the getters report exactly those offsets and the lengths supplied; validator and `create` accept. -/
theorem cm_setData_layout (b s1 s2 s3 s4 v : Bytes)
    (h1 : s1.length + 2 < 65536) (h2 : s2.length + 2 < 65536) (h3 : s3.length + 2 < 65536) (h4 : s4.length + 2 < 65536)
    (hv : v.length < 65536)
    (n1 : (0 : UInt8) ∉ s1) (n2 : (0 : UInt8) ∉ s2) (n3 : (0 : UInt8) ∉ s3) (n4 : (0 : UInt8) ∉ s4) :
    let o := cmSetData b s1 s2 s3 s4 v
    let p1 := 26
    let p2 := p1 + 2 + cmLen s1
    let p3 := p2 + 2 + cmLen s2
    let p4 := p3 + 2 + cmLen s3
    let p5 := p4 + 2 + cmLen s4
    o = resize b 26 ++ cmString s1 ++ cmString s2 ++ cmString s3 ++ cmString s4 ++ beEnc 2 v.length ++ v ∧
    o.take 26 = resize b 26 ∧ o.length = p5 + 2 + v.length ∧
    (beAt o p1 2 = cmLen s1 ∧ beAt o p2 2 = cmLen s2 ∧ beAt o p3 2 = cmLen s3 ∧ beAt o p4 2 = cmLen s4 ∧
      beAt o p5 2 = v.length) ∧
    (slice o (p1 + 2) s1.length = s1 ∧ slice o (p2 + 2) s2.length = s2 ∧ slice o (p3 + 2) s3.length = s3 ∧
      slice o (p4 + 2) s4.length = s4 ∧ slice o (p5 + 2) v.length = v) ∧
    (slice o (p1 + 2 + s1.length) (cmLen s1 - s1.length) = zeros (cmLen s1 - s1.length) ∧
      slice o (p2 + 2 + s2.length) (cmLen s2 - s2.length) = zeros (cmLen s2 - s2.length) ∧
      slice o (p3 + 2 + s3.length) (cmLen s3 - s3.length) = zeros (cmLen s3 - s3.length) ∧
      slice o (p4 + 2 + s4.length) (cmLen s4 - s4.length) = zeros (cmLen s4 - s4.length)) ∧
    cmAccess o = some [⟨"deviceDescription", some (p1 + 2), s1.length⟩, ⟨"serialNumber", some (p2 + 2), s2.length⟩,
                       ⟨"hardwareVersion", some (p3 + 2), s3.length⟩, ⟨"softwareVersion", some (p4 + 2), s4.length⟩,
                       ⟨"vendorData", some (p5 + 2), v.length⟩] ∧
    cmValid o = true ∧ create tyCm o = ⟨tyCm, o⟩ := by
  intro o p1 p2 p3 p4 p5
  have f := cm_shape_facts (resize b 26) s1 s2 s3 s4 v o (resize_length b 26) (cm_setData_shape b s1 s2 s3 s4 v)
    h1 h2 h3 h4 n1 n2 n3 n4
  dsimp only at f
  rw [Nat.mod_eq_of_lt hv] at f
  exact ⟨cm_setData_normal_form b s1 s2 s3 s4 v, f⟩

/-- NEGATIVE (`vendorData` is a `std::vector`, so the API type admits 65536 bytes and more): the model of
    `CaptureModulePayload::setData` (`static_cast<uint16_t>(vendorData.size())`, then `memcpy` of ALL the bytes) stores every
    byte supplied, but the length field and hence the `vendorData` getter report `|v| mod 65536` — NOT the length supplied —
    and the library's own validator and `create` still accept the payload. -/
theorem cm_vendor_length_wraps (b s1 s2 s3 s4 v : Bytes)
    (h1 : s1.length + 2 < 65536) (h2 : s2.length + 2 < 65536) (h3 : s3.length + 2 < 65536) (h4 : s4.length + 2 < 65536)
    (n1 : (0 : UInt8) ∉ s1) (n2 : (0 : UInt8) ∉ s2) (n3 : (0 : UInt8) ∉ s3) (n4 : (0 : UInt8) ∉ s4)
    (hv : 65536 ≤ v.length) :
    let o := cmSetData b s1 s2 s3 s4 v
    let p5 := 26 + 2 + cmLen s1 + 2 + cmLen s2 + 2 + cmLen s3 + 2 + cmLen s4
    o.length = p5 + 2 + v.length ∧ slice o (p5 + 2) v.length = v ∧
    beAt o p5 2 = v.length % 65536 ∧ v.length % 65536 ≠ v.length ∧
    (∃ w1 w2 w3 w4, cmAccess o = some [w1, w2, w3, w4, ⟨"vendorData", some (p5 + 2), v.length % 65536⟩]) ∧
    cmValid o = true ∧ create tyCm o = ⟨tyCm, o⟩ := by
  intro o p5
  obtain ⟨_, flen, ⟨_, _, _, _, l5⟩, ⟨_, _, _, _, c5⟩, _, facc, fv, fc⟩ :=
    cm_shape_facts (resize b 26) s1 s2 s3 s4 v o (resize_length b 26) (cm_setData_shape b s1 s2 s3 s4 v)
      h1 h2 h3 h4 n1 n2 n3 n4
  have hlt : v.length % 65536 < 65536 := Nat.mod_lt _ (by decide)
  exact ⟨flen, c5, l5, by omega, ⟨_, _, _, _, facc⟩, fv, fc⟩

/-! ## §D  the CAN DLC code

  ISO 11898-1: DLC code `c` (0..15) stands for `[0,1,2,3,4,5,6,7,8,12,16,20,24,32,48,64][c]` data bytes (`C13.dlcLen`,
  `C13.dlcLen_table`).  The registered `dlc_iso` pins `dlcOf` at these sixteen lengths only.  Here: `dlcOf` on EVERY length
  (`C13.dlc_covers`, `dlc_exact_iff`, `dlc_above_64` say the same with `dlcLen`). -/

/-- complete characterisation of `dlcOf` (hence, by `GenChecks.dlc_ok` / `encodeDlc_src`, of `CanPayloadBase::encodeDlc`):
    * the code is always in 0..15;
    * for a length that HAS an ISO code, the code decodes back to exactly that length, and it is the only such code;
    * for every length a CAN FD frame can carry (0..64, ISO or not) the code's data field covers the length and no smaller
      code's does — which determines the code: 9,10,11 ↦ 9 (12 bytes), 13..15 ↦ 10 (16 bytes), …, 49..63 ↦ 15 (64 bytes);
    * for everything above 64 the result is 15, the largest code. -/
theorem dlc_complete (n : Nat) :
    dlcOf n ≤ 15 ∧
    (n ∈ [0,1,2,3,4,5,6,7,8,12,16,20,24,32,48,64] → [0,1,2,3,4,5,6,7,8,12,16,20,24,32,48,64].getD (dlcOf n) 0 = n) ∧
    (∀ c, c ≤ 15 → [0,1,2,3,4,5,6,7,8,12,16,20,24,32,48,64].getD c 0 = n → dlcOf n = c) ∧
    (n ≤ 64 → n ≤ [0,1,2,3,4,5,6,7,8,12,16,20,24,32,48,64].getD (dlcOf n) 0 ∧ ∀ c, c < dlcOf n → [0,1,2,3,4,5,6,7,8,12,16,20,24,32,48,64].getD c 0 < n) ∧
    (64 < n → dlcOf n = 15) := by
  refine ⟨dlcOf_le n, ?_, ?_, ?_, dlc_above_64 n⟩
  · revert n; decide
  · have : ∀ c ≤ 15, dlcOf ([0,1,2,3,4,5,6,7,8,12,16,20,24,32,48,64].getD c 0) = c := by decide
    exact fun c hc h => h ▸ this c hc
  · intro h
    have hc := dlc_covers n h
    simp only [dlcLen_table] at hc
    exact hc

/-- the DLC code stands for the data length exactly when the length is one of the sixteen ISO lengths -/
theorem dlc_matches_iff (n : Nat) :
    [0,1,2,3,4,5,6,7,8,12,16,20,24,32,48,64].getD (dlcOf n) 0 = n ↔ n ∈ [0,1,2,3,4,5,6,7,8,12,16,20,24,32,48,64] := by
  constructor
  · intro h
    -- an entry of the table is a member of it
    have : [0,1,2,3,4,5,6,7,8,12,16,20,24,32,48,64].getD (dlcOf n) 0 ∈ [0,1,2,3,4,5,6,7,8,12,16,20,24,32,48,64] := by
      have h16 : dlcOf n < 16 := Nat.lt_succ_of_le (dlcOf_le n)
      rw [List.getD_eq_getElem?_getD, List.getElem?_eq_getElem h16]
      exact List.getElem_mem h16
    exact h ▸ this
  · exact (dlc_complete n).2.1

/-- the REAL `encodeDlc`, executed on all 256 arguments of its `uint8_t` parameter (reflected table `Generated.dlcTable`),
    entry by entry -/
theorem encodeDlc_table (n : Nat) (h : n < 256) : Generated.dlcTable[n]? = some (dlcOf n) := by
  rw [GenChecks.dlc_ok, List.getElem?_map, List.getElem?_range h]
  rfl

/-- The DLC byte of a built CAN / CAN-FD payload, as an exact characterisation, for every prior object and every API length 0..255:
    the DLC byte decodes (ISO table) to the data-length byte — which is the number of bytes supplied — iff that number is an
    ISO length. -/
theorem can_dlc_matches_iff (b d : Bytes) (hd : d.length < 256) :
    let o := canSetData b d
    byteAt o 15 = d.length ∧
    ([0,1,2,3,4,5,6,7,8,12,16,20,24,32,48,64].getD (byteAt o 14) 0 = byteAt o 15 ↔
      d.length ∈ [0,1,2,3,4,5,6,7,8,12,16,20,24,32,48,64]) := by
  intro o
  obtain ⟨_, _, h14, h15, _⟩ := can_setData_any b d hd
  refine ⟨h15, ?_⟩
  rw [h14, h15]
  exact dlc_matches_iff d.length

/-- "the CAN DLC code match[es] the data length" (quantified over "0..255 for CAN") on a built CAN / CAN-FD payload, for
    every prior object `b` of any length and every API length 0..255.  (The defect this clause exposed in `encodeDlc` — DLC 0 next to a
    non-zero data length for 240 of the 256 lengths — and its repair: DESIGN.md section J.4.)
    The DLC byte is `dlcOf` of the number of bytes supplied and the data-length byte is that number; hence
    * the DLC byte is a 4-bit code, and it is 0 only for an empty data field;
    * for every length a CAN FD frame can carry (≤ 64) the data field the DLC byte announces COVERS the data-length byte, and no
      smaller code's data field does (the smallest sufficient CAN FD step);
    * the announced size EQUALS the data-length byte exactly for the sixteen ISO lengths;
    * above 64 the DLC byte is 15;
    and the library's own validator and `Packet::create` (CAN and CAN-FD) accept the result (header hypotheses as in the
    registered `can_setData_valid`: no error flags, no error position). -/
theorem can_dlc_covers_length (b d : Bytes) (hd : d.length < 256) :
    let o := canSetData b d
    byteAt o 14 = dlcOf d.length ∧ byteAt o 15 = d.length ∧ o.drop 16 = d ∧
    byteAt o 14 ≤ 15 ∧ (byteAt o 14 = 0 ↔ d.length = 0) ∧
    (d.length ≤ 64 → byteAt o 15 ≤ dlcLen (byteAt o 14) ∧ ∀ c, c < byteAt o 14 → dlcLen c < byteAt o 15) ∧
    (dlcLen (byteAt o 14) = byteAt o 15 ↔ d.length ∈ [0,1,2,3,4,5,6,7,8,12,16,20,24,32,48,64]) ∧
    (64 < d.length → byteAt o 14 = 15) ∧
    (beAt (resize b 16) 0 2 &&& 0x03FF = 0 → beAt (resize b 16) 12 2 = 0 →
      canValid o = true ∧ create tyCan o = ⟨tyCan, o⟩ ∧ create tyCanFd o = ⟨tyCanFd, o⟩) := by
  intro o
  obtain ⟨_, _, h14, h15, hdr, _, hv⟩ := can_setData_any b d hd
  rw [h14, h15]
  refine ⟨rfl, rfl, hdr, dlcOf_le _, dlc_zero_iff _, dlc_covers _, ?_, dlc_above_64 _, hv⟩
  rw [dlcLen_table]
  exact dlc_matches_iff d.length

/-! ## §E  built payloads through the message framing

  "the library's own … decoder accept[s] the result", beyond `create`: the built payload, put behind a message header that
  declares its type and length and a frame header, is delivered by `decode` (any decoder history) as a packet holding exactly
  the typed payload.  The carrier hypotheses describe a well-formed frame with one unsegmented message (in-range field
  values, segment bits and error-in-payload bit clear) — they constrain the envelope, not the payload. -/

/-- in-range envelope: frame header fields and the message's timestamp / id word / common flags (unsegmented, no error bit) -/
def CarrierOk (ver dev stream seq ts idw flags : Nat) : Prop :=
  1 ≤ ver ∧ ver < 256 ∧ dev < 65536 ∧ stream < 256 ∧ seq < 65536 ∧ ts < 2 ^ 64 ∧ idw < 2 ^ 32 ∧ flags < 256 ∧
    flags &&& 0x4C = 0

/-- the bytes of a frame (message type `mt`) carrying one message with payload type `raw` and payload `o` -/
abbrev frameOf (ver dev mt stream seq ts idw flags raw : Nat) (o : Bytes) : Bytes :=
  C04.WFrame.bytes ⟨ver, 0, dev, mt, stream, seq, [⟨ts, idw, flags, raw, o⟩]⟩

theorem frameOf_bytes (ver dev mt stream seq ts idw flags raw : Nat) (o : Bytes) :
    frameOf ver dev mt stream seq ts idw flags raw o =
      [UInt8.ofNat ver, 0] ++ beEnc 2 dev ++ [UInt8.ofNat mt, UInt8.ofNat stream] ++ beEnc 2 seq ++
      (beEnc 8 ts ++ beEnc 4 idw ++ [UInt8.ofNat flags, UInt8.ofNat raw] ++ beEnc 2 o.length ++ o) := by
  simp [frameOf, C04.WFrame.bytes, C04.WMsg.bytes]

/-- any payload `create` accepts, of a length the 16-bit length field can hold, comes out of the decoder unchanged -/
theorem accepted_payload_decodes (ver dev mt stream seq ts idw flags raw : Nat) (o : Bytes) (st : DecState)
    (hc : CarrierOk ver dev stream seq ts idw flags) (hmt : mt < 256) (hraw : 1 ≤ raw ∧ raw < 256)
    (hlen : o.length < 65536) (hcr : create (mt * 256 + raw) o = ⟨mt * 256 + raw, o⟩) :
    (decode st (some (frameOf ver dev mt stream seq ts idw flags raw o))).2 =
      [{ payload := some ⟨mt * 256 + raw, o⟩, version := ver, deviceId := dev, streamId := stream, seq := 0, ts := ts,
         ifId := if mt = 1 then idw else 0, vendorId := if mt = 3 ∨ mt = 0xFF then idw % 65536 else 0,
         flags := flags, segType := 0 }] := by
  obtain ⟨c1, c2, c3, c4, c5, c6, c7, c8, c9⟩ := hc
  have h := C04.C04_wire ⟨ver, 0, dev, mt, stream, seq, [⟨ts, idw, flags, raw, o⟩]⟩
    ⟨c1, c2, (by decide : (0 : Nat) < 256), c3, hmt, c4, c5, by
      intro m hm
      simp only [List.mem_singleton] at hm
      subst hm
      exact ⟨c6, c7, c8, c9, hraw.1, hraw.2, hlen⟩⟩ st
  rw [h]
  simp only [List.map_cons, List.map_nil, C04.specPacket, hcr]

/-- … and at message level: `Packet::isValidPacket` accepts the message bytes and `Packet(msgType, data, size)` holds
    exactly the typed payload, whatever follows the message in the buffer -/
theorem accepted_payload_in_message (mt ts idw flags raw : Nat) (o rest : Bytes)
    (h6 : ts < 2 ^ 64) (h7 : idw < 2 ^ 32) (h8 : flags < 256) (h9 : flags &&& 0x4C = 0) (hraw : 1 ≤ raw ∧ raw < 256)
    (hlen : o.length < 65536) (hcr : create (mt * 256 + raw) o = ⟨mt * 256 + raw, o⟩) :
    let m := beEnc 8 ts ++ beEnc 4 idw ++ [UInt8.ofNat flags, UInt8.ofNat raw] ++ beEnc 2 o.length ++ o
    msgValid (m ++ rest) = true ∧ (Packet.ofMsg mt (m ++ rest)).payload = some ⟨mt * 256 + raw, o⟩ ∧
    (Packet.ofMsg mt (m ++ rest)).payloadLength = o.length := by
  intro m
  have hk : MsgHdrOk ts idw flags raw := ⟨h6, h7, h8, (C04.flags_bits h9).1, hraw.1, hraw.2⟩
  have hpl : (Packet.ofMsg mt (m ++ rest)).payload = some ⟨mt * 256 + raw, o⟩ :=
    (congrArg Packet.payload (msgHdr_ofMsg hk hlen rest mt)).trans (congrArg some hcr)
  refine ⟨msgHdr_valid hk hlen rest, hpl, ?_⟩
  unfold Packet.payloadLength
  rw [hpl]
  exact Nat.mod_eq_of_lt hlen

/-- "the library's own … decoder accept[s] the result", for each payload class: what `setData` built, for EVERY prior object `b` and every data the message can carry, is
    delivered by the decoder as the typed payload.  Hypotheses: the class's API length range ("0..255 for CAN/LIN"; for
    Ethernet / analog what fits a message: header + data < 65536, i.e. the property's "0..65529" for Ethernet), and the header
    conditions the library's validators impose (as in the registered theorems; all hold for default-constructed objects). -/
theorem built_payloads_decode (ver dev stream seq ts idw flags : Nat) (st : DecState)
    (hc : CarrierOk ver dev stream seq ts idw flags) (b : Bytes) :
    (∀ d, d.length < 256 → beAt (resize b 16) 0 2 &&& 0x03FF = 0 → beAt (resize b 16) 12 2 = 0 →
      (decode st (some (frameOf ver dev 1 stream seq ts idw flags 1 (canSetData b d)))).2 =
        [{ payload := some ⟨tyCan, canSetData b d⟩, version := ver, deviceId := dev, streamId := stream, ts := ts,
           ifId := idw, flags := flags }] ∧
      (decode st (some (frameOf ver dev 1 stream seq ts idw flags 2 (canSetData b d)))).2 =
        [{ payload := some ⟨tyCanFd, canSetData b d⟩, version := ver, deviceId := dev, streamId := stream, ts := ts,
           ifId := idw, flags := flags }]) ∧
    (∀ d, d.length < 256 →
      (decode st (some (frameOf ver dev 1 stream seq ts idw flags 3 (linSetData b d)))).2 =
        [{ payload := some ⟨tyLin, linSetData b d⟩, version := ver, deviceId := dev, streamId := stream, ts := ts,
           ifId := idw, flags := flags }]) ∧
    (∀ d, 16 + d.length < 65536 → byteAt (resize b 16) 1 &&& 3 ≤ 1 →
      (decode st (some (frameOf ver dev 1 stream seq ts idw flags 7 (analogSetData b d)))).2 =
        [{ payload := some ⟨tyAnalog, analogSetData b d⟩, version := ver, deviceId := dev, streamId := stream, ts := ts,
           ifId := idw, flags := flags }]) ∧
    (∀ d, d.length ≤ 65529 → beAt (resize b 6) 0 2 &&& 0x003B = 0 →
      (decode st (some (frameOf ver dev 1 stream seq ts idw flags 8 (ethSetData b d)))).2 =
        [{ payload := some ⟨tyEth, ethSetData b d⟩, version := ver, deviceId := dev, streamId := stream, ts := ts,
           ifId := idw, flags := flags }]) ∧
    (∀ s1 s2 s3 s4 v, s1.length + 2 < 65536 → s2.length + 2 < 65536 → s3.length + 2 < 65536 → s4.length + 2 < 65536 →
      (0 : UInt8) ∉ s1 → (0 : UInt8) ∉ s2 → (0 : UInt8) ∉ s3 → (0 : UInt8) ∉ s4 →
      (cmSetData b s1 s2 s3 s4 v).length < 65536 →
      (decode st (some (frameOf ver dev 3 stream seq ts idw flags 1 (cmSetData b s1 s2 s3 s4 v)))).2 =
        [{ payload := some ⟨tyCm, cmSetData b s1 s2 s3 s4 v⟩, version := ver, deviceId := dev, streamId := stream,
           ts := ts, vendorId := idw % 65536, flags := flags }]) ∧
    (∀ ids v, (ifSetData b ids v).length < 65536 → byteAt (resize b 36) 29 ≤ 2 →
      (decode st (some (frameOf ver dev 3 stream seq ts idw flags 2 (ifSetData b ids v)))).2 =
        [{ payload := some ⟨tyIf, ifSetData b ids v⟩, version := ver, deviceId := dev, streamId := stream,
           ts := ts, vendorId := idw % 65536, flags := flags }]) := by
  -- the envelope is the same in all six cases; what varies is the payload, its type and its acceptance by `create`
  have deliver := fun mt raw o => accepted_payload_decodes ver dev mt stream seq ts idw flags raw o st hc
  refine ⟨?_, ?_, ?_, ?_, ?_, ?_⟩
  · intro d hd hf he
    obtain ⟨hl, _, _, _, _, _, hv⟩ := can_setData_any b d hd
    obtain ⟨_, v2, v3⟩ := hv hf he
    exact ⟨deliver 1 1 _ (by decide) (by decide) (by omega) v2, deliver 1 2 _ (by decide) (by decide) (by omega) v3⟩
  · intro d hd
    obtain ⟨hl, _, _, _, _, _, v⟩ := lin_setData_any b d hd
    exact deliver 1 3 _ (by decide) (by decide) (by omega) v
  · intro d hd hdt
    obtain ⟨_, hl, _, _, hv⟩ := analog_setData_any b d
    exact deliver 1 7 _ (by decide) (by decide) (by omega) (hv hdt).2
  · intro d hd hf
    obtain ⟨hl, _, _, _, _, hv⟩ := eth_setData_any b d (by omega)
    exact deliver 1 8 _ (by decide) (by decide) (by omega) (hv hf).2
  · intro s1 s2 s3 s4 v h1 h2 h3 h4 n1 n2 n3 n4 hl
    have f := cm_shape_facts (resize b 26) s1 s2 s3 s4 v _ (resize_length b 26) (cm_setData_shape b s1 s2 s3 s4 v)
      h1 h2 h3 h4 n1 n2 n3 n4
    exact deliver 3 1 _ (by decide) (by decide) hl f.2.2.2.2.2.2.2
  · intro ids v hl h29
    have hlen : (ifSetData b ids v).length = 36 + 2 + ids.length + ids.length % 2 + 2 + v.length := by
      simp [ifSetData, zeros]; omega
    obtain ⟨_, _, _, _, _, _, _, _, _, hv⟩ := if_setData_any b ids v (by omega) (by omega)
    exact deliver 3 2 _ (by decide) (by decide) hl (hv h29).2

/-- a limit of the above: `create` accepts an Ethernet payload of 65530..65535 data bytes, but such a payload does
    not fit the 16-bit payload-length field — the packet reports a length different from the payload's size (outside the
    property's "0..65529", stated so that "create accepts" is not mistaken for "can be carried") -/
theorem eth_overlong_not_carried (b d : Bytes) (h1 : 65530 ≤ d.length) (h2 : d.length < 65536) :
    (Packet.payloadLength { payload := some ⟨tyEth, ethSetData b d⟩ }) = d.length - 65530 ∧
    (Packet.payloadLength { payload := some ⟨tyEth, ethSetData b d⟩ }) ≠ (ethSetData b d).length := by
  obtain ⟨hl, _⟩ := eth_setData_any b d h2
  simp only [Packet.payloadLength, hl]
  omega

/-! ## §F  source level: `TECMP::LinPayload::setData`, and `CaptureModulePayload::setData` on oversized vendor data -/

section src
open AsamCmp.Src AsamCmp.SrcGen AsamCmp.SrcTie

/-- `TECMP::LinPayload::setData` ("any payload class"; the same `Payload::setData<Header>` template with a 2-byte header, then
    `setDataLength`), translated from the source on every run: for EVERY prior content `m` of the object and every length of
    its `uint8_t` parameter, the result is: the PID byte kept (zero if the object was empty), the length byte = the number
    of bytes supplied, the data — nothing else, nothing stale. -/
theorem tecmp_lin_setData_src (m x : Bytes) (this n : Nat) (hn : n ≤ x.length) (h8 : n < 256) :
    TECMP_LinPayload_setData m this x n = some ((resize m 2).take 1 ++ [UInt8.ofNat n] ++ x.take n) := by
  have hl : (x.take n).length = n := by simp only [List.length_take]; omega
  simp only [TECMP_LinPayload_setData, TECMP_LinPayload_Header_setDataLength, swapEndian_u8, bind, pure]
  refine bind_of_eq (payload_setData_spec _ 2 (fun _ _ _ _ => rfl) m this x n hn (by omega)) ?_
  bld_calls [hl]
  rw [setTail_resize, C13.writeAt_setTail 2 1 (resize m 2) (x.take n) [UInt8.ofNat n] (by simp) rfl]
  rfl

/-- the C13 clauses for the TECMP LIN payload, read off the result: total length, PID preserved, length byte = data length,
    data stored exactly, canonical (independent of everything in `m` but the PID byte) -/
theorem tecmp_lin_setData_facts (m x : Bytes) (this n : Nat) (hn : n ≤ x.length) (h8 : n < 256) :
    ∃ o, TECMP_LinPayload_setData m this x n = some o ∧
      o.length = 2 + n ∧ byteAt o 0 = byteAt m 0 ∧ byteAt o 1 = n ∧ o.drop 2 = x.take n ∧
      (∀ m', byteAt m' 0 = byteAt m 0 → TECMP_LinPayload_setData m' this x n = some o) := by
  have hl : (x.take n).length = n := by simp only [List.length_take]; omega
  have h1 : ∀ m : Bytes, ((resize m 2).take 1).length = 1 := by intro m; simp
  have hp : ∀ m : Bytes, (resize m 2).take 1 = [UInt8.ofNat (byteAt m 0)] := by
    intro m
    unfold resize byteAt
    match m with
    | [] => rfl
    | [a] => simp
    | a :: b :: r => simp
  refine ⟨_, tecmp_lin_setData_src m x this n hn h8, ?_, ?_, ?_, ?_, ?_⟩
  · simp only [List.length_append, h1, hl, List.length_singleton]
  · rw [hp]; simp [byteAt]
  · rw [List.append_assoc]; exact byteAt_at_ofNat _ _ _ 1 (h1 m) h8
  · exact List.drop_left' (by simp only [List.length_append, h1, List.length_singleton])
  · intro m' hm
    rw [tecmp_lin_setData_src m' x this n hn h8, hp m', hp m, hm]

theorem beEnc2_mod (n : Nat) : beEnc 2 (n % 65536) = beEnc 2 n := beEnc_two_mod n

/-- the registered `cm_setData_src` assumes `v.length < 65536`.  Without it: the translated `CaptureModulePayload::setData`
    equals the model also for vendor data of 65536 bytes and more — so `cm_vendor_length_wraps` (§C) is a statement about the
    C++ source, not an artefact of the model. -/
theorem cm_setData_src_any (m d s hw sw v : Bytes) (this : Nat)
    (hd : d.length < 65534) (hs : s.length < 65534) (hh : hw.length < 65534) (hw' : sw.length < 65534)
    (hv : v.length < 2 ^ 63) :
    CaptureModulePayload_setData m this d s hw sw v = some (cmSetData m d s hw sw v) :=
  SrcTie.cm_setData_src_any m d s hw sw v this hd hs hh hw' hv

end src

/-! ## §G  evaluated examples: the hypotheses are satisfiable, the conclusions compute to the written values -/

/-- §A: an EMPTY prior object (shorter than the header): missing header bytes are zero, data and length/DLC bytes as usual -/
example : canSetData [] [0xAA, 0xBB, 0xCC] = [0,0,0,0, 0,0,0,0, 0,0,0,0, 0,0, 3, 3, 0xAA, 0xBB, 0xCC] := by decide +kernel
/-- §A: a 3-byte prior object: its bytes are kept as header bytes 0..2 -/
example : linSetData [1, 2, 3] [9] = [1,2,3,0,0,0,0, 1, 9] := by decide +kernel
/-- §A: hypotheses of `setData_canonical_any` on objects of different lengths (one shorter than the header) -/
example : (resize [0x30, 0] 16).take 14 = (resize ([0x30] ++ zeros 40) 16).take 14 := by decide +kernel
example : canSetData [0x30, 0] [7] = canSetData ([0x30] ++ zeros 13 ++ [0xFF, 0xFF, 1, 2, 3, 4, 5]) [7] := by decide +kernel

/-- §B: odd number of bytes on a 16-bit analog payload: 5 bytes supplied, the getters report 2 samples = 4 bytes -/
example : analogAccess (analogSetData analogDefault [1,2,3,4,5]) = some [⟨"samples", some 16, 4⟩] := by decide +kernel
/-- §B: 32-bit samples (sample type 1), 7 bytes supplied on an object that held 12: 1 sample = 4 bytes -/
example : analogAccess (analogSetData (analogSetData ([0, 1] ++ zeros 14) (zeros 12)) [1,2,3,4,5,6,7]) =
    some [⟨"samples", some 16, 4⟩] := by decide +kernel
/-- §B: fewer bytes than one sample: null data pointer, length 0 -/
example : analogAccess (analogSetData analogDefault [1]) = some [⟨"samples", none, 0⟩] := by decide +kernel
/-- §B: the hypothesis of `analog_getter_drops_partial_sample` -/
example : [1,2,3,4,5].length % (if byteAt (resize analogDefault 16) 1 &&& 3 = 0 then 2 else 4) ≠ 0 := by decide +kernel

/-- §C: capture-module re-set with SHORTER strings on an object that held longer ones: nothing stale, exact bytes.
    "ab" → length 4 = text + 2 NULs; "" → length 2; "xyz" → length 4 = text + 1 NUL; vendor data [7,8,9] ends the payload. -/
example :
    (cmSetData (cmSetData cmDefault [65,66,67,68,69,70,71] [72,73,74,75] [76,77,78,79,80] [81,82,83,84,85,86] [1,2,3,4,5,6,7,8,9])
      [97, 98] [] [120, 121, 122] [113] [7, 8, 9]).drop 26 =
    [0,4, 97,98,0,0,   0,2, 0,0,   0,4, 120,121,122,0,   0,2, 113,0,   0,3, 7,8,9] := by decide +kernel
example :
    cmAccess (cmSetData (cmSetData cmDefault [65,66,67,68,69,70,71] [72,73,74,75] [76,77,78,79,80] [81,82,83,84,85,86] [1,2,3,4,5,6,7,8,9])
      [97, 98] [] [120, 121, 122] [113] [7, 8, 9]) =
    some [⟨"deviceDescription", some 28, 2⟩, ⟨"serialNumber", some 34, 0⟩, ⟨"hardwareVersion", some 38, 3⟩,
          ⟨"softwareVersion", some 44, 1⟩, ⟨"vendorData", some 48, 3⟩] := by decide +kernel
example : cmLen [97, 98] = 4 ∧ cmLen [] = 2 ∧ cmLen [120, 121, 122] = 4 := by decide +kernel
/-- §C: the hypothesis of `cm_vendor_length_wraps` is satisfiable: 65536 vendor bytes; the getter then reports length 0 -/
example : 65536 ≤ (List.replicate 65536 (7 : UInt8)).length ∧ (List.replicate 65536 (7 : UInt8)).length % 65536 = 0 := by
  simp only [List.length_replicate]; decide
example :
    ∃ w1 w2 w3 w4 off, cmAccess (cmSetData cmDefault [] [] [] [] (List.replicate 65536 7)) =
      some [w1, w2, w3, w4, ⟨"vendorData", some off, 0⟩] ∧
      (cmSetData cmDefault [] [] [] [] (List.replicate 65536 7)).length = 44 + 65536 := by
  have h := cm_vendor_length_wraps cmDefault [] [] [] [] (List.replicate 65536 7) (by decide) (by decide) (by decide)
    (by decide) (by simp) (by simp) (by simp) (by simp) (by simp only [List.length_replicate]; decide)
  simp only [List.length_replicate] at h
  obtain ⟨hl, _, _, _, ⟨w1, w2, w3, w4, ha⟩, _⟩ := h
  exact ⟨w1, w2, w3, w4, _, ha, hl.trans (by decide)⟩

/-- §D: lengths without an ISO code: 9 bytes on a CAN-FD object → DLC byte 9 (a 12-byte data field), length byte 9, accepted by
    the library; 13 bytes → DLC byte 10 -/
example : (canSetData canDefault [1,2,3,4,5,6,7,8,9]).drop 14 = [9, 9, 1,2,3,4,5,6,7,8,9] ∧
    create tyCanFd (canSetData canDefault [1,2,3,4,5,6,7,8,9]) = ⟨tyCanFd, canSetData canDefault [1,2,3,4,5,6,7,8,9]⟩ := by
  decide +kernel
example : (canSetData canDefault [1,2,3,4,5,6,7,8,9,10,11,12,13]).drop 14 = [10, 13, 1,2,3,4,5,6,7,8,9,10,11,12,13] := by decide +kernel
example : dlcOf 9 = 9 ∧ dlcOf 13 = 10 ∧ dlcOf 63 = 15 ∧ dlcOf 64 = 15 ∧ dlcOf 65 = 15 ∧ dlcOf 200 = 15 ∧ dlcOf 255 = 15 ∧
    dlcOf 300 = 15 := by decide +kernel
example : dlcLen (dlcOf 9) = 12 ∧ dlcLen (dlcOf 13) = 16 ∧ dlcLen (dlcOf 64) = 64 ∧ dlcLen (dlcOf 65) = 64 ∧
    dlcLen (dlcOf 200) = 64 := by decide +kernel
example : (List.range 256).map dlcOf =
    [0,1,2,3,4,5,6,7,8] ++ List.replicate 4 9 ++ List.replicate 4 10 ++ List.replicate 4 11 ++ List.replicate 4 12 ++
      List.replicate 8 13 ++ List.replicate 16 14 ++ List.replicate 207 15 := by decide +kernel
example : (9 : Nat) ∉ [0,1,2,3,4,5,6,7,8,12,16,20,24,32,48,64] := by decide +kernel

/-- CAN-FD with the allowed flags BRS and ESI (bits 12, 13 of the flags word) set satisfies the hypotheses of
    `can_setData_valid` / `can_setData_any`, and the built payload is accepted -/
example : beAt (resize ([0x30, 0x00] ++ zeros 14) 16) 0 2 &&& 0x03FF = 0 ∧ beAt (resize ([0x30, 0x00] ++ zeros 14) 16) 12 2 = 0 := by
  decide +kernel
example : canValid (canSetData ([0x30, 0x00] ++ zeros 14) [1,2,3,4,5,6,7,8,9,10,11,12]) = true ∧
    (canSetData ([0x30, 0x00] ++ zeros 14) [1,2,3,4,5,6,7,8,9,10,11,12]).take 16 = [0x30,0,0,0, 0,0,0,0, 0,0,0,0, 0,0, 9, 12] := by
  decide +kernel

/-- §E: the carrier hypotheses are satisfiable, and a concrete frame decodes to the built LIN payload -/
example : CarrierOk 1 0x1234 5 77 1000 3 0 := by unfold CarrierOk; decide
example : frameOf 1 0x1234 1 5 77 1000 3 0 3 (linSetData linDefault [0xAB]) =
    [1,0, 0x12,0x34, 1, 5, 0,77,   0,0,0,0,0,0,3,0xE8,  0,0,0,3,  0, 3,  0,9,   0,0,0,0,0,0,0,1, 0xAB] := by decide +kernel
example : (decode DecState.empty (some (frameOf 1 0x1234 1 5 77 1000 3 0 3 (linSetData linDefault [0xAB])))).2 =
    [{ payload := some ⟨tyLin, [0,0,0,0,0,0,0,1,0xAB]⟩, version := 1, deviceId := 0x1234, streamId := 5, ts := 1000,
       ifId := 3, flags := 0 }] :=
  (built_payloads_decode 1 0x1234 5 77 1000 3 0 DecState.empty (by unfold CarrierOk; decide) linDefault).2.1 [0xAB] (by decide)

end AsamCmp.C13S
