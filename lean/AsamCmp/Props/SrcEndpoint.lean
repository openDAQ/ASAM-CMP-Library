/-
  Key type of the decoder's `std::unordered_map<Endpoint, SegmentedPacket, EndpointHash>`.  The map primitives of Src/Obj.lean
  (`mapFind`, `mapErase`, `mapPut`, `mapIndex`) compare keys structurally, as pairs (deviceId, streamId).  That is what the container
  does only if the key's `operator==` is equality of both members and the hash is a function of the key; both are translated from
  include/asam_cmp/decoder.h on every run and proved here, so a key comparison that ignores a member (merging endpoints: C05, C18)
  breaks an obligation.
-/
import AsamCmp.GeneratedSrcObj
namespace AsamCmp.SrcDec
open AsamCmp AsamCmp.Src AsamCmp.SrcGen

/-- `Endpoint::operator==` is equality of the pair (deviceId, streamId), for all values -/
theorem endpoint_eq_src (s : Decoder_Endpoint_St) (d st : Nat) :
    Decoder_Endpoint_operator___obj s d st = some (s, decide ((s.f_deviceId, s.f_streamId) = (d, st))) := by
  unfold Decoder_Endpoint_operator___obj
  by_cases h1 : s.f_deviceId = d <;> by_cases h2 : s.f_streamId = st <;> simp [h1, h2, pure]

/-- `EndpointHash::operator()` is defined for every key within the members' types (the `int` shift `streamId << 16` cannot overflow)
    and depends on the key only: equal keys hash equally, which is all `std::unordered_map` requires -/
theorem endpoint_hash_src (h : Decoder_EndpointHash_St) (d st : Nat) (hd : d < 65536) (hs : st < 256) :
    Decoder_EndpointHash_operator___obj h d st = some (h, d ||| st <<< 16) := by
  have hsh : st <<< 16 < 2 ^ 24 := by rw [Nat.shiftLeft_eq]; omega
  have e1 : sshl 32 st 16 = some (st <<< 16) := by
    unfold sshl
    rw [if_pos]
    exact ⟨by omega, by omega, by omega⟩
  have hor : d ||| st <<< 16 < 2 ^ 24 := Nat.or_lt_two_pow (by omega) hsh
  have e2 : sext 32 64 (d ||| st <<< 16) = d ||| st <<< 16 := by
    unfold sext
    rw [if_pos (by omega)]
  unfold Decoder_EndpointHash_operator___obj
  simp only [e1, e2, bind, Option.bind, pure]

/-- on keys within the members' types the hash is even injective -/
theorem endpoint_hash_inj (d1 s1 d2 s2 : Nat) (h1 : d1 < 65536) (h2 : d2 < 65536)
    (h : d1 ||| s1 <<< 16 = d2 ||| s2 <<< 16) : (d1, s1) = (d2, s2) := by
  -- the two fields occupy disjoint bits: the `or` is a sum
  have key : ∀ d s : Nat, d < 65536 → d ||| s <<< 16 = d + s * 65536 := by
    intro d s hd
    rw [Nat.shiftLeft_eq, Nat.or_comm, Nat.mul_comm, ← Nat.two_pow_add_eq_or_of_lt (by omega : d < 2 ^ 16)]
    omega
  rw [key d1 s1 h1, key d2 s2 h2] at h
  have : d1 = d2 ∧ s1 = s2 := by omega
  rw [this.1, this.2]

example : (Decoder_Endpoint_operator___obj ⟨0x1234, 7⟩ 0x1234 8).map (·.2) = some false := by decide
example : (Decoder_EndpointHash_operator___obj ⟨⟩ 0x1234 7).map (·.2) = some 0x71234 := by decide
end AsamCmp.SrcDec
