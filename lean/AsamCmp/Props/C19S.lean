/-
  C19S  Strengthening of property C19 (separate codec instances can be used concurrently).

  Further theorems about the same definitions, from the statement audit of the C19 theorems (DESIGN.md section J.4).

  §1  a schedule semantics WITH a shared global component: `runSchedG` threads one value `g : γ` through every
      call of every instance; every call may read it and may write it.  Independence is a THEOREM WITH A HYPOTHESIS
      (`Frame`: no call writes `γ`, no call's result depends on `γ`), not a consequence of the type of the step function:
        `interleave_frame_G`      Frame      ⇒ every instance gets, under every schedule, what it gets alone
        `interleave_readonly_G`   NoWrite    ⇒ … what it gets alone UNDER THE SAME (constant) global   (read-only tables are fine)
        `interleave_noRead_G`     NoRead     ⇒ the same conclusion although `γ` is written — which is precisely the blind spot of
                                               ANY call-granular semantics (write-only scratch is a data race)
      and the hypothesis does real work: `shared_counter_violates`, `static_member_violates` (the TRANSLATED encoder with its
      `sequenceCounter` member moved into `γ`, i.e. the regression `static uint16_t sequenceCounter`).
  §2  the frame condition DISCHARGED for the translated source: the public methods of Encoder, Decoder,
      Status, DeviceStatus, InterfaceStatus, Packet (value mode) and the static TECMP decoder / converter, as generated in
      GeneratedSrcObj.lean / GeneratedSrcTecmp.lean, lifted to steps over `γ × state` for ANY `γ`
      (`encoder_step_frame`, `decoder_step_frame`, `status_step_frame`, `tecmp_step_frame`, …), and the schedule theorem
      instantiated with them: `C19S_interleaving_src`.  Undefined behaviour (`none` of the translation) poisons the object;
      `C19S_defined_iff`: a schedule is free of undefined calls iff every instance's solo run is.
  §3  source schedule ⟶ model: `srcCall_refines` (one translated call on
      the representation of a model instance = the representation of `C19.instStep`, under an explicit `CallOk`), lifted to solo
      runs (`solo_refines`) and to schedules (`C19S_interleaving_refines`): under every schedule the TRANSLATED objects deliver,
      instance by instance, the representation of what the MODEL schedule of `C19.C19_interleaving` delivers.
  §4  the static TECMP decoder; concrete schedules evaluated in the kernel on the translated functions.

  What this file does NOT close: data-race freedom below call granularity, the nm scan / allow-list behind
  `Generated.mutableStatics`, aliasing through shared_ptr / mutable members.  They need facts the generator
  does not emit; `interleave_noRead_G` documents in Lean why no call-granular statement can stand in for them.
-/
import AsamCmp.Props.C19
import AsamCmp.Props.SrcHistory
import AsamCmp.Props.C16S
set_option linter.unusedVariables false
set_option linter.unusedSimpArgs false
namespace AsamCmp.C19S
open AsamCmp AsamCmp.Src AsamCmp.SrcGen

/-! ## §1 schedules with a shared global component -/

section Generic
variable {γ σ ι ο α β : Type}

/-- the calls (or the outputs) of instance `i` in a schedule (or in a trace), in order — the projection used by
    `Conc.interleave_independent` -/
def pick (i : Nat) (l : List (Nat × α)) : List α := (l.filter (fun x => x.1 = i)).map (·.2)

theorem pick_nil (i : Nat) : pick i ([] : List (Nat × α)) = [] := rfl

theorem pick_cons_self (i : Nat) (a : α) (l : List (Nat × α)) : pick i ((i, a) :: l) = a :: pick i l := by
  simp [pick]

theorem pick_cons_ne (i j : Nat) (a : α) (l : List (Nat × α)) (h : j ≠ i) : pick i ((j, a) :: l) = pick i l := by
  simp [pick, h]

theorem pick_map (i : Nat) (f : α → β) (l : List (Nat × α)) :
    pick i (l.map fun x => (x.1, f x.2)) = (pick i l).map f := by
  induction l with
  | nil => rfl
  | cons hd tl ih =>
    obtain ⟨j, a⟩ := hd
    by_cases h : j = i
    · subst h
      simp only [List.map_cons, pick_cons_self, ih]
    · simp only [List.map_cons, pick_cons_ne _ _ _ _ h, ih]

theorem mem_pick (i : Nat) (a : α) (l : List (Nat × α)) : a ∈ pick i l ↔ (i, a) ∈ l := by
  unfold pick
  simp only [List.mem_map, List.mem_filter, decide_eq_true_eq]
  constructor
  · rintro ⟨⟨j, b⟩, ⟨hm, hj⟩, hb⟩
    simp only at hj hb
    subst hj; subst hb
    exact hm
  · intro h
    exact ⟨(i, a), ⟨h, rfl⟩, rfl⟩

/-- a step WITH the shared component: it receives the current global `g` and the state of its own object, and returns the new
    global, the new object state and the result of the call.  Nothing in this type says that `g` is left alone. -/
abbrev GStep (γ σ ι ο : Type) := γ → σ → ι → γ × σ × ο

/-- a schedule of calls: the ONE global is threaded through all of them, whichever instance performs them; instance `i`'s object is
    slot `i` of `st` -/
def runSchedG (gstep : GStep γ σ ι ο) (g : γ) (st : Nat → σ) : List (Nat × ι) → γ × (Nat → σ) × List (Nat × ο)
  | [] => (g, st, [])
  | (i, op) :: rest =>
    let r := gstep g (st i) op
    let r' := runSchedG gstep r.1 (fun j => if j = i then r.2.1 else st j) rest
    (r'.1, r'.2.1, (i, r.2.2) :: r'.2.2)

/-- one instance alone, with the global to itself -/
def runSoloG (gstep : GStep γ σ ι ο) (g : γ) (s : σ) : List ι → γ × σ × List ο
  | [] => (g, s, [])
  | op :: ops =>
    let r := gstep g s op
    let r' := runSoloG gstep r.1 r.2.1 ops
    (r'.1, r'.2.1, r.2.2 :: r'.2.2)

/-- no call writes the shared component -/
def NoWrite (gstep : GStep γ σ ι ο) : Prop := ∀ g s op, (gstep g s op).1 = g

/-- no call's new object state or result depends on the shared component -/
def NoRead (gstep : GStep γ σ ι ο) : Prop := ∀ g g' s op, (gstep g s op).2 = (gstep g' s op).2

/-- the FRAME condition ("the library performs no access to shared mutable state", at call granularity): a call on an object
    leaves the global component as it is, and what it does to its object and returns does not depend on it -/
structure Frame (gstep : GStep γ σ ι ο) : Prop where
  noWrite : NoWrite gstep
  noRead : NoRead gstep

/-- the step with the global fixed to `g0` and forgotten: a step of the γ-free semantics `Conc.runSched` -/
def dropG (gstep : GStep γ σ ι ο) (g0 : γ) : σ → ι → σ × ο := fun s op => (gstep g0 s op).2

/-- a γ-free step as a step over any global: the global is passed through -/
def liftG (γ : Type) (step : σ → ι → σ × ο) : GStep γ σ ι ο := fun g s op => (g, step s op)

theorem frame_liftG (γ : Type) (step : σ → ι → σ × ο) : Frame (liftG γ step) :=
  ⟨fun _ _ _ => rfl, fun _ _ _ _ => rfl⟩

theorem dropG_liftG (step : σ → ι → σ × ο) (g0 : γ) : dropG (liftG γ step) g0 = step := rfl

/-- … and conversely the frame condition says exactly that the step IS such a lift -/
theorem frame_iff_lift (gstep : GStep γ σ ι ο) (g0 : γ) : Frame gstep ↔ gstep = liftG γ (dropG gstep g0) := by
  constructor
  · intro h
    funext g s op
    have a := h.noWrite g s op
    have b := h.noRead g g0 s op
    show gstep g s op = (g, (gstep g0 s op).2)
    rw [← b]
    exact Prod.ext a rfl
  · intro h
    rw [h]
    exact frame_liftG γ _

/-- if no call READS the global, the object states and the trace of a schedule are those of the γ-free semantics (whatever is
    written into `γ` on the way) -/
theorem runSchedG_noRead {gstep : GStep γ σ ι ο} (h : NoRead gstep) (g0 : γ) :
    ∀ (sched : List (Nat × ι)) (g : γ) (st : Nat → σ),
      (runSchedG gstep g st sched).2 = Conc.runSched (dropG gstep g0) st sched := by
  intro sched
  induction sched with
  | nil => intro g st; rfl
  | cons hd tl ih =>
    intro g st
    obtain ⟨i, op⟩ := hd
    have e := h g g0 (st i) op
    simp only [runSchedG, Conc.runSched, dropG, ih, e]

/-- if no call WRITES the global, it is the same after any schedule -/
theorem runSchedG_noWrite {gstep : GStep γ σ ι ο} (h : NoWrite gstep) :
    ∀ (sched : List (Nat × ι)) (g : γ) (st : Nat → σ), (runSchedG gstep g st sched).1 = g := by
  intro sched
  induction sched with
  | nil => intro g st; rfl
  | cons hd tl ih =>
    intro g st
    obtain ⟨i, op⟩ := hd
    simp only [runSchedG, ih, h g (st i) op]

/-- … and then the object states and the trace are those of the γ-free semantics for THAT constant global -/
theorem runSchedG_readonly {gstep : GStep γ σ ι ο} (h : NoWrite gstep) :
    ∀ (sched : List (Nat × ι)) (g : γ) (st : Nat → σ),
      (runSchedG gstep g st sched).2 = Conc.runSched (dropG gstep g) st sched := by
  intro sched
  induction sched with
  | nil => intro g st; rfl
  | cons hd tl ih =>
    intro g st
    obtain ⟨i, op⟩ := hd
    have e := h g (st i) op
    simp only [runSchedG, Conc.runSched, dropG, e, ih]

theorem runSoloG_readonly {gstep : GStep γ σ ι ο} (h : NoWrite gstep) :
    ∀ (ops : List ι) (g : γ) (s : σ),
      (runSoloG gstep g s ops).1 = g ∧ (runSoloG gstep g s ops).2 = Conc.runSolo (dropG gstep g) s ops := by
  intro ops
  induction ops with
  | nil => intro g s; exact ⟨rfl, rfl⟩
  | cons op ops ih =>
    intro g s
    have e := h g s op
    obtain ⟨i1, i2⟩ := ih g (gstep g s op).2.1
    simp only [runSoloG, Conc.runSolo, dropG, e, i1, i2, and_self]

/-- **the blind spot of call granularity**, stated instead of hidden.  If every call's result is independent of `γ`,
    the per-instance results equal the solo results ALTHOUGH the calls may write `γ` — e.g. a `static` scratch buffer that every
    call overwrites before reading it.  In C++ that is a data race and delivers wrong results under a real thread schedule;
    in `runSchedG` (and in any semantics whose schedules interleave whole calls) it is invisible.  So neither this file nor
    `C19.C19_interleaving` says anything about clause K2 "no unsynchronised access to shared mutable state" below the
    granularity of a call. -/
theorem interleave_noRead_G {gstep : GStep γ σ ι ο} (h : NoRead gstep) (i : Nat) (sched : List (Nat × ι)) (g g0 : γ)
    (st : Nat → σ) :
    pick i (runSchedG gstep g st sched).2.2 = (Conc.runSolo (dropG gstep g0) (st i) (pick i sched)).2 ∧
    (runSchedG gstep g st sched).2.1 i = (Conc.runSolo (dropG gstep g0) (st i) (pick i sched)).1 := by
  have e := runSchedG_noRead h g0 sched g st
  obtain ⟨k1, k2⟩ := Conc.interleave_independent (dropG gstep g0) i sched st
  exact ⟨by rw [e]; exact k1, by rw [e]; exact k2⟩

/-- **independence under the frame condition.**  For EVERY step function over a shared global that satisfies `Frame`, every
    schedule, every initial global and object states, every instance `i`: the results instance `i` sees and the state its object
    ends in are those of its solo run on its own calls (computed with any global `g0` whatsoever), and the global is unchanged.
    Unlike `Conc.interleave_independent` this is FALSE without the hypothesis (`shared_counter_violates`). -/
theorem interleave_frame_G {gstep : GStep γ σ ι ο} (h : Frame gstep) (i : Nat) (sched : List (Nat × ι)) (g g0 : γ)
    (st : Nat → σ) :
    pick i (runSchedG gstep g st sched).2.2 = (Conc.runSolo (dropG gstep g0) (st i) (pick i sched)).2 ∧
    (runSchedG gstep g st sched).2.1 i = (Conc.runSolo (dropG gstep g0) (st i) (pick i sched)).1 ∧
    (runSchedG gstep g st sched).1 = g := by
  obtain ⟨k1, k2⟩ := interleave_noRead_G h.noRead i sched g g0 st
  exact ⟨k1, k2, runSchedG_noWrite h.noWrite sched g st⟩

/-- **a read-only global is harmless.**  If no call writes `γ` (calls may READ it: constant tables, `static constexpr` masks,
    the `const` size at namespace scope the property's anchors name), every instance gets under every schedule exactly what it
    gets alone WITH THE SAME global -/
theorem interleave_readonly_G {gstep : GStep γ σ ι ο} (h : NoWrite gstep) (i : Nat) (sched : List (Nat × ι)) (g : γ)
    (st : Nat → σ) :
    pick i (runSchedG gstep g st sched).2.2 = (runSoloG gstep g (st i) (pick i sched)).2.2 ∧
    (runSchedG gstep g st sched).2.1 i = (runSoloG gstep g (st i) (pick i sched)).2.1 ∧
    (runSchedG gstep g st sched).1 = g := by
  have e := runSchedG_readonly h sched g st
  obtain ⟨k1, k2⟩ := Conc.interleave_independent (dropG gstep g) i sched st
  obtain ⟨_, s2⟩ := runSoloG_readonly h (pick i sched) g (st i)
  refine ⟨?_, ?_, runSchedG_noWrite h sched g st⟩
  · rw [e, s2]; exact k1
  · rw [e, s2]; exact k2

/-- the γ-free semantics of Conc.lean is the instance `γ := Unit` -/
theorem runSched_is_unit_global (step : σ → ι → σ × ο) (sched : List (Nat × ι)) (st : Nat → σ) :
    (runSchedG (liftG Unit step) () st sched).2 = Conc.runSched step st sched :=
  runSchedG_noRead (frame_liftG Unit step).noRead () sched () st

/-- two schedules with the same per-instance calls are indistinguishable for every instance (the `schedules_equivalent` of
    Conc.lean, with the global) -/
theorem schedules_equivalent_G {gstep : GStep γ σ ι ο} (h : Frame gstep) (g : γ) (st : Nat → σ) (s1 s2 : List (Nat × ι))
    (i : Nat) (hp : pick i s1 = pick i s2) :
    pick i (runSchedG gstep g st s1).2.2 = pick i (runSchedG gstep g st s2).2.2 ∧
    (runSchedG gstep g st s1).2.1 i = (runSchedG gstep g st s2).2.1 i := by
  obtain ⟨a1, a2, _⟩ := interleave_frame_G h i s1 g g st
  obtain ⟨b1, b2, _⟩ := interleave_frame_G h i s2 g g st
  rw [a1, a2, b1, b2, hp]
  exact ⟨rfl, rfl⟩

/-- if the type of shared globals has at most one value, EVERY step function over it satisfies the frame condition -/
theorem frame_of_subsingleton [Subsingleton γ] (gstep : GStep γ σ ι ο) : Frame gstep :=
  ⟨fun g s op => Subsingleton.elim _ _, fun g g' s op => by rw [Subsingleton.elim g g']⟩

end Generic

/-! ### the link to `C19.no_shared_state`

  The global component of the LIBRARY is one value per mutable object with static storage duration.  With the list of those
  objects that the generator emits (`Generated.mutableStatics`) the type of globals is `Statics Generated.mutableStatics`;
  `C19.no_shared_state` says the list is empty, hence this type has exactly one value, hence EVERY semantics of the calls over it
  — not only the lifted translation of §2 — satisfies the frame condition and the independence theorem.  A new mutable static
  makes the list non-empty, `statics_subsingleton` unprovable and `interleave_no_statics` unavailable.  (What the list MEANS is
  still decided by the generator.) -/

/-- one byte vector per named mutable static object -/
def Statics (names : List String) : Type := { n : String // n ∈ names } → Bytes

instance statics_subsingleton : Subsingleton (Statics Generated.mutableStatics) :=
  ⟨fun a b => funext fun n => by
    obtain ⟨v, hv⟩ := n
    have h : v ∈ ([] : List String) := C19.no_shared_state ▸ hv
    cases h⟩

/-- … whereas one mutable static already gives a global with more than one value -/
theorem statics_nontrivial (name : String) : ¬ Subsingleton (Statics [name]) := by
  intro h
  have := congrFun (h.elim (fun _ => ([] : Bytes)) (fun _ => [0])) ⟨name, List.mem_singleton.2 rfl⟩
  exact absurd this (by decide)

/-- **independence from `no_shared_state`.**  For ANY step function over the library's mutable statics (as listed by the
    generator) — no frame hypothesis — every schedule gives each instance the results and the final state of its solo run.
    The premise that does the work is `C19.no_shared_state`, through `statics_subsingleton`. -/
theorem interleave_no_statics {σ ι ο : Type} (gstep : GStep (Statics Generated.mutableStatics) σ ι ο) (i : Nat)
    (sched : List (Nat × ι)) (g g0 : Statics Generated.mutableStatics) (st : Nat → σ) :
    pick i (runSchedG gstep g st sched).2.2 = (Conc.runSolo (dropG gstep g0) (st i) (pick i sched)).2 ∧
    (runSchedG gstep g st sched).2.1 i = (Conc.runSolo (dropG gstep g0) (st i) (pick i sched)).1 ∧
    (runSchedG gstep g st sched).1 = g :=
  interleave_frame_G (frame_of_subsingleton gstep) i sched g g0 st

/-! ### the hypothesis does real work: steps that use the global violate the conclusion -/

/-- a shared ticket counter: every call returns the current value of the global and increments it -/
def ticket : GStep Nat Unit Unit Nat := fun g _ _ => (g + 1, (), g)

/-- it satisfies neither half of the frame condition -/
theorem ticket_not_frame : ¬ NoWrite ticket ∧ ¬ NoRead ticket :=
  ⟨fun h => absurd (h 0 () ()) (by decide), fun h => absurd (h 0 1 () ()) (by decide)⟩

/-- **counterexample.**  The conclusion of `interleave_frame_G` / `interleave_readonly_G` is FALSE for the ticket counter:
    thread 0 and thread 1 make one call each; alone, instance 1 gets ticket 0; after thread 0's call it gets ticket 1. -/
theorem shared_counter_violates :
    ¬ ∀ (i : Nat) (sched : List (Nat × Unit)) (g : Nat) (st : Nat → Unit),
        pick i (runSchedG ticket g st sched).2.2 = (runSoloG ticket g (st i) (pick i sched)).2.2 := by
  intro h
  exact absurd (h 1 [(0, ()), (1, ())] 0 (fun _ => ())) (by decide)

/-- the two sides, literally -/
example : pick 1 (runSchedG ticket 0 (fun _ => ()) [(0, ()), (1, ())]).2.2 = [1] ∧
    (runSoloG ticket 0 () (pick 1 [(0, ()), (1, ())])).2.2 = [0] := by decide

/-- the regression the property's text names, built from the TRANSLATED encoder itself: `Encoder::encode(packet, context)` as
    generated (`Encoder_encode_obj`), with the data member `sequenceCounter` turned into a `static` — the call reads the counter
    from the global and writes it back there -/
def encStaticSeq (fuel : Nat) : GStep Nat Encoder_St (PktIn × Nat × Nat) (Option (List Bytes)) := fun g s op =>
  match Encoder_encode_obj fuel { s with f_sequenceCounter := g } op.1 op.2.1 op.2.2 with
  | none => (g, s, none)
  | some r => (r.1.f_sequenceCounter, r.1, some r.2)

/-- the frame a default-constructed encoder (device 0, stream 0) makes of `SrcHist.exCan`, with sequence counter `q` -/
def exFrame0 (q : UInt8) : Bytes :=
  [1, 0, 0, 0, 1, 0, 0, q,
   0, 0, 0, 0, 0, 0, 0, 9, 0, 0, 0, 3, 0, 1, 0, 18,
   0, 0, 0, 0, 0, 0, 1, 0x23, 0, 0, 0, 0, 0, 0, 2, 2, 0xAA, 0xBB]

/-- **counterexample on the translated code.**  Two default-constructed encoders, one `encode` of the same CAN packet each, thread
    0 first.  Alone, encoder 1 returns the frame with sequence counter 1; after encoder 0's call it returns the frame with
    counter 2: with a shared counter the conclusion of `interleave_readonly_G` fails, so `Frame` cannot be dropped from
    `interleave_frame_G`, and a translation that DID render a `static` as part of `γ` would make `encoder_step_frame` false. -/
theorem static_member_violates :
    pick 1 (runSchedG (encStaticSeq 65536) 0 (fun _ => Encoder_default)
      [(0, (SrcEnc.pktIn SrcHist.exCan, 0, 64)), (1, (SrcEnc.pktIn SrcHist.exCan, 0, 64))]).2.2 = [some [exFrame0 2]] ∧
    (runSoloG (encStaticSeq 65536) 0 Encoder_default
      (pick 1 [(0, (SrcEnc.pktIn SrcHist.exCan, 0, 64)), (1, (SrcEnc.pktIn SrcHist.exCan, 0, 64))])).2.2 =
        [some [exFrame0 1]] := by
  constructor <;> decide +kernel

theorem encStaticSeq_not_frame : ¬ NoWrite (encStaticSeq 65536) := by
  intro h
  have := h 0 Encoder_default (SrcEnc.pktIn SrcHist.exCan, 0, 64)
  revert this
  decide +kernel

/-! ## §2 the frame condition for the translated source

  Every function below is a `match` on the call descriptor whose arms are the GENERATED functions of GeneratedSrcObj.lean /
  GeneratedSrcTecmp.lean applied to the object's record of data members and the call's arguments — nothing else is in scope.
  `none` is the translation's "undefined behaviour". -/

/-- what a call returns -/
inductive SOut
  | unit
  | nat (n : Nat)
  | bool (b : Bool)
  | bytes (b : Bytes)
  /-- `std::vector<std::vector<uint8_t>>` of `Encoder::encode` -/
  | frames (fs : List Bytes)
  /-- `std::vector<std::shared_ptr<Packet>>` of `Decoder::decode`: CMP packets left, packets of the TECMP path right -/
  | packets (ps : List (PktOut ⊕ TPacket_St))
  /-- … of the static `TECMP::Decoder::Decode` (pointers: `none` = null) -/
  | tpackets (ps : List (Option TPacket_St))
  | tpacket (p : Option TPacket_St)
  /-- a call of a method of another class than the object's: not a C++ program; the step leaves the object alone -/
  | illTyped

/-- the public methods of `ASAM::CMP::Encoder` (all three `encode` overloads, the setters, `restart`, the getters) -/
inductive EncCall
  | setDeviceId (d : Nat)
  | setStreamId (x : Nat)
  | restart
  | encode (p : PktIn) (minBytes maxBytes : Nat)
  | encodeRange (ps : List PktIn) (minBytes maxBytes : Nat)
  | encodePtrRange (ps : List PktIn) (minBytes maxBytes : Nat)
  | getDeviceId
  | getStreamId
  | getSequenceCounter

def encCall (fuel : Nat) (s : Encoder_St) : EncCall → Option (Encoder_St × SOut)
  | .setDeviceId d => (Encoder_setDeviceId_obj s d).map fun r => (r.1, .unit)
  | .setStreamId x => (Encoder_setStreamId_obj s x).map fun r => (r.1, .unit)
  | .restart => (Encoder_restart_obj s).map fun r => (r.1, .unit)
  | .encode p mn mx => (Encoder_encode_obj fuel s p mn mx).map fun r => (r.1, .frames r.2)
  | .encodeRange ps mn mx => (Encoder_encode_range_obj fuel s ps mn mx).map fun r => (r.1, .frames r.2)
  | .encodePtrRange ps mn mx => (Encoder_encode_ptrRange_obj fuel s ps mn mx).map fun r => (r.1, .frames r.2)
  | .getDeviceId => (Encoder_getDeviceId_obj s).map fun r => (r.1, .nat r.2)
  | .getStreamId => (Encoder_getStreamId_obj s).map fun r => (r.1, .nat r.2)
  | .getSequenceCounter => (Encoder_getSequenceCounter_obj s).map fun r => (r.1, .nat r.2)

/-- `ASAM::CMP::Decoder`: `decode(data, size)` on the read-only memory `m` (with the translated `TECMP::Decoder::Decode` plugged
    in, `SrcTec.tecmpExt`), and the two static predicates -/
inductive DecCall
  | decode (m : Bytes) (data size : Nat)
  | isSegmentedPacket (m : Bytes) (data size : Nat)
  | isFirstSegment (m : Bytes) (data size : Nat)

def decCall (fuel : Nat) (s : Decoder_St) : DecCall → Option (Decoder_St × SOut)
  | .decode m data size => (Decoder_decode_obj fuel s m data size (SrcTec.tecmpExt fuel)).map fun r => (r.1, .packets r.2)
  | .isSegmentedPacket m data size => (Decoder_isSegmentedPacket_obj s m data size).map fun r => (r.1, .bool r.2)
  | .isFirstSegment m data size => (Decoder_isFirstSegment_obj s m data size).map fun r => (r.1, .bool r.2)

/-- `ASAM::CMP::Status`.  `removeInterfaceById dev id` stands for `getDeviceStatus(getIndexByDeviceId(dev)).removeInterfaceById(id)`:
    the reference-returning accessor is not translated (`Status_untranslated`) and is composed as in `C16S.srcStep`, i.e. as the
    translator renders `devices[index].update(packet)` inside `Status::update` -/
inductive StCall
  | update (p : OPkt)
  | removeDeviceById (id : Nat)
  | removeInterfaceById (dev id : Nat)
  | clear
  | getDeviceStatusCount
  | getIndexByDeviceId (id : Nat)

def stCall (s : Status_St) : StCall → Option (Status_St × SOut)
  | .update p => (Status_update_obj s p).map fun r => (r.1, .unit)
  | .removeDeviceById id => (Status_removeDeviceById_obj s id).map fun r => (r.1, .unit)
  | .removeInterfaceById dev id =>
    (Status_getIndexByDeviceId_obj s dev).bind fun r =>
      (getIdx r.1.f_devices r.2).bind fun el =>
        (DeviceStatus_removeInterfaceById_obj el id).map fun r2 =>
          ({ r.1 with f_devices := r.1.f_devices.set r.2 r2.1 }, .unit)
  | .clear => (Status_clear_obj s).map fun r => (r.1, .unit)
  | .getDeviceStatusCount => (Status_getDeviceStatusCount_obj s).map fun r => (r.1, .nat r.2)
  | .getIndexByDeviceId id => (Status_getIndexByDeviceId_obj s id).map fun r => (r.1, .nat r.2)

/-- `ASAM::CMP::DeviceStatus` used on its own (a public class: "status objects") -/
inductive DevCall
  | update (p : OPkt)
  | removeInterfaceById (id : Nat)
  | getInterfaceStatusCount
  | getIndexByInterfaceId (id : Nat)

def devCall (s : DeviceStatus_St) : DevCall → Option (DeviceStatus_St × SOut)
  | .update p => (DeviceStatus_update_obj s p).map fun r => (r.1, .unit)
  | .removeInterfaceById id => (DeviceStatus_removeInterfaceById_obj s id).map fun r => (r.1, .unit)
  | .getInterfaceStatusCount => (DeviceStatus_getInterfaceStatusCount_obj s).map fun r => (r.1, .nat r.2)
  | .getIndexByInterfaceId id => (DeviceStatus_getIndexByInterfaceId_obj s id).map fun r => (r.1, .nat r.2)

/-- `ASAM::CMP::InterfaceStatus` used on its own -/
inductive ItfCall
  | update (p : OPkt)
  | getInterfaceId

def itfCall (s : InterfaceStatus_St) : ItfCall → Option (InterfaceStatus_St × SOut)
  | .update p => (InterfaceStatus_update_obj s p).map fun r => (r.1, .unit)
  | .getInterfaceId => (InterfaceStatus_getInterfaceId_obj s).map fun r => (r.1, .nat r.2)

/-- a `ASAM::CMP::Packet` object with the payload it owns (value mode of the translation): the setters, the two raw-header
    getters (the functions where a `static CmpHeader` scratch object would be the typical regression), `isValid` -/
inductive PktCall
  | setVersion (v : Nat)
  | setDeviceId (v : Nat)
  | setStreamId (v : Nat)
  | setSequenceCounter (v : Nat)
  | setTimestamp (v : Nat)
  | setInterfaceId (v : Nat)
  | setVendorId (v : Nat)
  | setCommonFlags (v : Nat)
  | setCommonFlag (mask : Nat) (value : Bool)
  | setSegmentType (v : Nat)
  | setPayload (pl : Payload_St)
  | getRawCmpHeader
  | getRawMessageHeader
  | isValid

def pktCall (s : PacketV_St) : PktCall → Option (PacketV_St × SOut)
  | .setVersion v => (Packet_setVersion_pv s v).map fun r => (r.1, .unit)
  | .setDeviceId v => (Packet_setDeviceId_pv s v).map fun r => (r.1, .unit)
  | .setStreamId v => (Packet_setStreamId_pv s v).map fun r => (r.1, .unit)
  | .setSequenceCounter v => (Packet_setSequenceCounter_pv s v).map fun r => (r.1, .unit)
  | .setTimestamp v => (Packet_setTimestamp_pv s v).map fun r => (r.1, .unit)
  | .setInterfaceId v => (Packet_setInterfaceId_pv s v).map fun r => (r.1, .unit)
  | .setVendorId v => (Packet_setVendorId_pv s v).map fun r => (r.1, .unit)
  | .setCommonFlags v => (Packet_setCommonFlags_pv s v).map fun r => (r.1, .unit)
  | .setCommonFlag m b => (Packet_setCommonFlag_pv s m b).map fun r => (r.1, .unit)
  | .setSegmentType v => (Packet_setSegmentType_pv s v).map fun r => (r.1, .unit)
  | .setPayload pl => (Packet_setPayload_pv s pl).map fun r => (r.1, .unit)
  | .getRawCmpHeader => (Packet_getRawCmpHeader_pv s).map fun r => (r.1, .bytes r.2)
  | .getRawMessageHeader => (Packet_getRawMessageHeader_pv s).map fun r => (r.1, .bytes r.2)
  | .isValid => (Packet_isValid_pv s).map fun r => (r.1, .bool r.2)

/-- the STATIC functions of the TECMP path, callable from any thread and belonging to no object: `TECMP::Decoder::Decode(data,
    size)` on the read-only memory `m`, and `TECMP::Converter::ConvertPacket(header, payload)` -/
inductive TecCall
  | decode (m : Bytes) (data size : Nat)
  | convertPacket (header : Bytes) (payload : Option TECMP_Payload_St)

/-- they take NO object: the result is a function of the arguments alone -/
def tecCall (fuel : Nat) : TecCall → Option SOut
  | .decode m data size => (TECMP_Decoder_Decode_obj fuel m data size).map .tpackets
  | .convertPacket h p => (TECMP_Converter_ConvertPacket_obj h p).map .tpacket

/-- an object of one of the classes, as the translation's record of its data members -/
inductive SInst
  | enc (s : Encoder_St)
  | dec (s : Decoder_St)
  | st (s : Status_St)
  | dev (s : DeviceStatus_St)
  | itf (s : InterfaceStatus_St)
  | pkt (s : PacketV_St)

/-- a call made by the thread that drives an object: a method of the object, or a static TECMP function -/
inductive SCall
  | enc (c : EncCall)
  | dec (c : DecCall)
  | st (c : StCall)
  | dev (c : DevCall)
  | itf (c : ItfCall)
  | pkt (c : PktCall)
  | tec (c : TecCall)

/-- one call of the thread driving object `x`, through the translated functions -/
def srcCall (fuel : Nat) : SInst → SCall → Option (SInst × SOut)
  | .enc s, .enc c => (encCall fuel s c).map fun r => (.enc r.1, r.2)
  | .dec s, .dec c => (decCall fuel s c).map fun r => (.dec r.1, r.2)
  | .st s, .st c => (stCall s c).map fun r => (.st r.1, r.2)
  | .dev s, .dev c => (devCall s c).map fun r => (.dev r.1, r.2)
  | .itf s, .itf c => (itfCall s c).map fun r => (.itf r.1, r.2)
  | .pkt s, .pkt c => (pktCall s c).map fun r => (.pkt r.1, r.2)
  | x, .tec c => (tecCall fuel c).map fun o => (x, o)
  | x, _ => some (x, .illTyped)

/-- a partial step as a total one: an undefined call (`none`) POISONS the object — its state is `none` from then on and every
    later call on it returns `none` -/
def stepT {σ ι ο : Type} (f : σ → ι → Option (σ × ο)) : Option σ → ι → Option σ × Option ο
  | none, _ => (none, none)
  | some s, op =>
    match f s op with
    | none => (none, none)
    | some r => (some r.1, some r.2)

/-- the step of the source-level schedules: `srcCall`, total, over ANY shared global `γ` -/
def srcStepG (γ : Type) (fuel : Nat) : GStep γ (Option SInst) SCall (Option SOut) := liftG γ (stepT (srcCall fuel))

/-- **frame, Encoder.**  Each translated public method of `Encoder`, run as a step over `γ × Encoder_St` for ANY type `γ` of
    shared globals and any value of it: the global comes back unchanged, and the new member record and the returned frames are
    the same for every value of the global -/
theorem encoder_step_frame (γ : Type) (fuel : Nat) : Frame (liftG γ (stepT (encCall fuel))) := frame_liftG γ _

/-- **frame, Decoder** (`decode` with the translated TECMP decoder plugged in, and the static predicates) -/
theorem decoder_step_frame (γ : Type) (fuel : Nat) : Frame (liftG γ (stepT (decCall fuel))) := frame_liftG γ _

/-- **frame, Status / DeviceStatus / InterfaceStatus** -/
theorem status_step_frame (γ : Type) :
    Frame (liftG γ (stepT stCall)) ∧ Frame (liftG γ (stepT devCall)) ∧ Frame (liftG γ (stepT itfCall)) :=
  ⟨frame_liftG γ _, frame_liftG γ _, frame_liftG γ _⟩

/-- **frame, Packet** (value mode) -/
theorem packet_step_frame (γ : Type) : Frame (liftG γ (stepT pktCall)) := frame_liftG γ _

/-- **frame, static TECMP functions**: as a step of the thread that calls them they leave BOTH the global and the thread's own
    object alone, and their result depends on neither (not only `state' = state` but also `result i = result j`) -/
theorem tecmp_step_frame (γ : Type) (fuel : Nat) (g g' : γ) (x y : SInst) (c : TecCall) :
    (srcStepG γ fuel g (some x) (.tec c)).1 = g ∧
    ((srcStepG γ fuel g (some x) (.tec c)).2.1 = some x ∨
      ((srcStepG γ fuel g (some x) (.tec c)).2.1 = none ∧ tecCall fuel c = none)) ∧
    (srcStepG γ fuel g (some x) (.tec c)).2.2 = tecCall fuel c ∧
    (srcStepG γ fuel g (some x) (.tec c)).2.2 = (srcStepG γ fuel g' (some y) (.tec c)).2.2 := by
  have hx : ∀ z : SInst, srcCall fuel z (.tec c) = (tecCall fuel c).map fun o => (z, o) := by
    intro z; cases z <;> rfl
  simp only [srcStepG, liftG, stepT, hx]
  cases h : tecCall fuel c <;> simp

/-- the whole step -/
theorem src_step_frame (γ : Type) (fuel : Nat) : Frame (srcStepG γ fuel) := frame_liftG γ _

/-- `srcCall` on an object of a class IS that class's step (so the per-class frame theorems are about the same functions) -/
theorem srcCall_enc (fuel : Nat) (s : Encoder_St) (c : EncCall) :
    srcCall fuel (.enc s) (.enc c) = (encCall fuel s c).map fun r => (.enc r.1, r.2) := rfl
theorem srcCall_dec (fuel : Nat) (s : Decoder_St) (c : DecCall) :
    srcCall fuel (.dec s) (.dec c) = (decCall fuel s c).map fun r => (.dec r.1, r.2) := rfl
theorem srcCall_st (fuel : Nat) (s : Status_St) (c : StCall) :
    srcCall fuel (.st s) (.st c) = (stCall s c).map fun r => (.st r.1, r.2) := rfl
theorem srcCall_tec (fuel : Nat) (x : SInst) (c : TecCall) :
    srcCall fuel x (.tec c) = (tecCall fuel c).map fun o => (x, o) := by cases x <;> rfl

/-- **C19 at source level, with a global component.**  `n` threads, thread `i` driving its own object `st i` (an Encoder,
    Decoder, Status, DeviceStatus, InterfaceStatus or Packet as the record of its data members; `none` = already poisoned) through
    the TRANSLATED methods and the static TECMP functions; ANY type `γ` of shared globals with any initial value, threaded through
    every call; EVERY schedule of the calls.  Then for every instance `i`: the results thread `i` sees are exactly the results
    of the solo run of its own calls on its own object; the object ends in the state of the solo run; and the global is
    untouched.  (The frame hypothesis of `interleave_frame_G` is discharged by `src_step_frame`.) -/
theorem C19S_interleaving_src (γ : Type) (fuel : Nat) (i : Nat) (sched : List (Nat × SCall)) (g : γ)
    (st : Nat → Option SInst) :
    pick i (runSchedG (srcStepG γ fuel) g st sched).2.2 =
      (Conc.runSolo (stepT (srcCall fuel)) (st i) (pick i sched)).2 ∧
    (runSchedG (srcStepG γ fuel) g st sched).2.1 i =
      (Conc.runSolo (stepT (srcCall fuel)) (st i) (pick i sched)).1 ∧
    (runSchedG (srcStepG γ fuel) g st sched).1 = g :=
  interleave_frame_G (src_step_frame γ fuel) i sched g g st

/-- every result in the trace of a schedule is a result of the solo run of the instance that made the call, and conversely -/
theorem trace_mem_iff (γ : Type) (fuel : Nat) (sched : List (Nat × SCall)) (g : γ) (st : Nat → Option SInst)
    (i : Nat) (o : Option SOut) :
    (i, o) ∈ (runSchedG (srcStepG γ fuel) g st sched).2.2 ↔
      o ∈ (Conc.runSolo (stepT (srcCall fuel)) (st i) (pick i sched)).2 := by
  rw [← (C19S_interleaving_src γ fuel i sched g st).1, mem_pick]

/-- **undefined behaviour is per instance.**  A schedule contains an undefined call (a `none` in its trace: out-of-bounds
    `devices[size]`, `back()` of an empty vector, a read outside the buffer …) iff the solo run of SOME instance on its own
    calls does.  In particular whether a thread's calls are defined does not depend on what the other threads do. -/
theorem C19S_defined_iff (γ : Type) (fuel : Nat) (sched : List (Nat × SCall)) (g : γ) (st : Nat → Option SInst) :
    (∀ x ∈ (runSchedG (srcStepG γ fuel) g st sched).2.2, x.2 ≠ none) ↔
      ∀ i, ∀ o ∈ (Conc.runSolo (stepT (srcCall fuel)) (st i) (pick i sched)).2, o ≠ none := by
  constructor
  · intro h i o ho
    exact h (i, o) ((trace_mem_iff γ fuel sched g st i o).2 ho)
  · intro h x hx
    obtain ⟨i, o⟩ := x
    exact h i o ((trace_mem_iff γ fuel sched g st i o).1 hx)

/-! ### a global that IS read: the input memory shared by several decoder threads

  `const uint8_t* data` arguments are addresses in ONE memory.  Here that memory is the shared component `γ := Bytes`: every
  thread decodes from it (through `Decoder::decode` on its own Decoder object or through the static `TECMP::Decoder::Decode`),
  possibly the SAME captured buffer.  The translated functions take the memory as an argument and do not return it: `NoWrite`
  holds (`memStep_noWrite`), `NoRead` of course does not (`memStep_reads`), and `interleave_readonly_G` — not the frame
  theorem — gives independence.  That the C++ never writes through `const_cast<uint8_t*>(tempPtr)` (`tecmp_decoder.cpp:63`) is
  part of the translation scheme ("the one read-only memory `m`"), not proved from the C++ here. -/

/-- the calls of a decoder thread that take an address in the shared memory -/
inductive MemCall
  | decode (data size : Nat)
  | tecmpDecode (data size : Nat)

def memCall (fuel : Nat) (m : Bytes) (s : Decoder_St) : MemCall → Option (Decoder_St × SOut)
  | .decode data size => decCall fuel s (.decode m data size)
  | .tecmpDecode data size => (tecCall fuel (.decode m data size)).map fun o => (s, o)

/-- the step over the shared memory -/
def memStep (fuel : Nat) : GStep Bytes (Option Decoder_St) MemCall (Option SOut) := fun m s c => (m, stepT (memCall fuel m) s c)

theorem memStep_noWrite (fuel : Nat) : NoWrite (memStep fuel) := fun _ _ _ => rfl

/-- the results DO depend on this global: the same call finds one CAN-FD packet in one memory and none in another -/
theorem memStep_reads : ¬ NoRead (memStep 64) := by
  intro h
  have := congrArg (fun r : Option Decoder_St × Option SOut => match r.2 with
      | some (.tpackets ps) => ps.length
      | _ => 0)
    (h ([9] ++ SrcTec.exCanFd ++ [5, 5]) (List.replicate 52 0) (some Decoder_default) (.tecmpDecode 1 49))
  revert this
  decide +kernel

/-- **decoder threads sharing their input memory.**  Any number of threads, each with its own Decoder object, all reading from the
    same memory `m` (the same buffers or different ones), any schedule: each thread gets exactly the results of its solo run
    over that memory, its decoder ends in the solo run's state, and the memory is unchanged -/
theorem C19S_shared_input_memory (fuel : Nat) (i : Nat) (sched : List (Nat × MemCall)) (m : Bytes)
    (st : Nat → Option Decoder_St) :
    pick i (runSchedG (memStep fuel) m st sched).2.2 = (runSoloG (memStep fuel) m (st i) (pick i sched)).2.2 ∧
    (runSchedG (memStep fuel) m st sched).2.1 i = (runSoloG (memStep fuel) m (st i) (pick i sched)).2.1 ∧
    (runSchedG (memStep fuel) m st sched).1 = m :=
  interleave_readonly_G (memStep_noWrite fuel) i sched m st

/-- two threads on the SAME TECMP buffer at address 1, one through `Decoder::decode`, one through `TECMP::Decoder::Decode`:
    both get the CAN-FD packet of device 7 -/
example :
    let r := runSchedG (memStep 64) ([9] ++ SrcTec.exCanFd ++ [5, 5]) (fun _ => some Decoder_default)
      [(0, .decode 1 49), (1, .tecmpDecode 1 49), (0, .decode 1 49)]
    (r.2.2.map fun x => (x.1, match x.2 with
      | some (.packets ps) => ps.map fun p => (Sum.elim SrcDec.toPacket SrcTec.tAbs p).deviceId
      | some (.tpackets ps) => ps.filterMap fun p => p.map fun q => (SrcTec.tAbs q).deviceId
      | _ => [])) = [(0, [7]), (1, [7]), (0, [7])] := by
  decide +kernel

/-! ## §3 from the source-level schedule to the model (`C19.instStep`, `C19.C19_interleaving`)

  A call is described ONCE (`MCall`: the operations of `SrcHist.Op`, the calls of `SrcHist.Call`, the status operations `StOp`,
  a TECMP buffer in its memory) and read both as the call of the translated source (`MCall.src`) and as the operation of the
  model (`MCall.model`).  `Rep` relates the translated object to the model instance (the correspondences of the existing
  history theorems: `SrcHist.Corr`, `SrcDec.tblSt` + `SrcHist.TableInv`, `SrcSt.stSt` + `C16S.Small`); `CallOk` collects the
  hypotheses of the existing single-call theorems. -/

open AsamCmp.C19 (Inst InstOp InstOut instStep)
open AsamCmp.C16S (Obs Small)

inductive MCall
  | enc (op : SrcHist.Op)
  | dec (c : SrcHist.Call)
  | st (op : StOp)
  /-- the static TECMP decoder on the buffer `b` at address `pre.length` of the memory `pre ++ b ++ post` -/
  | tecmp (pre b post : Bytes)

def encSrc : SrcHist.Op → EncCall
  | .setDeviceId d => .setDeviceId d
  | .setStreamId x => .setStreamId x
  | .restart => .restart
  | .encodeBatch b c => .encodeRange (b.map SrcEnc.pktIn) c.min c.max
  | .encode1 p c => .encode (SrcEnc.pktIn p) c.min c.max

def decSrc : SrcHist.Call → DecCall
  | .null m size => .decode m 0 size
  | .buf pre b post => .decode (pre ++ b ++ post) pre.length b.length

def stSrc (img : Packet → OPkt) : StOp → StCall
  | .update p => .update (img p)
  | .rmDev id => .removeDeviceById id
  | .rmIf dev id => .removeInterfaceById dev id
  | .clear => .clear

/-- the call of the translated source -/
def MCall.src (img : Packet → OPkt) : MCall → SCall
  | .enc op => .enc (encSrc op)
  | .dec c => .dec (decSrc c)
  | .st op => .st (stSrc img op)
  | .tecmp pre b post => .tec (.decode (pre ++ b ++ post) pre.length b.length)

/-- the operation of the model (`C19.InstOp`) -/
def MCall.model : MCall → InstOp
  | .enc op => .enc op.toModel
  | .dec c => .dec c.arg
  | .st op => .st op
  | .tecmp _ b _ => .tecmp b

/-- growth of the size budget `n` of `Rep`: a decode call may store its bytes, a status operation may add one element -/
def MCall.cost : MCall → Nat
  | .dec c => c.bytes
  | .st _ => 1
  | _ => 0

/-- what the encoder's translated methods return for the model's frames: nothing for the `void` setters, the serialised frames
    (padded to `minBytesPerMessage`) for the encode calls -/
def encOut : SrcHist.Op → List Bytes → SOut
  | .encodeBatch _ _, fs => .frames fs
  | .encode1 _ _, fs => .frames fs
  | _, _ => .unit

/-- the translated object represents the model instance; `n` bounds what the object stores (bytes of pending reassemblies,
    vector lengths) -/
def Rep (img : Packet → OPkt) (n : Nat) : SInst → Inst → Prop
  | .enc s, .enc e => SrcHist.Corr s e
  | .dec s, .dec d => ∃ t, s = SrcDec.tblSt t ∧ d = t.abs ∧ SrcHist.TableInv n t
  | .st s, .st m => s = SrcSt.stSt img m ∧ Small n m
  | _, _ => False

/-- the hypotheses of the existing single-call source theorems, per kind of call (and: the call is a method of the object's
    class).  Encoder: `SrcHist.Op.Ok` (arguments within their C types, `c.ok`, `max < 2^32`, packets with a payload shorter than
    2^16) and fuel; decoder: `SrcHist.Call.Ok` (non-null address, memory below 2^63, fuel) and the budget; status: the budget,
    and `removeInterfaceById` only on a known device (`devices[size]` otherwise); TECMP: the hypotheses of
    `SrcTec.tecmpDecode_src_small` -/
def CallOk (fuel n : Nat) (mx : Inst) : MCall → Prop
  | .enc op => (∃ e, mx = .enc e) ∧ op.Ok ∧ 65536 ≤ fuel
  | .dec c => (∃ d, mx = .dec d) ∧ c.Ok fuel ∧ n + 65536 < 2 ^ 64
  | .st op => (∃ m, mx = .st m ∧ ∀ dev id, op = .rmIf dev id → indexOfDev m dev < m.length) ∧ n < 2 ^ 64
  | .tecmp pre b post =>
    0 < pre.length ∧ (pre ++ b ++ post).length < 2 ^ 64 ∧ b.length ≤ fuel ∧ b.length + 2 ^ 16 ≤ 2 ^ 64

/-- the result of the translated call represents the result of the model's operation -/
def OutRel : MCall → SOut → InstOut → Prop
  | .enc op, o, mo => ∃ efs, mo = .frames efs ∧ o = encOut op (efs.map (EFrame.bytes op.min))
  | .dec _, o, mo => ∃ ps, o = .packets ps ∧ mo = .packets (ps.map (Sum.elim SrcDec.toPacket SrcTec.tAbs))
  | .st _, o, mo => o = .unit ∧ mo = .unit
  | .tecmp _ b _, o, mo =>
    o = .tpackets ((tecmpDecode b).map fun p => some (SrcTec.tRepr p)) ∧ mo = .packets (tecmpDecode b)

theorem rep_mono {img : Packet → OPkt} {n n' : Nat} {x : SInst} {mx : Inst} (h : Rep img n x mx) (hn : n ≤ n') :
    Rep img n' x mx := by
  cases x <;> cases mx <;> try exact h
  · obtain ⟨t, h1, h2, h3⟩ := h
    exact ⟨t, h1, h2, SrcHist.tableInv_mono h3 hn⟩
  · exact ⟨h.1, Nat.le_trans h.2.1 hn, fun d hd => Nat.le_trans (h.2.2 d hd) hn⟩

/-- freshly constructed objects represent the model's fresh instances (budget 0) -/
theorem rep_fresh (img : Packet → OPkt) :
    Rep img 0 (.enc Encoder_default) (.enc (Enc.fresh 0 0)) ∧
    Rep img 0 (.dec Decoder_default) (.dec DecState.empty) ∧
    Rep img 0 (.st Status_default) (.st []) :=
  ⟨SrcHist.corr_fresh, ⟨[], SrcHist.tableInv_fresh.2.1.symm, SrcHist.tableInv_fresh.2.2.symm, SrcHist.tableInv_fresh.1⟩,
    rfl, Nat.le_refl _, fun d hd => by cases hd⟩

theorem encCall_eq (fuel : Nat) (s : Encoder_St) (op : SrcHist.Op) :
    encCall fuel s (encSrc op) = (SrcHist.srcCall fuel s op).map fun r => (r.1, encOut op r.2) := by
  cases op <;> simp only [encCall, encSrc, SrcHist.srcCall, Option.map_map] <;> rfl

theorem encCall_of_srcCall (fuel : Nat) (s s' : Encoder_St) (op : SrcHist.Op) (fs : List Bytes)
    (h : SrcHist.srcCall fuel s op = some (s', fs)) : encCall fuel s (encSrc op) = some (s', encOut op fs) := by
  rw [encCall_eq, h]; rfl

theorem decCall_eq (fuel : Nat) (s : Decoder_St) (c : SrcHist.Call) :
    decCall fuel s (decSrc c) = (SrcHist.srcDecodeCall fuel s c).map fun r => (r.1, .packets r.2) := by
  cases c <;> rfl

theorem stCall_eq (img : Packet → OPkt) (s : Status_St) (op : StOp) :
    stCall s (stSrc img op) = (C16S.srcStep img s op).map fun s' => (s', .unit) := by
  cases op <;> simp only [stCall, stSrc, C16S.srcStep, Option.map_map, Option.map_bind, Function.comp_def] <;> rfl

/-- **one call.**  The translated call on a representation of the model instance is DEFINED
    and yields a representation of the instance and of the result that `C19.instStep` yields, for every kind of call, under
    `CallOk`; the budget grows by the call's cost. -/
theorem srcCall_refines {img : Packet → OPkt} (H : Obs img) (fuel n : Nat) (x : SInst) (mx : Inst) (c : MCall)
    (hr : Rep img n x mx) (hc : CallOk fuel n mx c) :
    ∃ x' o, srcCall fuel x (c.src img) = some (x', o) ∧
      Rep img (n + c.cost) x' (instStep mx c.model).1 ∧ OutRel c o (instStep mx c.model).2 := by
  cases c with
  | enc op =>
    obtain ⟨⟨e, rfl⟩, hop, hf⟩ := hc
    cases x with
    | enc s =>
      obtain ⟨s', h1, h2⟩ := SrcHist.corr_step hr op fuel hf hop
      refine ⟨.enc s', encOut op ((e.apply op.toModel).2.map (EFrame.bytes op.min)), ?_, h2, _, rfl, rfl⟩
      simp only [MCall.src, srcCall_enc, encCall_of_srcCall fuel s s' op _ h1, Option.map_some]
    | _ => exact absurd hr (by simp [Rep])
  | dec call =>
    obtain ⟨⟨d, rfl⟩, hok, hB⟩ := hc
    cases x with
    | dec s =>
      obtain ⟨t, rfl, rfl, hI⟩ := hr
      obtain ⟨t', outs, h1, h2, h3, h4⟩ := SrcHist.decode_call_src n t call fuel hI hB hok
      refine ⟨.dec (SrcDec.tblSt t'), .packets outs, ?_, ⟨t', rfl, ?_, h2⟩, outs, rfl, ?_⟩
      · simp only [MCall.src, srcCall_dec, decCall_eq, h1, Option.map_some]
      · exact h3.symm
      · show InstOut.packets (decode t.abs call.arg).2 = _
        rw [h4]
    | _ => exact absurd hr (by simp [Rep])
  | st op =>
    obtain ⟨⟨m, rfl, hk⟩, hn⟩ := hc
    cases x with
    | st s =>
      obtain ⟨rfl, hs⟩ := hr
      have hl : m.length < 2 ^ 64 := Nat.lt_of_le_of_lt hs.1 hn
      have hl' : ∀ d ∈ m, d.ifs.length < 2 ^ 64 := fun d hd => Nat.lt_of_le_of_lt (hs.2 d hd) hn
      have h1 := (C16S.srcStep_img_partial H m op hl hl').1 hk
      refine ⟨.st (SrcSt.stSt img (statusStep m op)), .unit, ?_, ⟨rfl, C16S.small_step n m op hs⟩, rfl, rfl⟩
      simp only [MCall.src, srcCall_st, stCall_eq, h1, Option.map_some]
    | _ => exact absurd hr (by simp [Rep])
  | tecmp pre b post =>
    obtain ⟨hpre, hmem, hf, hsz⟩ := hc
    have h1 := SrcTec.tecmpDecode_src_small pre b post fuel hpre hmem hf hsz
    have hm : instStep mx (.tecmp b) = (mx, .packets (tecmpDecode b)) := by cases mx <;> rfl
    refine ⟨x, .tpackets ((tecmpDecode b).map fun p => some (SrcTec.tRepr p)), ?_, ?_, ?_⟩
    · simp only [MCall.src, srcCall_tec, tecCall, h1, Option.map_some]
    · simp only [MCall.model, hm]
      exact rep_mono hr (Nat.le_add_right _ _)
    · simp only [MCall.model, hm]
      exact ⟨rfl, rfl⟩

/-- `CallOk` along the MODEL's solo run of one instance, the budget growing with the calls made so far — a condition on the
    thread's own workload only -/
def RunOk (fuel : Nat) : Nat → Inst → List MCall → Prop
  | _, _, [] => True
  | n, mx, c :: cs => CallOk fuel n mx c ∧ RunOk fuel (n + c.cost) (instStep mx c.model).1 cs

/-- results of a source-level run (none undefined) against the results of the model's run, call by call -/
def OutsRel : List MCall → List (Option SOut) → List InstOut → Prop
  | [], os, mos => os = [] ∧ mos = []
  | c :: cs, os, mos =>
    ∃ o os' mo mos', os = some o :: os' ∧ mos = mo :: mos' ∧ OutRel c o mo ∧ OutsRel cs os' mos'

/-- by how much a list of calls may grow the budget `n` of `Rep` -/
def costSum (cs : List MCall) : Nat := (cs.map MCall.cost).sum

/-- **solo runs.**  One object driven through a list of calls by the translated functions: no call is undefined, every result
    and the final object represent those of the model's solo run `Conc.runSolo C19.instStep` -/
theorem solo_refines {img : Packet → OPkt} (H : Obs img) (fuel : Nat) : ∀ (cs : List MCall) (n : Nat) (x : SInst) (mx : Inst),
    Rep img n x mx → RunOk fuel n mx cs →
    (∃ x', (Conc.runSolo (stepT (srcCall fuel)) (some x) (cs.map (MCall.src img))).1 = some x' ∧
      Rep img (n + costSum cs) x' (Conc.runSolo instStep mx (cs.map MCall.model)).1) ∧
    OutsRel cs (Conc.runSolo (stepT (srcCall fuel)) (some x) (cs.map (MCall.src img))).2
      (Conc.runSolo instStep mx (cs.map MCall.model)).2 := by
  intro cs
  induction cs with
  | nil => intro n x mx hr _; exact ⟨⟨x, rfl, hr⟩, rfl, rfl⟩
  | cons c cs ih =>
    intro n x mx hr hok
    obtain ⟨hc, hrest⟩ := hok
    obtain ⟨x1, o, h1, h2, h3⟩ := srcCall_refines H fuel n x mx c hr hc
    obtain ⟨⟨x2, k1, k2⟩, k3⟩ := ih (n + c.cost) x1 _ h2 hrest
    have hs : stepT (srcCall fuel) (some x) (c.src img) = (some x1, some o) := by
      simp only [stepT, h1]
    simp only [List.map_cons, Conc.runSolo, hs]
    refine ⟨⟨x2, k1, ?_⟩, o, _, _, _, rfl, rfl, h3, k3⟩
    have : n + costSum (c :: cs) = n + c.cost + costSum cs := by
      simp only [costSum, List.map_cons, List.sum_cons]; omega
    rw [this]
    exact k2

/-- **C19 end to end: schedule of the translated source ⟶ schedule of the model.**  Threads drive their own objects through the
    translated methods / static TECMP functions under ANY schedule `sched`, over ANY shared global `γ`; `mst` are model instances.
    For every instance `i` whose object represents `mst i` and whose OWN calls satisfy `RunOk` (whatever the other threads do):
    * none of its calls is undefined, and call by call the results thread `i` sees in the source-level schedule represent
      (`OutRel`: serialised frames, packets read back through `toPacket` / `tAbs`) the results instance `i` gets in the MODEL
      schedule `Conc.runSched C19.instStep` — the one `C19.C19_interleaving` is about;
    * its object ends as a representation of the model instance's final state;
    * the global is untouched.
    This is the composition  source schedule = source solo (`C19S_interleaving_src`, frame discharged)  ⟶  model solo
    (`solo_refines`: the existing single-call source theorems)  =  model schedule (`C19.C19_interleaving`). -/
theorem C19S_interleaving_refines {img : Packet → OPkt} (H : Obs img) (γ : Type) (fuel : Nat) (g : γ)
    (sched : List (Nat × MCall)) (st : Nat → SInst) (mst : Nat → Inst) (i n : Nat)
    (hr : Rep img n (st i) (mst i)) (hok : RunOk fuel n (mst i) (pick i sched)) :
    OutsRel (pick i sched)
      (pick i (runSchedG (srcStepG γ fuel) g (fun j => some (st j)) (sched.map fun x => (x.1, x.2.src img))).2.2)
      (pick i (Conc.runSched instStep mst (sched.map fun x => (x.1, x.2.model))).2) ∧
    (∃ x', (runSchedG (srcStepG γ fuel) g (fun j => some (st j)) (sched.map fun x => (x.1, x.2.src img))).2.1 i = some x' ∧
      Rep img (n + costSum (pick i sched)) x' ((Conc.runSched instStep mst (sched.map fun x => (x.1, x.2.model))).1 i)) ∧
    (runSchedG (srcStepG γ fuel) g (fun j => some (st j)) (sched.map fun x => (x.1, x.2.src img))).1 = g := by
  obtain ⟨a1, a2, a3⟩ := C19S_interleaving_src γ fuel i (sched.map fun x => (x.1, x.2.src img)) g (fun j => some (st j))
  have b := C19.C19_interleaving i (sched.map fun x => (x.1, x.2.model)) mst
  change pick i _ = (Conc.runSolo instStep (mst i) (pick i _)).2 ∧ _ = (Conc.runSolo instStep (mst i) (pick i _)).1 at b
  obtain ⟨⟨x', c1, c2⟩, c3⟩ := solo_refines H fuel (pick i sched) n (st i) (mst i) hr hok
  rw [pick_map] at a1 a2 b
  exact ⟨by rw [a1, b.1]; exact c3, ⟨x', by rw [a2]; exact c1, by rw [b.2]; exact c2⟩, a3⟩

/-! ## §4 the static TECMP decoder; concrete schedules -/

/-- model level, the half `C19.tecmp_stateless` leaves out: the RESULT of the static TECMP decoder does not depend on the
    instance the calling thread drives, nor on that instance's history -/
theorem tecmp_result_instance_independent (x y : Inst) (b : Bytes) :
    (instStep x (.tecmp b)).2 = (instStep y (.tecmp b)).2 ∧ (instStep x (.tecmp b)).2 = .packets (tecmpDecode b) ∧
    (instStep x (.tecmp b)).1 = x := by
  cases x <;> cases y <;> exact ⟨rfl, rfl, rfl⟩

/-- source level: from whatever thread, on whatever object (of any class, in any state), after whatever history and with whatever
    global, the translated `TECMP::Decoder::Decode` on the buffer `b` returns the representation of the model's packets
    and the thread's object is untouched -/
theorem tecmp_src_anywhere (γ : Type) (g : γ) (x : SInst) (pre b post : Bytes) (fuel : Nat) (hpre : 0 < pre.length)
    (hmem : (pre ++ b ++ post).length < 2 ^ 64) (hf : b.length ≤ fuel) (hsz : b.length + 2 ^ 16 ≤ 2 ^ 64) :
    srcStepG γ fuel g (some x) (.tec (.decode (pre ++ b ++ post) pre.length b.length)) =
      (g, some x, some (.tpackets ((tecmpDecode b).map fun p => some (SrcTec.tRepr p)))) := by
  simp only [srcStepG, liftG, stepT, srcCall_tec, tecCall,
    SrcTec.tecmpDecode_src_small pre b post fuel hpre hmem hf hsz, Option.map_some]

/-- a decidable digest of a result, for the evaluations below: the frames of an `encode`, the packets of a `decode` read as
    packets of the model -/
def SOut.digest : SOut → List Bytes × List Packet
  | .frames fs => (fs, [])
  | .packets ps => ([], ps.map (Sum.elim SrcDec.toPacket SrcTec.tAbs))
  | .tpackets ps => ([], ps.filterMap fun p => p.map SrcTec.tAbs)
  | _ => ([], [])

/-- four threads: 0 and 3 drive an encoder each (0 sets device id 0x0102 first), 1 drives a decoder (two segments of one Ethernet
    message, and a call of the static TECMP decoder in between), 2 drives a status tracker; interleaved -/
def exSched : List (Nat × MCall) :=
  [(0, .enc (.setDeviceId 0x0102)),
   (1, .dec (.buf [9] SrcHist.exSeg1 [])),
   (3, .enc (.encode1 SrcHist.exCan SrcHist.exCtx)),
   (0, .enc (.encode1 SrcHist.exCan SrcHist.exCtx)),
   (2, .st (.update (C16S.cmT 5 1))),
   (1, .tecmp [9] SrcTec.exCanFd [5, 5]),
   (2, .st (.update (C16S.ifT 5 2 3))),
   (1, .dec (.buf [9] SrcHist.exSeg2 [5, 5])),
   (0, .enc (.encodeBatch [SrcHist.exCan] SrcHist.exCtx)),
   (2, .st (.rmIf 5 2)),
   (3, .enc (.encode1 SrcHist.exCan SrcHist.exCtx))]

def exSt : Nat → SInst := fun j =>
  if j = 1 then .dec Decoder_default else if j = 2 then .st Status_default else .enc Encoder_default

def exMst : Nat → Inst := fun j =>
  if j = 1 then .dec DecState.empty else if j = 2 then .st [] else .enc (Enc.fresh 0 0)

/-- the source-level schedule of `exSched` (packets of the status calls through the injective image `C16S.fullImg`) with a
    shared global of type `Nat` -/
def exRun := runSchedG (srcStepG Nat 65536) 42 (fun j => some (exSt j)) (exSched.map fun x => (x.1, x.2.src C16S.fullImg))

/-- **evaluated in the kernel on the translated functions.**  Encoder 0 returns nothing for the setter, then the frames with
    device 0x0102 and counters 1, 2; encoder 3 — same packet, same calls, interleaved with encoder 0 — the frames with device 0
    and ITS OWN counters 1, 2; the decoder nothing for the first segment, the CAN-FD packet of the TECMP message, then the
    reassembled Ethernet packet; no call is undefined; the global is still 42 -/
example : (pick 0 exRun.2.2).map (Option.map SOut.digest) =
      [some ([], []), some ([SrcHist.exFrame 1], []), some ([SrcHist.exFrame 2], [])] ∧
    (pick 3 exRun.2.2).map (Option.map SOut.digest) = [some ([exFrame0 1], []), some ([exFrame0 2], [])] ∧
    exRun.1 = 42 := by
  refine ⟨?_, ?_, ?_⟩ <;> decide +kernel

example : (pick 1 exRun.2.2).map (Option.map fun o => o.digest.2.map fun p => (p.payload.map (·.ty), p.deviceId)) =
      [some [], some [(some tyCanFd, 7)], some [(some tyEth, 0x0102)]] ∧
    ((pick 1 exRun.2.2).map (Option.map SOut.digest))[2]? = some (some ([], [SrcHist.exPkt])) := by
  refine ⟨?_, ?_⟩ <;> decide +kernel

example : (pick 2 exRun.2.2).map Option.isSome = [true, true, true] ∧
    (match exRun.2.1 2 with
     | some (.st s) => some (s.f_devices.map fun d => (opq d.f_devicePacket "getDeviceId", d.f_interfaces.length))
     | _ => none) = some [(5, 0)] := by
  refine ⟨?_, ?_⟩ <;> decide +kernel

/-- the hypotheses of `C19S_interleaving_refines` hold for every thread of this schedule -/
theorem exSched_ok : ∀ i, Rep C16S.fullImg 0 (exSt i) (exMst i) ∧ RunOk 65536 0 (exMst i) (pick i exSched) := by
  intro i
  have hcan : SrcHist.exCan.Enc := ⟨by decide, by decide⟩
  have hctx : SrcHist.exCtx.ok = true ∧ SrcHist.exCtx.max < 2 ^ 32 := ⟨by decide, by decide⟩
  by_cases h0 : i = 0
  · subst h0
    refine ⟨SrcHist.corr_fresh, ?_⟩
    show RunOk 65536 0 (.enc (Enc.fresh 0 0))
      [.enc (.setDeviceId 0x0102), .enc (.encode1 SrcHist.exCan SrcHist.exCtx), .enc (.encodeBatch [SrcHist.exCan] SrcHist.exCtx)]
    refine ⟨⟨⟨_, rfl⟩, ?_, by decide⟩, ⟨⟨_, rfl⟩, ⟨hctx.1, hctx.2, hcan⟩, by decide⟩, ⟨⟨_, rfl⟩, ⟨hctx.1, hctx.2, ?_⟩, by decide⟩,
      trivial⟩
    · show (0x0102 : Nat) < 65536
      decide
    · intro p hp
      rw [List.mem_singleton] at hp
      rw [hp]; exact hcan
  · by_cases h1 : i = 1
    · subst h1
      refine ⟨(rep_fresh _).2.1, ?_⟩
      show RunOk 65536 0 (.dec DecState.empty)
        [.dec (.buf [9] SrcHist.exSeg1 []), .tecmp [9] SrcTec.exCanFd [5, 5], .dec (.buf [9] SrcHist.exSeg2 [5, 5])]
      refine ⟨⟨⟨_, rfl⟩, ⟨by decide, by decide, by decide⟩, by decide⟩, ⟨by decide, by decide, by decide, by decide⟩,
        ⟨⟨_, rfl⟩, ⟨by decide, by decide, by decide⟩, by decide⟩, trivial⟩
    · by_cases h2 : i = 2
      · subst h2
        refine ⟨(rep_fresh _).2.2, ?_⟩
        show RunOk 65536 0 (.st [])
          [.st (.update (C16S.cmT 5 1)), .st (.update (C16S.ifT 5 2 3)), .st (.rmIf 5 2)]
        refine ⟨⟨⟨_, rfl, fun _ _ h => by cases h⟩, by decide⟩, ⟨⟨_, rfl, fun _ _ h => by cases h⟩, by decide⟩,
          ⟨⟨_, rfl, ?_⟩, by decide⟩, trivial⟩
        intro dev id h
        cases h
        decide +kernel
      · by_cases h3 : i = 3
        · subst h3
          refine ⟨SrcHist.corr_fresh, ?_⟩
          show RunOk 65536 0 (.enc (Enc.fresh 0 0))
            [.enc (.encode1 SrcHist.exCan SrcHist.exCtx), .enc (.encode1 SrcHist.exCan SrcHist.exCtx)]
          exact ⟨⟨⟨_, rfl⟩, ⟨hctx.1, hctx.2, hcan⟩, by decide⟩, ⟨⟨_, rfl⟩, ⟨hctx.1, hctx.2, hcan⟩, by decide⟩, trivial⟩
        · have hp : pick i exSched = [] := by
            simp [pick, exSched, h0, h1, h2, h3, List.filter, Ne.symm h0, Ne.symm h1, Ne.symm h2, Ne.symm h3]
          have hs : exSt i = .enc Encoder_default := by simp [exSt, h1, h2]
          have hm : exMst i = .enc (Enc.fresh 0 0) := by simp [exMst, h1, h2]
          rw [hp, hs, hm]
          exact ⟨SrcHist.corr_fresh, trivial⟩

/-- … so the theorem applies to it: for every thread, the source-level schedule evaluated above represents the MODEL's schedule -/
example (i : Nat) :
    OutsRel (pick i exSched) (pick i exRun.2.2)
      (pick i (Conc.runSched instStep exMst (exSched.map fun x => (x.1, x.2.model))).2) :=
  (C19S_interleaving_refines C16S.obs_fullImg Nat 65536 42 exSched exSt exMst i 0 (exSched_ok i).1 (exSched_ok i).2).1

/-- the same schedule WITHOUT thread 0 and thread 3 taking turns — each encoder's calls en bloc — is indistinguishable for every
    thread (`schedules_equivalent_G` with the frame discharged) -/
example (i : Nat) (s2 : List (Nat × SCall))
    (h : pick i (exSched.map fun x => (x.1, x.2.src C16S.fullImg)) = pick i s2) :
    pick i exRun.2.2 = pick i (runSchedG (srcStepG Nat 65536) 42 (fun j => some (exSt j)) s2).2.2 :=
  (schedules_equivalent_G (src_step_frame Nat 65536) 42 _ _ s2 i h).1

/-- MODEL level (`C19.C19_interleaving` had no example): two encoders with different device ids under an alternating schedule;
    the per-instance frames carry each encoder's own id and its own counters 1, 2 -/
example :
    let sched : List (Nat × InstOp) :=
      [(0, .enc (.setDev 0x0102)), (1, .enc (.setDev 7)), (0, .enc (.encode [SrcHist.exCan] SrcHist.exCtx)),
       (1, .enc (.encode [SrcHist.exCan] SrcHist.exCtx)), (1, .enc (.encode [SrcHist.exCan] SrcHist.exCtx)),
       (0, .enc (.encode [SrcHist.exCan] SrcHist.exCtx))]
    let digest : InstOut → List (Nat × Nat) := fun o => match o with
      | .frames fs => fs.map fun f => (f.dev, f.seq)
      | _ => []
    (pick 0 (Conc.runSched instStep (fun _ => .enc (Enc.fresh 0 0)) sched).2).map digest = [[], [(0x0102, 1)], [(0x0102, 2)]] ∧
    (pick 1 (Conc.runSched instStep (fun _ => .enc (Enc.fresh 0 0)) sched).2).map digest = [[], [(7, 1)], [(7, 2)]] := by
  refine ⟨?_, ?_⟩ <;> decide +kernel

end AsamCmp.C19S
