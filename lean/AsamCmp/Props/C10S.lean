/-
  C10S — C10 (encoder output independent of earlier encode calls) beyond `Props/C10.lean`, the outcome of the statement audit of
  C10 (DESIGN.md section J.4).

  The theorems of `Props/C10.lean` are about the structured model `Enc`, which has no `min` / `max` / `bytesLeft` members, and
  `Props/SrcEncoderE2E.lean` links it to the translated C++ from objects whose scratch members have their default values.  Here
  C10 is stated ON THE TRANSLATED SOURCE ITSELF, from an ARBITRARY record of the nine data members:

  §1  `encodeLL_post` (in Lemmas/EncLLBytes.lean, where the refinement uses it too): `min` / `max` / ids / `bytesLeft` / frames / template
      of the low-level object after `encode`, from any state.
  §2  `C10_src_range`, `C10_src_single`, `C10_src_batch`: used object vs. default-constructed object with the same ids — both
      defined, frames equal up to the counter offset at bytes 6..7, all members afterwards given; `scratch_not_read`: the five
      scratch members do not influence any entry point (no hypothesis on the packets); `encode1_eq_batch`.
  §3  `K6_encode_defined`, `K6_history_defined` (definedness from any object, any packets), `C10_src_history` (C10 after any
      history of translated calls from any object), `moved_from_irrelevant`.
  §4  `K5_segmented_on_every_call` (model, every `e`, absolute), `K5_src_range` (translated source, every object).
  §5  `small_max_undefined_on_fresh`: the lower bound on `max` is needed already on a fresh encoder.
  §6  non-vacuity: a two-call history with different message types and configurations, then a segmented batch, evaluated by
      the kernel on the translated functions.
-/
import AsamCmp.Props.SrcHistory
import AsamCmp.Props.C09b
import AsamCmp.Props.C08S
namespace AsamCmp.C10S
open AsamCmp AsamCmp.Src AsamCmp.SrcGen AsamCmp.SrcEnc AsamCmp.SrcHist

/-! ## §2  C10 on the TRANSLATED SOURCE, from ANY object state -/

/-- add `k` (mod 2^16) to the sequence counter at bytes 6..7 of a serialised frame; every other byte is kept -/
def patchSeq (k : Nat) (b : Bytes) : Bytes := writeAt b 6 (beEnc 2 ((beAt b 6 2 + k) % 65536))

/-- the "fresh encoder with the same device id and stream id" of the property's text: the default-constructed C++ object
    (`Encoder_default`: the default member initialisers) with the two ids set -/
def freshObj (d x : Nat) : Encoder_St := { Encoder_default with f_deviceId := d, f_streamId := x }

/-- … and it is what the translated `setDeviceId(d); setStreamId(x);` make of the default-constructed object -/
theorem freshObj_by_api (d x : Nat) :
    (Encoder_setDeviceId_obj Encoder_default d).bind (fun r => Encoder_setStreamId_obj r.1 x) = some (freshObj d x, ()) := by
  rw [(config_src Encoder_default d 0).1, Option.bind_some, (config_src _ 0 x).2.1]
  rfl

theorem encOf_freshObj (d x : Nat) : C08S.encOf (freshObj d x) = Enc.fresh d x := rfl

/-- the model's C10 (`C10_encode_any_state`) on bytes, for the model object a member record stands for -/
theorem model_bytes_shift (s : Encoder_St) (batch : List Packet) (c : Ctx) :
    ((C08S.encOf s).encode batch c).2.map (EFrame.bytes c.min) =
      (((C08S.encOf (freshObj s.f_deviceId s.f_streamId)).encode batch c).2.map (EFrame.bytes c.min)).map
        (patchSeq s.f_sequenceCounter) := by
  rw [C10_encode_any_state (C08S.encOf s) batch c, encOf_freshObj]
  exact C09b.shift_bytes c.min s.f_sequenceCounter _

/-- the counter after the call: the fresh run's, plus the offset (mod 2^16) -/
theorem model_post_seqc (e : Enc) (batch : List Packet) (c : Ctx) :
    (e.encode batch c).1.seqc % 65536 = (((Enc.fresh e.dev e.stream).encode batch c).1.seqc + e.seqc) % 65536 :=
  Open.encode_any_state_seqc e batch c

/-- the low-level model from ANY of its states (every value of min, max, bytesLeft, template, frames; no bound on the counter):
    frames = serialised frames of the structured model object with the same four members that survive `init` -/
theorem encodeLL_any_state (l : EncLL) (batch : List Packet) (c : Ctx) (hc : c.ok = true) (hb : ∀ p ∈ batch, p.Enc) :
    (l.encode batch c).2 =
      (({ dev := l.dev, stream := l.stream, seqc := l.seqc, curMt := l.mt } : Enc).encode batch c).2.map (EFrame.bytes c.min) :=
  (C07b.encode_R { dev := l.dev, stream := l.stream, seqc := l.seqc, curMt := l.mt } batch c hc hb).1

/-- an entry point (a translated `encode` overload applied to its packet arguments and configuration) that computes the
    low-level model's `encode batch c` from EVERY member record -/
def Computes (f : Encoder_St → Option (Encoder_St × List Bytes)) (batch : List Packet) (c : Ctx) : Prop :=
  ∀ s, f s = some (ofLL ((toLL s).encode batch c).1, ((toLL s).encode batch c).2)

/-- every member of the object after an `encode` call from the record `s` -/
def postObj (s : Encoder_St) (batch : List Packet) (c : Ctx) : Encoder_St :=
  { f_minBytesPerMessage := c.min, f_maxBytesPerMessage := c.max, f_deviceId := s.f_deviceId, f_streamId := s.f_streamId,
    f_cmpFrameTemplate := [], f_bytesLeft := 0,
    f_sequenceCounter := ((C08S.encOf s).encode batch c).1.seqc, f_messageType := ((C08S.encOf s).encode batch c).1.curMt,
    f_cmpFrames := [] }

theorem computes_struct {f : Encoder_St → Option (Encoder_St × List Bytes)} {batch : List Packet} {c : Ctx}
    (hf : Computes f batch c) (hc : c.ok = true) (hb : ∀ p ∈ batch, p.Enc) (s : Encoder_St) :
    f s = some (postObj s batch c, ((C08S.encOf s).encode batch c).2.map (EFrame.bytes c.min)) := by
  rw [hf s, C08S.toLL_encode_eq]
  obtain ⟨r1, r2, r3, -⟩ := C07b.encode_R (C08S.encOf s) batch c hc hb
  obtain ⟨p1, p2, p3, p4, p5, p6, p7⟩ := encodeLL_post (C08S.encOf s).toLL batch c
  rw [r1]
  congr 2
  generalize (C08S.encOf s).toLL.encode batch c = r at *
  obtain ⟨⟨a1, a2, a3, a4, a5, a6, a7, a8, a9⟩, r2'⟩ := r
  simp only at p1 p2 p3 p4 p5 p6 p7 r2 r3
  subst p1 p2 p3 p4 p5 p6 p7 r2 r3
  rfl

/-- C10 for any such entry point; `bs0` are the frames of the fresh object -/
theorem C10_of_computes {f : Encoder_St → Option (Encoder_St × List Bytes)} {batch : List Packet} {c : Ctx}
    (hf : Computes f batch c) (hc : c.ok = true) (hb : ∀ p ∈ batch, p.Enc) (s : Encoder_St) :
    let s0 := freshObj s.f_deviceId s.f_streamId
    let bs0 := ((C08S.encOf s0).encode batch c).2.map (EFrame.bytes c.min)
    f s0 = some (postObj s0 batch c, bs0) ∧
      f s = some (postObj s batch c, bs0.map (patchSeq s.f_sequenceCounter)) ∧
      (postObj s batch c).f_sequenceCounter % 65536 =
        ((postObj s0 batch c).f_sequenceCounter + s.f_sequenceCounter) % 65536 := by
  refine ⟨computes_struct hf hc hb _, ?_, model_post_seqc (C08S.encOf s) batch c⟩
  rw [computes_struct hf hc hb s, model_bytes_shift]


/-! ### the four entry points -/

theorem computes_batch (batch : List Packet) (c : Ctx) (fuel : Nat) (hc : c.ok = true) (hmax : c.max < 2 ^ 32)
    (hf : 65536 ≤ fuel) : Computes (fun s => srcEncodeBatch fuel s batch c.min c.max) batch c :=
  fun s => encodeBatch_src_gen s batch c fuel hc hmax hf

theorem computes_range (batch : List Packet) (c : Ctx) (fuel : Nat) (hc : c.ok = true) (hmax : c.max < 2 ^ 32)
    (hf : 65536 ≤ fuel) : Computes (fun s => Encoder_encode_range_obj fuel s (batch.map pktIn) c.min c.max) batch c :=
  fun s => (encodeRange_src s batch c fuel hc hmax hf).1

theorem computes_ptrRange (batch : List Packet) (c : Ctx) (fuel : Nat) (hc : c.ok = true) (hmax : c.max < 2 ^ 32)
    (hf : 65536 ≤ fuel) : Computes (fun s => Encoder_encode_ptrRange_obj fuel s (batch.map pktIn) c.min c.max) batch c :=
  fun s => (encodeRange_src s batch c fuel hc hmax hf).2

theorem computes_single (p : Packet) (c : Ctx) (fuel : Nat) (hc : c.ok = true) (hmax : c.max < 2 ^ 32)
    (hf : 65536 ≤ fuel) : Computes (fun s => Encoder_encode_obj fuel s (pktIn p) c.min c.max) [p] c :=
  fun s => encode1_src_gen s p c fuel hc hmax hf

/-- the single-packet overload is the batch composition on the one-element batch — as FUNCTIONS (every state, every
    configuration, every fuel; defined or not) -/
theorem encode1_eq_batch (fuel : Nat) (s : Encoder_St) (p : Packet) (mn mx : Nat) :
    Encoder_encode_obj fuel s (pktIn p) mn mx = srcEncodeBatch fuel s [p] mn mx := by
  unfold Encoder_encode_obj srcEncodeBatch
  cases Encoder_init_obj s mn mx with
  | none => rfl
  | some r =>
    obtain ⟨s1, u⟩ := r
    simp only [Option.bind_eq_bind, Option.bind_some, List.foldlM_cons, List.foldlM_nil]
    cases Encoder_putPacket_obj fuel s1 (pktIn p) with
    | none => rfl
    | some r2 =>
      obtain ⟨s2, u2⟩ := r2
      simp only [Option.bind_some, Option.map_some, Option.pure_def]
      cases Encoder_getEncodedData_obj s2 with
      | none => rfl
      | some r3 => rfl


/-! ### C10, source level: the main statements -/

/-- **C10 on the translated iterator-range overloads, from ANY object.**  `s` is an arbitrary record of the nine data members
    ("an encoder that has already encoded arbitrary other batches with arbitrary configurations": whatever those calls — or
    anything else — left in minBytesPerMessage, maxBytesPerMessage, bytesLeft, cmpFrameTemplate, cmpFrames, messageType,
    sequenceCounter).  For every batch of packets that own a payload shorter than 2^16 bytes and every configuration with
    25 ≤ max < 2^32, min ≤ max: the call on `s` and the call on the default-constructed object with the same two ids are both
    DEFINED, and the frames of the former are those of the latter with `s.f_sequenceCounter` added (mod 2^16) to bytes 6..7 of
    every frame and NO other byte changed; both overloads; every member of both objects afterwards is given (`postObj`), and
    the counters afterwards differ by the same offset. -/
theorem C10_src_range (s : Encoder_St) (batch : List Packet) (c : Ctx) (fuel : Nat)
    (hc : c.ok = true) (hmax : c.max < 2 ^ 32) (hb : ∀ p ∈ batch, p.Enc) (hf : 65536 ≤ fuel) :
    let s0 := freshObj s.f_deviceId s.f_streamId
    ∃ bs0,
      Encoder_encode_range_obj fuel s0 (batch.map pktIn) c.min c.max = some (postObj s0 batch c, bs0) ∧
      Encoder_encode_range_obj fuel s (batch.map pktIn) c.min c.max =
        some (postObj s batch c, bs0.map (patchSeq s.f_sequenceCounter)) ∧
      Encoder_encode_ptrRange_obj fuel s0 (batch.map pktIn) c.min c.max = some (postObj s0 batch c, bs0) ∧
      Encoder_encode_ptrRange_obj fuel s (batch.map pktIn) c.min c.max =
        some (postObj s batch c, bs0.map (patchSeq s.f_sequenceCounter)) ∧
      (postObj s batch c).f_sequenceCounter % 65536 =
        ((postObj s0 batch c).f_sequenceCounter + s.f_sequenceCounter) % 65536 := by
  obtain ⟨h1, h2, h3⟩ := C10_of_computes (computes_range batch c fuel hc hmax hf) hc hb s
  obtain ⟨k1, k2, _⟩ := C10_of_computes (computes_ptrRange batch c fuel hc hmax hf) hc hb s
  exact ⟨_, h1, h2, k1, k2, h3⟩

/-- the same for the single-packet overload `encode(const Packet&, const DataContext&)`, translated as a whole -/
theorem C10_src_single (s : Encoder_St) (p : Packet) (c : Ctx) (fuel : Nat)
    (hc : c.ok = true) (hmax : c.max < 2 ^ 32) (hp : p.Enc) (hf : 65536 ≤ fuel) :
    let s0 := freshObj s.f_deviceId s.f_streamId
    ∃ bs0,
      Encoder_encode_obj fuel s0 (pktIn p) c.min c.max = some (postObj s0 [p] c, bs0) ∧
      Encoder_encode_obj fuel s (pktIn p) c.min c.max = some (postObj s [p] c, bs0.map (patchSeq s.f_sequenceCounter)) ∧
      (postObj s [p] c).f_sequenceCounter % 65536 =
        ((postObj s0 [p] c).f_sequenceCounter + s.f_sequenceCounter) % 65536 := by
  intro s0
  have hb : ∀ q ∈ [p], q.Enc := by
    intro q hq
    rw [List.mem_singleton] at hq
    rw [hq]; exact hp
  exact ⟨_, C10_of_computes (computes_single p c fuel hc hmax hf) hc hb s⟩

/-- … and for the composition `init; putPacket…; getEncodedData` (`srcEncodeBatch`) -/
theorem C10_src_batch (s : Encoder_St) (batch : List Packet) (c : Ctx) (fuel : Nat)
    (hc : c.ok = true) (hmax : c.max < 2 ^ 32) (hb : ∀ p ∈ batch, p.Enc) (hf : 65536 ≤ fuel) :
    let s0 := freshObj s.f_deviceId s.f_streamId
    ∃ bs0,
      srcEncodeBatch fuel s0 batch c.min c.max = some (postObj s0 batch c, bs0) ∧
      srcEncodeBatch fuel s batch c.min c.max = some (postObj s batch c, bs0.map (patchSeq s.f_sequenceCounter)) ∧
      (postObj s batch c).f_sequenceCounter % 65536 =
        ((postObj s0 batch c).f_sequenceCounter + s.f_sequenceCounter) % 65536 :=
  ⟨_, C10_of_computes (computes_batch batch c fuel hc hmax hf) hc hb s⟩

/-- **the scratch members are not read** : two objects that agree in device id, stream id,
    counter and message type — and differ arbitrarily in minBytesPerMessage, maxBytesPerMessage, bytesLeft, cmpFrameTemplate,
    cmpFrames — return the SAME frames and end in the SAME state, for EVERY batch (no condition on the packets), at every
    entry point.  So a stale `max`, `min` or `bytesLeft` cannot influence a call. -/
theorem scratch_not_read (s t : Encoder_St) (batch : List Packet) (c : Ctx) (fuel : Nat)
    (hd : s.f_deviceId = t.f_deviceId) (hx : s.f_streamId = t.f_streamId)
    (hq : s.f_sequenceCounter = t.f_sequenceCounter) (hm : s.f_messageType = t.f_messageType)
    (hc : c.ok = true) (hmax : c.max < 2 ^ 32) (hf : 65536 ≤ fuel) :
    srcEncodeBatch fuel s batch c.min c.max = srcEncodeBatch fuel t batch c.min c.max ∧
    Encoder_encode_range_obj fuel s (batch.map pktIn) c.min c.max =
      Encoder_encode_range_obj fuel t (batch.map pktIn) c.min c.max ∧
    Encoder_encode_ptrRange_obj fuel s (batch.map pktIn) c.min c.max =
      Encoder_encode_ptrRange_obj fuel t (batch.map pktIn) c.min c.max ∧
    ∀ p, Encoder_encode_obj fuel s (pktIn p) c.min c.max = Encoder_encode_obj fuel t (pktIn p) c.min c.max := by
  have e : ∀ b, (toLL s).encode b c = (toLL t).encode b c := by
    intro b
    rw [C08S.toLL_encode_eq, C08S.toLL_encode_eq]
    simp only [C08S.encOf, hd, hx, hq, hm]
  obtain ⟨r1, r2⟩ := encode_range_eq fuel s batch c.min c.max
  obtain ⟨r3, r4⟩ := encode_range_eq fuel t batch c.min c.max
  have h0 : srcEncodeBatch fuel s batch c.min c.max = srcEncodeBatch fuel t batch c.min c.max := by
    rw [encodeBatch_src_gen s batch c fuel hc hmax hf, encodeBatch_src_gen t batch c fuel hc hmax hf, e]
  refine ⟨h0, by rw [r1, r3, h0], by rw [r2, r4, h0], ?_⟩
  intro p
  rw [encode1_src_gen s p c fuel hc hmax hf, encode1_src_gen t p c fuel hc hmax hf, e]

/-! ## §3  no call is undefined because of what an earlier call left behind -/

/-- every `encode` entry point is DEFINED from every member record — arbitrary leftovers in all nine members, frames still
    in `cmpFrames`, any `bytesLeft` — for EVERY batch (nothing is asked of the packets) and every configuration with
    25 ≤ max < 2^32, min ≤ max.  "Defined" = the translation returns `some`: no `back()` / `pop_back()` on an empty vector, no
    `memcpy` / header write outside its vector, no signed overflow, the `while` loop ends. -/
theorem K6_encode_defined (s : Encoder_St) (batch : List Packet) (c : Ctx) (fuel : Nat)
    (hc : c.ok = true) (hmax : c.max < 2 ^ 32) (hf : 65536 ≤ fuel) :
    (srcEncodeBatch fuel s batch c.min c.max).isSome = true ∧
    (Encoder_encode_range_obj fuel s (batch.map pktIn) c.min c.max).isSome = true ∧
    (Encoder_encode_ptrRange_obj fuel s (batch.map pktIn) c.min c.max).isSome = true ∧
    ∀ p, (Encoder_encode_obj fuel s (pktIn p) c.min c.max).isSome = true := by
  obtain ⟨r1, r2⟩ := encodeRange_src s batch c fuel hc hmax hf
  refine ⟨by rw [encodeBatch_src_gen s batch c fuel hc hmax hf]; rfl, by rw [r1]; rfl, by rw [r2]; rfl, ?_⟩
  intro p
  rw [encode1_src_gen s p c fuel hc hmax hf]; rfl

/-- the configuration of an `encode` operation of a history is in the domain (25 ≤ max < 2^32, min ≤ max); nothing is asked of
    the setters' arguments or of the packets -/
def CfgOk : Op → Prop
  | .encodeBatch _ c => c.ok = true ∧ c.max < 2 ^ 32
  | .encode1 _ c => c.ok = true ∧ c.max < 2 ^ 32
  | _ => True

theorem srcCall_defined (fuel : Nat) (hf : 65536 ≤ fuel) (s : Encoder_St) (op : Op) (h : CfgOk op) :
    ∃ r, srcCall fuel s op = some r := by
  cases op with
  | setDeviceId d => simp only [srcCall, (config_src s d 0).1, Option.map_some]; exact ⟨_, rfl⟩
  | setStreamId x => simp only [srcCall, (config_src s 0 x).2.1, Option.map_some]; exact ⟨_, rfl⟩
  | restart => simp only [srcCall, (config_src s 0 0).2.2.1, Option.map_some]; exact ⟨_, rfl⟩
  | encodeBatch b c => exact ⟨_, (encodeRange_src s b c fuel h.1 h.2 hf).1⟩
  | encode1 p c => exact ⟨_, encode1_src_gen s p c fuel h.1 h.2 hf⟩

/-- **definedness over histories**: the run of the translated public methods over ANY list of operations (setDeviceId / setStreamId /
    restart / encode(range) / encode(packet), in any order, any packets) from ANY object is defined at every call, as long as
    every configuration is in the domain -/
theorem K6_history_defined (fuel : Nat) (hf : 65536 ≤ fuel) : ∀ (ops : List Op) (s : Encoder_St), (∀ op ∈ ops, CfgOk op) →
    ∃ r, srcEncRun fuel s ops = some r := by
  intro ops
  induction ops with
  | nil => intro s _; exact ⟨_, rfl⟩
  | cons op ops ih =>
    intro s h
    obtain ⟨⟨s1, fr⟩, h1⟩ := srcCall_defined fuel hf s op (h op List.mem_cons_self)
    obtain ⟨⟨s3, rest⟩, h2⟩ := ih s1 (fun o ho => h o (List.mem_cons_of_mem _ ho))
    simp only [srcEncRun, h1, srcGetters_eq, h2]; exact ⟨_, rfl⟩

/-- the next call is an `encode` of packets that own a payload shorter than 2^16 bytes, with a configuration of the domain -/
def NextOk : Op → Prop
  | .encodeBatch b c => c.ok = true ∧ c.max < 2 ^ 32 ∧ ∀ p ∈ b, p.Enc
  | .encode1 p c => c.ok = true ∧ c.max < 2 ^ 32 ∧ p.Enc
  | _ => False

/-- **C10 over histories, source level.**  Run the translated public methods over ANY list of operations `ops` from ANY
    object `s0` (in particular `Encoder_default`); the run is defined and ends in some object `s1`.  Then the next `encode`
    call `next` (either overload) on `s1` and the same call on the default-constructed object configured with the ids `s1`
    reports are both defined, and the frames of the former are those of the latter with the counter `s1` had reached added
    (mod 2^16) to bytes 6..7 — nothing else differs. -/
theorem C10_src_history (ops : List Op) (s0 : Encoder_St) (next : Op) (fuel : Nat) (hf : 65536 ≤ fuel)
    (hops : ∀ op ∈ ops, CfgOk op) (hnext : NextOk next) :
    ∃ s1 obs s2 s2' bs0,
      srcEncRun fuel s0 ops = some (s1, obs) ∧
      srcCall fuel (freshObj s1.f_deviceId s1.f_streamId) next = some (s2', bs0) ∧
      srcCall fuel s1 next = some (s2, bs0.map (patchSeq s1.f_sequenceCounter)) := by
  obtain ⟨⟨s1, obs⟩, h1⟩ := K6_history_defined fuel hf ops s0 hops
  cases next with
  | setDeviceId d => exact absurd hnext id
  | setStreamId x => exact absurd hnext id
  | restart => exact absurd hnext id
  | encodeBatch b c =>
    obtain ⟨hc, hmax, hb⟩ := hnext
    obtain ⟨bs0, k1, k2, _⟩ := C10_src_range s1 b c fuel hc hmax hb hf
    exact ⟨s1, obs, _, _, bs0, h1, k1, k2⟩
  | encode1 p c =>
    obtain ⟨hc, hmax, hp⟩ := hnext
    obtain ⟨bs0, k1, k2, _⟩ := C10_src_single s1 p c fuel hc hmax hp hf
    exact ⟨s1, obs, _, _, bs0, h1, k1, k2⟩


/-- the body of the translated `getEncodedData` (GeneratedSrcObj.lean) with the moved-from vector `cmpFrames` — which the
    translator models as `[]`, whereas the C++ standard only promises "valid but unspecified" — holding an ARBITRARY value `j` -/
def getEncodedData_movedFrom (j : List Bytes) (s : Encoder_St) : Option (Encoder_St × List Bytes) := do
  let (s, _) ← Encoder_closeLastFrame_obj s
  let v_frames := s.f_cmpFrames
  let s := { s with f_cmpFrames := j }
  let (s, _) ← Encoder_clearEncodingMetadata_obj s false
  pure (s, v_frames)

/-- the modelling of `std::move(cmpFrames)` is immaterial — `clearEncodingMetadata(false)` clears the vector
    right after the move, so the result and the state afterwards are the same whatever the moved-from vector holds -/
theorem moved_from_irrelevant (j : List Bytes) (s : Encoder_St) :
    getEncodedData_movedFrom j s = Encoder_getEncodedData_obj s := by
  unfold getEncodedData_movedFrom Encoder_getEncodedData_obj Encoder_clearEncodingMetadata_obj
  cases Encoder_closeLastFrame_obj s <;> rfl

/-! ## §4  a payload that needs segmentation is segmented on EVERY call (absolute, not relative to the fresh run) -/

theorem mem_zip_range (batch : List Packet) (i : Nat) (hi : i < batch.length) :
    (i, batch[i]) ∈ (List.range batch.length).zip batch := by
  rw [List.mem_iff_getElem]
  exact ⟨i, by simp [hi], by simp⟩

/-- **segmentation on the model, for EVERY encoder object `e`** (every value of every field: any message type remembered, any counter,
    frames / open frame / template left over), every batch, every configuration with 25 ≤ max (nothing else: `min` is
    arbitrary), and every packet of the batch whose message does not fit an empty frame (16 + payloadLength > max - 8): the
    messages of the returned frames contain, as one contiguous run, the messages `ms` of that packet, which
    * all carry its index and header fields and are each ALONE in a returned frame,
    * are flagged first (4), intermediary (8) …, last (12), every non-last one with max - 24 payload bytes,
    * are at least two, and
    * carry the packet's payload bytes exactly once, in order. -/
theorem K5_segmented_on_every_call (e : Enc) (batch : List Packet) (c : Ctx) (hmax : 25 ≤ c.max)
    (i : Nat) (hi : i < batch.length) (hbig : c.cap < 16 + batch[i].payloadLength) :
    let p := batch[i]
    let n := c.cap - 16
    let len := p.payloadLength
    ∃ (pre ms post : List EMsg),
      (e.encode batch c).2.flatMap (·.msgs) = pre ++ ms ++ post ∧
      (∀ m ∈ ms, m.idx = i ∧ m.pkt = p ∧ ∃ f ∈ (e.encode batch c).2, f.msgs = [m]) ∧
      ms.map (fun m => (m.seg, m.body.length)) =
        (List.range ((len - 1) / n)).map (fun j => (if j = 0 then 4 else 8, n)) ++ [(12, len - (len - 1) / n * n)] ∧
      1 ≤ (len - 1) / n ∧
      (ms.map (·.body)).flatten = p.data.take len := by
  intro p n len
  have hbig : c.cap < 16 + p.payloadLength := hbig
  have hcap : 17 ≤ c.cap := by unfold Ctx.cap; omega
  have hn : 0 < n := by show 0 < c.cap - 16; omega
  have hlen : (p.data.take len).length = len := by
    rw [List.length_take]
    exact Nat.min_eq_left (payloadLength_le_data p)
  have hnl : n < len := by show c.cap - 16 < p.payloadLength; omega
  obtain ⟨hok, hall, _⟩ := encode_spec e batch c hcap
  obtain ⟨l1, l2, hz⟩ := List.append_of_mem (mem_zip_range batch i hi)
  have hp : pieces c i p = segMsgs i p true (chunks n (p.data.take len)) := by
    unfold pieces
    rw [if_neg (by show ¬ p.payloadLength = 0; omega), if_neg (by show ¬ 16 + p.payloadLength ≤ c.cap; omega)]
  refine ⟨l1.flatMap (fun ip => pieces c ip.1 ip.2), pieces c i p, l2.flatMap (fun ip => pieces c ip.1 ip.2), ?_, ?_, ?_, ?_, ?_⟩
  · rw [hall, hz, List.flatMap_append, List.flatMap_cons, List.append_assoc]
  · intro m hm
    have hm' := hm
    rw [hp] at hm'
    obtain ⟨h1, h2, h3, _⟩ := segMsgs_mem _ _ _ _ m hm'
    refine ⟨h1, h2, ?_⟩
    have hmem : m ∈ (e.encode batch c).2.flatMap (·.msgs) := by
      rw [hall, hz, List.flatMap_append, List.flatMap_cons]
      exact List.mem_append_right _ (List.mem_append_left _ hm)
    obtain ⟨f, hf, hmf⟩ := List.mem_flatMap.mp hmem
    exact ⟨f, hf, eq_singleton_of_alone (hok f hf).1.alone hmf (by omega)⟩
  · rw [hp, segShapeT i p n hn _ (by rw [hlen]; exact hnl), hlen]
  · exact (Nat.le_div_iff_mul_le hn).mpr (by omega)
  · rw [hp, segMsgs_body, chunks_flatten n hn]

/-- **segmentation at source level, from ANY object, both range overloads**: the call is defined and returns the serialisation of a
    frame list `fs` that has the property of `K5_segmented_on_every_call` for every packet of the batch that does not fit an
    empty frame — whatever `maxBytesPerMessage`, `bytesLeft`, `cmpFrames`, `messageType` earlier calls left in `s` -/
theorem K5_src_range (s : Encoder_St) (batch : List Packet) (c : Ctx) (fuel : Nat)
    (hc : c.ok = true) (hmax : c.max < 2 ^ 32) (hb : ∀ p ∈ batch, p.Enc) (hf : 65536 ≤ fuel) :
    ∃ (s' : Encoder_St) (fs : List EFrame),
      Encoder_encode_range_obj fuel s (batch.map pktIn) c.min c.max = some (s', fs.map (EFrame.bytes c.min)) ∧
      Encoder_encode_ptrRange_obj fuel s (batch.map pktIn) c.min c.max = some (s', fs.map (EFrame.bytes c.min)) ∧
      ∀ (i : Nat) (hi : i < batch.length), c.cap < 16 + batch[i].data.length →
        ∃ (pre ms post : List EMsg),
          fs.flatMap (·.msgs) = pre ++ ms ++ post ∧
          (∀ m ∈ ms, m.idx = i ∧ m.pkt = batch[i] ∧ ∃ f ∈ fs, f.msgs = [m]) ∧
          2 ≤ ms.length ∧
          (ms.map (·.seg)).head? = some 4 ∧ (ms.map (·.seg)).getLast? = some 12 ∧
          (∀ x ∈ (ms.map (·.seg)).tail.dropLast, x = 8) ∧
          (ms.map (·.body)).flatten = batch[i].data := by
  refine ⟨_, ((C08S.encOf s).encode batch c).2,
    computes_struct (computes_range batch c fuel hc hmax hf) hc hb s,
    computes_struct (computes_ptrRange batch c fuel hc hmax hf) hc hb s, ?_⟩
  intro i hi hbig
  have hpl : batch[i].payloadLength = batch[i].data.length := (hb _ (List.getElem_mem hi)).plen
  have h25 : 25 ≤ c.max := by
    simp only [Ctx.ok, Bool.and_eq_true, decide_eq_true_eq] at hc
    exact hc.1
  obtain ⟨pre, ms, post, k1, k2, k3, k4, k5⟩ :=
    K5_segmented_on_every_call (C08S.encOf s) batch c h25 i hi (by rw [hpl]; exact hbig)
  rw [hpl, List.take_length] at k5
  have hseg : ms.map (·.seg) =
      (List.range ((batch[i].payloadLength - 1) / (c.cap - 16))).map (fun j => if j = 0 then 4 else 8) ++ [12] := by
    have := congrArg (List.map Prod.fst) k3
    simpa [List.map_map, Function.comp_def] using this
  generalize (batch[i].payloadLength - 1) / (c.cap - 16) = q at hseg k4
  refine ⟨pre, ms, post, k1, k2, ?_, ?_, ?_, ?_, k5⟩
  · have := congrArg List.length hseg
    simp at this
    omega
  · rw [hseg]
    cases q with
    | zero => omega
    | succ q => simp [List.range_succ_eq_map]
  · rw [hseg, List.getLast?_concat]
  · rw [hseg]
    intro x hx
    cases q with
    | zero => omega
    | succ q =>
      simp only [List.range_succ_eq_map, List.map_cons, List.map_map, List.cons_append, List.tail_cons,
        List.dropLast_concat] at hx
      obtain ⟨j, _, rfl⟩ := List.mem_map.mp hx
      simp


/-! ## §5  the domain of the configurations (remarks on the hypotheses `25 ≤ max`, `min ≤ max`) -/

/-- `25 ≤ max` is not an artefact: with `maxBytesPerMessage = 20` the translated `encode` is UNDEFINED already on the
    default-constructed object (for every fuel: the 16-byte message header is written at offset 8 of a 20-byte frame).  So
    an out-of-domain configuration fails on a fresh encoder too — it is not "something an earlier call left behind", and the
    comparison of C10 has no right-hand side there. -/
theorem small_max_undefined_on_fresh (fuel : Nat) : srcEncodeBatch fuel Encoder_default [exCan] 0 20 = none := by
  cases fuel <;> rfl

/-! ## §6  non-vacuity: a concrete two-call history with different message types and configurations, then a segmented batch -/

/-- an Ethernet data message (message type 1) of 100 payload bytes -/
def exEth : Packet :=
  { payload := some ⟨tyEth, [0, 0, 0, 0, 0, 94] ++ (List.range 94).map UInt8.ofNat⟩, ts := 5, ifId := 2 }

/-- a capture-module status message (message type 3) of 36 payload bytes -/
def exCm : Packet :=
  { payload := some ⟨tyCm, List.replicate 36 0⟩, ts := 1, vendorId := 0x1234 }

/-- the history: ids set, a range call (data messages, max 1500), a single-packet call (status message, min 128, max 200) -/
def exHist : List Op :=
  [.setDeviceId 0x0102, .setStreamId 7, .encodeBatch [exCan, exCan] ⟨0, 1500⟩, .encode1 exCm ⟨128, 200⟩]

/-- the next call: max 64, i.e. 40 payload bytes per segment: the Ethernet message needs three segments -/
def exNext : Op := .encodeBatch [exEth, exCan] ⟨0, 64⟩

/-- the members of an object (the two vectors by their lengths) -/
def members (s : Encoder_St) : List Nat :=
  [s.f_minBytesPerMessage, s.f_maxBytesPerMessage, s.f_deviceId, s.f_streamId, s.f_sequenceCounter, s.f_messageType,
   s.f_bytesLeft, s.f_cmpFrames.length, s.f_cmpFrameTemplate.length]

theorem exEnc : exEth.Enc ∧ exCan.Enc ∧ exCm.Enc :=
  ⟨⟨by decide +kernel, by decide +kernel⟩, ⟨by decide +kernel, by decide +kernel⟩, ⟨by decide +kernel, by decide +kernel⟩⟩

theorem exHist_ok : ∀ op ∈ exHist, CfgOk op := by
  intro op hop
  simp only [exHist, List.mem_cons, List.not_mem_nil, or_false] at hop
  rcases hop with rfl | rfl | rfl | rfl
  · trivial
  · trivial
  · exact ⟨by decide, by decide⟩
  · exact ⟨by decide, by decide⟩

theorem exNext_ok : NextOk exNext := by
  refine ⟨by decide, by decide, ?_⟩
  intro p hp
  simp only [List.mem_cons, List.not_mem_nil, or_false] at hp
  rcases hp with rfl | rfl
  · exact exEnc.1
  · exact exEnc.2.1

/-- the hypotheses of `C10_src_history` are satisfied by this history and this next call -/
example : ∃ s1 obs s2 s2' bs0,
    srcEncRun 65536 Encoder_default exHist = some (s1, obs) ∧
    srcCall 65536 (freshObj s1.f_deviceId s1.f_streamId) exNext = some (s2', bs0) ∧
    srcCall 65536 s1 exNext = some (s2, bs0.map (patchSeq s1.f_sequenceCounter)) :=
  C10_src_history exHist Encoder_default exNext 65536 (by decide) exHist_ok exNext_ok

/-! The runs below share their pieces, each evaluated once by the kernel on the translated functions: the history (`exHist_end`),
  the two setters (`exFresh_end`), and the call `exNext` on the used and on the fresh object (`exNext_used`, `exNext_fresh`);
  `lastObs_snoc` splits a run into all calls but the last and the last. -/

theorem srcEncRun_snoc (fuel : Nat) (op : Op) : ∀ (ops : List Op) (s : Encoder_St),
    srcEncRun fuel s (ops ++ [op]) =
      (srcEncRun fuel s ops).bind fun r => (srcCall fuel r.1 op).map fun c =>
        (c.1, r.2 ++ [⟨c.2, c.1.f_sequenceCounter, c.1.f_deviceId, c.1.f_streamId⟩]) := by
  intro ops
  induction ops with
  | nil =>
    intro s
    simp only [List.nil_append, srcEncRun, srcGetters_eq, Option.bind_some]
    cases srcCall fuel s op <;> rfl
  | cons o ops ih =>
    intro s
    simp only [List.cons_append, srcEncRun, srcGetters_eq]
    cases srcCall fuel s o with
    | none => rfl
    | some c =>
      simp only [ih]
      cases srcEncRun fuel c.1 ops with
      | none => rfl
      | some r =>
        obtain ⟨s3, rest⟩ := r
        simp only [Option.bind_some]
        cases srcCall fuel s3 op <;> rfl

/-- what the caller observes after the last call of a run, through any view `V`: run all but the last, then the last call -/
theorem lastObs_snoc {α : Type} (V : Obs → α) (fuel : Nat) (s : Encoder_St) (ops : List Op) (op : Op) :
    (srcEncRun fuel s (ops ++ [op])).map (fun r => r.2.getLast?.map V) =
      ((srcEncRun fuel s ops).map (·.1)).bind fun s1 =>
        (srcCall fuel s1 op).map fun c => some (V ⟨c.2, c.1.f_sequenceCounter, c.1.f_deviceId, c.1.f_streamId⟩) := by
  rw [srcEncRun_snoc]
  cases srcEncRun fuel s ops with
  | none => rfl
  | some r =>
    simp only [Option.bind_some, Option.map_some, Option.map_map]
    cases srcCall fuel r.1 op with
    | none => rfl
    | some c => simp only [Option.map_some, Function.comp_apply, List.getLast?_concat]

deriving instance DecidableEq for Encoder_St

/-- an object with GARBAGE in every scratch member (frames left in `cmpFrames`, a 3-byte template, bytesLeft = 5, min > max) and
    the four surviving members of the history's end state -/
def dirtyObj : Encoder_St :=
  { f_minBytesPerMessage := 999, f_maxBytesPerMessage := 3, f_deviceId := 0x0102, f_streamId := 7,
    f_cmpFrameTemplate := [9, 9, 9], f_bytesLeft := 5, f_sequenceCounter := 2, f_messageType := 3,
    f_cmpFrames := [[1, 2, 3], [4]] }

/-- the end state of the history (`exHist_end`) -/
def usedObj : Encoder_St :=
  { f_minBytesPerMessage := 128, f_maxBytesPerMessage := 200, f_deviceId := 0x0102, f_streamId := 7,
    f_cmpFrameTemplate := [], f_bytesLeft := 0, f_sequenceCounter := 2, f_messageType := 3, f_cmpFrames := [] }

theorem exHist_end : (srcEncRun 65536 Encoder_default exHist).map (·.1) = some usedObj := by
  decide +kernel

/-- the TRANSLATED methods evaluated by the kernel on the history: afterwards the object remembers message type 3 (≠ 0),
    counter 2 (≠ 0), and the STALE configuration min = 128, max = 200 of the last call -/
example : (srcEncRun 65536 Encoder_default exHist).map (fun r => members r.1) = some [128, 200, 0x102, 7, 2, 3, 0, 0, 0] := by
  have h := congrArg (Option.map members) exHist_end
  rwa [Option.map_map] at h

/-- the frames `exNext` returns from counter `q`, in full: the Ethernet message in three segments flagged 4, 8, 12 with
    40, 40, 20 payload bytes, then the CAN message; each frame is the 8-byte frame header, the 16-byte message header and the
    payload slice -/
def exFrames (q : Nat) : List Bytes :=
  let eth (i flag n : Nat) : Bytes :=
    [1, 0, 1, 2, 1, 7, 0, UInt8.ofNat (q + i), 0, 0, 0, 0, 0, 0, 0, 5, 0, 0, 0, 2, UInt8.ofNat flag, 8, 0, UInt8.ofNat n] ++
      slice exEth.data (40 * (i - 1)) n
  [eth 1 4 40, eth 2 8 40, eth 3 12 20,
   [1, 0, 1, 2, 1, 7, 0, UInt8.ofNat (q + 4), 0, 0, 0, 0, 0, 0, 0, 9, 0, 0, 0, 3, 0, 1, 0, 18] ++ exCan.data]

/-- the object after `exNext` from counter `q`: the call's configuration, message type 1, four frames counted -/
def exAfter (q : Nat) : Encoder_St :=
  { usedObj with f_minBytesPerMessage := 0, f_maxBytesPerMessage := 64, f_sequenceCounter := q + 4, f_messageType := 1 }

theorem exNext_used : srcCall 65536 usedObj exNext = some (exAfter 2, exFrames 2) := by
  decide +kernel

theorem exNext_fresh : srcCall 65536 (freshObj 0x0102 7) exNext = some (exAfter 0, exFrames 0) := by
  decide +kernel

theorem exFresh_end : (srcEncRun 65536 Encoder_default [.setDeviceId 0x0102, .setStreamId 7]).map (·.1) =
    some (freshObj 0x0102 7) := by
  decide +kernel

theorem fresh_snoc (op : Op) :
    [Op.setDeviceId 0x0102, .setStreamId 7, op] = [.setDeviceId 0x0102, .setStreamId 7] ++ [op] := rfl

/-- … and the next call on that object returns FOUR frames of 64, 64, 44, 42 bytes (not one frame of up to 200 bytes: the
    stale `max` is not used), the Ethernet message in three segments flagged 4, 8, 12 with 40, 40, 20 payload bytes, counters
    3, 4, 5, 6; shown: the frame header and the message header of every frame -/
example : (srcEncRun 65536 Encoder_default (exHist ++ [exNext])).map
      (fun r => r.2.getLast?.map (fun o => (o.frames.map (·.length), o.frames.map (·.take 24), o.seq))) =
    some (some ([64, 64, 44, 42],
     [[1, 0, 1, 2, 1, 7, 0, 3, 0, 0, 0, 0, 0, 0, 0, 5, 0, 0, 0, 2, 4, 8, 0, 40],
      [1, 0, 1, 2, 1, 7, 0, 4, 0, 0, 0, 0, 0, 0, 0, 5, 0, 0, 0, 2, 8, 8, 0, 40],
      [1, 0, 1, 2, 1, 7, 0, 5, 0, 0, 0, 0, 0, 0, 0, 5, 0, 0, 0, 2, 12, 8, 0, 20],
      [1, 0, 1, 2, 1, 7, 0, 6, 0, 0, 0, 0, 0, 0, 0, 9, 0, 0, 0, 3, 0, 1, 0, 18]], 6)) := by
  rw [lastObs_snoc, exHist_end, Option.bind_some, exNext_used]
  decide +kernel

/-- the fresh encoder with the same ids (built through the translated setters) returns the same four frames with counters
    1, 2, 3, 4 … -/
example : (srcEncRun 65536 Encoder_default [.setDeviceId 0x0102, .setStreamId 7, exNext]).map
      (fun r => r.2.getLast?.map (fun o => (o.frames.map (·.length), o.frames.map (fun b => b.take 8), o.seq))) =
    some (some ([64, 64, 44, 42],
     [[1, 0, 1, 2, 1, 7, 0, 1], [1, 0, 1, 2, 1, 7, 0, 2], [1, 0, 1, 2, 1, 7, 0, 3], [1, 0, 1, 2, 1, 7, 0, 4]], 4)) := by
  rw [fresh_snoc, lastObs_snoc, exFresh_end, Option.bind_some, exNext_fresh]
  decide +kernel

/-- … and the used encoder's frames are EXACTLY the fresh encoder's with 2 added to bytes 6..7 (all bytes compared) -/
example : (srcEncRun 65536 Encoder_default (exHist ++ [exNext])).map (fun r => r.2.getLast?.map (·.frames)) =
    (srcEncRun 65536 Encoder_default [.setDeviceId 0x0102, .setStreamId 7, exNext]).map
      (fun r => r.2.getLast?.map (fun o => o.frames.map (patchSeq 2))) := by
  rw [fresh_snoc, lastObs_snoc, lastObs_snoc, exHist_end, exFresh_end, Option.bind_some, Option.bind_some, exNext_used,
    exNext_fresh]
  decide +kernel

theorem dirty_eq : Encoder_encode_range_obj 65536 dirtyObj ([exEth, exCan].map pktIn) 0 64 =
    Encoder_encode_range_obj 65536 usedObj ([exEth, exCan].map pktIn) 0 64 :=
  (scratch_not_read dirtyObj usedObj [exEth, exCan] ⟨0, 64⟩ 65536 rfl rfl rfl rfl (by decide) (by decide) (by decide)).2.1

/-- `scratch_not_read` applies to the two … -/
example : Encoder_encode_range_obj 65536 dirtyObj ([exEth, exCan].map pktIn) 0 64 =
    Encoder_encode_range_obj 65536 usedObj ([exEth, exCan].map pktIn) 0 64 :=
  dirty_eq

/-- … so the translated call on it returns the same four frames as after the real history -/
example : (srcCall 65536 dirtyObj exNext).map (fun r => (r.2.map (·.length), r.2.map (fun b => (b.take 8, byteAt b 20)), members r.1)) =
    some ([64, 64, 44, 42],
      [([1, 0, 1, 2, 1, 7, 0, 3], 4), ([1, 0, 1, 2, 1, 7, 0, 4], 8), ([1, 0, 1, 2, 1, 7, 0, 5], 12), ([1, 0, 1, 2, 1, 7, 0, 6], 0)],
      [0, 64, 0x102, 7, 6, 1, 0, 0, 0]) := by
  rw [show srcCall 65536 dirtyObj exNext = srcCall 65536 usedObj exNext from dirty_eq, exNext_used]
  decide +kernel

/-- `K5_segmented_on_every_call`: hypotheses satisfied for EVERY encoder object `e`, batch [exEth, exCan], max = 64, packet 0 -/
example (e : Enc) : ∃ (pre ms post : List EMsg),
    (e.encode [exEth, exCan] ⟨0, 64⟩).2.flatMap (·.msgs) = pre ++ ms ++ post ∧
    (∀ m ∈ ms, m.idx = 0 ∧ m.pkt = exEth ∧ ∃ f ∈ (e.encode [exEth, exCan] ⟨0, 64⟩).2, f.msgs = [m]) ∧
    ms.map (fun m => (m.seg, m.body.length)) = [(4, 40), (8, 40), (12, 20)] := by
  obtain ⟨pre, ms, post, h1, h2, h3, _⟩ :=
    K5_segmented_on_every_call e [exEth, exCan] ⟨0, 64⟩ (by decide) 0 (by decide) (by decide)
  refine ⟨pre, ms, post, h1, h2, ?_⟩
  rw [h3]
  decide

/-- `K6_history_defined` for a history with a packet WITHOUT payload, an empty batch and the smallest configuration (max = 25), started from
    the garbage object: defined -/
example : ∃ r, srcEncRun 65536 dirtyObj
    [.encode1 { payload := none } ⟨0, 25⟩, .encodeBatch [] ⟨25, 25⟩, .restart, .encodeBatch [exEth, { payload := none }] ⟨0, 25⟩] = some r := by
  apply K6_history_defined 65536 (by decide)
  intro op hop
  simp only [List.mem_cons, List.not_mem_nil, or_false] at hop
  rcases hop with rfl | rfl | rfl | rfl
  · exact ⟨by decide, by decide⟩
  · exact ⟨by decide, by decide⟩
  · trivial
  · exact ⟨by decide, by decide⟩

/-- `min > max` (outside `Ctx.ok`, hence outside every source-level theorem): on this instance the translated
    call is defined from the used object, pads every frame to `min` = 100 bytes, and C10 holds (kernel evaluation, all bytes) -/
example : (srcEncRun 65536 Encoder_default (exHist ++ [.encodeBatch [exEth, exCan] ⟨100, 64⟩])).map
      (fun r => r.2.getLast?.map (fun o => (o.frames.map (·.length), o.frames))) =
    (srcEncRun 65536 Encoder_default [.setDeviceId 0x0102, .setStreamId 7, .encodeBatch [exEth, exCan] ⟨100, 64⟩]).map
      (fun r => r.2.getLast?.map (fun o => ([100, 100, 100, 100], o.frames.map (patchSeq 2)))) := by
  rw [fresh_snoc, lastObs_snoc, lastObs_snoc, exHist_end, exFresh_end, Option.bind_some, Option.bind_some]
  decide +kernel

end AsamCmp.C10S

