/-
  C05  Segmented messages reassemble correctly under any interleaving.

  For any set of endpoints, each sending well-formed segmented messages (first, intermediaries,
  last, one per frame, consecutive 16-bit sequence counters including across the wrap), and any
  interleaving of their frames with each other and with traffic of other endpoints, the decoder
  delivers each message exactly once, at the moment its last segment arrives.  The delivered
  payload is the concatenation of the segments' declared payload bytes, and version, message type
  and header fields are those of the first segment.

  `reassemble_single`, `reassemble_many` and `C05_interleaved` prove this for messages whose declared
  bytes total at most 65535.  Without that bound the decoder delivers the concatenation cut at
  `total mod 2^16`, since the reassembled length is kept in the 16-bit length field of the header:
  `SegMsg.run_frames` states this unconditionally (the open finding for C05 in DESIGN.md, section F).
-/
import AsamCmp.Decoder
import AsamCmp.Props.C18
import AsamCmp.Lemmas.LayerB
namespace AsamCmp

/-- one segmented message as sent: header (16 bytes) and declared body of each segment -/
structure SegMsg where
  ep : Ep
  ver : Nat
  mt : Nat
  /-- counter of the frame carrying the first segment -/
  seq0 : Nat
  first : Bytes × Bytes
  middle : List (Bytes × Bytes)
  last : Bytes × Bytes

namespace SegMsg
def segs (M : SegMsg) : List (Bytes × Bytes) := M.first :: (M.middle ++ [M.last])

def WF (M : SegMsg) : Prop :=
  (∀ s ∈ M.segs, s.1.length = 16) ∧
  segTypeOf M.first.1 = 4 ∧ (∀ s ∈ M.middle, segTypeOf s.1 = 8) ∧ segTypeOf M.last.1 = 12

/-- the frames on the wire: one segment per frame, consecutive counters modulo 2^16 -/
def frames (M : SegMsg) : List PFrame :=
  (List.range M.segs.length).zip M.segs |>.map fun (i, s) =>
    { ep := M.ep, ver := M.ver, mt := M.mt, seq := (M.seq0 + i) % 65536, unseg := [], term := .seg (s.1 ++ s.2) }

def body (M : SegMsg) : Bytes := (M.segs.map (·.2)).flatten

/-- the packet the decoder must deliver: first segment's header fields with the total length,
    all declared bytes in order, the first segment's version and message type -/
def expected (M : SegMsg) : Packet :=
  tagPacket M.ep M.ver (Packet.ofMsg M.mt (writeAt M.first.1 14 (beEnc 2 M.body.length) ++ M.body))
end SegMsg

/-! ### the automaton over the frames of one message -/

namespace SegMsg

/-- the frame carrying segment `s` as the `i`-th frame of the message -/
def mkFrame (M : SegMsg) (i : Nat) (s : Bytes × Bytes) : PFrame :=
  { ep := M.ep, ver := M.ver, mt := M.mt, seq := (M.seq0 + i) % 65536, unseg := [], term := .seg (s.1 ++ s.2) }

/-- `frames` in recursive form (`frames_eq`), for inductions over the segments -/
def framesFrom (M : SegMsg) : Nat → List (Bytes × Bytes) → List PFrame
  | _, [] => []
  | k, s :: ss => M.mkFrame k s :: M.framesFrom (k + 1) ss

theorem framesFrom_eq (M : SegMsg) : ∀ (l : List (Bytes × Bytes)) (k : Nat),
    ((List.range' k l.length).zip l |>.map fun (i, s) =>
      ({ ep := M.ep, ver := M.ver, mt := M.mt, seq := (M.seq0 + i) % 65536, unseg := [],
         term := .seg (s.1 ++ s.2) } : PFrame)) = M.framesFrom k l := by
  intro l
  induction l with
  | nil => intro k; rfl
  | cons x xs ih =>
    intro k
    simp only [List.length_cons, List.range'_succ, List.zip_cons_cons, List.map_cons, framesFrom, ih]
    rfl

theorem frames_eq (M : SegMsg) : M.frames = M.framesFrom 0 M.segs := by
  unfold frames
  rw [List.range_eq_range']
  exact M.framesFrom_eq M.segs 0

theorem framesFrom_append (M : SegMsg) : ∀ (l r : List (Bytes × Bytes)) (k : Nat),
    M.framesFrom k (l ++ r) = M.framesFrom k l ++ M.framesFrom (k + l.length) r := by
  intro l
  induction l with
  | nil => intro r k; rfl
  | cons x xs ih =>
    intro r k
    simp only [List.cons_append, framesFrom, ih, List.length_cons]
    rw [show k + 1 + xs.length = k + (xs.length + 1) by omega]

/-- reassembly in progress after frame `k` of `M`: header `W` (the first segment's, bytes 14–15
    possibly rewritten) followed by the bodies `B` received so far -/
def MidInv (M : SegMsg) (k : Nat) (B : Bytes) (q : Pending) : Prop :=
  (∃ W, q.buf = W ++ B ∧ W.length = 16 ∧ W.take 14 = M.first.1.take 14) ∧
  (q.last = 4 ∨ q.last = 8) ∧ q.ver = M.ver ∧ q.mt = M.mt ∧ q.seq = (M.seq0 + k) % 65536

theorem step_first (M : SegMsg) (p0 : Option Pending) (h16 : M.first.1.length = 16)
    (h4 : segTypeOf M.first.1 = 4) :
    ∃ q, localStep p0 (M.mkFrame 0 M.first) = (some q, []) ∧ M.MidInv 0 M.first.2 q := by
  have ht : segTypeOf (M.first.1 ++ M.first.2) = 4 := by
    rw [segTypeOf_append _ _ (by omega), h4]
  refine ⟨⟨M.first.1 ++ M.first.2, 4, M.ver, M.mt, (M.seq0 + 0) % 65536⟩, ?_, ?_⟩
  · simp [localStep, mkFrame, ht]
  · exact ⟨⟨M.first.1, rfl, h16, rfl⟩, Or.inl rfl, rfl, rfl, rfl⟩

/-- the reassembled message: the first segment's header carrying the accumulated length (a 16-bit
    field), then the bodies `B` -/
def joined (M : SegMsg) (B : Bytes) : Bytes := M.first.1.take 14 ++ beEnc 2 (B.length % 65536) ++ B

/-- the frame after frame `k` carries an intermediary or a last segment: it is accepted, its declared
    bytes are appended, and a last segment delivers -/
theorem step_next (M : SegMsg) (k : Nat) (B : Bytes) (q : Pending) (s : Bytes × Bytes)
    (hq : M.MidInv k B q) (h16 : s.1.length = 16) (ht : segTypeOf s.1 = 8 ∨ segTypeOf s.1 = 12) :
    localStep (some q) (M.mkFrame (k + 1) s) =
      if segTypeOf s.1 = 12 then (none, [tagPacket M.ep M.ver (Packet.ofMsg M.mt (M.joined (B ++ s.2)))])
      else (some { q with buf := M.joined (B ++ s.2), last := segTypeOf s.1,
                          seq := (q.seq + 1) % 65536 }, []) := by
  obtain ⟨⟨W, hbuf, hW, hWt⟩, hlast, hver, hmt, hseq⟩ := hq
  have hfix : fixLen (q.buf ++ (s.1 ++ s.2).drop 16) = M.joined (B ++ s.2) := by
    rw [hbuf, List.drop_left' h16, List.append_assoc, fixLen_append W (B ++ s.2) hW, hWt, joined]
  have hty : segTypeOf (s.1 ++ s.2) = segTypeOf s.1 := segTypeOf_append _ _ (by omega)
  have hvn : validNext q.last (segTypeOf s.1) = true := (validNext_after_segment _ _ hlast).mpr ht
  have hs : (M.seq0 + (k + 1)) % 65536 = (q.seq + 1) % 65536 := by
    rw [hseq]; exact (Nat.mod_add_mod (M.seq0 + k) 65536 1).symm
  rw [localStep_cont q (M.mkFrame (k + 1) s) (s.1 ++ s.2) rfl (by rw [hty]; omega) rfl
    ⟨hver, hmt, hs, by rw [hty]; exact hvn⟩, hty, hfix, hver, hmt]
  rfl

theorem step_mid (M : SegMsg) (k : Nat) (B : Bytes) (q : Pending) (s : Bytes × Bytes)
    (hq : M.MidInv k B q) (h16 : s.1.length = 16) (h8 : segTypeOf s.1 = 8) :
    ∃ q', localStep (some q) (M.mkFrame (k + 1) s) = (some q', []) ∧ M.MidInv (k + 1) (B ++ s.2) q' := by
  have h := M.step_next k B q s hq h16 (Or.inl h8)
  rw [h8, if_neg (by decide)] at h
  obtain ⟨⟨W, -, hW, hWt⟩, -, hver, hmt, hseq⟩ := hq
  have h14 : (M.first.1.take 14).length = 14 := by rw [← hWt, List.length_take, hW]; rfl
  refine ⟨_, h, ⟨M.first.1.take 14 ++ beEnc 2 ((B ++ s.2).length % 65536), rfl, ?_, ?_⟩, Or.inr rfl, hver, hmt, ?_⟩
  · rw [List.length_append, h14, beEnc_length]
  · rw [List.take_left' h14]
  · show (q.seq + 1) % 65536 = _
    rw [hseq]; exact Nat.mod_add_mod (M.seq0 + k) 65536 1

theorem run_tail (M : SegMsg) (last : Bytes × Bytes) (hl : last.1.length = 16)
    (h12 : segTypeOf last.1 = 12) :
    ∀ (mids : List (Bytes × Bytes)) (k : Nat) (B : Bytes) (q : Pending),
    (∀ s ∈ mids, s.1.length = 16 ∧ segTypeOf s.1 = 8) → M.MidInv k B q →
    runLocal (some q) (M.framesFrom (k + 1) (mids ++ [last])) =
      (none, [tagPacket M.ep M.ver (Packet.ofMsg M.mt
        (M.joined (B ++ (mids.map (·.2)).flatten ++ last.2)))]) ∧
    (runLocal (some q) (M.framesFrom (k + 1) mids)).2 = [] := by
  intro mids
  induction mids with
  | nil =>
    intro k B q _ hq
    simp only [List.nil_append, framesFrom, runLocal, M.step_next k B q last hq hl (Or.inr h12), h12,
      if_true, List.map_nil, List.flatten_nil, List.append_nil, and_self]
  | cons s mids ih =>
    intro k B q hm hq
    obtain ⟨h16, h8⟩ := hm s (List.mem_cons_self ..)
    obtain ⟨q', hstep, hq'⟩ := M.step_mid k B q s hq h16 h8
    obtain ⟨i1, i2⟩ := ih (k + 1) (B ++ s.2) q' (fun x hx => hm x (List.mem_cons_of_mem _ hx)) hq'
    simp only [List.cons_append, framesFrom, runLocal, hstep, List.nil_append, i1, i2, List.map_cons,
      List.flatten_cons, List.append_assoc, and_self]

end SegMsg

/-- every well-formed segmented message, whatever its total length and whatever was pending before, is
    delivered exactly once, at its last frame, and nothing stays pending; the length field of the
    delivered message is the total modulo 2^16 -/
theorem SegMsg.run_frames (M : SegMsg) (hwf : M.WF) (p0 : Option Pending) :
    runLocal p0 M.frames = (none, [tagPacket M.ep M.ver (Packet.ofMsg M.mt (M.joined M.body))]) ∧
    (runLocal p0 M.frames.dropLast).2 = [] := by
  obtain ⟨hall, h4, hmid, h12⟩ := hwf
  have hf16 : M.first.1.length = 16 := hall _ (by simp [SegMsg.segs])
  have hl16 : M.last.1.length = 16 := hall _ (by simp [SegMsg.segs])
  have hm : ∀ s ∈ M.middle, s.1.length = 16 ∧ segTypeOf s.1 = 8 :=
    fun s hs => ⟨hall s (by simp [SegMsg.segs, hs]), hmid s hs⟩
  have hbody : M.first.2 ++ (M.middle.map (·.2)).flatten ++ M.last.2 = M.body := by
    simp [SegMsg.body, SegMsg.segs]
  obtain ⟨q0, hstep0, hq0⟩ := M.step_first p0 hf16 h4
  obtain ⟨h1, h2⟩ := M.run_tail M.last hl16 h12 M.middle 0 M.first.2 q0 hm hq0
  rw [hbody] at h1
  have hdrop : M.frames.dropLast = M.framesFrom 0 (M.first :: M.middle) := by
    rw [M.frames_eq, show M.segs = (M.first :: M.middle) ++ [M.last] from rfl, M.framesFrom_append]
    exact List.dropLast_concat
  rw [hdrop, M.frames_eq]
  simp only [SegMsg.segs, SegMsg.framesFrom, runLocal, hstep0, List.nil_append, h1, h2, and_self]

/-- the payload of the delivered packet: `Packet::create` of the first segment's type on the bytes the
    16-bit length field covers, the first `B.length mod 2^16` of `B` -/
theorem SegMsg.joined_payload (M : SegMsg) (B : Bytes) (h16 : M.first.1.length = 16) :
    (tagPacket M.ep M.ver (Packet.ofMsg M.mt (M.joined B))).payload =
      some (create (M.mt * 256 + byteAt M.first.1 13) (B.take (B.length % 65536))) := by
  simp only [tagPacket, Packet.ofMsg, SegMsg.joined, byteAt_hdr _ _ _ 13 (by omega) h16, beAt_hdr _ _ _ h16,
    Nat.mod_mod, slice_hdr_take _ _ _ _ h16]

theorem SegMsg.joined_body (M : SegMsg) (h16 : M.first.1.length = 16) (hlen : M.body.length ≤ 65535) :
    tagPacket M.ep M.ver (Packet.ofMsg M.mt (M.joined M.body)) = M.expected := by
  rw [SegMsg.expected, writeAt_hdr _ _ h16 (beEnc_length 2 _), SegMsg.joined,
    Nat.mod_eq_of_lt (Nat.lt_succ_of_le hlen)]

/-- the payload handed to `Packet::create` for the reassembled message is exactly the
    concatenation of the declared segment bodies -/
theorem expected_payload (M : SegMsg) (hwf : M.WF) (hlen : M.body.length ≤ 65535) :
    M.expected.payload = some (create (M.mt * 256 + byteAt M.first.1 13) M.body) := by
  have h16 : M.first.1.length = 16 := hwf.1 _ (by simp [SegMsg.segs])
  rw [← M.joined_body h16 hlen, M.joined_payload _ h16, Nat.mod_eq_of_lt (Nat.lt_succ_of_le hlen),
    List.take_length]

/-- single endpoint: whatever was pending before, the message is delivered exactly once, at its
    last frame, and nothing stays pending -/
theorem reassemble_single (M : SegMsg) (hwf : M.WF) (hlen : M.body.length ≤ 65535) (p0 : Option Pending) :
    runLocal p0 M.frames = (none, [M.expected]) ∧
    (runLocal p0 M.frames.dropLast).2 = [] := by
  rw [← M.joined_body (hwf.1 _ (by simp [SegMsg.segs])) hlen]
  exact M.run_frames hwf p0

/-- a sequence of messages on one endpoint (each starts wherever the previous ended) -/
theorem reassemble_many (Ms : List SegMsg) (hwf : ∀ M ∈ Ms, M.WF ∧ M.body.length ≤ 65535)
    (p0 : Option Pending) (hne : Ms ≠ []) :
    runLocal p0 (Ms.flatMap SegMsg.frames) = (none, Ms.map SegMsg.expected) :=
  runLocal_flatMap _ _ Ms (fun M hM p => (reassemble_single M (hwf M hM).1 (hwf M hM).2 p).1) p0 hne

theorem runT_at (e : Ep) (fs : List PFrame) (s : DecState) :
    ((runT s fs).2.filter (fun x => x.1 = e)).map (·.2) =
      (runLocal (s e) (fs.filter (fun f => f.ep = e))).2 := by
  rw [(runT_proj e fs s).1, List.map_map]
  exact List.map_id _

/-- C05: any interleaving.  If the frames of endpoint `e` inside an arbitrary history `fs` (other
    endpoints may send anything) are the frames of the messages `Ms`, the packets delivered for
    `e` are exactly `Ms`' packets, in order, each once -/
theorem C05_interleaved (e : Ep) (Ms : List SegMsg) (hwf : ∀ M ∈ Ms, M.WF ∧ M.body.length ≤ 65535 ∧ M.ep = e)
    (fs : List PFrame) (s : DecState)
    (hproj : fs.filter (fun f => f.ep = e) = Ms.flatMap SegMsg.frames) :
    ((runT s fs).2.filter (fun x => x.1 = e)).map (·.2) = Ms.map SegMsg.expected := by
  rw [runT_at, hproj]
  by_cases hne : Ms = []
  · subst hne; rfl
  · rw [reassemble_many Ms (fun M hM => ⟨(hwf M hM).1, (hwf M hM).2.1⟩) (s e) hne]

/-- the counter wrap is inside the quantifier: a message whose first segment has counter 65535 -/
example : ((65535 + 1) % 65536 = 0) := by decide

end AsamCmp
