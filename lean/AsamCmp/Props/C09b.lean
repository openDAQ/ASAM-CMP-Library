/-
  C09 / C10 on bytes: the statements of Props/C09.lean and Props/C10.lean are about structured
  frames (`EFrame`); here they are restated for the serialised bytes `Encoder::encode` returns.
-/
import AsamCmp.Props.C09
import AsamCmp.Props.C10
import AsamCmp.Lemmas.EncBytes
namespace AsamCmp.C09b
open AsamCmp

/-- the header fields of a serialised frame, read big-endian at the protocol's offsets -/
theorem header_fields (min : Nat) (f : EFrame)
    (hv : f.ver < 256) (hd : f.dev < 65536) (hm : f.mt < 256) (hs : f.stream < 256) (hq : f.seq < 65536) :
    let b := EFrame.bytes min f
    8 ≤ b.length ∧ byteAt b 0 = f.ver ∧ byteAt b 1 = 0 ∧ beAt b 2 2 = f.dev ∧ byteAt b 4 = f.mt ∧
    byteAt b 5 = f.stream ∧ beAt b 6 2 = f.seq := by
  obtain ⟨hl, b0, b1, w2, b4, b5, w6⟩ := EFrame.bytes_fields min f
  exact ⟨hl, b0.trans (Nat.mod_eq_of_lt hv), b1, w2.trans (Nat.mod_eq_of_lt hd), b4.trans (Nat.mod_eq_of_lt hm),
    b5.trans (Nat.mod_eq_of_lt hs), w6.trans (Nat.mod_eq_of_lt hq)⟩

/-- C09 on bytes, one call from an idle encoder whose ids are in range: frame `i` of the returned
    byte vectors carries the encoder's device id at bytes 2..3, its stream id at byte 5, reserved
    byte 0, the counter `(seqc + i + 1) mod 2^16` at bytes 6..7, and — when the batch has one version
    `v` — `v mod 256` at byte 0; afterwards the encoder reports the counter of the last frame -/
theorem C09_bytes (e : Enc) (batch : List Packet) (c : Ctx) (hidle : e.Idle) (hdev : e.dev < 65536) (hstream : e.stream < 256) :
    let r := e.encode batch c
    let bs := r.2.map (EFrame.bytes c.min)
    r.1.seqc = (e.seqc + bs.length) % 65536 ∧
    ∀ i (h : i < bs.length),
      8 ≤ bs[i].length ∧ beAt bs[i] 2 2 = e.dev ∧ byteAt bs[i] 5 = e.stream ∧ byteAt bs[i] 1 = 0 ∧
      beAt bs[i] 6 2 = (e.seqc + i + 1) % 65536 ∧
      (∀ v, (∀ p ∈ batch, p.version = v) → byteAt bs[i] 0 = v % 256) := by
  intro r bs
  obtain ⟨-, -, -, hseqc, hfr, -, hver⟩ := C09_encode e batch c hidle
  have hlen : bs.length = r.2.length := List.length_map ..
  refine ⟨by rw [hlen]; exact hseqc, ?_⟩
  intro i h
  have hi : i < r.2.length := hlen ▸ h
  have hb : bs[i] = EFrame.bytes c.min r.2[i] := List.getElem_map ..
  obtain ⟨hq, hd, hs⟩ := hfr i hi
  rw [hb]
  obtain ⟨hl, b0, b1, w2, _, b5, w6⟩ := EFrame.bytes_fields c.min r.2[i]
  refine ⟨hl, ?_, ?_, b1, ?_, ?_⟩
  · rw [w2, hd, Nat.mod_eq_of_lt hdev]
  · rw [b5, hs, Nat.mod_eq_of_lt hstream]
  · rw [w6, hq, Nat.mod_mod]
  · intro v hv
    rw [b0, hver v hv _ (List.getElem_mem hi), Nat.mod_mod]

/-- C10 on bytes: after ANY history, the byte vectors of the next call are those of a fresh encoder
    with the same ids, except that bytes 6..7 (the sequence counter) are shifted by the counter the
    used encoder had reached -/
theorem C10_bytes (ops : List EncOp) (batch : List Packet) (c : Ctx) :
    let e := ((Enc.fresh 0 0).runOps ops).1
    let used := (e.encode batch c).2.map (EFrame.bytes c.min)
    let fresh := ((Enc.fresh e.dev e.stream).encode batch c).2.map (EFrame.bytes c.min)
    used.length = fresh.length ∧
    ∀ i (h : i < used.length) (h' : i < fresh.length),
      used[i] = writeAt fresh[i] 6 (beEnc 2 ((beAt fresh[i] 6 2 + e.seqc) % 65536)) := by
  intro e used fresh
  have hu : used = fresh.map (fun b => writeAt b 6 (beEnc 2 ((beAt b 6 2 + e.seqc) % 65536))) := by
    show (e.encode batch c).2.map (EFrame.bytes c.min) = _
    rw [C10_encode_any_state e batch c]
    exact shift_bytes ..
  refine ⟨by rw [hu, List.length_map], ?_⟩
  intro i h h'
  rw [List.getElem_of_eq hu h, List.getElem_map]

end AsamCmp.C09b
