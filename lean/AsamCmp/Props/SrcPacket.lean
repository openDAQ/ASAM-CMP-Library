/-
  Source-level `Packet::getRawCmpHeader` / `getRawMessageHeader` (src/packet.cpp), translated on every run as state transformers
  over the record of the packet's scalar members (GeneratedSrcObj.lean; a default-initialised local header object — bytes reflected
  from the compiled headers — filled through the translated header setters and copied out; the three getters that go through the
  owned payload object are opaque inputs): they produce exactly the `frameHeader` / `msgHeader` of the packet model, i.e. the raw
  header bytes that `SrcEnc.pktIn` hands to the translated encoder.
-/
import AsamCmp.GeneratedSrcObj
import AsamCmp.Packet
import AsamCmp.Lemmas.SrcPacket
set_option linter.unusedSimpArgs false
set_option linter.unusedVariables false
namespace AsamCmp.SrcEnc
open AsamCmp AsamCmp.Src AsamCmp.SrcGen

/-- the scalar members of a packet of the model -/
def pktSt (p : Packet) : Packet_St :=
  { f_version := p.version, f_deviceId := p.deviceId, f_streamId := p.streamId, f_sequenceCounter := p.seq, f_timestamp := p.ts,
    f_interfaceId := p.ifId, f_vendorId := p.vendorId, f_commonFlags := p.flags, f_segmentType := p.segType }

/-- members within their C types -/
def PktReg (p : Packet) : Prop :=
  p.version < 256 ∧ p.deviceId < 65536 ∧ p.streamId < 256 ∧ p.seq < 65536 ∧ p.ts < 2 ^ 64 ∧ p.ifId < 2 ^ 32 ∧
  p.vendorId < 65536 ∧ p.flags < 256

-- a body is normalised call by call, front to back
attribute [local congr] SrcTie.bind_head_congr

theorem rawCmpHeader_src (p : Packet) (h : PktReg p) :
    Packet_getRawCmpHeader_obj (pktSt p) p.mt = some (pktSt p, frameHeader p.version p.deviceId p.mt p.streamId p.seq) := by
  simp only [Packet_getRawCmpHeader_obj, Packet_getVersion_obj, Packet_getDeviceId_obj, Packet_getStreamId_obj,
    Packet_getSequenceCounter_obj, pktSt, frameHeader]
  -- the default-initialised header object; the reserved byte behind the version is never written
  rw [show ([1, 0, 0, 0, 0, 0, 0, 0] : Bytes) = 1 :: zeros 7 from rfl]
  bld_norm [CmpHeader_setVersion_eq, CmpHeader_setDeviceId_eq, CmpHeader_setMessageType_eq, CmpHeader_setStreamId_eq,
    CmpHeader_setSequenceCounter_eq, writeAt_writeAt_gap, slice_cons_succ, slice_zeros, takeExact_writeAt_all,
    List.length_cons, List.length_nil, beEnc_length, Nat.reduceAdd, Nat.reduceSub]
  simp only [zeros, List.replicate_succ, List.replicate_zero, List.cons_append, List.nil_append]

theorem rawMsgHeader_src (p : Packet) (h : PktReg p) :
    Packet_getRawMessageHeader_obj (pktSt p) p.mt p.rawType p.payloadLength =
      some (pktSt p, msgHeader p (p.flags &&& 0x0C) p.payloadLength) := by
  obtain ⟨-, -, -, -, -, -, -, hf⟩ := h
  simp only [Packet_getRawMessageHeader_obj, Packet_getTimestamp_obj, Packet_getInterfaceId_obj,
    Packet_getVendorId_obj, Packet_getCommonFlags_obj, pktSt, msgHeader, flags_byte p.flags hf, Bool.or_eq_true, beq_iff_eq,
    ite_self]
  -- the zero-initialised header object; the bytes no setter writes stay zero
  rw [show ([0, 0, 0, 0, 0, 0, 0, 0, 0, 0, 0, 0, 0, 0, 0, 0] : Bytes) = zeros 16 from rfl]
  bld_norm [MessageHeader_setTimestamp_eq, MessageHeader_setInterfaceId_eq, MessageHeader_setVendorId_eq,
    MessageHeader_setCommonFlags_eq, MessageHeader_setPayloadType_eq, MessageHeader_setPayloadLength_eq,
    writeAt_writeAt_gap, slice_zeros, takeExact_writeAt_all, beEnc_length, Nat.reduceSub]
  -- the translated `switch` on the message type: 1 / 3 or 0xFF / the rest (the arms for 2 and default, the same text, were
  -- merged by `ite_self` above)
  by_cases h1 : p.mt = 1
  · simp only [h1, ↓reduceIte]
  · by_cases h3 : p.mt = 3 ∨ p.mt = 255 <;>
      simp only [h1, h3, ↓reduceIte, zeros, List.replicate_succ, List.replicate_zero, List.cons_append, List.nil_append]

end AsamCmp.SrcEnc
