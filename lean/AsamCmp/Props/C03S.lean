/-
  C03S  strengthening of C03 (payloads accepted by validation expose only in-bounds data), closing the weaknesses the
  statement audit of C03 listed (DESIGN.md section J.4).  Sections (numbers = the audit's items):

  4.  class coverage: `kinds_cover`, `validatorOf_isSome_iff`, `seven_validated`, `kindOfTy_none_iff`
  5.  no (null, n > 0) view: `null_only_with_len0`, `accessors_inbounds_strict`
  1.  the COMPLETE decoder entry point incl. the TECMP branch: `decode_validated`, `decode_accessors_inbounds`,
      `decodeAll_accessors_inbounds`, `tecmp_typed`
  2.  the constructor with bounds-checked reads: `ofMsgM_eq_some_iff`, `msgValid_ctor_inbounds`, `ofMsg_payload_inside`,
      `decode_built_inbounds` (reassembled path included), `decode_reads_inbounds`
  3.  fixed-field getters from the protocol table: `access_header_is_layout_size`, `fixed_getters_inbounds`,
      `short_rejected`
  5b. source level, raw pointers without `Nat` subtraction: `*_raw_src`, `src_pointers_inbounds`,
      `cm_vendorDataStringView_src`
  1b. source level end to end: `decode_src_accessors_inbounds`
  2b. translated constructor on accepted / reassembled buffers: `ctor_src_of_msgValid`, `ctor_src_of_reassembly`
  3b. `const_accessors_classified_partial` (text-level net over the reflected member functions)
  6.  non-vacuity: literal instances for every class and every decoder path

  No input was found on which the model violates the property's text.
-/
import AsamCmp.Access
import AsamCmp.Decoder
import AsamCmp.Tecmp
import AsamCmp.DecodeM
import AsamCmp.Layout
import AsamCmp.Lemmas.Access
import AsamCmp.Lemmas.TecmpWire
import AsamCmp.Lemmas.TecmpCases
import AsamCmp.Lemmas.DecodeM
import AsamCmp.Props.C02
import AsamCmp.Props.C03
import AsamCmp.Props.C17b
import AsamCmp.Props.SrcAccess
import AsamCmp.GeneratedSrcSig
import AsamCmp.Props.SrcDecoderTotal
import AsamCmp.Props.SrcPacketValue
set_option linter.unusedSimpArgs false
namespace AsamCmp.C03S
open AsamCmp

/-! ## 4. class coverage -/

/-- all seven typed payload types have a validator (so `kinds_cover` is about seven non-empty rows) -/
theorem seven_validated :
    [tyCan, tyCanFd, tyLin, tyAnalog, tyEth, tyCm, tyIf].all (fun t => (validatorOf t).isSome) = true ∧
    [tyCan, tyCanFd, tyLin, tyAnalog, tyEth, tyCm, tyIf].all (fun t => (kindOfTy t).isSome) = true ∧
    ["can", "canfd", "lin", "analog", "eth", "cm", "if"].all
      (fun k => (kindValid k).isSome && (kindAccess k).isSome) = true := by decide +kernel

/-- the payload types `Packet::create` validates are exactly the seven typed ones -/
theorem validatorOf_isSome_iff (ty : Nat) :
    (validatorOf ty).isSome = true ↔ ty ∈ [tyCan, tyCanFd, tyLin, tyAnalog, tyEth, tyCm, tyIf] := by
  constructor
  · intro h
    rcases C03.row_or_none_of_ty ty with ⟨k, v, a, r⟩ | ⟨_, hn⟩
    · cases r <;> decide
    · rw [hn] at h; cases h
  · exact List.all_eq_true.mp seven_validated.1 ty

theorem kinds_cover (ty : Nat) (v : Bytes → Bool) (hv : validatorOf ty = some v) :
    ∃ k a, kindOfTy ty = some k ∧ kindValid k = some v ∧ kindAccess k = some a := by
  rcases C03.row_or_none_of_ty ty with ⟨k, v', a, r⟩ | ⟨_, hn⟩
  · cases hv.symm.trans r.validatorOf_eq
    exact ⟨k, a, r.kindOfTy_eq, r.kindValid_eq, r.kindAccess_eq⟩
  · cases hv.symm.trans hn

/-- converse of `C03.validator_kind`: a type without kind has no validator (it is a generic payload) -/
theorem kindOfTy_none_iff (ty : Nat) : kindOfTy ty = none ↔ validatorOf ty = none := by
  rcases C03.row_or_none_of_ty ty with ⟨k, v, a, r⟩ | ⟨hk, hv⟩
  · rw [r.kindOfTy_eq, r.validatorOf_eq]
    exact ⟨nofun, nofun⟩
  · exact ⟨fun _ => hv, fun _ => hk⟩

/-! ## 5. null pointers: a reported null pointer comes with length 0 -/

theorem dataView_null (name : String) (off len : Nat) (h : (dataView name off len).off = none) :
    (dataView name off len).len = 0 := by
  unfold dataView at h ⊢
  by_cases h0 : len = 0
  · exact h0
  · simp [h0] at h

/-- every reported view with a null pointer has length 0 -/
def NullOk (o : Option (List View)) : Prop := ∀ vs, o = some vs → ∀ x ∈ vs, x.off = none → x.len = 0

theorem nullOk_bind {α : Type} (x : Option α) (f : α → Option (List View)) (h : ∀ a, NullOk (f a)) :
    NullOk (x >>= f) := by
  cases x with
  | none => intro vs hvs; cases hvs
  | some a => exact h a

theorem nullOk_pure (l : List View) (h : ∀ x ∈ l, x.off = none → x.len = 0) : NullOk (pure l) := by
  intro vs hvs; cases hvs; exact h

/-- the shape of the three bus classes: two reads, then one `getData()`-style view -/
theorem nullOk_data (r₁ r₂ : Option Nat) (name : String) (off : Nat) :
    NullOk (r₁ >>= fun _ => r₂ >>= fun n => pure [dataView name off n]) :=
  nullOk_bind _ _ fun _ => nullOk_bind _ _ fun _ => nullOk_pure _ fun _ hx =>
    List.mem_singleton.mp hx ▸ dataView_null _ _ _

theorem can_null (b : Bytes) : NullOk (canAccess b) := nullOk_data _ _ _ _
theorem lin_null (b : Bytes) : NullOk (linAccess b) := nullOk_data _ _ _ _
theorem eth_null (b : Bytes) : NullOk (ethAccess b) := nullOk_data _ _ _ _

theorem analog_null (b : Bytes) : NullOk (analogAccess b) := by
  unfold analogAccess
  refine nullOk_bind _ _ fun _ => nullOk_bind _ _ fun dt => nullOk_pure _ ?_
  intro x hx
  simp only [List.mem_singleton] at hx
  subst hx
  dsimp only
  generalize (if dt &&& 3 = 0 then 2 else 4) = w
  intro h
  by_cases h0 : (b.length - 16) / w = 0
  · rw [h0, Nat.zero_mul]
  · rw [if_neg h0] at h; cases h

theorem cm_null (b : Bytes) : NullOk (cmAccess b) := by
  unfold cmAccess
  refine nullOk_bind _ _ fun _ => nullOk_bind _ _ fun ⟨o1, l1, p1⟩ => nullOk_bind _ _ fun t1 =>
    nullOk_bind _ _ fun ⟨o2, l2, p2⟩ => nullOk_bind _ _ fun t2 =>
    nullOk_bind _ _ fun ⟨o3, l3, p3⟩ => nullOk_bind _ _ fun t3 =>
    nullOk_bind _ _ fun ⟨o4, l4, p4⟩ => nullOk_bind _ _ fun t4 =>
    nullOk_bind _ _ fun ⟨o5, l5, p5⟩ => nullOk_pure _ ?_
  intro x hx
  simp only [List.mem_cons, List.not_mem_nil, or_false] at hx
  rcases hx with rfl | rfl | rfl | rfl | rfl <;> intro h <;> cases h

theorem if_null (b : Bytes) : NullOk (ifAccess b) := by
  unfold ifAccess
  refine nullOk_bind _ _ fun _ => nullOk_bind _ _ fun c => nullOk_bind _ _ fun vl => nullOk_pure _ ?_
  intro x hx
  simp only [List.mem_cons, List.not_mem_nil, or_false] at hx
  rcases hx with rfl | rfl <;> exact dataView_null _ _ _

/-- for every class: whatever the accessor set reports (on ANY buffer, accepted or not), a null pointer
    is reported only together with length 0 -/
theorem null_only_with_len0 (k : String) (a : Bytes → Option (List View)) (ha : kindAccess k = some a)
    (b : Bytes) (vs : List View) (h : a b = some vs) : ∀ x ∈ vs, x.off = none → x.len = 0 := by
  rcases C03.row_or_none_of_name k with ⟨ty, v, a', r⟩ | ⟨_, _, hn⟩
  · cases ha.symm.trans r.kindAccess_eq
    cases r
    · exact can_null b vs h
    · exact can_null b vs h
    · exact lin_null b vs h
    · exact analog_null b vs h
    · exact eth_null b vs h
    · exact cm_null b vs h
    · exact if_null b vs h
  · cases ha.symm.trans hn

/-- C03 (A)+(B) without the null-pointer loophole of `View.inBounds`: the validator accepting `b` implies
    that no accessor reads outside `b`, and every reported view is EITHER a real offset with
    `offset + length ≤ |b|` OR the pair (null, 0) — a (null, n > 0) pair is never reported.
    Hypotheses: `k` one of the seven classes with validator `v` and accessor set `a` ("a payload class's
    validity check accepts a buffer"). -/
theorem accessors_inbounds_strict (k : String) (v : Bytes → Bool) (a : Bytes → Option (List View))
    (hk : kindValid k = some v) (ha : kindAccess k = some a) (b : Bytes) (hv : v b = true) :
    ∃ vs, a b = some vs ∧ ∀ x ∈ vs,
      (∃ o, x.off = some o ∧ o + x.len ≤ b.length) ∨ (x.off = none ∧ x.len = 0) := by
  obtain ⟨vs, hvs, hin⟩ := C03.accessors_inbounds k v a hk ha b hv
  refine ⟨vs, hvs, fun x hx => ?_⟩
  have h1 := hin x hx
  unfold View.inBounds at h1
  cases ho : x.off with
  | none => exact Or.inr ⟨rfl, null_only_with_len0 k a ha b vs hvs x hx ho⟩
  | some o =>
    rw [ho] at h1
    exact Or.inl ⟨o, rfl, of_decide_eq_true h1⟩

/-! ## 1. the complete decoder entry point (CMP frames, reassembly AND the TECMP branch) -/

/-- every packet `Decoder::decode` returns — from a CMP frame, from a completed reassembly or from the TECMP
    converter — whose payload is marked valid holds bytes its own class validator accepts (the TECMP converter
    never calls `isValidPayload`; that its `setData` objects pass it is `C15.valid_payloads`) -/
theorem decode_validated (s : DecState) (buf : Option Bytes) :
    ∀ p ∈ (decode s buf).2, ∀ pl, p.payload = some pl → pl.isValid = true →
      ∀ v, validatorOf pl.ty = some v → v pl.data = true := by
  intro p hp pl hpl hvalid v hv
  rcases decodeWith_cases tecmpDecode buf with ⟨_, _, hd⟩ | ⟨b, _, _, _, _, hd⟩ | ⟨b, _, _, _, _, hd⟩ <;>
    rw [decode, hd] at hp
  · cases hp
  · obtain ⟨pl', v', h1, h2, h3⟩ := C15.valid_payloads _ p hp
    rw [hpl] at h1; cases h1
    rw [hv] at h2; cases h2
    exact h3
  · obtain ⟨ty, d, hpd⟩ := C03.step_payload s _ (C03.walk_payload _ _ _ _) p hp
    rw [hpl] at hpd; cases hpd
    obtain ⟨hdata, hty, hval⟩ := C03.create_valid ty d hvalid
    rw [hdata]
    exact hval v (hty ▸ hv)

/-- C03 clause (D) at the complete entry point: for EVERY decoder state and EVERY buffer (null, short, TECMP,
    CMP frame with or without segments), every returned packet whose payload is marked valid and typed
    satisfies its class validator, no accessor of its class reads outside the payload's bytes, and every
    reported view is a real in-range (offset, length) or (null, 0). -/
theorem decode_accessors_inbounds (s : DecState) (buf : Option Bytes) :
    ∀ p ∈ (decode s buf).2, ∀ pl, p.payload = some pl → pl.isValid = true →
      ∀ k v a, kindOfTy pl.ty = some k → kindValid k = some v → kindAccess k = some a →
        v pl.data = true ∧
        ∃ vs, a pl.data = some vs ∧ ∀ x ∈ vs,
          (∃ o, x.off = some o ∧ o + x.len ≤ pl.data.length) ∨ (x.off = none ∧ x.len = 0) := by
  intro p hp pl hpl hvalid k v a hk hv ha
  obtain ⟨v', hv1, hv2⟩ := C03.validator_kind pl.ty k hk
  rw [hv] at hv2
  cases hv2
  have hvd := decode_validated s buf p hp pl hpl hvalid v hv1
  exact ⟨hvd, accessors_inbounds_strict k v a hv ha pl.data hvd⟩

/-- the same over a whole history of buffers (interleaved endpoints, CMP and TECMP mixed), from any state -/
theorem decodeAll_accessors_inbounds (bufs : List (Option Bytes)) (s : DecState) :
    ∀ p ∈ (decodeAll tecmpDecode s bufs).2, ∀ pl, p.payload = some pl → pl.isValid = true →
      ∀ k v a, kindOfTy pl.ty = some k → kindValid k = some v → kindAccess k = some a →
        v pl.data = true ∧
        ∃ vs, a pl.data = some vs ∧ ∀ x ∈ vs,
          (∃ o, x.off = some o ∧ o + x.len ≤ pl.data.length) ∨ (x.off = none ∧ x.len = 0) :=
  decodeAll_forall tecmpDecode _ bufs s fun s b _ => decode_accessors_inbounds s b

/-- payload type of a TECMP-converted packet -/
def TecTy (x : Packet) : Prop := ∃ pl, x.payload = some pl ∧ pl.ty ∈ [tyCan, tyCanFd, tyLin, tyCm, tyIf]

theorem tecTy_packet (b : Bytes) (i ty : Nat) (o : Bytes) (h : ty ∈ [tyCan, tyCanFd, tyLin, tyCm, tyIf]) :
    TecTy (tecmpPacket b i ⟨ty, o⟩) := ⟨⟨ty, o⟩, rfl, h⟩

theorem can_tecTy (b p : Bytes) : ∀ x ∈ tecmpCan b p, TecTy x := by
  rw [C15.tecmpCan_shape]
  refine C15.forall_mem_ite fun _ => ?_
  split <;> exact tecTy_packet _ _ _ _ (by decide)

theorem lin_tecTy (b p : Bytes) : ∀ x ∈ tecmpLin b p, TecTy x := by
  rw [C15.tecmpLin_shape]
  exact C15.forall_mem_ite fun _ => tecTy_packet _ _ _ _ (by decide)

theorem cm_tecTy (b p : Bytes) : ∀ x ∈ tecmpCm b p, TecTy x := by
  rw [C15.tecmpCm_shape]
  exact C15.forall_mem_ite fun _ => tecTy_packet _ _ _ _ (by decide)

theorem busEntries_tecTy (b p : Bytes) (v : Nat) : ∀ (fuel off : Nat), ∀ x ∈ tecmpBusEntries b p v fuel off, TecTy x :=
  fun fuel off => C15.tecmpBusEntries_forall b p v fuel off fun _ _ _ => tecTy_packet _ _ _ _ (by decide)

theorem bus_tecTy (b p : Bytes) : ∀ x ∈ tecmpBus b p, TecTy x :=
  C15.tecmpBus_forall b p fun _ _ _ => tecTy_packet _ _ _ _ (by decide)

theorem tecmpDecode_tecTy (b : Bytes) : ∀ x ∈ tecmpDecode b, TecTy x :=
  tecmpDecode_forall b (cm_tecTy _ _) (can_tecTy _ _) (lin_tecTy _ _) (bus_tecTy _ _)

/-- the TECMP branch never returns an untyped or invalid-marked payload: every packet of
    `TECMP::Decoder::Decode` carries a payload of one of the typed classes CAN, CAN-FD, LIN, capture-module
    status, interface status, marked valid, accepted by its class validator — so `decode_accessors_inbounds`
    is not vacuous on that branch (all its hypotheses hold for every TECMP packet) -/
theorem tecmp_typed (b : Bytes) :
    ∀ p ∈ tecmpDecode b, ∃ pl k v a, p.payload = some pl ∧ pl.isValid = true ∧
      pl.ty ∈ [tyCan, tyCanFd, tyLin, tyCm, tyIf] ∧
      kindOfTy pl.ty = some k ∧ kindValid k = some v ∧ kindAccess k = some a ∧ v pl.data = true := by
  intro p hp
  obtain ⟨pl, v, h1, h2, h3⟩ := C15.valid_payloads b p hp
  obtain ⟨pl', h1', hty⟩ := tecmpDecode_tecTy b p hp
  rw [h1] at h1'
  cases h1'
  obtain ⟨k, a, hk, hkv, hka⟩ := kinds_cover pl.ty v h2
  refine ⟨pl, k, v, a, h1, ?_, hty, hk, hkv, hka, h3⟩
  simp only [List.mem_cons, List.not_mem_nil, or_false] at hty
  unfold Payload.isValid Payload.raw Payload.mt
  rcases hty with h | h | h | h | h <;> rw [h] <;> decide

/-! ## 2. the packet constructor with checked reads -/

/-- exact characterisation of the checked-read constructor `ofMsgM` (it reads the 16 header bytes and the
    declared payload through bounds-checked reads): it succeeds EXACTLY when header and declared payload lie
    inside the message bytes, and then builds what the plain model builds. In particular it is not total. -/
theorem ofMsgM_eq_some_iff (mt : Nat) (m : Bytes) (p : Packet) :
    ofMsgM mt m = some p ↔ 16 + beAt m 14 2 ≤ m.length ∧ p = Packet.ofMsg mt m := by
  constructor
  · intro h
    -- each of the three reads succeeded; the third is the one that needs header and declared payload inside `m`
    simp only [ofMsgM, bind, Option.bind_eq_some_iff, rdN, rdB, Option.map_eq_some_iff,
      Option.ite_none_right_eq_some, Option.some.injEq] at h
    obtain ⟨_, _, _, ⟨_, ⟨_, rfl⟩, rfl⟩, _, ⟨h3, _⟩, hp⟩ := h
    exact ⟨h3, (Option.some.inj hp).symm⟩
  · exact fun ⟨hb, hp⟩ => hp ▸ C02.ofMsgM_eq mt m hb

/-- C03 clause (E): a buffer accepted by `Packet::isValidPacket` is turned into a packet without reading past
    its end — the constructor with bounds-checked reads does not fail and builds the model's packet -/
theorem msgValid_ctor_inbounds (mt : Nat) (r : Bytes) (h : msgValid r = true) :
    ofMsgM mt r = some (Packet.ofMsg mt r) :=
  C02.ofMsgM_eq mt r (msgValid_bound r h)

/-- the bytes a packet built from a message holds are a contiguous piece of the message itself -/
theorem ofMsg_payload_inside (mt : Nat) (m : Bytes) (h : 16 + beAt m 14 2 ≤ m.length) (pl : Payload)
    (hpl : (Packet.ofMsg mt m).payload = some pl) (hv : pl.isValid = true) :
    pl.data.length = beAt m 14 2 ∧ m = m.take 16 ++ pl.data ++ m.drop (16 + pl.data.length) := by
  have hc : pl = create (mt * 256 + byteAt m 13) (slice m 16 (beAt m 14 2)) := (Option.some.inj hpl).symm
  subst hc
  obtain ⟨hd, _, _⟩ := C03.create_valid _ _ hv
  rw [hd]
  have hl : (slice m 16 (beAt m 14 2)).length = beAt m 14 2 := by
    simp only [slice, List.length_take, List.length_drop]; omega
  refine ⟨hl, ?_⟩
  rw [hl]
  unfold slice
  rw [List.append_assoc, ← List.drop_drop, List.take_append_drop, List.take_append_drop]


/-- where the decoder's own packets come from.  For every state whose pending reassemblies hold at least a message
    header (`PendingOk`, an invariant of the decoder) and EVERY buffer, each returned packet is either a TECMP
    conversion, or was built by the packet constructor from message bytes `m` such that
    * header and declared payload lie inside `m` (`16 + declared ≤ |m|`);
    * `m` is a suffix of the input buffer accepted by `isValidPacket` (unsegmented message), or the
      reassembly buffer `fixLen (pending ++ segment payload)` (last segment). -/
theorem decode_built_inbounds_of_inv (s : DecState) (hs : ∀ e, PendingOk (s e)) (buf : Option Bytes) :
    ∀ p ∈ (decode s buf).2,
      (∃ b, buf = some b ∧ byteAt b 0 = 0 ∧ p ∈ tecmpDecode b) ∨
      (∃ b ep ver mt m, buf = some b ∧ p = tagPacket ep ver (Packet.ofMsg mt m) ∧ 16 + beAt m 14 2 ≤ m.length ∧
        ((∃ off, 8 ≤ off ∧ off ≤ b.length ∧ m = b.drop off ∧ msgValid m = true) ∨
         (∃ q seg, s (parseFrame b).ep = some q ∧ (parseFrame b).term = .seg seg ∧
            m = fixLen (q.buf ++ seg.drop 16)))) := by
  intro p hp
  rcases decodeWith_cases tecmpDecode buf with ⟨_, _, hd⟩ | ⟨b, rfl, _, h0, _, hd⟩ | ⟨b, rfl, _, _, _, hd⟩ <;>
    rw [decode, hd] at hp
  · cases hp
  · exact Or.inl ⟨b, rfl, h0, hp⟩
  · right
    rw [step_snd] at hp
    rcases localStep_source _ _ p hp with hu | ⟨q, seg, hq, hseg, hpq⟩
    · obtain ⟨off, ho, hv, hpe⟩ := walk_source _ _ _ _ p hu
      rw [List.drop_drop] at hv hpe
      rw [List.length_drop] at ho
      exact ⟨b, _, _, _, b.drop (8 + off), rfl, hpe, msgValid_bound _ hv,
        Or.inl ⟨8 + off, by omega, by omega, rfl, hv⟩⟩
    · have hok := hs (parseFrame b).ep
      rw [hq] at hok
      have h16 : 16 ≤ (q.buf ++ seg.drop 16).length := by
        have := hok.2
        simp only [List.length_append]; omega
      obtain ⟨hl, hb⟩ := C02.fixLen_read _ h16
      exact ⟨b, _, _, _, _, rfl, hpq, hl ▸ hb, Or.inr ⟨q, seg, hq, hseg, rfl⟩⟩

theorem decodeAll_state_ok (bufs : List (Option Bytes)) (s : DecState) (hs : ∀ e, PendingOk (s e)) :
    ∀ e, PendingOk ((decodeAll tecmpDecode s bufs).1 e) := by
  induction bufs generalizing s with
  | nil => exact hs
  | cons b bs ih =>
    simp only [decodeAll]
    exact ih _ (C02.decode_state_ok s b hs)

/-- C03 clauses (D)/(E) for the decoder's own construction of packets: after ANY history of decode calls on a fresh
    decoder, for ANY next buffer, each returned packet is either a TECMP conversion, or was built by the packet
    constructor from message bytes `m` (a suffix of the buffer accepted by `isValidPacket`, or the reassembly buffer)
    that hold header and declared payload, so that the constructor with bounds-checked reads succeeds and a valid
    payload's bytes are literally the piece `m[16 .. 16+declared)` of `m` -/
theorem decode_built_inbounds (hist : List (Option Bytes)) (buf : Option Bytes) :
    ∀ p ∈ (decode (decodeAll tecmpDecode DecState.empty hist).1 buf).2,
      (∃ b, buf = some b ∧ byteAt b 0 = 0 ∧ p ∈ tecmpDecode b) ∨
      (∃ b ep ver mt m, buf = some b ∧ p = tagPacket ep ver (Packet.ofMsg mt m) ∧
        16 + beAt m 14 2 ≤ m.length ∧ ofMsgM mt m = some (Packet.ofMsg mt m) ∧
        (∀ pl, p.payload = some pl → pl.isValid = true →
          pl.data.length = beAt m 14 2 ∧ m = m.take 16 ++ pl.data ++ m.drop (16 + pl.data.length)) ∧
        ((∃ off, 8 ≤ off ∧ off ≤ b.length ∧ m = b.drop off ∧ msgValid m = true) ∨
         (∃ q seg, (decodeAll tecmpDecode DecState.empty hist).1 (parseFrame b).ep = some q ∧
            (parseFrame b).term = .seg seg ∧ m = fixLen (q.buf ++ seg.drop 16)))) := by
  intro p hp
  rcases decode_built_inbounds_of_inv _ (decodeAll_state_ok hist DecState.empty fun _ => (trivial : PendingOk none))
    buf p hp with h | ⟨b, ep, ver, mt, m, hbuf, hpe, hb, hsrc⟩
  · exact .inl h
  · exact .inr ⟨b, ep, ver, mt, m, hbuf, hpe, hb, C02.ofMsgM_eq _ _ hb,
      fun pl hpl hvalid => ofMsg_payload_inside _ _ hb pl (hpe ▸ hpl) hvalid, hsrc⟩

/-- the whole decode call with bounds-checked reads of the input buffer never fails (C02's theorem, restated
    here because C03 (D)/(E) need it for the reads the decoder itself performs, TECMP branch included) -/
theorem decode_reads_inbounds (s : DecState) (buf : Option Bytes) : decodeM s buf = some (decode s buf) :=
  C02.decode_inbounds s buf

/-! ## 3. fixed-field accessors: header sizes and field positions come from the protocol table -/
def kindLayout (k : String) : Option ClassLayout :=
  if k == "can" then some Layout.c_can
  else if k == "canfd" then some Layout.c_canfd
  else if k == "lin" then some Layout.c_lin
  else if k == "eth" then some Layout.c_eth
  else if k == "analog" then some Layout.c_analog
  else if k == "cm" then some Layout.c_cm
  else if k == "if" then some Layout.c_if
  else none

theorem row_layout {ty : Nat} {k : String} {v : Bytes → Bool} {a : Bytes → Option (List View)}
    (r : C03.KindRow ty k v a) :
    ∃ L, kindLayout k = some L ∧
      L ∈ [Layout.c_can, Layout.c_canfd, Layout.c_lin, Layout.c_eth, Layout.c_analog, Layout.c_cm, Layout.c_if] ∧
      ∀ b, v b = true → L.size ≤ b.length := by
  cases r
  · exact ⟨Layout.c_can, rfl, by simp, fun b hv => ((canValid_spec b).mp hv).1⟩
  · exact ⟨Layout.c_canfd, rfl, by simp, fun b hv => ((canValid_spec b).mp hv).1⟩
  · exact ⟨Layout.c_lin, rfl, by simp, fun b hv => ((linValid_spec b).mp hv).1⟩
  · exact ⟨Layout.c_analog, rfl, by simp, fun b hv => ((analogValid_spec b).mp hv).1⟩
  · exact ⟨Layout.c_eth, rfl, by simp, fun b hv => ((ethValid_spec b).mp hv).1⟩
  · exact ⟨Layout.c_cm, rfl, by simp, fun b hv => ((cmValid_spec b).mp hv).1⟩
  -- the interface validator asks for 40 bytes, four more than the 36 of the table
  · exact ⟨Layout.c_if, rfl, by simp, fun b hv => Nat.le_trans (by decide) ((ifValid_spec b).mp hv).1⟩

theorem kind_mem (k : String) (v : Bytes → Bool) (hk : kindValid k = some v) :
    k ∈ ["can", "canfd", "lin", "eth", "analog", "cm", "if"] := by
  rcases C03.row_or_none_of_name k with ⟨ty, v', a, r⟩ | ⟨_, hn, _⟩
  · cases r <;> simp only [List.mem_cons, true_or, or_true]
  · rw [hn] at hk; cases hk

theorem kindLayout_unknown (k : String) (hk : k ∉ ["can", "canfd", "lin", "eth", "analog", "cm", "if"]) :
    kindLayout k = none := by
  simp only [List.mem_cons, List.not_mem_nil, or_false, not_or] at hk
  obtain ⟨h1, h2, h3, h4, h5, h6, h7⟩ := hk
  simp only [kindLayout, beq_iff_eq, h1, h2, h3, h4, h5, h6, h7, if_false]

theorem kindLayout_mem (k : String) (L : ClassLayout) (hL : kindLayout k = some L) :
    L ∈ [Layout.c_can, Layout.c_canfd, Layout.c_lin, Layout.c_eth, Layout.c_analog, Layout.c_cm, Layout.c_if] := by
  rcases C03.row_or_none_of_name k with ⟨ty, v, a, r⟩ | ⟨hk, _, _⟩
  · obtain ⟨L', hL', hmem, _⟩ := row_layout r
    rw [hL] at hL'; cases hL'
    exact hmem
  · rw [kindLayout_unknown k hk] at hL; cases hL

theorem valid_min_size (k : String) (v : Bytes → Bool) (L : ClassLayout)
    (hk : kindValid k = some v) (hL : kindLayout k = some L) (b : Bytes) (hv : v b = true) :
    L.size ≤ b.length := by
  obtain ⟨ty, a, r⟩ := C03.row_of_kindValid hk
  obtain ⟨L', hL', _, hsize⟩ := row_layout r
  rw [hL] at hL'; cases hL'
  exact hsize b hv

theorem kindLayout_total (k : String) : (kindLayout k).isSome = (kindValid k).isSome := by
  rcases C03.row_or_none_of_name k with ⟨ty, v, a, r⟩ | ⟨hk, hv, _⟩
  · obtain ⟨L, hL, _⟩ := row_layout r
    rw [hL, r.kindValid_eq]; rfl
  · rw [kindLayout_unknown k hk, hv]; rfl

/-- the header read of every accessor model is the header size of the protocol table, and the data
    pointer of the four bus classes starts right behind that header -/
theorem access_header_is_layout_size (b : Bytes) :
    canAccess b = (do let _ ← rd b 0 Layout.c_can.size; let n ← rd b 15 1; pure [dataView "data" Layout.c_can.size n]) ∧
    canAccess b = (do let _ ← rd b 0 Layout.c_canfd.size; let n ← rd b 15 1; pure [dataView "data" Layout.c_canfd.size n]) ∧
    linAccess b = (do let _ ← rd b 0 Layout.c_lin.size; let n ← rd b 7 1; pure [dataView "data" Layout.c_lin.size n]) ∧
    ethAccess b = (do let _ ← rd b 0 Layout.c_eth.size; let n ← rd b 4 2; pure [dataView "data" Layout.c_eth.size n]) ∧
    (∀ vs, analogAccess b = some vs → rd b 0 Layout.c_analog.size ≠ none) ∧
    (∀ vs, cmAccess b = some vs → rd b 0 Layout.c_cm.size ≠ none) ∧
    (∀ vs, ifAccess b = some vs → rd b 0 Layout.c_if.size ≠ none) := by
  refine ⟨rfl, rfl, rfl, rfl, ?_, ?_, ?_⟩
  · exact fun vs h hn => by simp [analogAccess, show rd b 0 16 = none from hn] at h
  · exact fun vs h hn => by simp [cmAccess, show rd b 0 26 = none from hn] at h
  · exact fun vs h hn => by simp [ifAccess, show rd b 0 36 = none from hn] at h

theorem layouts_fit :
    [Layout.c_can, Layout.c_canfd, Layout.c_lin, Layout.c_eth, Layout.c_analog, Layout.c_cm, Layout.c_if].all
      (fun L => L.fields.all fun f => decide (f.off + f.w ≤ L.size) && decide (0 < f.w)) = true := by decide +kernel

/-- C03 clause (A) for the fixed-field accessors: if the class validator accepts `b`, every field of the
    class's protocol layout table (every fixed getter reads one such word, `getField`) is read by a
    bounds-checked read that succeeds, i.e. lies inside `b` — the read position and width come from the
    table, not from a literal of the accessor model -/
theorem fixed_getters_inbounds (k : String) (v : Bytes → Bool) (L : ClassLayout)
    (hk : kindValid k = some v) (hL : kindLayout k = some L) (b : Bytes) (hv : v b = true) :
    L.size ≤ b.length ∧
    ∀ f ∈ L.fields, f.off + f.w ≤ b.length ∧ rd b f.off f.w = some (beAt b f.off f.w) ∧
      getField f b = beAt b f.off f.w / 2 ^ f.shift % 2 ^ f.bits := by
  have hsz := valid_min_size k v L hk hL b hv
  refine ⟨hsz, fun f hf => ?_⟩
  have hfit := List.all_eq_true.mp (List.all_eq_true.mp layouts_fit L (kindLayout_mem k L hL)) f hf
  simp only [Bool.and_eq_true, decide_eq_true_eq] at hfit
  have hle : f.off + f.w ≤ b.length := Nat.le_trans hfit.1 hsz
  exact ⟨hle, C03.rd_ok b f.off f.w hle, rfl⟩

/-- the contrapositive, at the boundary the property names ("every length between 0 and header size"):
    a buffer shorter than the class's fixed header is rejected by the class validator -/
theorem short_rejected (k : String) (v : Bytes → Bool) (L : ClassLayout)
    (hk : kindValid k = some v) (hL : kindLayout k = some L) (b : Bytes) (hs : b.length < L.size) :
    v b = false := by
  cases h : v b with
  | false => rfl
  | true => have := valid_min_size k v L hk hL b h; omega


/-! ## 5b. source level: the translated accessors' raw pointers (no `Nat` subtraction, no null loophole)

  `SrcTie.srcView` turns a pointer into an offset with a truncating subtraction.  Here the translated
  accessors (GeneratedSrc.lean) are compared as raw (pointer, length) pairs with the model's views placed at
  the object's address: a pointer in front of the payload could not be equal to `pd + offset`. -/
section Src
open AsamCmp.Src AsamCmp.SrcGen AsamCmp.SrcTie

/-- `CaptureModulePayload::getVendorDataStringView` (an accessor no other statement mentions): on a payload the
    validator accepts it is defined (reads nothing outside) and returns exactly the vendor-data view of the
    accessor model, as an absolute (pointer, length) pair -/
theorem cm_vendorDataStringView_src (pre b post : Bytes) (this : Nat) (h : (pre ++ b ++ post).length < 2 ^ 64)
    (hv : cmValid b = true) :
    ∃ vs v, cmAccess b = some vs ∧ vs[4]? = some v ∧ v.name = "vendorData" ∧
      CaptureModulePayload_getVendorDataStringView (pre ++ b ++ post) pre.length b.length this
        = some (absView pre.length v) := by
  have _ := h
  obtain ⟨l1, p2, l2, p3, l3, p4, l4, p5, l5, p6, _, B1, B2, B3, B4, B5, hacc⟩ := C03.cm_blocks b hv
  refine ⟨_, _, hacc, rfl, rfl, ?_⟩
  simp only [CaptureModulePayload_getVendorDataStringView, initStringView_blk (at_mid pre b post) B1, initStringView_blk (at_mid pre b post) B2, initStringView_blk (at_mid pre b post) B3,
    initStringView_blk (at_mid pre b post) B4, initStringView_blk (at_mid pre b post) B5, bind, pure, some_bind, absView]


theorem raw_inbounds {ty : Nat} {k : String} {v : Bytes → Bool} {a : Bytes → Option (List View)}
    (r : C03.KindRow ty k v a) (b : Bytes) (hv : v b = true) (pd : Nat)
    (raw : Option (List (Nat × Nat))) (hraw : raw = (a b).map (·.map (absView pd))) :
    ∃ ps, raw = some ps ∧ ∀ q ∈ ps, (q.1 = 0 ∧ q.2 = 0) ∨ (pd ≤ q.1 ∧ q.1 + q.2 ≤ pd + b.length) := by
  obtain ⟨vs, hvs, hin⟩ := accessors_inbounds_strict k v a r.kindValid_eq r.kindAccess_eq b hv
  rw [hvs] at hraw
  refine ⟨_, hraw, ?_⟩
  intro q hq
  simp only [List.mem_map] at hq
  obtain ⟨x, hx, hxq⟩ := hq
  subst hxq
  rcases hin x hx with ⟨o, ho, hle⟩ | ⟨ho, hl⟩
  · right; simp only [absView, ho]; omega
  · left; simp only [absView, ho, hl]; exact ⟨trivial, trivial⟩

/-- C03 (B) at source level, all six accessor sets (seven classes): on every payload its validator accepts, placed
    anywhere in any memory, the translated accessors are defined and every (pointer, length) pair they return
    is (nullptr, 0) or lies inside the payload's own bytes `[pd, pd + size)` -/
theorem src_pointers_inbounds (pre b post : Bytes) (this : Nat) (h : (pre ++ b ++ post).length < 2 ^ 64) :
    (canValid b = true → ∃ ps, rawCan (pre ++ b ++ post) pre.length b.length this = some ps ∧
      ∀ q ∈ ps, (q.1 = 0 ∧ q.2 = 0) ∨ (pre.length ≤ q.1 ∧ q.1 + q.2 ≤ pre.length + b.length)) ∧
    (linValid b = true → ∃ ps, rawLin (pre ++ b ++ post) pre.length b.length this = some ps ∧
      ∀ q ∈ ps, (q.1 = 0 ∧ q.2 = 0) ∨ (pre.length ≤ q.1 ∧ q.1 + q.2 ≤ pre.length + b.length)) ∧
    (ethValid b = true → ∃ ps, rawEth (pre ++ b ++ post) pre.length b.length this = some ps ∧
      ∀ q ∈ ps, (q.1 = 0 ∧ q.2 = 0) ∨ (pre.length ≤ q.1 ∧ q.1 + q.2 ≤ pre.length + b.length)) ∧
    (analogValid b = true → ∃ ps, rawAnalog (pre ++ b ++ post) pre.length b.length this = some ps ∧
      ∀ q ∈ ps, (q.1 = 0 ∧ q.2 = 0) ∨ (pre.length ≤ q.1 ∧ q.1 + q.2 ≤ pre.length + b.length)) ∧
    (cmValid b = true → ∃ ps, rawCm (pre ++ b ++ post) pre.length b.length this = some ps ∧
      ∀ q ∈ ps, (q.1 = 0 ∧ q.2 = 0) ∨ (pre.length ≤ q.1 ∧ q.1 + q.2 ≤ pre.length + b.length)) ∧
    (ifValid b = true → ∃ ps, rawIf (pre ++ b ++ post) pre.length b.length this = some ps ∧
      ∀ q ∈ ps, (q.1 = 0 ∧ q.2 = 0) ∨ (pre.length ≤ q.1 ∧ q.1 + q.2 ≤ pre.length + b.length)) :=
  ⟨fun hv => raw_inbounds .can b hv _ _ (can_raw_src pre b post this h hv),
   fun hv => raw_inbounds .lin b hv _ _ (lin_raw_src pre b post this h hv),
   fun hv => raw_inbounds .eth b hv _ _ (eth_raw_src pre b post this h hv),
   fun hv => raw_inbounds .analog b hv _ _ (analog_raw_src pre b post this h hv),
   fun hv => raw_inbounds .cm b hv _ _ (cm_raw_src pre b post this h hv),
   fun hv => raw_inbounds .if b hv _ _ (if_raw_src pre b post this h hv)⟩

end Src

/-! ## 1b. end to end at source level -/
section SrcDecode
open AsamCmp.Src AsamCmp.SrcGen AsamCmp.SrcDec

/-- end to end, source level: the TRANSLATED `Decoder::decode` (with the translated TECMP decoder plugged in), on every
    buffer of at least 8 bytes at a non-null address and every reachable pending table, is defined and every object it
    returns, read as a packet of the model, satisfies C03 (D): class validator accepted, no accessor reads outside, every view
    in range or (null, 0).  Hypotheses: those of `SrcDec.decode_total_src` (table invariant, memory below 2^63 bytes, fuel). -/
theorem decode_src_accessors_inbounds (t : Table) (pre b post : Bytes) (fuel : Nat)
    (hT : C17b.TableOk t) (hR : TableReg t) (hpre : 0 < pre.length) (h8 : 8 ≤ b.length)
    (hmem : (pre ++ b ++ post).length < 2 ^ 63) (hf : b.length ≤ fuel) :
    ∃ t' outs, Decoder_decode_obj fuel (tblSt t) (pre ++ b ++ post) pre.length b.length (SrcTec.tecmpExt fuel) =
        some (tblSt t', outs) ∧
      ∀ o ∈ outs, ∀ pl, (Sum.elim toPacket SrcTec.tAbs o).payload = some pl → pl.isValid = true →
        ∀ k v a, kindOfTy pl.ty = some k → kindValid k = some v → kindAccess k = some a →
          v pl.data = true ∧
          ∃ vs, a pl.data = some vs ∧ ∀ x ∈ vs,
            (∃ o, x.off = some o ∧ o + x.len ≤ pl.data.length) ∨ (x.off = none ∧ x.len = 0) := by
  obtain ⟨t', outs, h1, _, _, h4⟩ := decode_total_src t pre b post fuel hT hR hpre h8 hmem hf
  refine ⟨t', outs, h1, ?_⟩
  intro o ho
  have hm : Sum.elim toPacket SrcTec.tAbs o ∈ (decode t.abs (some b)).2 := by
    rw [← h4]; exact List.mem_map_of_mem ho
  exact decode_accessors_inbounds t.abs (some b) _ hm

end SrcDecode

/-! ## 2b. the translated packet constructor on the two kinds of buffers the decoder hands it -/
section SrcCtor
open AsamCmp.Src AsamCmp.SrcGen AsamCmp.SrcPv

/-- C03 (E) at source level: on a buffer `Packet::isValidPacket` accepts, anywhere in memory, the TRANSLATED constructor
    `Packet(msgType, data, size)` is defined (a read outside the memory would be `none`; take `post = []`) and builds the
    model's packet.  `hmt`: the message type is a `uint8_t`; `hmem`: memory smaller than the address space. -/
theorem ctor_src_of_msgValid (mt : Nat) (pre r post : Bytes) (size : Nat) (hmt : mt < 256)
    (hv : msgValid r = true) (hmem : (pre ++ r ++ post).length < 2 ^ 64) :
    Packet_ctor_u8_ptr_u64_pv (pre ++ r ++ post) mt pre.length size = some (SrcPv.repr (Packet.ofMsg mt r)) := by
  have hb := msgValid_bound r hv
  exact wire_ctor_src mt pre r post size hmt (by omega) hb hmem

/-- … and on a reassembly buffer (`SegmentedPacket::getPacket`, no `isValidPacket` call): header plus accumulated bytes `x`
    (at least the 16 header bytes) with the length field rewritten by `fixLen` — also when more than 65535 bytes were
    accumulated and the 16-bit length wraps -/
theorem ctor_src_of_reassembly (mt : Nat) (pre x post : Bytes) (size : Nat) (hmt : mt < 256)
    (h16 : 16 ≤ x.length) (hmem : (pre ++ fixLen x ++ post).length < 2 ^ 64) :
    Packet_ctor_u8_ptr_u64_pv (pre ++ fixLen x ++ post) mt pre.length size = some (SrcPv.repr (Packet.ofMsg mt (fixLen x))) := by
  obtain ⟨hl, hb⟩ := C02.fixLen_read x h16
  exact wire_ctor_src mt pre (fixLen x) post size hmt (by omega) (by omega) hmem

end SrcCtor

/-! ## 3b. which const member functions exist (text-level net, partial) -/

/-- class → layout kind → (member function, declared signature, classification, layout field):
    `field` = fixed getter of that field of the protocol table (in-bounds by `fixed_getters_inbounds`, at source
    level by `SrcFields.*_src`), `var` = part of the variable-length accessor set (`SrcTie.*_access_src`,
    `src_pointers_inbounds`), `hdr` = `getHeader` (pointer to the payload start), `-` = not a const accessor
    (constructor, setter, static function). -/
def accessorTable : List (String × String × List (String × String × String × String)) := [
  ("ASAM::CMP::CanPayloadBase", "can", [
    ("CanPayloadBase", "ctor (enum:u32, ptr, u64) ; ctor (enum:u32, u64)", "-", ""),
    ("encodeDlc", "u8 (u8)", "-", ""),
    ("getCrcSupport", "bool () const", "field", "crcSupport"),
    ("getData", "ptr () const", "var", ""),
    ("getDataLength", "u8 () const", "var", ""),
    ("getDlc", "u8 () const", "field", "dlc"),
    ("getErrorPosition", "u16 () const", "field", "errorPosition"),
    ("getFlag", "bool (enum:u16) const", "field", "flags"),
    ("getFlags", "u16 () const", "field", "flags"),
    ("getHeader", "ptr () ; ptr () const", "hdr", ""),
    ("getId", "u32 () const", "field", "id"),
    ("getIde", "bool () const", "field", "ide"),
    ("getRsvd", "bool () const", "field", "rsvd"),
    ("isValidPayload", "bool (ptr, u64)", "-", ""),
    ("setCrcSupport", "void (bool)", "-", ""),
    ("setData", "void (ptr, u8)", "-", ""),
    ("setErrorPosition", "void (u16)", "-", ""),
    ("setFlag", "void (enum:u16, bool)", "-", ""),
    ("setFlags", "void (u16)", "-", ""),
    ("setId", "void (u32)", "-", ""),
    ("setIde", "void (bool)", "-", ""),
    ("setRsvd", "void (bool)", "-", "")]),
  ("ASAM::CMP::CanPayload", "can", [
    ("CanPayload", "ctor (ptr, u64)", "-", ""),
    ("getCrc", "u16 () const", "field", "crc"),
    ("getRtr", "bool () const", "field", "rtr"),
    ("setCrc", "void (u16)", "-", ""),
    ("setRtr", "void (bool)", "-", "")]),
  ("ASAM::CMP::CanFdPayload", "canfd", [
    ("CanFdPayload", "ctor (ptr, u64)", "-", ""),
    ("getCrc", "u32 () const", "field", "crc"),
    ("getRrs", "bool () const", "field", "rrs"),
    ("getSbc", "u8 () const", "field", "sbc"),
    ("getSbcParity", "bool () const", "field", "sbcParity"),
    ("getSbcSupport", "bool () const", "field", "sbcSupport"),
    ("setCrc", "void (u32)", "-", ""),
    ("setRrs", "void (bool)", "-", ""),
    ("setSbc", "void (u8)", "-", ""),
    ("setSbcParity", "void (bool)", "-", ""),
    ("setSbcSupport", "void (bool)", "-", "")]),
  ("ASAM::CMP::LinPayload", "lin", [
    ("LinPayload", "ctor (ptr, u64)", "-", ""),
    ("getChecksum", "u8 () const", "field", "checksum"),
    ("getData", "ptr () const", "var", ""),
    ("getDataLength", "u8 () const", "var", ""),
    ("getFlag", "bool (enum:u16) const", "field", "flags"),
    ("getFlags", "u16 () const", "field", "flags"),
    ("getHeader", "ptr () ; ptr () const", "hdr", ""),
    ("getLinId", "u8 () const", "field", "linId"),
    ("getParityBits", "u8 () const", "field", "parityBits"),
    ("isValidPayload", "bool (ptr, u64)", "-", ""),
    ("setChecksum", "void (u8)", "-", ""),
    ("setData", "void (ptr, u8)", "-", ""),
    ("setFlag", "void (enum:u16, bool)", "-", ""),
    ("setFlags", "void (u16)", "-", ""),
    ("setLinId", "void (u8)", "-", ""),
    ("setParityBits", "void (u8)", "-", "")]),
  ("ASAM::CMP::EthernetPayload", "eth", [
    ("EthernetPayload", "ctor (ptr, u64)", "-", ""),
    ("getData", "ptr () const", "var", ""),
    ("getDataLength", "u16 () const", "var", ""),
    ("getFlag", "bool (enum:u16) const", "field", "flags"),
    ("getFlags", "u16 () const", "field", "flags"),
    ("getHeader", "ptr () ; ptr () const", "hdr", ""),
    ("isValidPayload", "bool (ptr, u64)", "-", ""),
    ("setData", "void (ptr, u16)", "-", ""),
    ("setFlag", "void (enum:u16, bool)", "-", ""),
    ("setFlags", "void (u16)", "-", "")]),
  ("ASAM::CMP::AnalogPayload", "analog", [
    ("AnalogPayload", "ctor (ptr, u64)", "-", ""),
    ("getData", "ptr () const", "var", ""),
    ("getFlags", "u16 () const", "field", "flags"),
    ("getHeader", "ptr () ; ptr () const", "hdr", ""),
    ("getSampleDt", "enum:u16 () const", "field", "sampleDt"),
    ("getSamplesCount", "u64 () const", "var", ""),
    ("getUnit", "enum:u8 () const", "field", "unit"),
    ("isValidPayload", "bool (ptr, u64)", "-", ""),
    ("setData", "void (ptr, u64)", "-", ""),
    ("setFlags", "void (u16)", "-", ""),
    ("setSampleDt", "void (enum:u16)", "-", ""),
    ("setUnit", "void (enum:u8)", "-", "")]),
  ("ASAM::CMP::CaptureModulePayload", "cm", [
    ("CaptureModulePayload", "ctor (ptr, u64)", "-", ""),
    ("fillWithString", "ptr (ptr, std::basic_string_view<char>)", "-", ""),
    ("getCurrentUtcOffset", "u16 () const", "field", "currentUtcOffset"),
    ("getDomainNumber", "u8 () const", "field", "domainNumber"),
    ("getGmClockQuality", "u32 () const", "field", "gmClockQuality"),
    ("getGmIdentity", "u64 () const", "field", "gmIdentity"),
    ("getGptpFlags", "u8 () const", "field", "gptpFlags"),
    ("getHeader", "ptr () ; ptr () const", "hdr", ""),
    ("getTimeSource", "u8 () const", "field", "timeSource"),
    ("getUptime", "u64 () const", "field", "uptime"),
    ("getVendorData", "ptr () const", "var", ""),
    ("getVendorDataLength", "u16 () const", "var", ""),
    ("initStringView", "ptr (ptr, std::string_view&)", "-", ""),
    ("isValidPayload", "bool (ptr, u64)", "-", ""),
    ("setCurrentUtcOffset", "void (u16)", "-", ""),
    ("setDomainNumber", "void (u8)", "-", ""),
    ("setGmClockQuality", "void (u32)", "-", ""),
    ("setGmIdentity", "void (u64)", "-", ""),
    ("setGptpFlags", "void (u8)", "-", ""),
    ("setTimeSource", "void (u8)", "-", ""),
    ("setUptime", "void (u64)", "-", "")]),
  ("ASAM::CMP::InterfacePayload", "if", [
    ("InterfacePayload", "ctor (ptr, u64)", "-", ""),
    ("getErrorsTotalRx", "u32 () const", "field", "errorsTotalRx"),
    ("getErrorsTotalTx", "u32 () const", "field", "errorsTotalTx"),
    ("getFeatureSupportBitmask", "u32 () const", "field", "featureSupportBitmask"),
    ("getHeader", "ptr () ; ptr () const", "hdr", ""),
    ("getInterfaceId", "u32 () const", "field", "interfaceId"),
    ("getInterfaceStatus", "enum:u8 () const", "field", "interfaceStatus"),
    ("getInterfaceType", "u8 () const", "field", "interfaceType"),
    ("getMsgDroppedRx", "u32 () const", "field", "msgDroppedRx"),
    ("getMsgDroppedTx", "u32 () const", "field", "msgDroppedTx"),
    ("getMsgTotalRx", "u32 () const", "field", "msgTotalRx"),
    ("getMsgTotalTx", "u32 () const", "field", "msgTotalTx"),
    ("getStreamIdCountPtr", "ptr () const", "var", ""),
    ("getStreamIds", "ptr () const", "var", ""),
    ("getStreamIdsCount", "u16 () const", "var", ""),
    ("getVendorData", "ptr () const", "var", ""),
    ("getVendorDataLength", "u16 () const", "var", ""),
    ("getVendorDataLengthPtr", "ptr () const", "var", ""),
    ("isValidPayload", "bool (ptr, u64)", "-", ""),
    ("setData", "void (ptr, u16, ptr, u16)", "-", ""),
    ("setErrorsTotalRx", "void (u32)", "-", ""),
    ("setErrorsTotalTx", "void (u32)", "-", ""),
    ("setFeatureSupportBitmask", "void (u32)", "-", ""),
    ("setInterfaceId", "void (u32)", "-", ""),
    ("setInterfaceStatus", "void (enum:u8)", "-", ""),
    ("setInterfaceType", "void (u8)", "-", ""),
    ("setMsgDroppedRx", "void (u32)", "-", ""),
    ("setMsgDroppedTx", "void (u32)", "-", ""),
    ("setMsgTotalRx", "void (u32)", "-", ""),
    ("setMsgTotalTx", "void (u32)", "-", ""),
    ("toUint16", "u16 (ptr) const", "var", "")])]

/-- PARTIAL (item 3 ii of the audit): the member functions the reflection of the current source (`SrcGen.apiSig`,
    regenerated on every run) lists for the eight payload classes are EXACTLY the rows of `accessorTable` —
    name and declared signature — and every row classified `field` names a field of the class's protocol table.
    A const accessor added to (or removed from) a class, or a changed signature, breaks this theorem.
    Missing for a full coverage theorem: (1) `apiSig` does not list members whose types the reflection cannot
    render (the four `std::string_view` getters and `getVendorDataStringView` of the capture-module class —
    covered semantically by `SrcTie.cm_access_src` / `cm_vendorDataStringView_src` — and the `float` getters of
    the analog class); (2) the link name → model entry is this table, not a semantic statement. -/
theorem const_accessors_classified_partial :
    accessorTable.all (fun (cls, lay, rows) =>
      SrcGen.apiSig.lookup cls == some (rows.map fun r => (r.1, r.2.1)) &&
      rows.all fun (_, _, kind, f) =>
        if kind == "field" then ((kindLayout lay).bind (·.find f)).isSome
        else (kind == "var" || kind == "hdr" || kind == "-")) = true ∧
    accessorTable.map (·.1) =
      ["ASAM::CMP::CanPayloadBase", "ASAM::CMP::CanPayload", "ASAM::CMP::CanFdPayload", "ASAM::CMP::LinPayload",
       "ASAM::CMP::EthernetPayload", "ASAM::CMP::AnalogPayload", "ASAM::CMP::CaptureModulePayload",
       "ASAM::CMP::InterfacePayload"] := by
  constructor
  · decide +kernel
  · decide +kernel

/-! ## 6. non-vacuity -/

def exLin : Bytes := [0, 0, 0, 0, 0x11, 0, 0xAB, 3, 1, 2, 3]
def exEth : Bytes := [0, 0, 0, 0, 0, 2, 0xAA, 0xBB]
def exAn16 : Bytes := [0, 0] ++ zeros 14 ++ [1, 2, 3, 4, 5]
def exAn32 : Bytes := [0, 1] ++ zeros 14 ++ [1, 2, 3, 4, 5, 6, 7, 8, 9]
def exAn32short : Bytes := [0, 1] ++ zeros 14 ++ [1, 2, 3]
def exCm : Bytes := zeros 26 ++ [0, 2, 65, 0] ++ [0, 0] ++ [0, 4, 49, 50, 0, 0] ++ [0, 2, 0x76, 0] ++ [0, 3, 1, 2, 0]
def exIf : Bytes := zeros 36 ++ [0, 3, 7, 8, 9, 0] ++ [0, 2, 0xDE, 0xAD]

example : linValid exLin = true ∧ linAccess exLin = some [⟨"data", some 8, 3⟩] := by decide +kernel
example : linValid (zeros 8) = true ∧ linAccess (zeros 8) = some [⟨"data", none, 0⟩] := by decide +kernel
example : ethValid exEth = true ∧ ethAccess exEth = some [⟨"data", some 6, 2⟩] := by decide +kernel
example : analogValid (zeros 16) = true ∧ analogAccess (zeros 16) = some [⟨"samples", none, 0⟩] := by decide +kernel
example : analogValid exAn16 = true ∧ analogAccess exAn16 = some [⟨"samples", some 16, 4⟩] := by decide +kernel
example : analogValid exAn32 = true ∧ analogAccess exAn32 = some [⟨"samples", some 16, 8⟩] := by decide +kernel
example : analogValid exAn32short = true ∧ analogAccess exAn32short = some [⟨"samples", none, 0⟩] := by decide +kernel
example : cmValid exCm = true ∧ exCm.length = 47 ∧ cmAccess exCm = some
    [⟨"deviceDescription", some 28, 1⟩, ⟨"serialNumber", some 32, 0⟩, ⟨"hardwareVersion", some 34, 2⟩,
     ⟨"softwareVersion", some 40, 1⟩, ⟨"vendorData", some 44, 3⟩] := by decide +kernel
example : ifValid exIf = true ∧ exIf.length = 46 ∧
    ifAccess exIf = some [⟨"streamIds", some 38, 3⟩, ⟨"vendorData", some 44, 2⟩] := by decide +kernel
example : cmValid exCm.dropLast = false ∧
    (cmAccess exCm.dropLast).map (·.map (·.inBounds exCm.dropLast.length)) = some [true, true, true, true, false] := by
  decide +kernel
example : ifValid exIf.dropLast = false ∧
    (ifAccess exIf.dropLast).map (·.map (·.inBounds exIf.dropLast.length)) = some [true, false] := by decide +kernel
example : ofMsgM 1 (zeros 13 ++ [1, 0, 5] ++ [1, 2, 3]) = none ∧
    (ofMsgM 1 (zeros 13 ++ [1, 0, 3] ++ [1, 2, 3])).isSome = true ∧ msgValid (zeros 13 ++ [1, 0, 3] ++ [1, 2, 3]) = true := by
  decide +kernel

/-- CMP data frame (version 1, device 0x0102, type data, stream 7, counter 5): one unsegmented Ethernet message, 2 data bytes -/
def exFrameEth : Bytes :=
  [1, 0, 1, 2, 1, 7, 0, 5,
   0, 0, 0, 0, 0, 0, 0, 9, 0, 0, 0, 3, 0, 8, 0, 8, 0, 0, 0, 0, 0, 2, 0xAA, 0xBB]
/-- first segment (flags 0x04) of a CAN message: the 16-byte CAN header (dataLength 4) -/
def exSeg1 : Bytes :=
  [1, 0, 1, 2, 1, 7, 0, 5,
   0, 0, 0, 0, 0, 0, 0, 9, 0, 0, 0, 3, 0x04, 1, 0, 16] ++ zeros 14 ++ [4, 4]
/-- last segment (flags 0x0C), counter 6: the 4 data bytes -/
def exSeg2 : Bytes :=
  [1, 0, 1, 2, 1, 7, 0, 6,
   0, 0, 0, 0, 0, 0, 0, 9, 0, 0, 0, 3, 0x0C, 1, 0, 4, 1, 2, 3, 4]
/-- TECMP frame, device 7, data message, data type CAN, interface 9: arbitration id 0x123, dlc 3, 3 data bytes -/
def exTecmpCan : Bytes :=
  [0, 7, 0, 1, 3, 3, 0, 2, 0, 0, 0, 0, 0, 0, 0, 9, 0, 0, 0, 0, 0, 0, 0, 5, 0, 8, 0, 0,
   0, 0, 1, 0x23, 3, 0xA, 0xB, 0xC]

def summary (ps : List Packet) : List (Option (Nat × Bool × Nat × Option String)) :=
  ps.map fun p => p.payload.map fun pl => (pl.ty, pl.isValid, pl.data.length, kindOfTy pl.ty)

def views (ps : List Packet) : List (Option (Option (List View))) :=
  ps.map fun p => p.payload.map fun pl => ((kindOfTy pl.ty).bind kindAccess).bind fun a => a pl.data

example : summary (decode DecState.empty (some exFrameEth)).2 = [some (tyEth, true, 8, some "eth")] ∧
    views (decode DecState.empty (some exFrameEth)).2 = [some (some [⟨"data", some 6, 2⟩])] := by
  have h := (C17b.decodeLL_refines [] (some exFrameEth) C17b.tableOk_empty).2.2
  have e : Table.abs [] = DecState.empty := rfl
  rw [e] at h
  rw [← h]
  decide +kernel

example : summary (decodeAll tecmpDecode DecState.empty [some exSeg1, some exSeg2]).2 = [some (tyCan, true, 20, some "can")] ∧
    views (decodeAll tecmpDecode DecState.empty [some exSeg1, some exSeg2]).2 = [some (some [⟨"data", some 16, 4⟩])] := by
  rw [← (C17b.runLL_refines [some exSeg1, some exSeg2]).2.2]
  decide +kernel

example : summary (decode DecState.empty (some exTecmpCan)).2 = [some (tyCan, true, 19, some "can")] ∧
    views (decode DecState.empty (some exTecmpCan)).2 = [some (some [⟨"data", some 16, 3⟩])] := by
  decide +kernel

/-- interleaved traffic: a TECMP frame between the two segments does not disturb the reassembly; both packets
    come out typed, valid and with in-bounds views -/
example : summary (decodeAll tecmpDecode DecState.empty [some exSeg1, some exTecmpCan, none, some exSeg2]).2 =
      [some (tyCan, true, 19, some "can"), some (tyCan, true, 20, some "can")] ∧
    views (decodeAll tecmpDecode DecState.empty [some exSeg1, some exTecmpCan, none, some exSeg2]).2 =
      [some (some [⟨"data", some 16, 3⟩]), some (some [⟨"data", some 16, 4⟩])] := by
  rw [← (C17b.runLL_refines [some exSeg1, some exTecmpCan, none, some exSeg2]).2.2]
  decide +kernel

/-- `accessors_inbounds_strict` / `fixed_getters_inbounds`: hypotheses hold on a literal and the conclusion computes -/
example : kindValid "lin" = some linValid ∧ kindAccess "lin" = some linAccess ∧ kindLayout "lin" = some Layout.c_lin ∧
    linValid exLin = true ∧
    (Layout.c_lin.find "checksum").map (fun f => (rd exLin f.off f.w, getField f exLin)) = some (some 0xAB, 0xAB) ∧
    (Layout.c_lin.find "linId").map (fun f => (rd exLin f.off f.w, getField f exLin)) = some (some 0x11, 0x11) :=
  ⟨rfl, rfl, rfl, by decide +kernel, by decide +kernel, by decide +kernel⟩

example : ∃ vs, linAccess exLin = some vs ∧ ∀ x ∈ vs,
    (∃ o, x.off = some o ∧ o + x.len ≤ exLin.length) ∨ (x.off = none ∧ x.len = 0) :=
  accessors_inbounds_strict "lin" linValid linAccess rfl rfl exLin (by decide +kernel)

example : cmValid (zeros 25) = false := short_rejected "cm" cmValid Layout.c_cm rfl rfl (zeros 25) (by decide +kernel)

/-- `kinds_cover`: hypotheses hold for each of the seven types -/
example : ∃ k a, kindOfTy tyAnalog = some k ∧ kindValid k = some analogValid ∧ kindAccess k = some a :=
  kinds_cover tyAnalog analogValid rfl

/-- `decode_built_inbounds` on the reassembly example: the history is the first segment, the buffer the last -/
example := decode_built_inbounds [some exSeg1] (some exSeg2)
/-- … and that call does return the reassembled packet (so the statement is about a non-empty list) -/
example : summary (decode (decodeAll tecmpDecode DecState.empty [some exSeg1]).1 (some exSeg2)).2 =
    [some (tyCan, true, 20, some "can")] := by
  have h1 := C17b.runLL_refines [some exSeg1]
  have h2 := (C17b.decodeLL_refines (C17b.runLL [] [some exSeg1]).1 (some exSeg2) h1.1).2.2
  rw [h1.2.1] at h2
  rw [← h2]
  decide +kernel

section SrcEx
open AsamCmp.Src AsamCmp.SrcGen AsamCmp.SrcTie
/-- `decode_src_accessors_inbounds`: hypotheses hold for the Ethernet frame one byte into memory, empty table -/
example := decode_src_accessors_inbounds [] [9] exFrameEth [] 64 SrcDec.tableOk_nil SrcDec.tableReg_nil
  (by decide +kernel) (by decide +kernel) (by decide +kernel) (by decide +kernel)
/-- source level on a literal: the capture-module example one byte into a memory with two bytes behind it -/
example : rawCm ([9] ++ exCm ++ [7, 7]) 1 47 0 = some [(29, 1), (33, 0), (35, 2), (41, 1), (45, 3)] ∧
    CaptureModulePayload_getVendorDataStringView ([9] ++ exCm ++ [7, 7]) 1 47 0 = some (45, 3) ∧
    rawIf ([9] ++ exIf ++ []) 1 46 0 = some [(39, 3), (45, 2)] ∧
    rawLin ([9] ++ zeros 8 ++ []) 1 8 0 = some [(0, 0)] := by decide +kernel
/-- `ctor_src_of_msgValid` / `ctor_src_of_reassembly`: hypotheses hold on literals (the Ethernet message of `exFrameEth`;
    the reassembly buffer of `exSeg1` ++ payload of `exSeg2`) -/
example := ctor_src_of_msgValid 1 [9] (exFrameEth.drop 8) [] 24 (by decide +kernel) (by decide +kernel) (by decide +kernel)
example := ctor_src_of_reassembly 1 [9] (exSeg1.drop 8 ++ [1, 2, 3, 4]) [] 0 (by decide +kernel) (by decide +kernel) (by decide +kernel)
example : beAt (fixLen (exSeg1.drop 8 ++ [1, 2, 3, 4])) 14 2 = 20 := by decide +kernel
end SrcEx

end AsamCmp.C03S
