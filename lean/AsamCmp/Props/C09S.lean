/-
  C09S  C09 (frame headers: the encoder's identity and consecutive sequence counters) beyond `Props/C09.lean`, the outcome of the
  statement audit of C09 (DESIGN.md section J.4).  Only additional theorems about the existing definitions.

  * The version clause of C09 is stated there for version-homogeneous batches only.  `encode_runs` holds for EVERY batch: the
    frame carrying a message of packet i has the version of the FIRST packet of the maximal run of equal message types packet i
    lies in (`runStart_spec`; corollaries `version_exists`, `version_of_run`, `version_uniform`), and a message is labelled with
    the packet at its index (`EMsg.pkt` is not a free label).  `version_follows_run_not_packet`: the frame version need NOT be
    the version of the packet whose message it carries (witness) — "the batch's version" is only well defined for homogeneous
    batches; this is what the code does otherwise.
  * Bytes: `call_bytes` (bytes 0..7 of every frame of one call, bytes 4 and 0 included, no range hypothesis hidden),
    `headers_bytes` (every history), `fresh_headers_bytes`.
  * Source level: `src_history_from` / `src_history`: C09 on the bytes and getters of the TRANSLATED methods over any list of
    operations, single-packet overload included, with the domain stated (`SrcHist.Op.Ok`); `rawCmpHeader_version_type` (bytes 0
    and 4 of what the translated `Packet::getRawCmpHeader` returns are the packet's version and message type).
  * `encode_tiny_max`: for max ≤ 24 the model emits NO frame (the model-level statements are vacuous there; the C++ has undefined
    behaviour there).
  * Non-vacuity: frames ARE produced (`encode_nonempty`); literal histories crossing a reset, wrapping, dropping the trailing
    empty frame.
-/
import AsamCmp.Props.C09b
import AsamCmp.Props.SrcHistory
import AsamCmp.Props.SrcPacketValue
import AsamCmp.Lemmas.C09SRun
namespace AsamCmp.C09S
open AsamCmp AsamCmp.C09b

/-! ## Version and message type for EVERY batch; the label `pkt` tied to the batch -/

/-- `runStart batch i` is the start of the MAXIMAL run of consecutive packets of one message type
    ending at index `i`: it is ≤ i, all packets from it to `i` have the message type of packet `i`,
    and it is index 0 or the packet before it has another message type -/
theorem runStart_spec (batch : List Packet) (i : Nat) :
    runStart batch i ≤ i ∧
    (∀ j, runStart batch i ≤ j → j ≤ i → batch[j]?.map Packet.mt = batch[i]?.map Packet.mt) ∧
    (runStart batch i = 0 ∨
      batch[runStart batch i - 1]?.map Packet.mt ≠ batch[runStart batch i]?.map Packet.mt) :=
  ⟨runStart_le batch i, fun j h1 h2 => runStart_same batch i j h1 h2, runStart_max batch i⟩

/-- **version and message type for every batch** (property: "every emitted frame carries … the batch's protocol
    version and the message type of its messages"; no hypothesis at all: ANY encoder state, ANY batch —
    versions and types mixed at will —, ANY configuration).  Every emitted frame holds at least one
    message, and for every message `m` of a frame `f`:
      * `m` is labelled with the packet at its index in the batch (the label `pkt` is not free),
      * `f` announces that packet's message type,
      * `f` carries the version (mod 256: the field is one byte) of the packet `q` at
        `runStart batch m.idx`, the FIRST packet of the run of equal message types `m`'s packet lies in
        (and `q` has the frame's message type too). -/
theorem encode_runs (e : Enc) (batch : List Packet) (c : Ctx) :
    ∀ f ∈ (e.encode batch c).2, f.msgs ≠ [] ∧ ∀ m ∈ f.msgs,
      batch[m.idx]? = some m.pkt ∧ m.pkt.mt = f.mt ∧
      ∃ q, batch[runStart batch m.idx]? = some q ∧ q.mt = f.mt ∧ f.ver = q.version % 256 := by
  intro f hf
  obtain ⟨hne, hok⟩ := encode_closedOk e batch c f hf
  refine ⟨hne, ?_⟩
  intro m hm
  obtain ⟨h1, h2, q, h3, h4⟩ := hok m hm
  refine ⟨h1, h2, q, h3, ?_, h4⟩
  have := runStart_same batch m.idx (runStart batch m.idx) (Nat.le_refl _) (runStart_le batch m.idx)
  rw [h3, h1, Option.map_some, Option.map_some, Option.some.injEq] at this
  rw [this, h2]

/-- every emitted frame holds a message (so the clauses "of its messages" are never vacuous) -/
theorem encode_nonempty (e : Enc) (batch : List Packet) (c : Ctx) :
    ∀ f ∈ (e.encode batch c).2, ∃ m, m ∈ f.msgs := by
  intro f hf
  have := (encode_runs e batch c f hf).1
  cases hm : f.msgs with
  | nil => exact absurd hm this
  | cons m ms => exact ⟨m, List.mem_cons_self ..⟩

/-- byte 0 of every frame is the version of SOME packet of the batch — one
    that has the frame's message type -/
theorem version_exists (e : Enc) (batch : List Packet) (c : Ctx) :
    ∀ f ∈ (e.encode batch c).2, ∃ p ∈ batch, f.ver = p.version % 256 ∧ p.mt = f.mt := by
  intro f hf
  obtain ⟨m, hm⟩ := encode_nonempty e batch c f hf
  obtain ⟨_, _, q, h3, h4, h5⟩ := (encode_runs e batch c f hf).2 m hm
  exact ⟨q, List.mem_of_getElem? h3, h5, h4⟩

/-- if the packets of `m`'s run up to `m`'s packet all have version `v`, the
    frame carrying `m` has version `v mod 256` -/
theorem version_of_run (e : Enc) (batch : List Packet) (c : Ctx) :
    ∀ f ∈ (e.encode batch c).2, ∀ m ∈ f.msgs, ∀ v,
      (∀ j p, runStart batch m.idx ≤ j → j ≤ m.idx → batch[j]? = some p → p.version = v) →
      f.ver = v % 256 := by
  intro f hf m hm v hv
  obtain ⟨_, _, q, h3, _, h5⟩ := (encode_runs e batch c f hf).2 m hm
  rw [h5, hv _ q (Nat.le_refl _) (runStart_le batch m.idx) h3]

/-- the version clause of `C09_encode` (one version for the whole batch) is a special case, and needs no idle encoder -/
theorem version_uniform (e : Enc) (batch : List Packet) (c : Ctx) (v : Nat)
    (hv : ∀ p ∈ batch, p.version = v) : ∀ f ∈ (e.encode batch c).2, f.ver = v % 256 := by
  intro f hf
  obtain ⟨p, hp, h1, _⟩ := version_exists e batch c f hf
  rw [h1, hv p hp]

/-- the header fields of every frame of a call from an idle encoder are within their widths (the
    hypotheses `hv hm hq` of `C09b.header_fields`, which `Props/C09b.lean` leaves open) -/
theorem frame_fields_range (e : Enc) (batch : List Packet) (c : Ctx) (hidle : e.Idle) :
    ∀ f ∈ (e.encode batch c).2, f.ver < 256 ∧ f.mt < 256 ∧ f.seq < 65536 ∧ f.dev = e.dev ∧ f.stream = e.stream := by
  intro f hf
  obtain ⟨p, _, h1, h2⟩ := version_exists e batch c f hf
  obtain ⟨_, _, _, _, hfr, _, _⟩ := C09_encode e batch c hidle
  obtain ⟨i, hi, rfl⟩ := List.getElem_of_mem hf
  obtain ⟨hq, hd, hs⟩ := hfr i hi
  refine ⟨by rw [h1]; exact Nat.mod_lt _ (by decide), by rw [← h2]; exact Packet.mt_lt p, ?_, hd, hs⟩
  rw [hq]; exact Nat.mod_lt _ (by decide)

/-! ### what the code does on a version-mixed batch: a witness -/

/-- a packet of message type `mt` (payload type 1), protocol version `v`, payload `d` -/
def pv (mt v : Nat) (d : Bytes) : Packet := { payload := some ⟨mt * 256 + 1, d⟩, version := v }

/-- two packets of message type 1 (versions 1, 2), then two of message type 3 (versions 3, 4) -/
def mixed : List Packet := [pv 1 1 [1], pv 1 2 [2], pv 3 3 [3], pv 3 4 [4]]

/-- the two frames: (version, message type, [(index, version of the packet) of every message]) -/
theorem mixed_frames :
    ((Enc.fresh 5 7).encode mixed ⟨0, 100⟩).2.map
        (fun f => (f.ver, f.mt, f.msgs.map fun m => (m.idx, m.pkt.version))) =
      [(1, 1, [(0, 1), (1, 2)]), (3, 3, [(2, 3), (3, 4)])] := by decide +kernel

example : (List.range 4).map (runStart mixed) = [0, 0, 2, 2] := by decide

/-- **the frame version follows the run, not the packet**: there is a batch (with a payload in every
    packet and a valid configuration) for which a message of a version-2 packet travels in a frame
    announcing version 1.  The property's "the batch's protocol version" is defined only for
    version-homogeneous batches; for the others this is the behaviour of `addNewCMPFrame` /
    `cmpFrameTemplate` (template built from the first packet of a run, reused until the type changes). -/
theorem version_follows_run_not_packet :
    ∃ (e : Enc) (batch : List Packet) (c : Ctx), e.Idle ∧ c.ok = true ∧ (∀ p ∈ batch, p.payload.isSome) ∧
      ∃ f ∈ (e.encode batch c).2, ∃ m ∈ f.msgs, f.ver ≠ m.pkt.version % 256 := by
  refine ⟨Enc.fresh 5 7, mixed, ⟨0, 100⟩, ⟨rfl, rfl, rfl, by decide⟩, by decide, by decide, ?_⟩
  have h : (((Enc.fresh 5 7).encode mixed ⟨0, 100⟩).2.any fun f =>
      f.msgs.any fun m => f.ver != m.pkt.version % 256) = true := by decide +kernel
  rw [List.any_eq_true] at h
  obtain ⟨f, hf, h⟩ := h
  rw [List.any_eq_true] at h
  obtain ⟨m, hm, h⟩ := h
  exact ⟨f, hf, m, hm, by simpa using h⟩

/-! ## The history statement with version and message type for every batch -/

/-- what C09 demands of the frames of one call, given the ghost view `g` = (device id, stream id,
    counter of the last frame) before it — `C09_call_ok` with the version clause for every batch, the
    label `pkt` tied to the batch, and no frame empty -/
def call_ok (g : Nat × Nat × Nat) (op : EncOp) (fs : List EFrame) : Prop :=
  match op with
  | .encode batch _ =>
    ∀ i (h : i < fs.length),
      fs[i].seq = (g.2.2 + i + 1) % 65536 ∧ fs[i].dev = g.1 ∧ fs[i].stream = g.2.1 ∧
      fs[i].msgs ≠ [] ∧ ∀ m ∈ fs[i].msgs,
        batch[m.idx]? = some m.pkt ∧ m.pkt.mt = fs[i].mt ∧
        ∃ q, batch[runStart batch m.idx]? = some q ∧ q.mt = fs[i].mt ∧ fs[i].ver = q.version % 256
  | _ => fs = []

/-- all calls of a history satisfy `call_ok`, threading the ghost view of `C09.ghost` -/
def hist_ok : (Nat × Nat × Nat) → List EncOp → List (List EFrame) → Prop
  | _, [], [] => True
  | g, op :: ops, fs :: fss => call_ok g op fs ∧ hist_ok (ghost g op fs) ops fss
  | _, _, _ => False

/-- one API call from an idle encoder -/
theorem call_strong (e : Enc) (hidle : e.Idle) (op : EncOp) :
    call_ok (e.dev, e.stream, e.seqc) op (e.apply op).2 ∧ (e.apply op).1.Idle ∧
    ((e.apply op).1.dev, (e.apply op).1.stream, (e.apply op).1.seqc) =
      ghost (e.dev, e.stream, e.seqc) op (e.apply op).2 := by
  obtain ⟨h1, h2, h3⟩ := C09_call e hidle op
  refine ⟨?_, h2, h3⟩
  cases op with
  | setDev d => exact h1
  | setStream d => exact h1
  | restart => exact h1
  | encode b c =>
    intro i hi
    obtain ⟨a1, a2, a3⟩ := h1.1 i hi
    obtain ⟨b1, b2⟩ := encode_runs e b c _ (List.getElem_mem hi)
    exact ⟨a1, a2, a3, b1, b2⟩

/-- **C09 for every history, with version and message type at full strength** (property: "over any history of
    configuration changes and encode calls on one encoder"; the only hypothesis is that the start state
    is a state between API calls): every frame of every call has the configured ids, the consecutive
    counter (restarting at 1 after a reset), at least one message, the message type of each of its
    messages and the version of the first packet of that message's run; the final state is idle and
    reports the ghost's ids and counter -/
theorem headers_strong (e : Enc) (hidle : e.Idle) (ops : List EncOp) :
    let r := e.runOps ops
    hist_ok (e.dev, e.stream, e.seqc) ops r.2 ∧ r.1.Idle ∧
    (r.1.dev, r.1.stream, r.1.seqc) =
      (List.zip ops r.2).foldl (fun g x => ghost g x.1 x.2) (e.dev, e.stream, e.seqc) := by
  induction ops generalizing e with
  | nil => exact ⟨trivial, hidle, rfl⟩
  | cons op ops ih =>
    obtain ⟨h1, h2, h3⟩ := call_strong e hidle op
    have h := ih (e.apply op).1 h2
    rw [h3] at h
    simp only [Enc.runOps, List.zip_cons_cons, List.foldl_cons, hist_ok]
    exact ⟨⟨h1, h.1⟩, h.2.1, h.2.2⟩

/-- `call_ok` is at least as strong as `C09_call_ok` -/
theorem call_ok_weaken {g : Nat × Nat × Nat} {op : EncOp} {fs : List EFrame} (h : call_ok g op fs) :
    C09_call_ok g op fs := by
  cases op with
  | setDev d => exact h
  | setStream d => exact h
  | restart => exact h
  | encode batch c =>
    refine ⟨fun i hi => ⟨(h i hi).1, (h i hi).2.1, (h i hi).2.2.1⟩, ?_, ?_⟩
    · intro f hf m hm
      obtain ⟨i, hi, rfl⟩ := List.getElem_of_mem hf
      exact ((h i hi).2.2.2.2 m hm).2.1
    · intro v hv f hf
      obtain ⟨i, hi, rfl⟩ := List.getElem_of_mem hf
      obtain ⟨_, _, _, hne, hms⟩ := h i hi
      cases hm : fs[i].msgs with
      | nil => exact absurd hm hne
      | cons m ms =>
        obtain ⟨_, _, q, hq, _, hver⟩ := hms m (by rw [hm]; exact List.mem_cons_self ..)
        rw [hver, hv q (List.mem_of_getElem? hq)]

theorem hist_ok_weaken : ∀ (ops : List EncOp) (g : Nat × Nat × Nat) (fss : List (List EFrame)),
    hist_ok g ops fss → C09_hist_ok g ops fss := by
  intro ops
  induction ops with
  | nil =>
    intro g fss h
    cases fss with
    | nil => trivial
    | cons _ _ => exact h
  | cons op ops ih =>
    intro g fss h
    cases fss with
    | nil => exact h
    | cons fs fss => exact ⟨call_ok_weaken h.1, ih _ _ h.2⟩

/-! ## The observation point: bytes 0..7 of the returned byte vectors -/

/-- what C09 says of the serialisation `b` of frame number `i` of a call on `batch`, ghost view `g`
    before the call: at least the 8 header bytes; reserved byte 1 is 0; bytes 2..3 the device id;
    byte 5 the stream id; bytes 6..7 the counter; and for every message of the frame: byte 4 is the
    message type of its packet and byte 0 the version of the first packet of its run -/
def FrameBytesOk (g : Nat × Nat × Nat) (i : Nat) (batch : List Packet) (b : Bytes) (f : EFrame) : Prop :=
  8 ≤ b.length ∧ byteAt b 1 = 0 ∧ beAt b 2 2 = g.1 ∧ byteAt b 5 = g.2.1 ∧
  beAt b 6 2 = (g.2.2 + i + 1) % 65536 ∧
  f.msgs ≠ [] ∧ ∀ m ∈ f.msgs,
    batch[m.idx]? = some m.pkt ∧ byteAt b 4 = m.pkt.mt ∧
    ∃ q, batch[runStart batch m.idx]? = some q ∧ q.mt = m.pkt.mt ∧ byteAt b 0 = q.version % 256

def call_ok_bytes (g : Nat × Nat × Nat) (op : EncOp) (fs : List EFrame) : Prop :=
  match op with
  | .encode batch c => ∀ i (h : i < fs.length), FrameBytesOk g i batch (EFrame.bytes c.min fs[i]) fs[i]
  | _ => fs = []

def hist_ok_bytes : (Nat × Nat × Nat) → List EncOp → List (List EFrame) → Prop
  | _, [], [] => True
  | g, op :: ops, fs :: fss => call_ok_bytes g op fs ∧ hist_ok_bytes (ghost g op fs) ops fss
  | _, _, _ => False

/-- the configured ids are within their C types (`uint16_t deviceId`, `uint8_t streamId`) -/
def GR (g : Nat × Nat × Nat) : Prop := g.1 < 65536 ∧ g.2.1 < 256

theorem ghost_range {g : Nat × Nat × Nat} (hg : GR g) (op : EncOp) (fs : List EFrame) : GR (ghost g op fs) := by
  obtain ⟨d, s, q⟩ := g
  obtain ⟨h1, h2⟩ := hg
  cases op with
  | setDev d' => exact ⟨Nat.mod_lt _ (by decide), h2⟩
  | setStream s' => exact ⟨h1, Nat.mod_lt _ (by decide)⟩
  | restart => exact ⟨h1, h2⟩
  | encode b c => exact ⟨h1, h2⟩

theorem call_ok.bytes {g : Nat × Nat × Nat} {op : EncOp} {fs : List EFrame} (h : call_ok g op fs) (hg : GR g) :
    call_ok_bytes g op fs := by
  cases op with
  | setDev d => exact h
  | setStream d => exact h
  | restart => exact h
  | encode batch c =>
    intro i hi
    obtain ⟨hq, hd, hs, hne, hm⟩ := h i hi
    obtain ⟨hl, b0, b1, w2, b4, b5, w6⟩ := EFrame.bytes_fields c.min fs[i]
    refine ⟨hl, b1, ?_, ?_, ?_, hne, ?_⟩
    · rw [w2, hd]; exact Nat.mod_eq_of_lt hg.1
    · rw [b5, hs]; exact Nat.mod_eq_of_lt hg.2
    · rw [w6, hq, Nat.mod_mod]
    · intro m hmm
      obtain ⟨a, b, q, q1, q2, q3⟩ := hm m hmm
      refine ⟨a, ?_, q, q1, q2.trans b.symm, ?_⟩
      · rw [b4, ← b]; exact Nat.mod_eq_of_lt (Packet.mt_lt _)
      · rw [b0, q3, Nat.mod_mod]

theorem hist_ok.bytes : ∀ (ops : List EncOp) (g : Nat × Nat × Nat) (fss : List (List EFrame)),
    hist_ok g ops fss → GR g → hist_ok_bytes g ops fss := by
  intro ops
  induction ops with
  | nil =>
    intro g fss h _
    cases fss with
    | nil => trivial
    | cons _ _ => exact h
  | cons op ops ih =>
    intro g fss h hg
    cases fss with
    | nil => exact h
    | cons fs fss => exact ⟨h.1.bytes hg, ih _ _ h.2 (ghost_range hg op fs)⟩

/-- **C09 on bytes, one call** (`C09b.C09_bytes` completed): frame `i` of the byte vectors returned by
    one call from an idle encoder whose ids are within their C types carries the device id at bytes
    2..3, the stream id at byte 5, 0 at byte 1, the counter `(seqc + i + 1) mod 2^16` at bytes 6..7,
    and — for every message in it — that message's packet's message type at BYTE 4 and the version of
    the first packet of its run at BYTE 0; afterwards the encoder reports the counter of the last frame -/
theorem call_bytes (e : Enc) (batch : List Packet) (c : Ctx) (hidle : e.Idle)
    (hdev : e.dev < 65536) (hstream : e.stream < 256) :
    let r := e.encode batch c
    r.1.seqc = (e.seqc + r.2.length) % 65536 ∧
    ∀ i (h : i < r.2.length),
      FrameBytesOk (e.dev, e.stream, e.seqc) i batch
        ((r.2.map (EFrame.bytes c.min))[i]'(by simpa using h)) r.2[i] := by
  intro r
  obtain ⟨h1, _, _⟩ := call_strong e hidle (.encode batch c)
  have h2 := h1.bytes ⟨hdev, hstream⟩
  refine ⟨(C09_encode e batch c hidle).2.2.2.1, ?_⟩
  intro i hi
  rw [List.getElem_map]
  exact h2 i hi

/-- **bytes 0..7 exactly**: the first 8 bytes of frame `i` of a call from an idle encoder are, for every
    message `m` the frame holds, literally the header `frameHeader (version of the first packet of m's
    run) (device id) (m's packet's message type) (stream id) (seqc + i + 1 mod 2^16)` — no range
    hypothesis: `frameHeader` truncates every field to its width as the C++ stores do -/
theorem call_header_exact (e : Enc) (batch : List Packet) (c : Ctx) (hidle : e.Idle) :
    ∀ i (h : i < (e.encode batch c).2.length), ∀ m ∈ (e.encode batch c).2[i].msgs,
      ∃ q, batch[runStart batch m.idx]? = some q ∧
        (EFrame.bytes c.min (e.encode batch c).2[i]).take 8 =
          frameHeader (q.version % 256) e.dev m.pkt.mt e.stream ((e.seqc + i + 1) % 65536) := by
  intro i hi m hm
  obtain ⟨_, _, _, _, hfr, _, _⟩ := C09_encode e batch c hidle
  obtain ⟨a1, a2, a3⟩ := hfr i hi
  obtain ⟨_, b2, q, b3, _, b5⟩ := (encode_runs e batch c _ (List.getElem_mem hi)).2 m hm
  exact ⟨q, b3, by rw [C09_header_bytes, a1, a2, a3, ← b2, b5]⟩

/-- **C09 on bytes, every history** (property: "over any history …", observation point "bytes 0-7 of
    every frame returned"; hypotheses: the start state is between API calls and its ids are a
    `uint16_t` / `uint8_t`, as the setters' parameter types guarantee for every configured id) -/
theorem headers_bytes (e : Enc) (hidle : e.Idle) (hdev : e.dev < 65536) (hstream : e.stream < 256)
    (ops : List EncOp) :
    hist_ok_bytes (e.dev, e.stream, e.seqc) ops (e.runOps ops).2 :=
  hist_ok.bytes ops _ _ (headers_strong e hidle ops).1 ⟨hdev, hstream⟩

/-- from the freshly constructed encoder configured with ids in range -/
theorem fresh_headers_bytes (d s : Nat) (hd : d < 65536) (hs : s < 256) (ops : List EncOp) :
    hist_ok_bytes (d, s, 0) ops ((Enc.fresh d s).runOps ops).2 :=
  headers_bytes (Enc.fresh d s) ⟨rfl, rfl, rfl, Nat.zero_lt_succ _⟩ hd hs ops

/-! ## The same on the TRANSLATED C++ methods, over any history -/

open AsamCmp.Src AsamCmp.SrcGen AsamCmp.SrcEnc AsamCmp.SrcHist

/-- what a caller observes over a history of calls of the translated methods, against the ghost view:
    for every operation there are structured frames `fs` (the ghost: which message lies where) whose
    serialisations ARE the returned byte vectors, the bytes satisfy `call_ok_bytes`, and the translated
    `getDeviceId()`, `getStreamId()`, `getSequenceCounter()` called after the operation return the ghost
    view after it — in particular the counter of the last frame emitted since the last reset (0 if none) -/
def ObsHistOk : (Nat × Nat × Nat) → List Op → List Obs → Prop
  | _, [], [] => True
  | g, op :: ops, o :: os =>
    ∃ fs : List EFrame, o.frames = fs.map (EFrame.bytes op.min) ∧ call_ok_bytes g op.toModel fs ∧
      (o.dev, o.stream, o.seq) = ghost g op.toModel fs ∧ ObsHistOk (ghost g op.toModel fs) ops os
  | _, _, _ => False

theorem model_obs : ∀ (ops : List Op) (e : Enc), e.Idle → GR (e.dev, e.stream, e.seqc) →
    ObsHistOk (e.dev, e.stream, e.seqc) ops (modelRun e ops).2 := by
  intro ops
  induction ops with
  | nil => intro e _ _; trivial
  | cons op ops ih =>
    intro e hidle hg
    obtain ⟨h1, h2, h3⟩ := call_strong e hidle op.toModel
    have hg' := ghost_range hg op.toModel (e.apply op.toModel).2
    have h := ih (e.apply op.toModel).1 h2 (by rw [h3]; exact hg')
    rw [h3] at h
    simp only [modelRun, ObsHistOk]
    exact ⟨_, rfl, h1.bytes hg, h3, h⟩

/-- **C09 end to end, from ANY object state.**  Hypotheses, all named by the property or its anchors:
    the three members are within their C types (`uint16_t deviceId`, `uint8_t streamId`,
    `uint16_t sequenceCounter`; the scratch members — template, frames, bytesLeft, min, max — may hold
    anything); `Op.Ok` for every operation: setter arguments within their parameter types, for the encode
    calls 25 ≤ max, min ≤ max, max < 2^32 and every packet owns a payload shorter than 2^16 bytes (outside
    of which the C++ has undefined behaviour); enough fuel for the translated loop.
    Then the run of the TRANSLATED `setDeviceId` / `setStreamId` / `restart` / iterator-range `encode` /
    single-packet `encode`, the three getters called after every operation, is DEFINED and satisfies C09
    on the returned bytes (`ObsHistOk`). -/
theorem src_history_from (ops : List Op) (fuel : Nat) (hf : 65536 ≤ fuel) (s : Encoder_St)
    (hd : s.f_deviceId < 65536) (hs : s.f_streamId < 256) (hq : s.f_sequenceCounter < 65536)
    (hok : ∀ op ∈ ops, op.Ok) :
    ∃ s' obs, srcEncRun fuel s ops = some (s', obs) ∧
      ObsHistOk (s.f_deviceId, s.f_streamId, s.f_sequenceCounter) ops obs := by
  -- the model encoder the object stands for between public calls: the four members a call reads before writing them
  have hcorr : Corr s { dev := s.f_deviceId, stream := s.f_streamId, seqc := s.f_sequenceCounter, curMt := s.f_messageType } :=
    ⟨rfl, rfl, rfl, rfl, rfl, rfl, rfl, hq⟩
  obtain ⟨s', h1, _⟩ := encode_history_from fuel hf ops s _ hcorr hok
  exact ⟨s', _, h1, model_obs ops _ hcorr.2.2.2.2 ⟨hd, hs⟩⟩

/-- … in particular from the default-constructed encoder (device 0, stream 0, counter 0) -/
theorem src_history (ops : List Op) (fuel : Nat) (hf : 65536 ≤ fuel) (hok : ∀ op ∈ ops, op.Ok) :
    ∃ s' obs, srcEncRun fuel Encoder_default ops = some (s', obs) ∧ ObsHistOk (0, 0, 0) ops obs :=
  src_history_from ops fuel hf Encoder_default (by decide) (by decide) (by decide) hok

/-! ## `Packet::getRawCmpHeader` -/

/-- the TRANSLATED `Packet::getRawCmpHeader`, on a packet within its C types that owns a payload,
    returns 8 bytes whose byte 0 is the packet's version and byte 4 the payload's message type — the two
    values the encoder's template (hence every frame header) takes from the packet.
    (Deleting `header.setVersion(getVersion())` or `header.setMessageType(getMessageType())` falsifies it.) -/
theorem rawCmpHeader_version_type (p : Packet) (pl : Payload) (hfit : p.Fits) (hp : p.payload = some pl) :
    ∃ hdr, Packet_getRawCmpHeader_pv (SrcPv.repr p) = some (SrcPv.repr p, hdr) ∧
      hdr = (pktIn p).rawCmpHeader ∧ hdr.length = 8 ∧ byteAt hdr 0 = p.version ∧ byteAt hdr 4 = pl.mt := by
  obtain ⟨_, _, _, g4, _⟩ := SrcPv.pktIn_src p pl hfit hp
  refine ⟨_, g4, rfl, ?_, ?_, ?_⟩
  · simp [pktIn, frameHeader]
  · have := (C01.parse_fields (p.version % 256) p.deviceId p.mt p.streamId p.seq []).1
    rw [List.append_nil] at this
    simp only [pktIn]
    rw [this, Nat.mod_mod]
    exact Nat.mod_eq_of_lt hfit.1
  · have := (C01.parse_fields (p.version % 256) p.deviceId p.mt p.streamId p.seq []).2.2.2.1
    rw [List.append_nil] at this
    simp only [pktIn]
    rw [this, Nat.mod_eq_of_lt (Packet.mt_lt p)]
    simp [Packet.mt, hp]

/-! ## The totalised model below the valid configurations -/

theorem chunks_zero (l : Bytes) : chunks 0 l = [] := by
  rw [chunks]; simp

/-- no frame with a message anywhere -/
def NoMsg (s : Enc) : Prop := s.closed = [] ∧ ∀ f, s.cur = some f → f.msgs = []

theorem closeLast_noMsg {s : Enc} (h : NoMsg s) : NoMsg s.closeLast := by
  refine ⟨?_, fun f hf => by rw [Enc.closeLast_cur] at hf; cases hf⟩
  cases hc : s.cur with
  | none => rw [Enc.closeLast_none hc]; exact h.1
  | some f =>
    have : f.msgs.isEmpty = true := by rw [h.2 f hc]; rfl
    rw [Enc.closeLast_empty hc this]; exact h.1

theorem addNew_noMsg {s : Enc} (h : NoMsg s) (p : Packet) : NoMsg (s.addNew p) := by
  have h' := closeLast_noMsg h
  refine ⟨h'.1, ?_⟩
  intro f hf
  simp only [Enc.addNew, Option.some.injEq] at hf
  rw [← hf]

theorem putPacket_noMsg (c : Ctx) (hc : c.max ≤ 24) {s : Enc} (h : NoMsg s) (ip : Nat × Packet) :
    NoMsg (putPacket c s ip) := by
  obtain ⟨i, p⟩ := ip
  have hcap : c.cap - 16 = 0 := by unfold Ctx.cap; omega
  have h1 : NoMsg (st1 s p) := by
    unfold st1
    split
    · exact addNew_noMsg (s := s.retype p.mt) h p
    · exact h
  -- no message fits (`cap ≤ 16`), and a payload is cut into chunks of 0 bytes, that is into none
  rw [putPacket_eqS]
  split
  · unfold st2
    split
    · exact addNew_noMsg h1 p
    · exact h1
  · rw [if_neg (by omega), hcap, chunks_zero]
    exact addNew_noMsg h1 p

/-- **below the valid configurations the model is silent**: for `max ≤ 24` (no room for a frame header,
    a message header and one payload byte) `Enc.encode` returns NO frame and keeps the counter, whatever
    the batch.  So every model-level C09 statement is vacuously true there — for a reason unrelated to
    the C++, which computes `bytesLeft - sizeof(MessageHeader)` on unsigned values (undefined
    behaviour / endless loop).  The honest domain is `Ctx.ok`, which `src_history` states. -/
theorem encode_tiny_max (e : Enc) (batch : List Packet) (c : Ctx) (hc : c.max ≤ 24) (hidle : e.Idle) :
    (e.encode batch c).2 = [] ∧ (e.encode batch c).1.seqc = e.seqc := by
  have hfold : ∀ (l : List (Nat × Packet)) (s : Enc), NoMsg s → NoMsg (l.foldl (putPacket c) s) := by
    intro l
    induction l with
    | nil => intro s h; exact h
    | cons ip l ih => intro s h; exact ih _ (putPacket_noMsg c hc h ip)
  have h := closeLast_noMsg (hfold ((List.range batch.length).zip batch)
    { e with closed := [], cur := none, tmpl := none } ⟨rfl, fun f hf => by cases hf⟩)
  have hl : (e.encode batch c).2 = [] := h.1
  refine ⟨hl, ?_⟩
  have := (C09_encode e batch c hidle).2.2.2.1
  rw [this, hl, List.length_nil, Nat.add_zero]
  exact Nat.mod_eq_of_lt hidle.2.2.2

/-! ## Non-vacuity: frames ARE produced, literal histories

Every frame clause of the theorems above is `∀ i < length …`; `encode_nonempty` and the following
evaluations (by the kernel, on the model's functions themselves) show the frames exist, that a history
crosses resets, wraps at 65536 and gives back the counter of the dropped trailing empty frame. -/
namespace Ex

/-- a packet of message type 1, version 1, two payload bytes: a message of 18 bytes -/
def p2 : Packet := pv 1 1 [0xAA, 0xBB]
/-- 40 payload bytes: does not fit 32 bytes, segmented into 16 + 16 + 8 -/
def p40 : Packet := pv 1 1 ((List.range 40).map UInt8.ofNat)
/-- max 40: 32 bytes behind the frame header, room for ONE message of 18 bytes -/
def c40 : Ctx := ⟨0, 40⟩

theorem idle57 : (Enc.fresh 5 7).Idle := ⟨rfl, rfl, rfl, by decide⟩

/-- a history: one frame, two frames, `setDeviceId(9)`, one frame -/
def ops1 : List EncOp := [.encode [p2] c40, .encode [p2, p2] c40, .setDev 9, .encode [p2] c40]

/-- (device, stream, counter) of every frame of every call: continuity across calls, restart at 1 and
    the new device id after the setter -/
example : ((Enc.fresh 5 7).runOps ops1).2.map (·.map fun f => (f.dev, f.stream, f.seq)) =
    [[(5, 7, 1)], [(5, 7, 2), (5, 7, 3)], [], [(9, 7, 1)]] := by decide +kernel

/-- … the same on bytes 0..7 of the returned byte vectors -/
example : ((Enc.fresh 5 7).runOps ops1).2.map (·.map fun f => (EFrame.bytes 0 f).take 8) =
    [[[1, 0, 0, 5, 1, 7, 0, 1]], [[1, 0, 0, 5, 1, 7, 0, 2], [1, 0, 0, 5, 1, 7, 0, 3]], [],
     [[1, 0, 0, 9, 1, 7, 0, 1]]] := by decide +kernel

/-- … and what the encoder reports at the end: the counter of the last frame -/
example : (((Enc.fresh 5 7).runOps ops1).1.dev, ((Enc.fresh 5 7).runOps ops1).1.stream,
    ((Enc.fresh 5 7).runOps ops1).1.seqc) = (9, 7, 1) := by decide +kernel

/-- the hypotheses of the history theorems hold of it -/
example := headers_strong (Enc.fresh 5 7) idle57 ops1
example := headers_bytes (Enc.fresh 5 7) idle57 (by decide) (by decide) ops1
example := fresh_headers_bytes 5 7 (by decide) (by decide) ops1

/-- `restart` and `setStreamId` (argument reduced to 8 bits: 300 → 44): counter 1 again each time -/
example : ((Enc.fresh 5 7).runOps
      [.encode [p2] c40, .restart, .encode [p2] c40, .setStream 300, .encode [p2] c40]).2.map
        (·.map fun f => (f.dev, f.stream, f.seq)) =
    [[(5, 7, 1)], [], [(5, 7, 1)], [], [(5, 44, 1)]] := by decide +kernel

/-- wrap: from counter 65535 the next two frames carry 0 and 1, and 1 is reported -/
example : ((({ dev := 5, stream := 7, seqc := 65535 } : Enc).encode [p2, p2] c40).2.map (·.seq),
    (({ dev := 5, stream := 7, seqc := 65535 } : Enc).encode [p2, p2] c40).1.seqc) = ([0, 1], 1) := by
  decide +kernel
example : ({ dev := 5, stream := 7, seqc := 65535 } : Enc).Idle := ⟨rfl, rfl, rfl, by decide⟩

/-- give-back: the batch ends in a segmented packet; the frame opened behind the last segment is
    dropped and its counter given back — three frames 1, 2, 3 (segment flags 4, 8, 12), 3 is reported,
    and the frame of the NEXT call carries 4 -/
example : ((Enc.fresh 5 7).runOps [.encode [p40] c40, .encode [p2] c40]).2.map
      (·.map fun f => (f.seq, f.msgs.map fun m => (m.idx, m.seg, m.body.length))) =
    [[(1, [(0, 4, 16)]), (2, [(0, 8, 16)]), (3, [(0, 12, 8)])], [(4, [(0, 0, 2)])]] := by decide +kernel
example : ((Enc.fresh 5 7).encode [p40] c40).1.seqc = 3 := by decide +kernel

/-- `encode_runs` on the version-mixed batch: the hypotheses are none; the conclusion computes to the
    run starts `[0, 0, 2, 2]` and the versions `1` (packets 0, 1) and `3` (packets 2, 3) -/
example := encode_runs (Enc.fresh 5 7) mixed ⟨0, 100⟩
example : mixed.map Packet.mt = [1, 1, 3, 3] ∧ mixed.map Packet.version = [1, 2, 3, 4] := by decide

/-- `call_header_exact` on the mixed batch: frame 1 holds the messages of packets 2 and 3 -/
example : (EFrame.bytes 0 ((Enc.fresh 5 7).encode mixed ⟨0, 100⟩).2[1]!).take 8 = [3, 0, 0, 5, 3, 7, 0, 2] := by
  decide +kernel
example := call_header_exact (Enc.fresh 5 7) mixed ⟨0, 100⟩ idle57
example := call_bytes (Enc.fresh 5 7) mixed ⟨0, 100⟩ idle57 (by decide) (by decide)

/-- `encode_tiny_max`: max = 24 -/
example : ((Enc.fresh 5 7).encode [p2, p40] ⟨0, 24⟩).2.length = 0 := by decide +kernel
example := encode_tiny_max (Enc.fresh 5 7) [p2, p40] ⟨0, 24⟩ (by decide) idle57

/-! ### the translated methods -/

open AsamCmp.Src AsamCmp.SrcGen AsamCmp.SrcEnc AsamCmp.SrcHist

instance (p : Packet) : Decidable p.Enc := by unfold Packet.Enc; exact inferInstance

/-- single-packet `encode`, iterator-range `encode` on the version-mixed batch, `setStreamId(7)`,
    iterator-range `encode` of two packets that need a frame each -/
def sops : List Op :=
  [.encode1 p2 c40, .encodeBatch mixed ⟨0, 100⟩, .setStreamId 7, .encodeBatch [p2, p2] c40]

theorem sops_ok : ∀ op ∈ sops, op.Ok := by
  intro op hop
  simp only [sops, List.mem_cons, List.not_mem_nil, or_false] at hop
  rcases hop with rfl | rfl | rfl | rfl
  · exact ⟨by decide, by decide, by decide⟩
  · exact ⟨by decide, by decide, by decide⟩
  · show (7 : Nat) < 256
    decide
  · exact ⟨by decide, by decide, by decide⟩

/-- the TRANSLATED methods on this history, evaluated by the kernel: (bytes 0..7 of every returned
    frame, getSequenceCounter(), getDeviceId(), getStreamId()) after every call.  Versions 1 and 3 for
    the two runs of the mixed batch, counters continuing 1 | 2, 3 across the calls, 0 after the setter,
    then 1, 2 with stream id 7 -/
example : (srcEncRun 65536 Encoder_default sops).map
      (·.2.map fun o => (o.frames.map (·.take 8), o.seq, o.dev, o.stream)) =
    some [([[1, 0, 0, 0, 1, 0, 0, 1]], 1, 0, 0),
          ([[1, 0, 0, 0, 1, 0, 0, 2], [3, 0, 0, 0, 3, 0, 0, 3]], 3, 0, 0),
          ([], 0, 0, 7),
          ([[1, 0, 0, 0, 1, 7, 0, 1], [1, 0, 0, 0, 1, 7, 0, 2]], 2, 0, 7)] := by decide +kernel

/-- the hypotheses of `src_history` are satisfied by it -/
example : ∃ s' obs, srcEncRun 65536 Encoder_default sops = some (s', obs) ∧ ObsHistOk (0, 0, 0) sops obs :=
  src_history sops 65536 (by decide) sops_ok

example := src_history SrcHist.exOps 65536 (by decide) SrcHist.exOps_ok

/-- `rawCmpHeader_version_type` on a version-2 packet with a CAN payload (message type 1): the
    hypotheses hold, and the 8 bytes are literally these (version 2 at byte 0, type 1 at byte 4) -/
def p7 : Packet := { payload := some ⟨tyCan, [1, 2, 3]⟩, version := 2, deviceId := 0x0102, streamId := 7, seq := 5 }
theorem p7_fits : p7.Fits :=
  ⟨by decide, by decide, by decide, by decide, by decide, by decide, by decide, by decide, by decide,
    fun pl h => by cases h; exact ⟨by decide, by decide⟩⟩
example := rawCmpHeader_version_type p7 ⟨tyCan, [1, 2, 3]⟩ p7_fits rfl
example : (Packet_getRawCmpHeader_pv (SrcPv.repr p7)).map (·.2) = some [2, 0, 1, 2, 1, 7, 0, 5] := by
  decide +kernel

end Ex

end AsamCmp.C09S
