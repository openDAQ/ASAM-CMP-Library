/-
  Source-level C11 / C12, part D (TECMP CAN, LIN, interface and capture-module payloads): what is checked and what it means is said in SrcFieldsA.lean.
-/
import AsamCmp.GeneratedSrcFields
import AsamCmp.Lemmas.FieldCheckSound
import AsamCmp.Lemmas.BitProgFast
import AsamCmp.Props.SrcFieldsCov
namespace AsamCmp.SrcFields
open AsamCmp AsamCmp.Src.Bit AsamCmp.SrcGen

theorem tecmpcan_checks : classCheck Layout.c_tecmpcan entries_tecmpcan = true :=
  classCheck_of_fieldsCheckF (by decide +kernel)
theorem tecmpcan_src : ∀ e ∈ entries_tecmpcan, ∃ f, Layout.c_tecmpcan.find e.field = some f ∧ e.acc.Holds Layout.c_tecmpcan.size f :=
  classCheck_sound _ _ tecmpcan_checks
theorem tecmpcan_coverage : coverageOk Layout.c_tecmpcan entries_tecmpcan [] = true := C11S.coverage_at 10 rfl

theorem tecmplin_checks : classCheck Layout.c_tecmplin entries_tecmplin = true :=
  classCheck_of_fieldsCheckF (by decide +kernel)
theorem tecmplin_src : ∀ e ∈ entries_tecmplin, ∃ f, Layout.c_tecmplin.find e.field = some f ∧ e.acc.Holds Layout.c_tecmplin.size f :=
  classCheck_sound _ _ tecmplin_checks
theorem tecmplin_coverage : coverageOk Layout.c_tecmplin entries_tecmplin [] = true := C11S.coverage_at 11 rfl

theorem tecmpif_checks : classCheck Layout.c_tecmpif entries_tecmpif = true :=
  classCheck_of_fieldsCheckF (by decide +kernel)
theorem tecmpif_src : ∀ e ∈ entries_tecmpif, ∃ f, Layout.c_tecmpif.find e.field = some f ∧ e.acc.Holds Layout.c_tecmpif.size f :=
  classCheck_sound _ _ tecmpif_checks
theorem tecmpif_coverage : coverageOk Layout.c_tecmpif entries_tecmpif [] = true := C11S.coverage_at 12 rfl

theorem tecmpcm_checks : classCheck Layout.c_tecmpcm entries_tecmpcm = true :=
  classCheck_of_fieldsCheckF (by decide +kernel)
theorem tecmpcm_src : ∀ e ∈ entries_tecmpcm, ∃ f, Layout.c_tecmpcm.find e.field = some f ∧ e.acc.Holds Layout.c_tecmpcm.size f :=
  classCheck_sound _ _ tecmpcm_checks
theorem tecmpcm_coverage : coverageOk Layout.c_tecmpcm entries_tecmpcm [] = true := C11S.coverage_at 13 rfl

end AsamCmp.SrcFields
