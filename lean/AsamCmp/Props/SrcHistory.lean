/-
  HISTORIES of calls at source level.  The theorems of Props/SrcDecoder*.lean and Props/SrcEncoder*.lean are about ONE call of the
  translated `Decoder::decode` / `Encoder::encode`; the properties C02, C05, C06, C17, C18 (decoder) and C09, C10 (encoder)
  quantify over any history of earlier calls.  This file chains the single-call theorems:

  * decoder: an invariant of the pending table (`TableInv B t` = `C17b.TableOk t` ∧ every stored counter < 2^16 ∧ every stored
    payload ≤ `B` bytes) that holds of the fresh decoder, implies the hypotheses `TableOk` / `TableReg` of `decode_total_src` and is
    RE-ESTABLISHED by every call (`tableInv_preserved`, with `B` growing by the size of the buffer), and the run of the translated
    `Decoder::decode` (translated TECMP decoder plugged in) over a LIST of calls from the fresh decoder (`decode_history_src`);
  * encoder: a correspondence `Corr s e` between the record of data members `Encoder_St` and the structured model `Enc` that
    mentions only the members a call READS before writing them (device id, stream id, counter, message type) — the other five
    (min, max, bytesLeft, template, frames) are scratch — and the run of the translated public methods over a LIST of operations
    from the default-constructed object (`encode_history_src`); `encode1_src_struct` is the companion of
    `encodeBatch_src_struct` for the single-packet overload.
-/
import AsamCmp.Props.SrcDecoderTotal
import AsamCmp.Props.SrcEncoderE2E
import AsamCmp.Props.C09
import AsamCmp.Lemmas.SrcHistoryDec
namespace AsamCmp.SrcHist
open AsamCmp AsamCmp.Src AsamCmp.SrcGen AsamCmp.SrcDec

/-! ## 1. decoder: the invariant of a history -/

/-- the invariant of the pending table over a history: the structural invariant of C17b, and every entry within its C types
    and at most `B` payload bytes (`B` = the number of bytes the decoder has been handed so far) -/
def TableInv (B : Nat) (t : Table) : Prop := C17b.TableOk t ∧ Bd B t

/-- it implies the two hypotheses of `decode_total_src` as long as `B` is 64 KiB away from the end of the address space -/
theorem tableInv_ok {B : Nat} {t : Table} (h : TableInv B t) : C17b.TableOk t := h.1

theorem tableInv_reg {B : Nat} {t : Table} (h : TableInv B t) (hB : B + 65536 < 2 ^ 64) : TableReg t :=
  bd_tableReg h.2 hB

/-- the empty table of a freshly constructed decoder (`Decoder_default`: the default member initialiser) satisfies it -/
theorem tableInv_fresh : TableInv 0 [] ∧ tblSt [] = Decoder_default ∧ Table.abs [] = DecState.empty :=
  ⟨⟨C17b.tableOk_empty, fun _ h => by cases h⟩, rfl, rfl⟩

theorem tableInv_mono {B B' : Nat} {t : Table} (h : TableInv B t) (hb : B ≤ B') : TableInv B' t :=
  ⟨h.1, fun x hx => ⟨(h.2 x hx).1, Nat.le_trans (h.2 x hx).2 hb⟩⟩

/-- the low-level model keeps it: a call on `n` bytes takes `TableInv B` to `TableInv (B + n)` -/
theorem tableInv_decodeLL {B : Nat} {t : Table} (buf : Option Bytes) (h : TableInv B t) :
    TableInv (B + (buf.map List.length).getD 0) (decodeLL t buf).1 :=
  ⟨(C17b.decodeLL_refines t buf h.1).1, decodeLL_bd t buf B h.1 h.2⟩

/-- **the invariant is re-established** by the translated `Decoder::decode` on EVERY buffer at a non-null address (same
    hypotheses on the buffer as `decode_total_src`, without `8 ≤ b.length`): the call is defined, the table it leaves satisfies
    the invariant again (for `B + b.length`) and is the model's, and so are the packets -/
theorem tableInv_preserved (B : Nat) (t : Table) (pre b post : Bytes) (fuel : Nat)
    (hI : TableInv B t) (hB : B + 65536 < 2 ^ 64) (hpre : 0 < pre.length)
    (hmem : (pre ++ b ++ post).length < 2 ^ 63) (hf : b.length ≤ fuel) :
    ∃ t' outs, Decoder_decode_obj fuel (tblSt t) (pre ++ b ++ post) pre.length b.length (SrcTec.tecmpExt fuel) =
        some (tblSt t', outs) ∧
      TableInv (B + b.length) t' ∧ t'.abs = (decode t.abs (some b)).1 ∧
      outs.map (Sum.elim toPacket SrcTec.tAbs) = (decode t.abs (some b)).2 := by
  obtain ⟨outs, h1, h2⟩ := decode_step_src t pre b post fuel hI.1 (tableInv_reg hI hB) hpre hmem hf
  obtain ⟨_, k2, k3⟩ := C17b.decodeLL_refines t (some b) hI.1
  exact ⟨_, outs, h1, tableInv_decodeLL (some b) hI, k2, by rw [h2, k3]⟩

/-- … and by a call with the null pointer (any size, any memory): nothing happens -/
theorem tableInv_preserved_null (B : Nat) (t : Table) (m : Bytes) (size fuel : Nat) (hI : TableInv B t) :
    Decoder_decode_obj fuel (tblSt t) m 0 size (SrcTec.tecmpExt fuel) = some (tblSt t, []) ∧
      TableInv B t ∧ t.abs = (decode t.abs none).1 ∧ ([] : List Packet) = (decode t.abs none).2 :=
  ⟨(decode_total_null_src t m size fuel).1, hI, rfl, rfl⟩

/-- `TableReg` itself, the hypothesis of `decode_total_src`: re-established PROVIDED the payload bound `B` of the invariant is
    known — `TableReg` alone is not inductive (an entry holding 2^64 − 65537 bytes satisfies it, and after one more intermediary
    segment of one byte no longer does), which is why the history theorem carries `TableInv`.  The unconditional
    statement `TableReg t → TableReg t'` is false (argued here, not proved in Lean), not merely unproved. -/
theorem tableReg_preserved_partial (B : Nat) (t : Table) (pre b post : Bytes) (fuel : Nat)
    (hI : TableInv B t) (hB : B + b.length + 65536 < 2 ^ 64) (hpre : 0 < pre.length)
    (hmem : (pre ++ b ++ post).length < 2 ^ 63) (hf : b.length ≤ fuel) :
    ∃ t' outs, Decoder_decode_obj fuel (tblSt t) (pre ++ b ++ post) pre.length b.length (SrcTec.tecmpExt fuel) =
        some (tblSt t', outs) ∧ C17b.TableOk t' ∧ TableReg t' := by
  obtain ⟨t', outs, h1, h2, _, _⟩ := tableInv_preserved B t pre b post fuel hI (by omega) hpre hmem hf
  exact ⟨t', outs, h1, h2.1, tableInv_reg h2 hB⟩

/-! ## 2. decoder: a history of calls -/

/-- one call `decode(data, size)` together with the memory it runs in: the null pointer (any memory, any size), or a buffer `b`
    placed at the non-null address `pre.length` of the memory `pre ++ b ++ post` (each call has its own memory) -/
inductive Call
  | null (mem : Bytes) (size : Nat)
  | buf (pre b post : Bytes)

/-- the buffer the call designates, as the model sees it -/
def Call.arg : Call → Option Bytes
  | .null _ _ => none
  | .buf _ b _ => some b

/-- number of bytes handed over -/
def Call.bytes (c : Call) : Nat := (c.arg.map List.length).getD 0

/-- the hypotheses of `decode_total_src` on the buffer (non-null address, the memory below 2^63 bytes, fuel), minus
    `8 ≤ b.length`.  No bound on the buffer's own length: `curSize` is a `std::size_t` -/
def Call.Ok (fuel : Nat) : Call → Prop
  | .null _ _ => True
  | .buf pre b post => 0 < pre.length ∧ (pre ++ b ++ post).length < 2 ^ 63 ∧ b.length ≤ fuel

/-- the translated `Decoder::decode`, translated `TECMP::Decoder::Decode` plugged in, on one call -/
def srcDecodeCall (fuel : Nat) (s : Decoder_St) : Call → Option (Decoder_St × List (PktOut ⊕ TPacket_St))
  | .null m size => Decoder_decode_obj fuel s m 0 size (SrcTec.tecmpExt fuel)
  | .buf pre b post => Decoder_decode_obj fuel s (pre ++ b ++ post) pre.length b.length (SrcTec.tecmpExt fuel)

/-- the run of the translated `Decoder::decode` over a list of calls on ONE decoder object: `none` as soon as one call is
    undefined; otherwise the final member state and, call by call, the returned packets (read as packets of the model by
    `toPacket` / `SrcTec.tAbs`, exactly as in `decode_total_src`) -/
def srcDecodeRun (fuel : Nat) (s : Decoder_St) : List Call → Option (Decoder_St × List (List Packet))
  | [] => some (s, [])
  | c :: cs =>
    match srcDecodeCall fuel s c with
    | none => none
    | some (s1, outs) =>
      match srcDecodeRun fuel s1 cs with
      | none => none
      | some (s2, rest) => some (s2, outs.map (Sum.elim toPacket SrcTec.tAbs) :: rest)

/-- the model's run, keeping the packets of every call apart -/
def decodeEach (s : DecState) : List (Option Bytes) → DecState × List (List Packet)
  | [] => (s, [])
  | b :: bs =>
    let r := decode s b
    let r' := decodeEach r.1 bs
    (r'.1, r.2 :: r'.2)

theorem decodeEach_eq (s : DecState) (bufs : List (Option Bytes)) :
    decodeEach s bufs = (Run.final decode s bufs, Run.outs decode s bufs) := by
  induction bufs generalizing s with
  | nil => rfl
  | cons b bs ih => rw [decodeEach, ih]; rfl

/-- … which is `decodeAll` (Decoder.lean, the run C02, C05, C06, C17, C18 are stated on) with the packets not yet concatenated -/
theorem decodeEach_all (bufs : List (Option Bytes)) (s : DecState) :
    (decodeEach s bufs).1 = (decodeAll tecmpDecode s bufs).1 ∧
    (decodeEach s bufs).2.flatten = (decodeAll tecmpDecode s bufs).2 := by
  rw [decodeEach_eq, decodeAll_eq]
  exact ⟨rfl, rfl⟩

theorem decodeEach_length (bufs : List (Option Bytes)) (s : DecState) : (decodeEach s bufs).2.length = bufs.length := by
  rw [decodeEach_eq, Run.outs_length]

/-- one call of the run, all three kinds -/
theorem decode_call_src (B : Nat) (t : Table) (c : Call) (fuel : Nat)
    (hI : TableInv B t) (hB : B + 65536 < 2 ^ 64) (hc : c.Ok fuel) :
    ∃ t' outs, srcDecodeCall fuel (tblSt t) c = some (tblSt t', outs) ∧
      TableInv (B + c.bytes) t' ∧ t'.abs = (decode t.abs c.arg).1 ∧
      outs.map (Sum.elim toPacket SrcTec.tAbs) = (decode t.abs c.arg).2 := by
  cases c with
  | null m size =>
    obtain ⟨h1, h2, h3, h4⟩ := tableInv_preserved_null B t m size fuel hI
    exact ⟨t, [], h1, h2, h3, h4⟩
  | buf pre b post =>
    obtain ⟨hpre, hmem, hf⟩ := hc
    exact tableInv_preserved B t pre b post fuel hI hB hpre hmem hf

/-- a history from ANY table satisfying the invariant -/
theorem decode_history_from (fuel : Nat) : ∀ (calls : List Call) (B : Nat) (t : Table),
    TableInv B t → (∀ c ∈ calls, c.Ok fuel) → B + (calls.map Call.bytes).sum + 65536 < 2 ^ 64 →
    ∃ t', srcDecodeRun fuel (tblSt t) calls = some (tblSt t', (decodeEach t.abs (calls.map Call.arg)).2) ∧
      TableInv (B + (calls.map Call.bytes).sum) t' ∧ t'.abs = (decodeEach t.abs (calls.map Call.arg)).1 := by
  intro calls
  induction calls with
  | nil => intro B t hI _ _; exact ⟨t, rfl, hI, rfl⟩
  | cons c cs ih =>
    intro B t hI hok htot
    simp only [List.map_cons, List.sum_cons] at htot
    obtain ⟨t1, outs, h1, h2, h3, h4⟩ := decode_call_src B t c fuel hI (by omega) (hok c List.mem_cons_self)
    obtain ⟨t2, k1, k2, k3⟩ := ih (B + c.bytes) t1 h2 (fun c' hc' => hok c' (List.mem_cons_of_mem _ hc')) (by omega)
    refine ⟨t2, ?_, ?_, ?_⟩
    · simp only [srcDecodeRun, h1, k1, List.map_cons, decodeEach, h3, h4]
    · simp only [List.map_cons, List.sum_cons]
      rw [← Nat.add_assoc]; exact k2
    · simp only [List.map_cons, decodeEach]
      rw [k3, h3]

/-- **histories of decode calls, source level.**  For EVERY list of calls — null pointers, short buffers, TECMP messages, CMP
    frames, in any order —, each buffer of ANY length in its own memory `pre ++ b ++ post` (shorter than 2^63 bytes, `Call.Ok`)
    at a non-null address, the run of the translated `Decoder::decode` (with the translated
    `TECMP::Decoder::Decode`) from the freshly constructed decoder is DEFINED (never `none`: no read outside a buffer, no
    undefined behaviour in any call), returns call by call exactly the packets of the model's run from the model's initial state,
    and leaves the model's pending table (through `Table.abs`), which satisfies the invariant again.
    `htot`: fewer than 2^64 − 2^16 bytes handed to the decoder over the whole history (the decoder stores reassembly buffers in
    vectors whose `size()` is a 64-bit quantity; see `decode_history_src_count` for a bound on the number of calls instead). -/
theorem decode_history_src (calls : List Call) (fuel : Nat) (hok : ∀ c ∈ calls, c.Ok fuel)
    (htot : (calls.map Call.bytes).sum + 65536 < 2 ^ 64) :
    ∃ t', srcDecodeRun fuel Decoder_default calls = some (tblSt t', (decodeEach DecState.empty (calls.map Call.arg)).2) ∧
      C17b.TableOk t' ∧ TableReg t' ∧
      t'.abs = (decodeAll tecmpDecode DecState.empty (calls.map Call.arg)).1 ∧
      (decodeEach DecState.empty (calls.map Call.arg)).2.flatten = (decodeAll tecmpDecode DecState.empty (calls.map Call.arg)).2 ∧
      (decodeEach DecState.empty (calls.map Call.arg)).2.length = calls.length := by
  obtain ⟨t', h1, h2, h3⟩ := decode_history_from fuel calls 0 [] tableInv_fresh.1 hok (by omega)
  obtain ⟨e1, e2⟩ := decodeEach_all (calls.map Call.arg) DecState.empty
  refine ⟨t', h1, h2.1, tableInv_reg h2 (by omega), ?_, e2, ?_⟩
  · rw [h3, ← e1]; rfl
  · rw [decodeEach_length, List.length_map]

theorem bytes_sum_le (M : Nat) (calls : List Call) (hsz : ∀ c ∈ calls, c.bytes ≤ M) :
    (calls.map Call.bytes).sum ≤ calls.length * M := by
  induction calls with
  | nil => exact Nat.zero_le _
  | cons c cs ih =>
    have h1 := ih (fun c' hc' => hsz c' (List.mem_cons_of_mem _ hc'))
    have h2 : c.bytes ≤ M := hsz c List.mem_cons_self
    simp only [List.map_cons, List.sum_cons, List.length_cons]
    rw [Nat.add_mul]
    omega

/-- the same with the bound on the whole history stated on the NUMBER of calls and the size `M` of the largest buffer:
    `calls.length * M + 2^16 < 2^64`.  With `M = 2^31` this is "any history of fewer than 2^32 calls, each buffer at most 2 GiB"
    (`decode_history_src_count_2GiB`) -/
theorem decode_history_src_count (calls : List Call) (fuel : Nat) (hok : ∀ c ∈ calls, c.Ok fuel)
    (M : Nat) (hsz : ∀ c ∈ calls, c.bytes ≤ M) (hn : calls.length * M + 65536 < 2 ^ 64) :
    ∃ t', srcDecodeRun fuel Decoder_default calls = some (tblSt t', (decodeEach DecState.empty (calls.map Call.arg)).2) ∧
      C17b.TableOk t' ∧ TableReg t' ∧
      t'.abs = (decodeAll tecmpDecode DecState.empty (calls.map Call.arg)).1 ∧
      (decodeEach DecState.empty (calls.map Call.arg)).2.flatten = (decodeAll tecmpDecode DecState.empty (calls.map Call.arg)).2 ∧
      (decodeEach DecState.empty (calls.map Call.arg)).2.length = calls.length := by
  apply decode_history_src calls fuel hok
  have h := bytes_sum_le M calls hsz
  omega

theorem decode_history_src_count_2GiB (calls : List Call) (fuel : Nat) (hok : ∀ c ∈ calls, c.Ok fuel)
    (hsz : ∀ c ∈ calls, c.bytes ≤ 2 ^ 31) (hn : calls.length < 2 ^ 32) :
    ∃ t', srcDecodeRun fuel Decoder_default calls = some (tblSt t', (decodeEach DecState.empty (calls.map Call.arg)).2) ∧
      C17b.TableOk t' ∧ TableReg t' ∧
      t'.abs = (decodeAll tecmpDecode DecState.empty (calls.map Call.arg)).1 ∧
      (decodeEach DecState.empty (calls.map Call.arg)).2.flatten = (decodeAll tecmpDecode DecState.empty (calls.map Call.arg)).2 ∧
      (decodeEach DecState.empty (calls.map Call.arg)).2.length = calls.length := by
  apply decode_history_src_count calls fuel hok (2 ^ 31) hsz
  have : calls.length * 2 ^ 31 ≤ (2 ^ 32 - 1) * 2 ^ 31 := Nat.mul_le_mul_right _ (by omega)
  omega

/-! ## 3. encoder: the single-packet overload against the structured model -/

open AsamCmp.SrcEnc

/-- companion of `encodeBatch_src_struct` for `encode(const Packet&, const DataContext&)`, translated as a whole
    (`Encoder_encode_obj`): for EVERY encoder object of the model, every packet with a payload shorter than 2^16 and every valid
    configuration below 4 GiB it is defined and returns exactly the serialised frames of the structured model's `Enc.encode [p]`,
    and leaves the counter, message type and ids the model leaves -/
theorem encode1_src_struct (e : Enc) (p : Packet) (c : Ctx) (fuel : Nat)
    (hc : c.ok = true) (hmax : c.max < 2 ^ 32) (hp : p.Enc) (hq : e.seqc < 65536) (hf : 65536 ≤ fuel) :
    ∃ s', Encoder_encode_obj fuel (ofLL e.toLL) (pktIn p) c.min c.max = some (s', (e.encode [p] c).2.map (EFrame.bytes c.min)) ∧
      s'.f_sequenceCounter = (e.encode [p] c).1.seqc ∧ s'.f_messageType = (e.encode [p] c).1.curMt ∧
      s'.f_deviceId = e.dev ∧ s'.f_streamId = e.stream ∧ s'.f_cmpFrames = [] ∧ s'.f_cmpFrameTemplate = [] := by
  have h := encode1_src_gen (ofLL e.toLL) p c fuel hc hmax hf
  rw [toLL_ofLL] at h
  obtain ⟨r1, r2, r3, r4, r5, r6, r7⟩ := C07b.encodeLL_refines e [p] c hc (fun q hq' => by
    rw [List.mem_singleton] at hq'; rw [hq']; exact hp) hq
  refine ⟨ofLL (e.toLL.encode [p] c).1, ?_, r2, r3, r4, r5, r6, r7⟩
  rw [h, r1]

/-! ## 4. encoder: the state correspondence and a history of operations -/

/-- the correspondence between the translated object and the structured model BETWEEN public calls.  Only the four members a
    public call reads before it writes them are related; `f_minBytesPerMessage`, `f_maxBytesPerMessage`, `f_bytesLeft`,
    `f_cmpFrameTemplate`, `f_cmpFrames` are SCRATCH: every encode call overwrites them in `init` before reading them
    (`encodeBatch_src_gen` holds from any values of them), so they may be anything.  `e.Idle`: the model has no frame under
    construction and its counter is a `uint16_t`. -/
def Corr (s : Encoder_St) (e : Enc) : Prop :=
  s.f_deviceId = e.dev ∧ s.f_streamId = e.stream ∧ s.f_sequenceCounter = e.seqc ∧ s.f_messageType = e.curMt ∧ e.Idle

/-- the default-constructed object (`Encoder_default`: the C++ default member initialisers) corresponds to the fresh model -/
theorem corr_fresh : Corr Encoder_default (Enc.fresh 0 0) :=
  ⟨rfl, rfl, rfl, rfl, rfl, rfl, rfl, by decide⟩

/-- the low-level model's `encode` reads only the four related members -/
theorem encodeLL_scratch {s : Encoder_St} {e : Enc} (h : Corr s e) (batch : List Packet) (c : Ctx) :
    (toLL s).encode batch c = e.toLL.encode batch c := by
  obtain ⟨h1, h2, h3, h4, _⟩ := h
  have hi : (toLL s).init c = e.toLL.init c := by
    simp only [EncLL.init, toLL, Enc.toLL, h1, h2, h3, h4]
  unfold EncLL.encode
  rw [hi]

/-- the structured and low-level post-states of one encode call, from corresponding states -/
theorem corr_encodeLL {s : Encoder_St} {e : Enc} (h : Corr s e) (batch : List Packet) (c : Ctx)
    (hc : c.ok = true) (hb : ∀ p ∈ batch, p.Enc) :
    ((toLL s).encode batch c).2 = (e.encode batch c).2.map (EFrame.bytes c.min) ∧
    Corr (ofLL ((toLL s).encode batch c).1) (e.encode batch c).1 := by
  have hidle := h.2.2.2.2
  rw [encodeLL_scratch h]
  obtain ⟨r1, r2, r3, r4, r5, _, _⟩ := C07b.encodeLL_refines e batch c hc hb hidle.2.2.2
  obtain ⟨k1, k2, k3, _⟩ := C09_encode e batch c hidle
  exact ⟨r1, r4.trans k2.symm, r5.trans k3.symm, r2, r3, k1⟩

/-- the operations of a history: the three configuration calls, the iterator-range `encode` on a batch, the single-packet
    `encode` -/
inductive Op
  | setDeviceId (d : Nat)
  | setStreamId (x : Nat)
  | restart
  | encodeBatch (batch : List Packet) (c : Ctx)
  | encode1 (p : Packet) (c : Ctx)

/-- the operation of the model's histories (EncHist.lean, C09, C10) it stands for -/
def Op.toModel : Op → EncOp
  | .setDeviceId d => .setDev d
  | .setStreamId x => .setStream x
  | .restart => .restart
  | .encodeBatch b c => .encode b c
  | .encode1 p c => .encode [p] c

/-- `minBytesPerMessage` of the call (frames are zero-padded to it when serialised); irrelevant for the calls returning nothing -/
def Op.min : Op → Nat
  | .encodeBatch _ c => c.min
  | .encode1 _ c => c.min
  | _ => 0

/-- the hypotheses on one call: the arguments of the setters within their C parameter types (`uint16_t`, `uint8_t`: the model
    reduces them, the translated body stores its parameter as it is); for the encode calls EXACTLY the hypotheses of
    `encodeBatch_src_gen` / `encodeBatch_src_struct`: `c.ok` (25 ≤ max ∧ min ≤ max), max < 2^32, every packet `Packet.Enc`
    (has a payload, shorter than 2^16 bytes) -/
def Op.Ok : Op → Prop
  | .setDeviceId d => d < 65536
  | .setStreamId x => x < 256
  | .restart => True
  | .encodeBatch b c => c.ok = true ∧ c.max < 2 ^ 32 ∧ ∀ p ∈ b, p.Enc
  | .encode1 p c => c.ok = true ∧ c.max < 2 ^ 32 ∧ p.Enc

/-- the TRANSLATED public method for one operation: new member state and the frames returned (none for the setters).  The batch
    goes through the translated iterator-range member template (`Encoder_encode_range_obj`; the `shared_ptr` range overload
    `Encoder_encode_ptrRange_obj` is the same function, `SrcEnc.encode_range_eq`) -/
def srcCall (fuel : Nat) (s : Encoder_St) : Op → Option (Encoder_St × List Bytes)
  | .setDeviceId d => (Encoder_setDeviceId_obj s d).map fun r => (r.1, [])
  | .setStreamId x => (Encoder_setStreamId_obj s x).map fun r => (r.1, [])
  | .restart => (Encoder_restart_obj s).map fun r => (r.1, [])
  | .encodeBatch b c => Encoder_encode_range_obj fuel s (b.map pktIn) c.min c.max
  | .encode1 p c => Encoder_encode_obj fuel s (pktIn p) c.min c.max

/-- what a caller can observe after one call: the frames it returned and the three getters -/
structure Obs where
  frames : List Bytes
  seq : Nat
  dev : Nat
  stream : Nat
deriving DecidableEq, Repr

/-- the translated `getSequenceCounter()`, `getDeviceId()`, `getStreamId()`, called one after the other -/
def srcGetters (s : Encoder_St) : Option (Encoder_St × Nat × Nat × Nat) :=
  match Encoder_getSequenceCounter_obj s with
  | none => none
  | some (s1, q) =>
    match Encoder_getDeviceId_obj s1 with
    | none => none
    | some (s2, d) =>
      match Encoder_getStreamId_obj s2 with
      | none => none
      | some (s3, x) => some (s3, q, d, x)

/-- the run of the translated methods over a list of operations on ONE encoder object, the three getters called after every
    operation: `none` as soon as one call is undefined -/
def srcEncRun (fuel : Nat) (s : Encoder_St) : List Op → Option (Encoder_St × List Obs)
  | [] => some (s, [])
  | op :: ops =>
    match srcCall fuel s op with
    | none => none
    | some (s1, frames) =>
      match srcGetters s1 with
      | none => none
      | some (s2, q, d, x) =>
        match srcEncRun fuel s2 ops with
        | none => none
        | some (s3, rest) => some (s3, ⟨frames, q, d, x⟩ :: rest)

/-- the same observations on the structured model: `Enc.apply` (EncHist.lean), frames serialised by `EFrame.bytes` -/
def modelRun (e : Enc) : List Op → Enc × List Obs
  | [] => (e, [])
  | op :: ops =>
    let r := e.apply op.toModel
    let r' := modelRun r.1 ops
    (r'.1, ⟨r.2.map (EFrame.bytes op.min), r.1.seqc, r.1.dev, r.1.stream⟩ :: r'.2)

/-- … which is the history `Enc.runOps` of C09 / C10: same final encoder, and the frames of the i-th call are the serialisation
    of the i-th frame list of `runOps` -/
theorem modelRun_runOps (ops : List Op) (e : Enc) :
    (modelRun e ops).1 = (e.runOps (ops.map Op.toModel)).1 ∧
    (modelRun e ops).2.map (·.frames) =
      List.zipWith (fun op fs => fs.map (EFrame.bytes op.min)) ops (e.runOps (ops.map Op.toModel)).2 := by
  induction ops generalizing e with
  | nil => exact ⟨rfl, rfl⟩
  | cons op ops ih =>
    obtain ⟨i1, i2⟩ := ih (e.apply op.toModel).1
    simp only [modelRun, List.map_cons, Enc.runOps, List.zipWith_cons_cons]
    exact ⟨i1, by rw [i2]⟩

theorem srcGetters_eq (s : Encoder_St) :
    srcGetters s = some (s, s.f_sequenceCounter, s.f_deviceId, s.f_streamId) := rfl

/-- ONE operation from corresponding states: the translated method is defined, returns the model's frames serialised, and
    leaves a corresponding state -/
theorem corr_step {s : Encoder_St} {e : Enc} (h : Corr s e) (op : Op) (fuel : Nat) (hf : 65536 ≤ fuel) (hop : op.Ok) :
    ∃ s', srcCall fuel s op = some (s', (e.apply op.toModel).2.map (EFrame.bytes op.min)) ∧
      Corr s' (e.apply op.toModel).1 := by
  have hidle := h.2.2.2.2
  cases op with
  | setDeviceId d =>
    obtain ⟨k1, k2, k3, k4, -⟩ := C09_config e hidle d
    refine ⟨_, by simp only [srcCall, (config_src s d 0).1, Option.map_some]; rfl, ?_⟩
    refine ⟨?_, ?_, k2.symm, h.2.2.2.1, k1⟩
    · show d = (e.setDevice d).dev
      rw [k3]; exact (Nat.mod_eq_of_lt hop).symm
    · show s.f_streamId = (e.setDevice d).stream
      rw [k4]; exact h.2.1
  | setStreamId x =>
    obtain ⟨-, -, -, -, k1, k2, k3, k4, -⟩ := C09_config e hidle x
    refine ⟨_, by simp only [srcCall, (config_src s 0 x).2.1, Option.map_some]; rfl, ?_⟩
    refine ⟨?_, ?_, k2.symm, h.2.2.2.1, k1⟩
    · show s.f_deviceId = (e.setStream x).dev
      rw [k4]; exact h.1
    · show x = (e.setStream x).stream
      rw [k3]; exact (Nat.mod_eq_of_lt hop).symm
  | restart =>
    obtain ⟨-, -, -, -, -, -, -, -, k1, k2, k3, k4⟩ := C09_config e hidle 0
    refine ⟨_, by simp only [srcCall, (config_src s 0 0).2.2.1, Option.map_some]; rfl, ?_⟩
    exact ⟨h.1.trans k3.symm, h.2.1.trans k4.symm, k2.symm, h.2.2.2.1, k1⟩
  | encodeBatch b c =>
    obtain ⟨hc, hmax, hb⟩ := hop
    obtain ⟨r1, r2⟩ := corr_encodeLL h b c hc hb
    refine ⟨_, ?_, r2⟩
    show Encoder_encode_range_obj fuel s (b.map pktIn) c.min c.max = _
    rw [(encodeRange_src s b c fuel hc hmax hf).1, r1]
    rfl
  | encode1 p c =>
    obtain ⟨hc, hmax, hp⟩ := hop
    obtain ⟨r1, r2⟩ := corr_encodeLL h [p] c hc (fun q hq => by rw [List.mem_singleton] at hq; rw [hq]; exact hp)
    refine ⟨_, ?_, r2⟩
    show Encoder_encode_obj fuel s (pktIn p) c.min c.max = _
    rw [encode1_src_gen s p c fuel hc hmax hf, r1]
    rfl

/-- a history from ANY pair of corresponding states -/
theorem encode_history_from (fuel : Nat) (hf : 65536 ≤ fuel) : ∀ (ops : List Op) (s : Encoder_St) (e : Enc),
    Corr s e → (∀ op ∈ ops, op.Ok) →
    ∃ s', srcEncRun fuel s ops = some (s', (modelRun e ops).2) ∧ Corr s' (modelRun e ops).1 := by
  intro ops
  induction ops with
  | nil => intro s e h _; exact ⟨s, rfl, h⟩
  | cons op ops ih =>
    intro s e h hok
    obtain ⟨s1, h1, h2⟩ := corr_step h op fuel hf (hok op List.mem_cons_self)
    obtain ⟨s2, k1, k2⟩ := ih s1 _ h2 (fun op' hop' => hok op' (List.mem_cons_of_mem _ hop'))
    refine ⟨s2, ?_, k2⟩
    simp only [srcEncRun, h1, srcGetters_eq, k1, modelRun, h2.1, h2.2.1, h2.2.2.1]

/-- **histories of encoder calls, source level.**  For EVERY list of operations setDeviceId / setStreamId / restart /
    encode(batch) / encode(packet) whose encode calls satisfy the hypotheses of `encodeBatch_src_gen` /
    `encodeBatch_src_struct` (`Op.Ok`), the run of the TRANSLATED methods from the default-constructed encoder is DEFINED
    (no undefined behaviour in any call) and every call returns exactly the serialised frames of the structured model's history
    from `Enc.fresh 0 0` (`Enc.apply` / `Enc.runOps`, the histories of C09 and C10), and the translated `getSequenceCounter()`,
    `getDeviceId()`, `getStreamId()` after every operation return the model's counter and ids; the final states correspond -/
theorem encode_history_src (ops : List Op) (fuel : Nat) (hf : 65536 ≤ fuel) (hok : ∀ op ∈ ops, op.Ok) :
    ∃ s', srcEncRun fuel Encoder_default ops = some (s', (modelRun (Enc.fresh 0 0) ops).2) ∧
      Corr s' (modelRun (Enc.fresh 0 0) ops).1 ∧
      (modelRun (Enc.fresh 0 0) ops).1 = ((Enc.fresh 0 0).runOps (ops.map Op.toModel)).1 ∧
      (modelRun (Enc.fresh 0 0) ops).2.map (·.frames) =
        List.zipWith (fun op fs => fs.map (EFrame.bytes op.min)) ops ((Enc.fresh 0 0).runOps (ops.map Op.toModel)).2 := by
  obtain ⟨s', h1, h2⟩ := encode_history_from fuel hf ops Encoder_default (Enc.fresh 0 0) corr_fresh hok
  obtain ⟨m1, m2⟩ := modelRun_runOps ops (Enc.fresh 0 0)
  exact ⟨s', h1, h2, m1, m2⟩

/-! ## 5. non-vacuity: concrete histories, evaluated in the kernel on the TRANSLATED functions themselves -/

/-- a CMP data frame (version 1, device 0x0102, message type 1, stream 7, counter 5) holding the FIRST segment (flags 0x04) of
    an Ethernet message (payload type 8): timestamp 9, interface 3, 4 payload bytes -/
def exSeg1 : Bytes :=
  [1, 0, 1, 2, 1, 7, 0, 5,
   0, 0, 0, 0, 0, 0, 0, 9, 0, 0, 0, 3, 0x04, 8, 0, 4, 0, 0, 0, 0]

/-- the next frame of the same endpoint (counter 6) holding the LAST segment (flags 0x0C): 4 more payload bytes -/
def exSeg2 : Bytes :=
  [1, 0, 1, 2, 1, 7, 0, 6,
   0, 0, 0, 0, 0, 0, 0, 9, 0, 0, 0, 3, 0x0C, 8, 0, 4, 0, 2, 0xAA, 0xBB]

/-- the two calls, each buffer in a memory of its own at address 1 -/
def exCalls : List Call := [.buf [9] exSeg1 [], .buf [9] exSeg2 [5, 5]]

/-- the reassembled packet: a valid Ethernet payload of the 8 bytes, the header fields of the first segment -/
def exPkt : Packet :=
  { payload := some ⟨tyEth, [0, 0, 0, 0, 0, 2, 0xAA, 0xBB]⟩, version := 1, deviceId := 0x0102, streamId := 7, ts := 9, ifId := 3,
    flags := 4 }

/-- the TRANSLATED decoder run on the two-call history, evaluated by the kernel: defined, nothing after the first call, the one
    reassembled packet after the second, and the pending table empty again -/
example : (srcDecodeRun 64 Decoder_default exCalls).map (fun r => (r.1.f_segmentedPackets.length, r.2)) =
    some (0, [[], [exPkt]]) := by decide +kernel

/-- after the first call alone the table holds the one reassembly in progress -/
example : (srcDecodeRun 64 Decoder_default (exCalls.take 1)).map (fun r => (r.1.f_segmentedPackets.map (·.1), r.2)) =
    some ([(0x0102, 7)], [[]]) := by decide +kernel

theorem exCalls_ok : ∀ c ∈ exCalls, c.Ok 64 := by
  intro c hc
  simp only [exCalls, List.mem_cons, List.not_mem_nil, or_false] at hc
  rcases hc with rfl | rfl <;> exact ⟨by decide, by decide, by decide⟩

/-- the hypotheses of `decode_history_src` are satisfied by this history … -/
example : ∃ t', srcDecodeRun 64 Decoder_default exCalls =
      some (tblSt t', (decodeEach DecState.empty (exCalls.map Call.arg)).2) ∧ C17b.TableOk t' ∧ TableReg t' ∧
      t'.abs = (decodeAll tecmpDecode DecState.empty (exCalls.map Call.arg)).1 ∧
      (decodeEach DecState.empty (exCalls.map Call.arg)).2.flatten =
        (decodeAll tecmpDecode DecState.empty (exCalls.map Call.arg)).2 ∧
      (decodeEach DecState.empty (exCalls.map Call.arg)).2.length = exCalls.length :=
  decode_history_src exCalls 64 exCalls_ok (by decide)

/-- … and so the MODEL's run (`decode` recurses on a well-founded measure and does not evaluate in the kernel) delivers exactly
    this packet on it: theorem + kernel evaluation of the translation -/
example : (decodeAll tecmpDecode DecState.empty [some exSeg1, some exSeg2]).2 = [exPkt] := by
  obtain ⟨t', h1, _, _, _, h5, _⟩ := decode_history_src exCalls 64 exCalls_ok (by decide)
  have h2 : (srcDecodeRun 64 Decoder_default exCalls).map (·.2) = some [[], [exPkt]] := by decide +kernel
  rw [h1] at h2
  simp only [Option.map_some, Option.some.injEq] at h2
  rw [h2] at h5
  exact h5.symm

/-- one small CAN packet: 16 header bytes (id 0x123, data length 2, dlc 2) and two data bytes; timestamp 9, interface 3 -/
def exCan : Packet :=
  { payload := some ⟨tyCan, [0, 0, 0, 0, 0, 0, 1, 0x23, 0, 0, 0, 0, 0, 0, 2, 2, 0xAA, 0xBB]⟩, ts := 9, ifId := 3 }

def exCtx : Ctx := ⟨0, 64⟩

/-- setDeviceId(0x0102), then the single-packet `encode`, then the iterator-range `encode` on the same packet -/
def exOps : List Op := [.setDeviceId 0x0102, .encode1 exCan exCtx, .encodeBatch [exCan] exCtx]

def exFrame (q : UInt8) : Bytes :=
  [1, 0, 1, 2, 1, 0, 0, q,
   0, 0, 0, 0, 0, 0, 0, 9, 0, 0, 0, 3, 0, 1, 0, 18,
   0, 0, 0, 0, 0, 0, 1, 0x23, 0, 0, 0, 0, 0, 0, 2, 2, 0xAA, 0xBB]

/-- the TRANSLATED encoder methods run on this history, evaluated by the kernel: defined; no frame and counter 0 after the
    setter, then one frame each, carrying device 0x0102 and the counters 1 and 2, which `getSequenceCounter()` reports -/
example : (srcEncRun 65536 Encoder_default exOps).map (·.2) =
    some [⟨[], 0, 0x0102, 0⟩, ⟨[exFrame 1], 1, 0x0102, 0⟩, ⟨[exFrame 2], 2, 0x0102, 0⟩] := by decide +kernel

theorem exOps_ok : ∀ op ∈ exOps, op.Ok := by
  intro op hop
  simp only [exOps, List.mem_cons, List.not_mem_nil, or_false] at hop
  rcases hop with rfl | rfl | rfl
  · show (0x0102 : Nat) < 65536
    decide
  · exact ⟨by decide, by decide, by decide, by decide⟩
  · refine ⟨by decide, by decide, ?_⟩
    intro p hp
    rw [List.mem_singleton] at hp
    rw [hp]
    exact ⟨by decide, by decide⟩

/-- the hypotheses of `encode_history_src` are satisfied by this history, and the structured MODEL's history gives the same
    literal frames and counters -/
example : ∃ s', srcEncRun 65536 Encoder_default exOps = some (s', (modelRun (Enc.fresh 0 0) exOps).2) ∧
    Corr s' (modelRun (Enc.fresh 0 0) exOps).1 :=
  let ⟨s', h1, h2, _⟩ := encode_history_src exOps 65536 (by decide) exOps_ok
  ⟨s', h1, h2⟩

example : (modelRun (Enc.fresh 0 0) exOps).2 =
    [⟨[], 0, 0x0102, 0⟩, ⟨[exFrame 1], 1, 0x0102, 0⟩, ⟨[exFrame 2], 2, 0x0102, 0⟩] := by decide +kernel

/-- `encode1_src_struct` on the fresh model encoder and the CAN packet -/
example : ∃ s', Encoder_encode_obj 65536 (ofLL (Enc.fresh 0 0).toLL) (pktIn exCan) exCtx.min exCtx.max =
      some (s', ((Enc.fresh 0 0).encode [exCan] exCtx).2.map (EFrame.bytes exCtx.min)) ∧ s'.f_sequenceCounter = 1 := by
  obtain ⟨s', h1, h2, _⟩ := encode1_src_struct (Enc.fresh 0 0) exCan exCtx 65536 (by decide) (by decide)
    ⟨by decide, by decide⟩ (by decide) (by decide)
  refine ⟨s', h1, ?_⟩
  rw [h2]
  decide +kernel

end AsamCmp.SrcHist
