/-
  Source-level statements for the translated functions that no other theorem file mentions (35 C++ functions: getters / setters of
  `CanPayloadBase::Header`, `Packet`, `PayloadType`, `Payload`, `Encoder`, `InterfaceStatus`, `CaptureModulePayload`, and the TECMP
  `PayloadType` / `Payload` / `LinPayload::setData`).  Every translation that exists of each function is covered: the shallow one of
  GeneratedSrc.lean (object = bytes at address `this` of the memory `m`), the object / value ones of GeneratedSrcObj.lean (`_obj`,
  `_pv`) and the bit program of GeneratedSrcFields.lean (`_prog`, shown to compute what the shallow translation computes).

  Each theorem characterises the function for ALL inputs: when it is defined (`some`) and when not (`none` = undefined behaviour; here: an
  access outside the memory, `t << 8` overflowing `int` for an argument no `uint8_t` can hold, a wrapping `2 + n`), the exact result, and for setters the exact new state — one member / one word changes, stated
  as a record update or as `writeAt` of the member's bytes (`SameOutside`: everything outside those bytes is unchanged).  The GET / SET
  laws follow: the getter of the field set returns the value set (for an argument in the range of its C++ type, stated as a
  hypothesis), all other getters return what they returned before.

  Words: `PayloadType` keeps `messageType << 8 | rawType` in a host-order `uint32_t` (`setMT` / `setRaw` / `getMT` / `getRaw`);
  `CanPayloadBase::Header` keeps the protocol's big-endian words and masks them with byte-swapped constants, so the statements are
  about the protocol word `beAt m a 4` and its bit ranges (`C11.ext` / `C11.upd`, and the layout table's `getField` / `setField`).
-/
import AsamCmp.GeneratedSrc
import AsamCmp.GeneratedSrcObj
import AsamCmp.GeneratedSrcFields
import AsamCmp.Lemmas.SrcTecmpPrim
import AsamCmp.Lemmas.SrcAccessCm
import AsamCmp.Lemmas.SrcPacket
import AsamCmp.Lemmas.FieldArith
import AsamCmp.Lemmas.BitProgField
import AsamCmp.Props.SrcTieTecmp
set_option linter.unusedSimpArgs false
namespace AsamCmp.SrcLeft
open AsamCmp AsamCmp.Src AsamCmp.SrcGen AsamCmp.SrcTie

/-! ## `bswap32`: a 32-bit word with its bytes reversed — what the little-endian host reads from a big-endian member -/

/-- the value with the bytes of the low 32 bits reversed -/
def bswap32 (v : Nat) : Nat := v / 16777216 % 256 + v / 65536 % 256 * 256 + v / 256 % 256 * 65536 + v % 256 * 16777216

theorem byteAt_leEnc (w v i : Nat) (h : i < w) : byteAt (leEnc w v) i = v / 256 ^ i % 256 := by
  induction w generalizing v i with
  | zero => omega
  | succ w ih =>
    cases i with
    | zero => simp [leEnc, byteAt]
    | succ i =>
      have := ih (v / 256) i (by omega)
      simp only [leEnc, byteAt, List.getD_cons_succ] at this ⊢
      rw [this, Nat.pow_succ, Nat.div_div_eq_div_mul, Nat.mul_comm]

/-- `bswap32 v` is the big-endian value of the little-endian bytes of `v`; bit `j` of a big-endian word is bit `j % 8` of the byte
    `j / 8` places before the last (`testBit_beAt`), and byte `i` of the little-endian encoding is `v / 256 ^ i % 256` -/
theorem bswap32_testBit (v j : Nat) :
    (bswap32 v).testBit j = (decide (j < 32) && v.testBit (8 * (3 - j / 8) + j % 8)) := by
  have e : bswap32 v = beAt (leEnc 4 v) 0 4 := (beDec_leEnc_four v).symm
  by_cases hj : j < 32
  · rw [e, Src.Bit.testBit_beAt _ 0 4 j (by rw [leEnc_length]; omega) (by omega), byteAt_leEnc 4 v _ (by omega),
      decide_eq_true hj, Bool.true_and, (by decide : (256 : Nat) = 2 ^ 8), ← Nat.pow_mul, Nat.testBit_mod_two_pow,
      Nat.testBit_div_two_pow, decide_eq_true (Nat.mod_lt _ (by decide)), Bool.true_and]
    congr 1
    omega
  · rw [decide_eq_false hj, Bool.false_and]
    exact C11.testBit_of_lt (e ▸ beAt_lt_two_pow _ 0 4) (by omega)

/-- the four bytes of `v`, lowest first, stacked from the top -/
theorem bswap32_or_form (v : Nat) :
    bswap32 v = 2 ^ 8 * (2 ^ 8 * (2 ^ 8 * C11.ext 0 8 v + C11.ext 8 8 v) + C11.ext 16 8 v) + C11.ext 24 8 v := by
  simp only [bswap32, C11.ext, Nat.reducePow, Nat.div_one]
  omega

theorem bswap32_lt (v : Nat) : bswap32 v < 2 ^ 32 := by
  apply Nat.lt_pow_two_of_testBit
  intro i hi
  rw [bswap32_testBit, decide_eq_false (Nat.not_lt.mpr hi), Bool.false_and]

theorem bswap32_or (x y : Nat) : bswap32 (x ||| y) = bswap32 x ||| bswap32 y := by
  apply Nat.eq_of_testBit_eq; intro j
  simp only [bswap32_testBit, Nat.testBit_or, Bool.and_or_distrib_left]

theorem bswap32_and (x y : Nat) : bswap32 (x &&& y) = bswap32 x &&& bswap32 y := by
  apply Nat.eq_of_testBit_eq; intro j
  simp only [bswap32_testBit, Nat.testBit_and]
  cases decide (j < 32) <;> simp

/-- reversing the four bytes twice: `leEnc 4` of the reversed value is `beEnc 4` of the value (`leEnc_beDec_leEnc`) -/
theorem bswap32_bswap32 (x : Nat) (h : x < 2 ^ 32) : bswap32 (bswap32 x) = x := by
  have e (v : Nat) : bswap32 v = beDec (leEnc 4 v) := (beDec_leEnc_four v).symm
  rw [e, e, leEnc_beDec_leEnc, beDec_beEnc]
  exact Nat.mod_eq_of_lt h

theorem bswap32_ne_zero (x : Nat) (hx : x < 2 ^ 32) : (bswap32 x != 0) = (x != 0) := by
  rw [Bool.eq_iff_iff, bne_iff_ne, bne_iff_ne]
  constructor
  · intro h h0; apply h; rw [h0]; rfl
  · intro h h0; apply h
    have := bswap32_bswap32 x hx
    rw [h0] at this; exact this.symm

theorem swapEndian_u32_eq (v : Nat) : swapEndian_u32 v = some (bswap32 v) := swap32_bytes v

/-- a masked read followed by `swapEndian`: the masked protocol word -/
theorem swap_and (W K : Nat) (hW : W < 2 ^ 32) : swapEndian_u32 (bswap32 W &&& bswap32 K) = some (W &&& K) := by
  rw [← bswap32_and, swapEndian_u32_eq, bswap32_bswap32 _ (Nat.lt_of_le_of_lt Nat.and_le_left hW)]

theorem leEnc_bswap32 (v : Nat) : leEnc 4 (bswap32 v) = beEnc 4 v := leEnc_swap32 v

theorem leAt_lt (m : Bytes) (a w : Nat) : leAt m a w < 256 ^ w := by
  induction w generalizing a with
  | zero => rw [leAt_zero]; decide
  | succ w ih => rw [leAt_succ, Nat.pow_succ]; have := byteAt_lt_256 m a; have := ih (a + 1); omega

theorem leAt_lt4 (m : Bytes) (a : Nat) : leAt m a 4 < 2 ^ 32 := leAt_lt m a 4

theorem beAt_lt4 (m : Bytes) (a : Nat) : beAt m a 4 < 2 ^ 32 := beAt_lt_two_pow m a 4

/-- the little-endian value of a 4-byte member is the byte-reversed big-endian one: `swapEndian` of the member is the big-endian
    word (`swap32_leAt`), and swapping is an involution -/
theorem leAt_eq_bswap32 (m : Bytes) (a : Nat) (h : a + 4 ≤ m.length) : leAt m a 4 = bswap32 (beAt m a 4) := by
  have e : bswap32 (leAt m a 4) = beAt m a 4 := Option.some.inj ((swapEndian_u32_eq _).symm.trans (swap32_leAt m a h))
  rw [← e, bswap32_bswap32 _ (leAt_lt m a 4)]


/-! ## masks and bit ranges of a word (`C11.ext` / `C11.upd`: read / replace the `k` bits at position `s`) -/

theorem bnot32_testBit (x j : Nat) (h : x < 2 ^ 32) : (bnot 32 x).testBit j = (decide (j < 32) && !x.testBit j) := by
  have e : bnot 32 x = 2 ^ 32 - (x + 1) := by unfold bnot; omega
  rw [e, Nat.testBit_two_pow_sub_succ h]

theorem and_ne_zero_iff (x y : Nat) : x &&& y ≠ 0 ↔ ∃ j, x.testBit j = true ∧ y.testBit j = true := by
  constructor
  · intro h
    apply Classical.byContradiction
    intro hn
    apply h
    apply Nat.eq_of_testBit_eq
    intro j
    rw [Nat.testBit_and, Nat.zero_testBit]
    cases hx : x.testBit j
    · rfl
    · cases hy : y.testBit j
      · rfl
      · exact absurd ⟨j, hx, hy⟩ hn
  · rintro ⟨j, hx, hy⟩ h0
    have := congrArg (fun n => Nat.testBit n j) h0
    simp only [Nat.testBit_and, hx, hy, Nat.zero_testBit, Bool.and_self] at this
    exact Bool.noConfusion this

theorem and_two_pow_ne_zero (x k : Nat) : ((x &&& 2 ^ k) != 0) = x.testBit k := by
  rw [Bool.eq_iff_iff, bne_iff_ne, and_ne_zero_iff]
  constructor
  · rintro ⟨j, hx, hj⟩
    rw [Nat.testBit_two_pow, decide_eq_true_eq] at hj
    subst hj; exact hx
  · intro h; exact ⟨k, h, Nat.testBit_two_pow_self⟩

theorem mask_testBit (k s i : Nat) : ((2 ^ k - 1) <<< s).testBit i = (decide (s ≤ i) && decide (i - s < k)) := by
  rw [Nat.testBit_shiftLeft, Nat.testBit_two_pow_sub_one]

/-- `(W & ~mask) | (v << s)` replaces the field, for an in-range value -/
theorem clear_or_eq_upd (W v s k : Nat) (hW : W < 2 ^ 32) (hv : v < 2 ^ k) (hsk : s + k ≤ 32) :
    (W &&& bnot 32 ((2 ^ k - 1) <<< s)) ||| (v <<< s) = C11.upd s k v W := by
  have hm : (2 ^ k - 1) <<< s < 2 ^ 32 := by
    rw [Nat.shiftLeft_eq]
    calc (2 ^ k - 1) * 2 ^ s < 2 ^ k * 2 ^ s := Nat.mul_lt_mul_of_pos_right (by have := Nat.two_pow_pos k; omega) (Nat.two_pow_pos s)
      _ = 2 ^ (k + s) := (Nat.pow_add 2 k s).symm
      _ ≤ 2 ^ 32 := Nat.pow_le_pow_right (by decide) (by omega)
  apply Nat.eq_of_testBit_eq; intro i
  rw [C11.testBit_upd W hv, Nat.testBit_or, Nat.testBit_and, bnot32_testBit _ _ hm, mask_testBit, Nat.testBit_shiftLeft]
  by_cases h1 : s ≤ i
  · by_cases h2 : i < s + k
    · rw [if_pos ⟨h1, h2⟩, decide_eq_true h1, decide_eq_true (by omega : i - s < k)]
      simp only [Bool.and_self, Bool.not_true, Bool.and_false, Bool.false_or, Bool.true_and]
    · rw [if_neg (by omega), decide_eq_true h1, decide_eq_false (by omega : ¬ i - s < k),
        C11.testBit_of_lt hv (by omega : k ≤ i - s)]
      by_cases h3 : i < 32
      · rw [decide_eq_true h3]; simp only [Bool.and_false, Bool.not_false, Bool.and_true, Bool.or_false, Bool.and_self]
      · rw [C11.testBit_of_lt hW (by omega : 32 ≤ i)]; simp only [Bool.false_and, Bool.and_false, Bool.or_false]
  · rw [if_neg (by omega), decide_eq_false h1, decide_eq_true (by omega : i < 32)]
    simp only [Bool.false_and, Bool.not_false, Bool.and_true, Bool.or_false, Bool.and_self]

/-- `W & mask` is the field in its place -/
theorem and_mask_eq_ext (W s k : Nat) : W &&& ((2 ^ k - 1) <<< s) = (C11.ext s k W) <<< s := by
  apply Nat.eq_of_testBit_eq; intro i
  rw [Nat.testBit_and, mask_testBit, Nat.testBit_shiftLeft, C11.testBit_ext]
  by_cases h1 : s ≤ i
  · rw [decide_eq_true h1, (by omega : s + (i - s) = i)]
    simp only [Bool.true_and]; rw [Bool.and_comm]
  · rw [decide_eq_false h1]; simp only [Bool.false_and, Bool.and_false]

theorem and_mask_shr_eq_ext (W s k : Nat) : (W &&& ((2 ^ k - 1) <<< s)) >>> s = C11.ext s k W := by
  rw [and_mask_eq_ext, Nat.shiftLeft_shiftRight]

/-- `W | mask` sets every bit of the field -/
theorem or_mask_eq_upd (W s k : Nat) : W ||| (2 ^ k - 1) <<< s = C11.upd s k (2 ^ k - 1) W := by
  apply Nat.eq_of_testBit_eq; intro i
  rw [C11.testBit_upd W (Nat.sub_one_lt (Nat.ne_of_gt (Nat.two_pow_pos k))), Nat.testBit_or, mask_testBit,
    Nat.testBit_two_pow_sub_one]
  by_cases h : s ≤ i ∧ i < s + k
  · rw [if_pos h, decide_eq_true h.1, decide_eq_true (by omega : i - s < k), Bool.and_self, Bool.or_true]
  · have : (decide (s ≤ i) && decide (i - s < k)) = false := by
      rw [Bool.and_eq_false_iff, decide_eq_false_iff_not, decide_eq_false_iff_not]; omega
    rw [if_neg h, this, Bool.or_false]

theorem or_two_pow_eq_upd (W s : Nat) : W ||| 2 ^ s = C11.upd s 1 1 W := by
  have h := or_mask_eq_upd W s 1
  rwa [(by decide : 2 ^ 1 - 1 = 1), Nat.one_shiftLeft] at h

theorem and_bnot_two_pow_eq_upd (W s : Nat) (hW : W < 2 ^ 32) (hs : s < 32) : W &&& bnot 32 (2 ^ s) = C11.upd s 1 0 W := by
  have h := clear_or_eq_upd W 0 s 1 hW (by decide) (by omega)
  rw [Nat.zero_shiftLeft, Nat.or_zero, (by decide : 2 ^ 1 - 1 = 1), Nat.one_shiftLeft] at h
  exact h

theorem ext_testBit_one (W s : Nat) : (C11.ext s 1 W != 0) = W.testBit s := by
  have h := C11.ext_lt s 1 W
  have e := C11.testBit_ext s 1 W 0
  simp only [Nat.add_zero, Nat.lt_add_one, decide_true, Bool.true_and] at e
  rw [← e]
  rcases (by omega : C11.ext s 1 W = 0 ∨ C11.ext s 1 W = 1) with h0 | h0 <;> rw [h0] <;> rfl

/-! ## memory: one scalar member, read / write / read-modify-write -/

theorem rd_def (m : Bytes) (a w : Nat) : Src.rd m a w = if a + w ≤ m.length then some (leAt m a w) else none := rfl

theorem wr_def (m : Bytes) (a w v : Nat) : wr m a w v = if a + w ≤ m.length then some (writeAt m a (leEnc w v)) else none := rfl

theorem wr_length (m : Bytes) (a w v : Nat) (h : a + w ≤ m.length) : (writeAt m a (leEnc w v)).length = m.length :=
  SrcTie.wr_length m a w v h

theorem rd_wr_same (m : Bytes) (a w v : Nat) (h : a + w ≤ m.length) :
    Src.rd (writeAt m a (leEnc w v)) a w = some (v % 256 ^ w) :=
  rd_writeAt_same m a w v h

theorem leAt_wr4 (m : Bytes) (a v : Nat) (h : a + 4 ≤ m.length) (hv : v < 2 ^ 32) : leAt (writeAt m a (leEnc 4 v)) a 4 = v := by
  rw [SrcTec.leAt_writeAt_same _ _ _ _ h]; exact Nat.mod_eq_of_lt hv

theorem wr_wr_same (m : Bytes) (a w u v : Nat) (h : a + w ≤ m.length) :
    writeAt (writeAt m a (leEnc w u)) a (leEnc w v) = writeAt m a (leEnc w v) :=
  writeAt_writeAt_of_length_eq _ _ _ _ (by omega) (by rw [leEnc_length, leEnc_length])

theorem rd_wr_other (m : Bytes) (a : Nat) (x : Bytes) (b w : Nat) (h : a + x.length ≤ m.length)
    (hd : b + w ≤ a ∨ a + x.length ≤ b) : Src.rd (writeAt m a x) b w = Src.rd m b w :=
  rd_writeAt_other m a x b w h hd

theorem byteAt_wr_other (m : Bytes) (a : Nat) (x : Bytes) (i : Nat) (h : a + x.length ≤ m.length)
    (hd : i < a ∨ a + x.length ≤ i) : byteAt (writeAt m a x) i = byteAt m i :=
  byteAt_writeAt_other h hd

/-- `member = f(member)`: defined iff the member lies inside the memory; only the member's bytes change -/
theorem rmw (m : Bytes) (a w : Nat) (f : Nat → Nat) :
    (Src.rd m a w).bind (fun t => wr m a w (f t))
      = if a + w ≤ m.length then some (writeAt m a (leEnc w (f (leAt m a w)))) else none := by
  unfold Src.rd wr
  by_cases h : a + w ≤ m.length
  · rw [if_pos h, some_bind, if_pos h]
  · rw [if_neg h, none_bind, if_neg h]

/-- two successive read-modify-writes of the same member (`x &= ~mask; x |= v`) -/
theorem rmw_rmw (m : Bytes) (a w : Nat) (f g : Nat → Nat) :
    ((Src.rd m a w).bind (fun t => wr m a w (f t))).bind (fun m' => (Src.rd m' a w).bind (fun t => wr m' a w (g t)))
      = if a + w ≤ m.length then some (writeAt m a (leEnc w (g (f (leAt m a w) % 256 ^ w)))) else none := by
  rw [rmw]
  by_cases h : a + w ≤ m.length
  · rw [if_pos h, if_pos h, some_bind, rmw, if_pos (by rw [wr_length m a w _ h]; exact h),
      SrcTec.leAt_writeAt_same _ _ _ _ h, wr_wr_same m a w _ _ h]
  · rw [if_neg h, if_neg h, none_bind]

theorem and_mod4 (x k : Nat) (hx : x < 2 ^ 32) : (x &&& k) % 256 ^ 4 = x &&& k :=
  Nat.mod_eq_of_lt (Nat.lt_of_le_of_lt Nat.and_le_left hx)


/-- `m'` differs from `m` at most in the `w` bytes at address `a` -/
def SameOutside (m m' : Bytes) (a w : Nat) : Prop :=
  m'.length = m.length ∧ ∀ i, i < a ∨ a + w ≤ i → m'[i]? = m[i]?

theorem sameOutside_writeAt (m : Bytes) (a : Nat) (x : Bytes) (h : a + x.length ≤ m.length) :
    SameOutside m (writeAt m a x) a x.length :=
  ⟨writeAt_length_of_le _ _ _ h, fun _ hi => getElem?_writeAt_out h hi⟩

theorem sameOutside_wr (m : Bytes) (a w v : Nat) (h : a + w ≤ m.length) : SameOutside m (writeAt m a (leEnc w v)) a w := by
  have := sameOutside_writeAt m a (leEnc w v) (by rw [leEnc_length]; exact h)
  rw [leEnc_length] at this; exact this

theorem SameOutside.byteAt {m m' : Bytes} {a w : Nat} (h : SameOutside m m' a w) (i : Nat) (hi : i < a ∨ a + w ≤ i) :
    byteAt m' i = byteAt m i := by
  unfold AsamCmp.byteAt
  rw [List.getD_eq_getElem?_getD, List.getD_eq_getElem?_getD, h.2 i hi]

theorem SameOutside.slice {m m' : Bytes} {a w : Nat} (h : SameOutside m m' a w) (b k : Nat) (hd : b + k ≤ a ∨ a + w ≤ b) :
    slice m' b k = slice m b k := by
  apply List.ext_getElem?
  intro i
  rw [getElem?_slice, getElem?_slice]
  by_cases h1 : i < k
  · rw [if_pos h1, if_pos h1]; exact h.2 _ (by omega)
  · rw [if_neg h1, if_neg h1]

/-- every scalar read that does not overlap the changed bytes gives what it gave before (defined or not) -/
theorem SameOutside.rd {m m' : Bytes} {a w : Nat} (h : SameOutside m m' a w) (b k : Nat) (hd : b + k ≤ a ∨ a + w ≤ b) :
    Src.rd m' b k = Src.rd m b k := by
  unfold Src.rd leAt
  rw [h.1, h.slice b k hd]

theorem SameOutside.take {m m' : Bytes} {a w : Nat} (h : SameOutside m m' a w) : m'.take a = m.take a := by
  apply List.ext_getElem?
  intro i
  rw [List.getElem?_take, List.getElem?_take]
  by_cases h1 : i < a
  · rw [if_pos h1, if_pos h1]; exact h.2 i (Or.inl h1)
  · rw [if_neg h1, if_neg h1]

theorem SameOutside.drop {m m' : Bytes} {a w : Nat} (h : SameOutside m m' a w) : m'.drop (a + w) = m.drop (a + w) := by
  apply List.ext_getElem?
  intro i
  rw [List.getElem?_drop, List.getElem?_drop]
  exact h.2 _ (Or.inr (by omega))

/-! ## `PayloadType`: one `uint32_t`, message type in bits 8..15, raw payload type in bits 0..7 -/

/-- `type = (type & ~0xFF00) | (t << 8)` -/
def setMT (s t : Nat) : Nat := (s &&& bnot 32 65280) ||| t <<< 8
/-- `type = (type & ~0xFF) | t` -/
def setRaw (s t : Nat) : Nat := (s &&& bnot 32 255) ||| t
/-- `(type & 0xFF00) >> 8` as `uint8_t` -/
def getMT (s : Nat) : Nat := ((s &&& 65280) >>> 8) % 256
/-- `type & 0xFF` as `uint8_t` -/
def getRaw (s : Nat) : Nat := (s &&& 255) % 256

theorem setMT_eq_upd (s t : Nat) (hs : s < 2 ^ 32) (ht : t < 256) : setMT s t = C11.upd 8 8 t s :=
  clear_or_eq_upd s t 8 8 hs ht (by decide)

theorem setRaw_eq_upd (s t : Nat) (hs : s < 2 ^ 32) (ht : t < 256) : setRaw s t = C11.upd 0 8 t s := by
  have h := clear_or_eq_upd s t 0 8 hs ht (by decide)
  rw [Nat.shiftLeft_zero, Nat.shiftLeft_zero] at h
  exact h

theorem getMT_eq_ext (s : Nat) : getMT s = C11.ext 8 8 s := by
  unfold getMT
  rw [(by decide : 65280 = (2 ^ 8 - 1) <<< 8), and_mask_shr_eq_ext]
  exact Nat.mod_eq_of_lt (C11.ext_lt 8 8 s)

theorem getRaw_eq_ext (s : Nat) : getRaw s = C11.ext 0 8 s := by
  unfold getRaw
  have h := and_mask_shr_eq_ext s 0 8
  rw [Nat.shiftLeft_zero, Nat.shiftRight_zero] at h
  rw [(by decide : 255 = 2 ^ 8 - 1), h]
  exact Nat.mod_eq_of_lt (C11.ext_lt 0 8 s)

theorem getMT_arith (s : Nat) : getMT s = s / 256 % 256 := by rw [getMT_eq_ext]; rfl
theorem getRaw_arith (s : Nat) : getRaw s = s % 256 := by rw [getRaw_eq_ext]; simp [C11.ext]

theorem setMT_lt (s t : Nat) (hs : s < 2 ^ 32) (ht : t < 256) : setMT s t < 2 ^ 32 := by
  rw [setMT_eq_upd s t hs ht]; exact C11.upd_lt hs (by decide) ht
theorem setRaw_lt (s t : Nat) (hs : s < 2 ^ 32) (ht : t < 256) : setRaw s t < 2 ^ 32 := by
  rw [setRaw_eq_upd s t hs ht]; exact C11.upd_lt hs (by decide) ht

theorem getMT_setMT (s t : Nat) (hs : s < 2 ^ 32) (ht : t < 256) : getMT (setMT s t) = t := by
  rw [setMT_eq_upd s t hs ht, getMT_eq_ext]; exact C11.ext_upd_same s ht
theorem getRaw_setMT (s t : Nat) (hs : s < 2 ^ 32) (ht : t < 256) : getRaw (setMT s t) = getRaw s := by
  rw [setMT_eq_upd s t hs ht, getRaw_eq_ext, getRaw_eq_ext]; exact C11.ext_upd_other s ht (Or.inl (by decide))
theorem getRaw_setRaw (s t : Nat) (hs : s < 2 ^ 32) (ht : t < 256) : getRaw (setRaw s t) = t := by
  rw [setRaw_eq_upd s t hs ht, getRaw_eq_ext]; exact C11.ext_upd_same s ht
theorem getMT_setRaw (s t : Nat) (hs : s < 2 ^ 32) (ht : t < 256) : getMT (setRaw s t) = getMT s := by
  rw [setRaw_eq_upd s t hs ht, getMT_eq_ext, getMT_eq_ext]; exact C11.ext_upd_other s ht (Or.inr (by decide))

theorem setMT_testBit (s t i : Nat) (hs : s < 2 ^ 32) (ht : t < 256) :
    (setMT s t).testBit i = if 8 ≤ i ∧ i < 16 then t.testBit (i - 8) else s.testBit i := by
  rw [setMT_eq_upd s t hs ht]; exact C11.testBit_upd s ht i
theorem setRaw_testBit (s t i : Nat) (hs : s < 2 ^ 32) (ht : t < 256) :
    (setRaw s t).testBit i = if i < 8 then t.testBit i else s.testBit i := by
  rw [setRaw_eq_upd s t hs ht, C11.testBit_upd s ht i]
  simp only [Nat.zero_le, true_and, Nat.zero_add, Nat.sub_zero]


/-! ### object mode (`PayloadType` is its `uint32_t`; `Payload_St` = data vector + type) -/

theorem PayloadType_setType_pv_src (s v : Nat) : PayloadType_setType_pv s v = some (v, ()) := rfl

theorem PayloadType_setRawPayloadType_pv_src (s t : Nat) : PayloadType_setRawPayloadType_pv s t = some (setRaw s t, ()) := rfl

/-- `x << 8` at `int` (the promoted `uint8_t` argument): defined for `x < 2^23` -/
theorem sshl8_eq (t : Nat) : sshl 32 t 8 = if t < 2 ^ 23 then some (t <<< 8) else none := by
  unfold sshl
  by_cases h : t < 2 ^ 23
  · rw [if_pos h, if_pos ⟨by decide, by omega, by rw [Nat.shiftLeft_eq]; omega⟩]
  · rw [if_neg h, if_neg]
    intro h3; have h4 := h3.2.2; rw [Nat.shiftLeft_eq] at h4; omega

/-- the body of the object-mode `setMessageType` (the generated `to_underlying` helper is the identity and unfolds by computation;
    its name carries an overload counter and is not mentioned) -/
theorem setMT_pv_body (s t : Nat) :
    (do let t2 ← sshl 32 t 8
        pure ((s &&& bnot 32 65280) ||| t2, ()) : Option (Nat × Unit))
      = if t < 2 ^ 23 then some (setMT s t, ()) else none := by
  simp only [bind, pure]
  rw [sshl8_eq]
  by_cases h : t < 2 ^ 23
  · rw [if_pos h, if_pos h, some_bind]; rfl
  · rw [if_neg h, if_neg h, none_bind]

/-- defined iff `t << 8` does not overflow `int` (always for a `uint8_t` argument) -/
theorem PayloadType_setMessageType_pv_src (s t : Nat) :
    PayloadType_setMessageType_pv s t = if t < 2 ^ 23 then some (setMT s t, ()) else none :=
  setMT_pv_body s t

theorem PayloadType_setMessageType_pv_u8 (s t : Nat) (ht : t < 256) :
    PayloadType_setMessageType_pv s t = some (setMT s t, ()) := by
  rw [PayloadType_setMessageType_pv_src, if_pos (by omega)]

theorem PayloadType_getMessageType_pv_src (s : Nat) : PayloadType_getMessageType_pv s = some (s, getMT s) := rfl
theorem PayloadType_getRawPayloadType_pv_src (s : Nat) : PayloadType_getRawPayloadType_pv s = some (s, getRaw s) := rfl
theorem PayloadType_getType_pv_src (s : Nat) : PayloadType_getType_pv s = some (s, s) := rfl

/-- GET / SET laws of `PayloadType` (object mode): after `setMessageType t` the message type is `t` and the raw payload type is what
    it was; after `setRawPayloadType t` symmetrically; after `setType v` the whole word is `v` -/
theorem PayloadType_pv_laws (s t : Nat) (hs : s < 2 ^ 32) (ht : t < 256) :
    (∃ s', PayloadType_setMessageType_pv s t = some (s', ()) ∧ s' < 2 ^ 32 ∧
        PayloadType_getMessageType_pv s' = some (s', t) ∧
        PayloadType_getRawPayloadType_pv s' = some (s', getRaw s) ∧
        ∀ i, s'.testBit i = if 8 ≤ i ∧ i < 16 then t.testBit (i - 8) else s.testBit i) ∧
    (∃ s', PayloadType_setRawPayloadType_pv s t = some (s', ()) ∧ s' < 2 ^ 32 ∧
        PayloadType_getRawPayloadType_pv s' = some (s', t) ∧
        PayloadType_getMessageType_pv s' = some (s', getMT s) ∧
        ∀ i, s'.testBit i = if i < 8 then t.testBit i else s.testBit i) ∧
    (∀ v, ∃ s', PayloadType_setType_pv s v = some (s', ()) ∧ PayloadType_getType_pv s' = some (s', v)) := by
  refine ⟨⟨setMT s t, PayloadType_setMessageType_pv_u8 s t ht, setMT_lt s t hs ht, ?_, ?_, fun i => setMT_testBit s t i hs ht⟩,
    ⟨setRaw s t, rfl, setRaw_lt s t hs ht, ?_, ?_, fun i => setRaw_testBit s t i hs ht⟩, fun v => ⟨v, rfl, rfl⟩⟩
  · rw [PayloadType_getMessageType_pv_src, getMT_setMT s t hs ht]
  · rw [PayloadType_getRawPayloadType_pv_src, getRaw_setMT s t hs ht]
  · rw [PayloadType_getRawPayloadType_pv_src, getRaw_setRaw s t hs ht]
  · rw [PayloadType_getMessageType_pv_src, getMT_setRaw s t hs ht]

/-- `Payload::setType`: only the type member changes -/
theorem Payload_setType_pv_src (s : Payload_St) (v : Nat) : Payload_setType_pv s v = some ({ s with f_type := v }, ()) := rfl

theorem Payload_setRawPayloadType_pv_src (s : Payload_St) (t : Nat) :
    Payload_setRawPayloadType_pv s t = some ({ s with f_type := setRaw s.f_type t }, ()) := rfl

theorem Payload_setMessageType_pv_src (s : Payload_St) (t : Nat) :
    Payload_setMessageType_pv s t = if t < 2 ^ 23 then some ({ s with f_type := setMT s.f_type t }, ()) else none := by
  unfold Payload_setMessageType_pv
  simp only [bind, pure]
  rw [PayloadType_setMessageType_pv_src]
  by_cases h : t < 2 ^ 23
  · rw [if_pos h, if_pos h, some_bind]
  · rw [if_neg h, if_neg h, none_bind]

theorem Payload_setMessageType_pv_u8 (s : Payload_St) (t : Nat) (ht : t < 256) :
    Payload_setMessageType_pv s t = some ({ s with f_type := setMT s.f_type t }, ()) := by
  rw [Payload_setMessageType_pv_src, if_pos (by omega)]

theorem Payload_getters_pv_src (s : Payload_St) :
    Payload_getMessageType_pv s = some (s, getMT s.f_type) ∧ Payload_getRawPayloadType_pv s = some (s, getRaw s.f_type) ∧
    Payload_getType_pv s = some (s, s.f_type) ∧ Payload_getLength_pv s = some (s, s.f_payloadData.length) :=
  ⟨rfl, rfl, rfl, rfl⟩

/-- GET / SET laws of `Payload` (object mode); the data vector (hence `getLength`) is untouched by all three setters -/
theorem Payload_pv_laws (s : Payload_St) (t : Nat) (hs : s.f_type < 2 ^ 32) (ht : t < 256) :
    (∃ s', Payload_setMessageType_pv s t = some (s', ()) ∧ s'.f_payloadData = s.f_payloadData ∧ s'.f_type < 2 ^ 32 ∧
        Payload_getMessageType_pv s' = some (s', t) ∧
        Payload_getRawPayloadType_pv s' = some (s', getRaw s.f_type) ∧
        Payload_getLength_pv s' = some (s', s.f_payloadData.length)) ∧
    (∃ s', Payload_setRawPayloadType_pv s t = some (s', ()) ∧ s'.f_payloadData = s.f_payloadData ∧ s'.f_type < 2 ^ 32 ∧
        Payload_getRawPayloadType_pv s' = some (s', t) ∧
        Payload_getMessageType_pv s' = some (s', getMT s.f_type) ∧
        Payload_getLength_pv s' = some (s', s.f_payloadData.length)) ∧
    (∀ v, ∃ s', Payload_setType_pv s v = some (s', ()) ∧ s'.f_payloadData = s.f_payloadData ∧
        Payload_getType_pv s' = some (s', v) ∧ Payload_getLength_pv s' = some (s', s.f_payloadData.length)) := by
  refine ⟨⟨{ s with f_type := setMT s.f_type t }, Payload_setMessageType_pv_u8 s t ht, rfl, setMT_lt _ t hs ht, ?_, ?_, rfl⟩,
    ⟨{ s with f_type := setRaw s.f_type t }, rfl, rfl, setRaw_lt _ t hs ht, ?_, ?_, rfl⟩, fun v => ⟨_, rfl, rfl, rfl, rfl⟩⟩
  · rw [(Payload_getters_pv_src _).1]; simp only [getMT_setMT s.f_type t hs ht]
  · rw [(Payload_getters_pv_src _).2.1]; simp only [getRaw_setMT s.f_type t hs ht]
  · rw [(Payload_getters_pv_src _).2.1]; simp only [getRaw_setRaw s.f_type t hs ht]
  · rw [(Payload_getters_pv_src _).1]; simp only [getMT_setRaw s.f_type t hs ht]


/-! ### shallow mode: the `PayloadType` object is the 4-byte member at address `this` of the memory `m` -/

/-- the body of `setMessageType` -/
theorem setMT_body (m : Bytes) (a t : Nat) :
    (do let t1 ← Src.rd m a 4
        let m ← wr m a 4 (t1 &&& bnot 32 65280)
        let t3 ← sshl 32 t 8
        let t4 ← Src.rd m a 4
        let m ← wr m a 4 (t4 ||| t3)
        pure m)
      = if a + 4 ≤ m.length ∧ t < 2 ^ 23 then some (writeAt m a (leEnc 4 (setMT (leAt m a 4) t))) else none := by
  by_cases ht : t < 2 ^ 23
  · -- `t << 8` is defined: two read-modify-writes of the member
    have h := rmw_rmw m a 4 (· &&& bnot 32 65280) (· ||| t <<< 8)
    rw [Option.bind_assoc, and_mod4 _ _ (leAt_lt4 m a)] at h
    simp only [bind, pure, sshl8_eq, if_pos ht, some_bind, ht, and_true]
    exact h
  · -- undefined, whether or not the first write is
    simp only [bind, pure, sshl8_eq, if_neg ht, none_bind, ht, and_false, if_false]
    cases Src.rd m a 4 with
    | none => rfl
    | some t1 => rw [some_bind]; cases wr m a 4 (t1 &&& bnot 32 65280) <;> rfl

/-- the body of `setRawPayloadType`: two read-modify-writes of the member -/
theorem setRaw_body (m : Bytes) (a t : Nat) :
    (do let t1 ← Src.rd m a 4
        let m ← wr m a 4 (t1 &&& bnot 32 255)
        let t2 ← Src.rd m a 4
        let m ← wr m a 4 (t2 ||| t)
        pure m)
      = if a + 4 ≤ m.length then some (writeAt m a (leEnc 4 (setRaw (leAt m a 4) t))) else none := by
  have h := rmw_rmw m a 4 (· &&& bnot 32 255) (· ||| t)
  rw [Option.bind_assoc, and_mod4 _ _ (leAt_lt4 m a)] at h
  simp only [bind]
  exact h

/-- `PayloadType::setMessageType`: defined iff the member is inside the memory (and `t << 8` fits `int`: always for a `uint8_t`);
    only the 4 bytes of the member change, to the word with bits 8..15 replaced -/
theorem PayloadType_setMessageType_src (m : Bytes) (this t : Nat) :
    PayloadType_setMessageType m this t
      = if this + 4 ≤ m.length ∧ t < 2 ^ 23 then some (writeAt m this (leEnc 4 (setMT (leAt m this 4) t))) else none :=
  setMT_body m this t

theorem TECMP_PayloadType_setMessageType_src (m : Bytes) (this t : Nat) :
    TECMP_PayloadType_setMessageType m this t
      = if this + 4 ≤ m.length ∧ t < 2 ^ 23 then some (writeAt m this (leEnc 4 (setMT (leAt m this 4) t))) else none :=
  setMT_body m this t

theorem PayloadType_setRawPayloadType_src (m : Bytes) (this t : Nat) :
    PayloadType_setRawPayloadType m this t
      = if this + 4 ≤ m.length then some (writeAt m this (leEnc 4 (setRaw (leAt m this 4) t))) else none :=
  setRaw_body m this t

theorem TECMP_PayloadType_setRawPayloadType_src (m : Bytes) (this t : Nat) :
    TECMP_PayloadType_setRawPayloadType m this t
      = if this + 4 ≤ m.length then some (writeAt m this (leEnc 4 (setRaw (leAt m this 4) t))) else none :=
  setRaw_body m this t

theorem PayloadType_setType_src (m : Bytes) (this v : Nat) :
    PayloadType_setType m this v = if this + 4 ≤ m.length then some (writeAt m this (leEnc 4 v)) else none := by
  unfold PayloadType_setType wr
  split <;> rfl

theorem TECMP_PayloadType_setType_src (m : Bytes) (this v : Nat) :
    TECMP_PayloadType_setType m this v = if this + 4 ≤ m.length then some (writeAt m this (leEnc 4 v)) else none := by
  unfold TECMP_PayloadType_setType wr
  split <;> rfl

/-- the getters: defined iff the member is inside the memory; the packed fields of the little-endian member -/
theorem PayloadType_getters_src (m : Bytes) (this : Nat) :
    PayloadType_getMessageType m this = (if this + 4 ≤ m.length then some (getMT (leAt m this 4)) else none) ∧
    PayloadType_getRawPayloadType m this = (if this + 4 ≤ m.length then some (getRaw (leAt m this 4)) else none) ∧
    PayloadType_getType m this = (if this + 4 ≤ m.length then some (leAt m this 4) else none) := by
  unfold PayloadType_getMessageType PayloadType_getRawPayloadType PayloadType_getType Src.rd
  refine ⟨?_, ?_, ?_⟩ <;> split <;> rfl

theorem TECMP_PayloadType_getters_src (m : Bytes) (this : Nat) :
    TECMP_PayloadType_getMessageType m this = (if this + 4 ≤ m.length then some (getMT (leAt m this 4)) else none) ∧
    TECMP_PayloadType_getRawPayloadType m this = (if this + 4 ≤ m.length then some (getRaw (leAt m this 4)) else none) ∧
    TECMP_PayloadType_getType m this = (if this + 4 ≤ m.length then some (leAt m this 4) else none) := by
  unfold TECMP_PayloadType_getMessageType TECMP_PayloadType_getRawPayloadType TECMP_PayloadType_getType Src.rd
  refine ⟨?_, ?_, ?_⟩ <;> split <;> rfl


/-- GET / SET laws of a packed type word kept in the 4-byte member at address `a`, for a `uint8_t` argument and ANY accessors that
    satisfy the member equations: the setters are defined, leave every byte outside the member alone, and the getters afterwards
    return the value set / what they returned before -/
theorem typeWord_src_laws (a : Nat) {setM setR setT : Bytes → Nat → Option Bytes} {getM getR getT : Bytes → Option Nat}
    (hsM : ∀ m t, setM m t
      = if a + 4 ≤ m.length ∧ t < 2 ^ 23 then some (writeAt m a (leEnc 4 (setMT (leAt m a 4) t))) else none)
    (hsR : ∀ m t, setR m t = if a + 4 ≤ m.length then some (writeAt m a (leEnc 4 (setRaw (leAt m a 4) t))) else none)
    (hsT : ∀ m v, setT m v = if a + 4 ≤ m.length then some (writeAt m a (leEnc 4 v)) else none)
    (hgM : ∀ m, getM m = if a + 4 ≤ m.length then some (getMT (leAt m a 4)) else none)
    (hgR : ∀ m, getR m = if a + 4 ≤ m.length then some (getRaw (leAt m a 4)) else none)
    (hgT : ∀ m, getT m = if a + 4 ≤ m.length then some (leAt m a 4) else none)
    (m : Bytes) (t : Nat) (h : a + 4 ≤ m.length) (ht : t < 256) :
    (∃ m', setM m t = some m' ∧ SameOutside m m' a 4 ∧ getM m' = some t ∧ getR m' = getR m) ∧
    (∃ m', setR m t = some m' ∧ SameOutside m m' a 4 ∧ getR m' = some t ∧ getM m' = getM m) ∧
    (∀ v, v < 2 ^ 32 → ∃ m', setT m v = some m' ∧ SameOutside m m' a 4 ∧ getT m' = some v) := by
  have hW := leAt_lt4 m a
  have hl (v : Nat) : a + 4 ≤ (writeAt m a (leEnc 4 v)).length := by rw [wr_length _ _ _ _ h]; exact h
  refine ⟨⟨_, by rw [hsM, if_pos ⟨h, by omega⟩], sameOutside_wr m a 4 _ h, ?_, ?_⟩,
    ⟨_, by rw [hsR, if_pos h], sameOutside_wr m a 4 _ h, ?_, ?_⟩,
    fun v hv => ⟨_, by rw [hsT, if_pos h], sameOutside_wr m a 4 _ h, ?_⟩⟩
  · rw [hgM, if_pos (hl _), leAt_wr4 m a _ h (setMT_lt _ t hW ht), getMT_setMT _ t hW ht]
  · rw [hgR, hgR, if_pos (hl _), if_pos h, leAt_wr4 m a _ h (setMT_lt _ t hW ht), getRaw_setMT _ t hW ht]
  · rw [hgR, if_pos (hl _), leAt_wr4 m a _ h (setRaw_lt _ t hW ht), getRaw_setRaw _ t hW ht]
  · rw [hgM, hgM, if_pos (hl _), if_pos h, leAt_wr4 m a _ h (setRaw_lt _ t hW ht), getMT_setRaw _ t hW ht]
  · rw [hgT, if_pos (hl _), leAt_wr4 m a _ h hv]

theorem PayloadType_src_laws (m : Bytes) (this t : Nat) (h : this + 4 ≤ m.length) (ht : t < 256) :
    (∃ m', PayloadType_setMessageType m this t = some m' ∧ SameOutside m m' this 4 ∧
        PayloadType_getMessageType m' this = some t ∧
        PayloadType_getRawPayloadType m' this = PayloadType_getRawPayloadType m this) ∧
    (∃ m', PayloadType_setRawPayloadType m this t = some m' ∧ SameOutside m m' this 4 ∧
        PayloadType_getRawPayloadType m' this = some t ∧
        PayloadType_getMessageType m' this = PayloadType_getMessageType m this) ∧
    (∀ v, v < 2 ^ 32 → ∃ m', PayloadType_setType m this v = some m' ∧ SameOutside m m' this 4 ∧
        PayloadType_getType m' this = some v) :=
  typeWord_src_laws this (fun m t => PayloadType_setMessageType_src m this t) (fun m t => PayloadType_setRawPayloadType_src m this t)
    (fun m v => PayloadType_setType_src m this v) (fun m => (PayloadType_getters_src m this).1)
    (fun m => (PayloadType_getters_src m this).2.1) (fun m => (PayloadType_getters_src m this).2.2) m t h ht

theorem TECMP_PayloadType_src_laws (m : Bytes) (this t : Nat) (h : this + 4 ≤ m.length) (ht : t < 256) :
    (∃ m', TECMP_PayloadType_setMessageType m this t = some m' ∧ SameOutside m m' this 4 ∧
        TECMP_PayloadType_getMessageType m' this = some t ∧
        TECMP_PayloadType_getRawPayloadType m' this = TECMP_PayloadType_getRawPayloadType m this) ∧
    (∃ m', TECMP_PayloadType_setRawPayloadType m this t = some m' ∧ SameOutside m m' this 4 ∧
        TECMP_PayloadType_getRawPayloadType m' this = some t ∧
        TECMP_PayloadType_getMessageType m' this = TECMP_PayloadType_getMessageType m this) ∧
    (∀ v, v < 2 ^ 32 → ∃ m', TECMP_PayloadType_setType m this v = some m' ∧ SameOutside m m' this 4 ∧
        TECMP_PayloadType_getType m' this = some v) :=
  typeWord_src_laws this (fun m t => TECMP_PayloadType_setMessageType_src m this t)
    (fun m t => TECMP_PayloadType_setRawPayloadType_src m this t) (fun m v => TECMP_PayloadType_setType_src m this v)
    (fun m => (TECMP_PayloadType_getters_src m this).1) (fun m => (TECMP_PayloadType_getters_src m this).2.1)
    (fun m => (TECMP_PayloadType_getters_src m this).2.2) m t h ht

/-! ### `Payload` / `TECMP::Payload` (shallow): the `PayloadType` member sits at offset 32 of the object -/

/-- the `Payload` accessors forward to the `PayloadType` member -/
theorem Payload_forward_src (m : Bytes) (this t : Nat) :
    Payload_setMessageType m this t = PayloadType_setMessageType m (this + 32) t ∧
    Payload_setRawPayloadType m this t = PayloadType_setRawPayloadType m (this + 32) t ∧
    Payload_getMessageType m this = PayloadType_getMessageType m (this + 32) ∧
    Payload_getRawPayloadType m this = PayloadType_getRawPayloadType m (this + 32) :=
  ⟨rfl, rfl, rfl, rfl⟩

theorem TECMP_Payload_forward_src (m : Bytes) (this t : Nat) :
    TECMP_Payload_setMessageType m this t = TECMP_PayloadType_setMessageType m (this + 32) t ∧
    TECMP_Payload_setRawPayloadType m this t = TECMP_PayloadType_setRawPayloadType m (this + 32) t ∧
    TECMP_Payload_getMessageType m this = TECMP_PayloadType_getMessageType m (this + 32) ∧
    TECMP_Payload_getRawPayloadType m this = TECMP_PayloadType_getRawPayloadType m (this + 32) :=
  ⟨rfl, rfl, rfl, rfl⟩

/-- `Payload::setMessageType`, total: defined iff the type member (offset 32, 4 bytes) is inside the memory -/
theorem Payload_setMessageType_src (m : Bytes) (this t : Nat) :
    Payload_setMessageType m this t
      = if this + 32 + 4 ≤ m.length ∧ t < 2 ^ 23 then
          some (writeAt m (this + 32) (leEnc 4 (setMT (leAt m (this + 32) 4) t))) else none := by
  rw [(Payload_forward_src m this t).1, PayloadType_setMessageType_src]

theorem Payload_setRawPayloadType_src (m : Bytes) (this t : Nat) :
    Payload_setRawPayloadType m this t
      = if this + 32 + 4 ≤ m.length then some (writeAt m (this + 32) (leEnc 4 (setRaw (leAt m (this + 32) 4) t))) else none := by
  rw [(Payload_forward_src m this t).2.1, PayloadType_setRawPayloadType_src]

theorem TECMP_Payload_setMessageType_src (m : Bytes) (this t : Nat) :
    TECMP_Payload_setMessageType m this t
      = if this + 32 + 4 ≤ m.length ∧ t < 2 ^ 23 then
          some (writeAt m (this + 32) (leEnc 4 (setMT (leAt m (this + 32) 4) t))) else none := by
  rw [(TECMP_Payload_forward_src m this t).1, TECMP_PayloadType_setMessageType_src]

theorem TECMP_Payload_setRawPayloadType_src (m : Bytes) (this t : Nat) :
    TECMP_Payload_setRawPayloadType m this t
      = if this + 32 + 4 ≤ m.length then some (writeAt m (this + 32) (leEnc 4 (setRaw (leAt m (this + 32) 4) t))) else none := by
  rw [(TECMP_Payload_forward_src m this t).2.1, TECMP_PayloadType_setRawPayloadType_src]

theorem TECMP_Payload_getRawPayloadType_src (m : Bytes) (this : Nat) :
    TECMP_Payload_getRawPayloadType m this
      = if this + 32 + 4 ≤ m.length then some (getRaw (leAt m (this + 32) 4)) else none := by
  rw [(TECMP_Payload_forward_src m this 0).2.2.2, (TECMP_PayloadType_getters_src _ _).2.1]

/-- the raw payload type is the lowest byte of the little-endian member: the byte at offset 32 -/
theorem TECMP_Payload_getRawPayloadType_byte (m : Bytes) (this : Nat) (h : this + 32 + 4 ≤ m.length) :
    TECMP_Payload_getRawPayloadType m this = some (byteAt m (this + 32)) ∧
    TECMP_PayloadType_getRawPayloadType m (this + 32) = some (byteAt m (this + 32)) := by
  have e : getRaw (leAt m (this + 32) 4) = byteAt m (this + 32) := by
    rw [getRaw_arith, leAt_four]; have := byteAt_lt_256 m (this + 32); omega
  rw [TECMP_Payload_getRawPayloadType_src, (TECMP_PayloadType_getters_src _ _).2.1, if_pos h, e]
  exact ⟨rfl, rfl⟩

/-- GET / SET laws of `Payload` in memory (`uint8_t` argument) -/
theorem Payload_src_laws (m : Bytes) (this t : Nat) (h : this + 32 + 4 ≤ m.length) (ht : t < 256) :
    (∃ m', Payload_setMessageType m this t = some m' ∧ SameOutside m m' (this + 32) 4 ∧
        Payload_getMessageType m' this = some t ∧
        Payload_getRawPayloadType m' this = Payload_getRawPayloadType m this) ∧
    (∃ m', Payload_setRawPayloadType m this t = some m' ∧ SameOutside m m' (this + 32) 4 ∧
        Payload_getRawPayloadType m' this = some t ∧
        Payload_getMessageType m' this = Payload_getMessageType m this) := by
  obtain ⟨hM, hR, _⟩ := PayloadType_src_laws m (this + 32) t h ht
  exact ⟨hM, hR⟩

theorem TECMP_Payload_src_laws (m : Bytes) (this t : Nat) (h : this + 32 + 4 ≤ m.length) (ht : t < 256) :
    (∃ m', TECMP_Payload_setMessageType m this t = some m' ∧ SameOutside m m' (this + 32) 4 ∧
        TECMP_Payload_getMessageType m' this = some t ∧
        TECMP_Payload_getRawPayloadType m' this = TECMP_Payload_getRawPayloadType m this) ∧
    (∃ m', TECMP_Payload_setRawPayloadType m this t = some m' ∧ SameOutside m m' (this + 32) 4 ∧
        TECMP_Payload_getRawPayloadType m' this = some t ∧
        TECMP_Payload_getMessageType m' this = TECMP_Payload_getMessageType m this) := by
  obtain ⟨hM, hR, _⟩ := TECMP_PayloadType_src_laws m (this + 32) t h ht
  exact ⟨hM, hR⟩

/-! ## views of the payload bytes: pure pointer / size getters (`pd` / `sz`: address and size of the owned bytes) -/

theorem Payload_getRawPayload_src (pd sz this : Nat) : Payload_getRawPayload pd sz this = some pd := rfl
theorem TECMP_Payload_getRawPayload_src (pd sz this : Nat) : TECMP_Payload_getRawPayload pd sz this = some pd := rfl
theorem TECMP_Payload_getLength_src (pd sz this : Nat) : TECMP_Payload_getLength pd sz this = some sz := rfl
/-- both overloads (const / non-const) of `CaptureModulePayload::getHeader`: the header is the start of the payload bytes -/
theorem CaptureModulePayload_getHeader_src (pd sz this : Nat) :
    CaptureModulePayload_getHeader_v pd sz this = some pd ∧ CaptureModulePayload_getHeader_v2 pd sz this = some pd := ⟨rfl, rfl⟩


/-! ## plain member getters: `Encoder::getDeviceId` / `getStreamId`, `InterfaceStatus::getInterfaceId` -/

theorem Encoder_getDeviceId_obj_src (s : Encoder_St) : Encoder_getDeviceId_obj s = some (s, s.f_deviceId) := rfl
theorem Encoder_getStreamId_obj_src (s : Encoder_St) : Encoder_getStreamId_obj s = some (s, s.f_streamId) := rfl
theorem InterfaceStatus_getInterfaceId_obj_src (s : InterfaceStatus_St) :
    InterfaceStatus_getInterfaceId_obj s = some (s, s.f_interfaceId) := rfl

/-- shallow mode: the members are the `uint16_t` at offset 16, the `uint8_t` at offset 18 of the `Encoder` object, the `uint32_t` at
    offset 32 of the `InterfaceStatus` object; defined iff the member lies inside the memory -/
theorem Encoder_getDeviceId_src (m : Bytes) (this : Nat) :
    Encoder_getDeviceId m this = if this + 16 + 2 ≤ m.length then some (leAt m (this + 16) 2) else none := by
  unfold Encoder_getDeviceId Src.rd; split <;> rfl
theorem Encoder_getStreamId_src (m : Bytes) (this : Nat) :
    Encoder_getStreamId m this = if this + 18 + 1 ≤ m.length then some (byteAt m (this + 18)) else none := by
  unfold Encoder_getStreamId Src.rd; rw [leAt_one]
theorem InterfaceStatus_getInterfaceId_src (m : Bytes) (this : Nat) :
    InterfaceStatus_getInterfaceId m this = if this + 32 + 4 ≤ m.length then some (leAt m (this + 32) 4) else none := by
  unfold InterfaceStatus_getInterfaceId Src.rd; split <;> rfl

/-- the object `o` at address `pre.length` of `pre ++ o ++ post`: the result depends on the object's own bytes only -/
theorem Encoder_getters_mid (pre o post : Bytes) (h : 19 ≤ o.length) :
    Encoder_getDeviceId (pre ++ o ++ post) pre.length = some (byteAt o 16 + 256 * byteAt o 17) ∧
    Encoder_getStreamId (pre ++ o ++ post) pre.length = some (byteAt o 18) := by
  unfold Encoder_getDeviceId Encoder_getStreamId
  rw [rd_mid pre o post 16 2 (by omega), rd_mid pre o post 18 1 (by omega), leAt_two, leAt_one]
  exact ⟨rfl, rfl⟩

theorem InterfaceStatus_getInterfaceId_mid (pre o post : Bytes) (h : 36 ≤ o.length) :
    InterfaceStatus_getInterfaceId (pre ++ o ++ post) pre.length = some (leAt o 32 4) := by
  unfold InterfaceStatus_getInterfaceId
  rw [rd_mid pre o post 32 4 (by omega)]

/-! ## `Packet::getCommonFlag` / `Packet::setCommonFlag` -/

/-- the flags byte after `setCommonFlag(mask, value)`: `value ? flags | mask : flags & ~mask`, converted to `uint8_t` -/
def setFlag (f mask : Nat) (v : Bool) : Nat := (if v then f ||| mask else f &&& bnot 32 mask) % 256

theorem setFlag_lt (f mask : Nat) (v : Bool) : setFlag f mask v < 256 := Nat.mod_lt _ (by decide)

/-- every bit: inside the mask it is `value`, outside it is unchanged (bits 0..7; a `uint8_t` has no others) -/
theorem setFlag_testBit (f mask : Nat) (v : Bool) (j : Nat) (hm : mask < 2 ^ 32) :
    (setFlag f mask v).testBit j = (decide (j < 8) && (if mask.testBit j then v else f.testBit j)) := by
  unfold setFlag
  rw [(by decide : 256 = 2 ^ 8), Nat.testBit_mod_two_pow]
  cases v
  · simp only [Bool.false_eq_true, if_false, Nat.testBit_and, bnot32_testBit _ _ hm]
    by_cases hj : j < 8
    · rw [decide_eq_true hj, decide_eq_true (by omega : j < 32)]
      cases mask.testBit j <;> simp
    · rw [decide_eq_false hj]; rfl
  · simp only [if_true, Nat.testBit_or]
    cases mask.testBit j <;> simp

theorem testBit_lt_of_lt {x n j : Nat} (hx : x < 2 ^ n) (h : x.testBit j = true) : j < n := by
  apply Classical.byContradiction
  intro hn
  rw [C11.testBit_of_lt hx (by omega)] at h
  exact Bool.noConfusion h

theorem setFlag_and_mask (f mask : Nat) (v : Bool) (hm : mask < 256) :
    setFlag f mask v &&& mask = if v then mask else 0 := by
  apply Nat.eq_of_testBit_eq; intro j
  rw [Nat.testBit_and, setFlag_testBit f mask v j (by omega)]
  cases hb : mask.testBit j
  · cases v <;> simp [hb]
  · have hj : j < 8 := testBit_lt_of_lt (n := 8) hm hb
    cases v <;> simp [hb, hj]

theorem setFlag_and_other (f mask mask' : Nat) (v : Bool) (hm : mask < 256) (hm' : mask' < 256) (hd : mask &&& mask' = 0) :
    setFlag f mask v &&& mask' = f &&& mask' := by
  apply Nat.eq_of_testBit_eq; intro j
  rw [Nat.testBit_and, Nat.testBit_and, setFlag_testBit f mask v j (by omega)]
  cases hb' : mask'.testBit j
  · simp
  · have hj : j < 8 := testBit_lt_of_lt (n := 8) hm' hb'
    have hb : mask.testBit j = false := by
      have := congrArg (fun n => Nat.testBit n j) hd
      simp only [Nat.testBit_and, hb', Bool.and_true, Nat.zero_testBit] at this
      exact this
    simp [hb, hj]

/-- a mask of `k` adjacent bits at position `s` of the flags byte: setting it writes all ones, clearing it zero, into that bit range -/
theorem setFlag_mask_eq_upd (f s k : Nat) (hf : f < 256) (hsk : s + k ≤ 8) (v : Bool) :
    setFlag f ((2 ^ k - 1) <<< s) v = C11.upd s k (if v then 2 ^ k - 1 else 0) f := by
  have hlt : ∀ u, u < 2 ^ k → C11.upd s k u f < 2 ^ 8 := fun u hu => C11.upd_lt (n := 8) hf hsk hu
  have hk := Nat.two_pow_pos k
  unfold setFlag
  cases v
  · have h := clear_or_eq_upd f 0 s k (by omega) hk (by omega)
    rw [Nat.zero_shiftLeft, Nat.or_zero] at h
    simp only [Bool.false_eq_true, if_false]
    rw [h]
    exact Nat.mod_eq_of_lt (hlt 0 hk)
  · simp only [if_true]
    rw [or_mask_eq_upd]
    exact Nat.mod_eq_of_lt (hlt _ (by omega))

/-- `Packet::getCommonFlag` (both object translations): state unchanged, `(flags & mask) != 0` -/
theorem Packet_getCommonFlag_obj_src (s : Packet_St) (mask : Nat) :
    Packet_getCommonFlag_obj s mask = some (s, (s.f_commonFlags &&& mask) != 0) := rfl
theorem Packet_getCommonFlag_pv_src (s : PacketV_St) (mask : Nat) :
    Packet_getCommonFlag_pv s mask = some (s, (s.f_commonFlags &&& mask) != 0) := rfl

/-- meaning of the result: true iff some bit of the mask is set in the flags; for a single-bit mask: that bit -/
theorem getCommonFlag_meaning (f mask : Nat) :
    (((f &&& mask) != 0) = true ↔ ∃ j, f.testBit j = true ∧ mask.testBit j = true) ∧
    (∀ k, mask = 2 ^ k → ((f &&& mask) != 0) = f.testBit k) := by
  refine ⟨?_, fun k hk => ?_⟩
  · rw [bne_iff_ne]; exact and_ne_zero_iff f mask
  · rw [hk]; exact and_two_pow_ne_zero f k

/-- `Packet::setCommonFlag` (both object translations): only the flags member changes -/
theorem Packet_setCommonFlag_obj_src (s : Packet_St) (mask : Nat) (v : Bool) :
    Packet_setCommonFlag_obj s mask v = some ({ s with f_commonFlags := setFlag s.f_commonFlags mask v }, ()) := rfl
theorem Packet_setCommonFlag_pv_src (s : PacketV_St) (mask : Nat) (v : Bool) :
    Packet_setCommonFlag_pv s mask v = some ({ s with f_commonFlags := setFlag s.f_commonFlags mask v }, ()) := rfl

/-- GET / SET laws, object translation of `Packet` (encoder side) -/
theorem Packet_commonFlag_obj_laws (s : Packet_St) (mask : Nat) (v : Bool) (hm : mask < 256) :
    ∃ s', Packet_setCommonFlag_obj s mask v = some (s', ()) ∧
      Packet_getCommonFlag_obj s' mask = some (s', v && (mask != 0)) ∧
      (∀ mask', mask' < 256 → mask &&& mask' = 0 →
        Packet_getCommonFlag_obj s' mask' = some (s', (s.f_commonFlags &&& mask') != 0)) ∧
      Packet_getCommonFlags_obj s' = some (s', setFlag s.f_commonFlags mask v) ∧
      (∀ j, (setFlag s.f_commonFlags mask v).testBit j
          = (decide (j < 8) && (if mask.testBit j then v else s.f_commonFlags.testBit j))) ∧
      Packet_getVersion_obj s' = some (s', s.f_version) ∧ Packet_getDeviceId_obj s' = some (s', s.f_deviceId) ∧
      Packet_getStreamId_obj s' = some (s', s.f_streamId) ∧ Packet_getSequenceCounter_obj s' = some (s', s.f_sequenceCounter) ∧
      Packet_getTimestamp_obj s' = some (s', s.f_timestamp) ∧ Packet_getInterfaceId_obj s' = some (s', s.f_interfaceId) ∧
      Packet_getVendorId_obj s' = some (s', s.f_vendorId) ∧ Packet_getSegmentType_obj s' = some (s', s.f_segmentType) := by
  refine ⟨{ s with f_commonFlags := setFlag s.f_commonFlags mask v }, rfl, ?_, fun mask' hm' hd => ?_, rfl,
    fun j => setFlag_testBit _ _ _ j (by omega), rfl, rfl, rfl, rfl, rfl, rfl, rfl, rfl⟩
  · rw [Packet_getCommonFlag_obj_src]; simp only [setFlag_and_mask _ mask v hm]; cases v <;> rfl
  · rw [Packet_getCommonFlag_obj_src]; simp only [setFlag_and_other _ mask mask' v hm hm' hd]

/-- GET / SET laws, value translation of `Packet` (decoder side; the payload member is untouched too) -/
theorem Packet_commonFlag_pv_laws (s : PacketV_St) (mask : Nat) (v : Bool) (hm : mask < 256) :
    ∃ s', Packet_setCommonFlag_pv s mask v = some (s', ()) ∧
      Packet_getCommonFlag_pv s' mask = some (s', v && (mask != 0)) ∧
      (∀ mask', mask' < 256 → mask &&& mask' = 0 →
        Packet_getCommonFlag_pv s' mask' = some (s', (s.f_commonFlags &&& mask') != 0)) ∧
      Packet_getCommonFlags_pv s' = some (s', setFlag s.f_commonFlags mask v) ∧
      (∀ j, (setFlag s.f_commonFlags mask v).testBit j
          = (decide (j < 8) && (if mask.testBit j then v else s.f_commonFlags.testBit j))) ∧
      s'.f_payload = s.f_payload ∧
      Packet_getVersion_pv s' = some (s', s.f_version) ∧ Packet_getDeviceId_pv s' = some (s', s.f_deviceId) ∧
      Packet_getStreamId_pv s' = some (s', s.f_streamId) ∧ Packet_getSequenceCounter_pv s' = some (s', s.f_sequenceCounter) ∧
      Packet_getTimestamp_pv s' = some (s', s.f_timestamp) ∧ Packet_getInterfaceId_pv s' = some (s', s.f_interfaceId) ∧
      Packet_getVendorId_pv s' = some (s', s.f_vendorId) ∧ Packet_getSegmentType_pv s' = some (s', s.f_segmentType) := by
  refine ⟨{ s with f_commonFlags := setFlag s.f_commonFlags mask v }, rfl, ?_, fun mask' hm' hd => ?_, rfl,
    fun j => setFlag_testBit _ _ _ j (by omega), rfl, rfl, rfl, rfl, rfl, rfl, rfl, rfl, rfl⟩
  · rw [Packet_getCommonFlag_pv_src]; simp only [setFlag_and_mask _ mask v hm]; cases v <;> rfl
  · rw [Packet_getCommonFlag_pv_src]; simp only [setFlag_and_other _ mask mask' v hm hm' hd]


/-! ### shallow mode: the flags are the byte at offset 30 of the `Packet` object -/

theorem Packet_getCommonFlag_src (m : Bytes) (this mask : Nat) :
    Packet_getCommonFlag m this mask
      = if this + 30 + 1 ≤ m.length then some ((byteAt m (this + 30) &&& mask) != 0) else none := by
  unfold Packet_getCommonFlag Src.rd
  rw [leAt_one]
  split <;> rfl

/-- defined iff the flags byte is inside the memory; only that byte changes -/
theorem Packet_setCommonFlag_src (m : Bytes) (this mask : Nat) (v : Bool) :
    Packet_setCommonFlag m this mask v
      = if this + 30 + 1 ≤ m.length then some (writeAt m (this + 30) (leEnc 1 (setFlag (byteAt m (this + 30)) mask v))) else none := by
  unfold Packet_setCommonFlag
  simp only [bind, pure]
  by_cases h : this + 30 + 1 ≤ m.length
  · rw [if_pos h]
    cases v
    · simp only [Bool.false_eq_true, if_false]
      rw [rd_eq _ _ _ h, some_bind, some_bind, wr_eq _ _ _ _ h, leAt_one]; rfl
    · simp only [if_true]
      rw [rd_eq _ _ _ h, some_bind, some_bind, wr_eq _ _ _ _ h, leAt_one]; rfl
  · rw [if_neg h]
    cases v
    · simp only [Bool.false_eq_true, if_false]; rw [Src.rd, if_neg h, none_bind, none_bind]
    · simp only [if_true]; rw [Src.rd, if_neg h, none_bind, none_bind]

theorem byteAt_wr1 (m : Bytes) (a v : Nat) (h : a + 1 ≤ m.length) (hv : v < 256) :
    byteAt (writeAt m a (leEnc 1 v)) a = v := by
  rw [← leAt_one, SrcTec.leAt_writeAt_same _ _ _ _ h]; exact Nat.mod_eq_of_lt hv

/-- GET / SET laws in memory: the flag reads back, flags outside the mask and all other `Packet` members read as before -/
theorem Packet_commonFlag_src_laws (m : Bytes) (this mask : Nat) (v : Bool) (h : this + 30 + 1 ≤ m.length) (hm : mask < 256) :
    ∃ m', Packet_setCommonFlag m this mask v = some m' ∧ SameOutside m m' (this + 30) 1 ∧
      Packet_getCommonFlag m' this mask = some (v && (mask != 0)) ∧
      (∀ mask', mask' < 256 → mask &&& mask' = 0 → Packet_getCommonFlag m' this mask' = Packet_getCommonFlag m this mask') ∧
      Packet_getCommonFlags m' this = some (setFlag (byteAt m (this + 30)) mask v) ∧
      Packet_getVersion m' this = Packet_getVersion m this ∧ Packet_getDeviceId m' this = Packet_getDeviceId m this ∧
      Packet_getStreamId m' this = Packet_getStreamId m this ∧
      Packet_getSequenceCounter m' this = Packet_getSequenceCounter m this ∧
      Packet_getTimestamp m' this = Packet_getTimestamp m this ∧ Packet_getInterfaceId m' this = Packet_getInterfaceId m this ∧
      Packet_getVendorId m' this = Packet_getVendorId m this ∧ Packet_getSegmentType m' this = Packet_getSegmentType m this := by
  have hs := sameOutside_wr m (this + 30) 1 (setFlag (byteAt m (this + 30)) mask v) h
  have hl := hs.1
  have hb := byteAt_wr1 m (this + 30) _ h (setFlag_lt (byteAt m (this + 30)) mask v)
  refine ⟨_, by rw [Packet_setCommonFlag_src, if_pos h], hs, ?_, fun mask' hm' hd => ?_, ?_, ?_, ?_, ?_, ?_, ?_, ?_, ?_, ?_⟩
  · rw [Packet_getCommonFlag_src, if_pos (by rw [hl]; exact h), hb, setFlag_and_mask _ mask v hm]; cases v <;> rfl
  · rw [Packet_getCommonFlag_src, Packet_getCommonFlag_src, if_pos (by rw [hl]; exact h), if_pos h, hb,
      setFlag_and_other _ mask mask' v hm hm' hd]
  · unfold Packet_getCommonFlags; rw [rd_eq _ _ _ (by rw [hl]; exact h), leAt_one, hb]
  · unfold Packet_getVersion; rw [hs.rd _ _ (by omega)]
  · unfold Packet_getDeviceId; rw [hs.rd _ _ (by omega)]
  · unfold Packet_getStreamId; rw [hs.rd _ _ (by omega)]
  · unfold Packet_getSequenceCounter; rw [hs.rd _ _ (by omega)]
  · unfold Packet_getTimestamp; rw [hs.rd _ _ (by omega)]
  · unfold Packet_getInterfaceId; rw [hs.rd _ _ (by omega)]
  · unfold Packet_getVendorId; rw [hs.rd _ _ (by omega)]
  · unfold Packet_getSegmentType; rw [hs.rd _ _ (by omega)]


/-! ## `CanPayloadBase::Header`: the big-endian 32-bit words `id` (offset 4) and `crc` (offset 8)

  The C++ keeps the words in wire (big-endian) order and masks them with byte-swapped constants; on the little-endian host the member
  read `rd m a 4` is therefore `bswap32` of the protocol word `beAt m a 4`.  All statements below are about the PROTOCOL word. -/

theorem rd4_bswap (m : Bytes) (a : Nat) (h : a + 4 ≤ m.length) : Src.rd m a 4 = some (bswap32 (beAt m a 4)) := by
  rw [rd_eq _ _ _ h, leAt_eq_bswap32 m a h]

theorem wr4_bswap (m : Bytes) (a v : Nat) (h : a + 4 ≤ m.length) :
    wr m a 4 (bswap32 v) = some (writeAt m a (beEnc 4 v)) := by
  rw [wr_eq _ _ _ _ h, leEnc_bswap32]

/-- flag getter on the member: bit `k` of the protocol word, where `c = bswap32 (2^k)` is the folded constant -/
theorem flag_get (m : Bytes) (a c k : Nat) (hc : c = bswap32 (2 ^ k)) :
    (do let t1 ← Src.rd m a 4; pure ((t1 &&& c) != 0))
      = if a + 4 ≤ m.length then some ((beAt m a 4).testBit k) else none := by
  simp only [bind, pure]
  by_cases h : a + 4 ≤ m.length
  · rw [rd4_bswap m a h, some_bind, if_pos h, hc, ← bswap32_and,
      bswap32_ne_zero _ (Nat.lt_of_le_of_lt Nat.and_le_left (beAt_lt4 m a)), and_two_pow_ne_zero]
  · rw [Src.rd, if_neg h, none_bind, if_neg h]

/-- flag setter on the member: bit `k` of the protocol word becomes `v`, nothing else changes -/
theorem flag_set (m : Bytes) (a c k : Nat) (v : Bool) (hk : k < 32) (hc : c = bswap32 (2 ^ k))
    (hn : bnot 32 c = bswap32 (bnot 32 (2 ^ k))) :
    (do let t3 ← (if v then (do let t1 ← Src.rd m a 4; pure (t1 ||| c)) else (do let t2 ← Src.rd m a 4; pure (t2 &&& (bnot 32 c))))
        let m ← wr m a 4 t3
        pure m)
      = if a + 4 ≤ m.length then some (writeAt m a (beEnc 4 (C11.upd k 1 (if v then 1 else 0) (beAt m a 4)))) else none := by
  simp only [bind, pure]
  by_cases h : a + 4 ≤ m.length
  · rw [if_pos h]
    cases v
    · simp only [Bool.false_eq_true, if_false]
      rw [rd4_bswap m a h, some_bind, some_bind, hn, ← bswap32_and, wr4_bswap m a _ h,
        and_bnot_two_pow_eq_upd _ k (beAt_lt4 m a) hk]
    · simp only [if_true]
      rw [rd4_bswap m a h, some_bind, some_bind, hc, ← bswap32_or, wr4_bswap m a _ h, or_two_pow_eq_upd]
  · rw [if_neg h]
    cases v
    · simp only [Bool.false_eq_true, if_false]; rw [Src.rd, if_neg h, none_bind, none_bind]
    · simp only [if_true]; rw [Src.rd, if_neg h, none_bind, none_bind]

/-! ### the flag accessors: `rtr/rrs` = bit 30 of `id`; `sbcParity` = bit 24, `sbcSupport` = bit 30 of `crc` -/

theorem CanHeader_getRtrRrs_src (m : Bytes) (this : Nat) :
    CanPayloadBase_Header_getRtrRrs m this
      = if this + 4 + 4 ≤ m.length then some ((beAt m (this + 4) 4).testBit 30) else none :=
  flag_get m (this + 4) 64 30 (by decide)

theorem CanHeader_getSbcParity_src (m : Bytes) (this : Nat) :
    CanPayloadBase_Header_getSbcParity m this
      = if this + 8 + 4 ≤ m.length then some ((beAt m (this + 8) 4).testBit 24) else none :=
  flag_get m (this + 8) 1 24 (by decide)

theorem CanHeader_getSbcSupport_src (m : Bytes) (this : Nat) :
    CanPayloadBase_Header_getSbcSupport m this
      = if this + 8 + 4 ≤ m.length then some ((beAt m (this + 8) 4).testBit 30) else none :=
  flag_get m (this + 8) 64 30 (by decide)

theorem CanHeader_setRtrRrs_src (m : Bytes) (this : Nat) (v : Bool) :
    CanPayloadBase_Header_setRtrRrs m this v
      = if this + 4 + 4 ≤ m.length then
          some (writeAt m (this + 4) (beEnc 4 (C11.upd 30 1 (if v then 1 else 0) (beAt m (this + 4) 4)))) else none :=
  flag_set m (this + 4) 64 30 v (by decide) (by decide) (by decide)

theorem CanHeader_setSbcParity_src (m : Bytes) (this : Nat) (v : Bool) :
    CanPayloadBase_Header_setSbcParity m this v
      = if this + 8 + 4 ≤ m.length then
          some (writeAt m (this + 8) (beEnc 4 (C11.upd 24 1 (if v then 1 else 0) (beAt m (this + 8) 4)))) else none :=
  flag_set m (this + 8) 1 24 v (by decide) (by decide) (by decide)

theorem CanHeader_setSbcSupport_src (m : Bytes) (this : Nat) (v : Bool) :
    CanPayloadBase_Header_setSbcSupport m this v
      = if this + 8 + 4 ≤ m.length then
          some (writeAt m (this + 8) (beEnc 4 (C11.upd 30 1 (if v then 1 else 0) (beAt m (this + 8) 4)))) else none :=
  flag_set m (this + 8) 64 30 v (by decide) (by decide) (by decide)


/-! ### the value accessors of the `crc` word: CAN `crc` = bits 0..14, CAN-FD `crc` = bits 0..20, `sbc` = bits 21..23 -/

/-- a masked read of the member followed by `swapEndian`, then `k`: `k` gets the masked protocol word (`c` is the byte-swapped
    mask `K`, folded by the C++ compiler) -/
theorem masked_get {α : Type} (m : Bytes) (a c K : Nat) (hc : c = bswap32 K) (k : Nat → Option α) :
    ((Src.rd m a 4).bind fun t1 => (swapEndian_u32 (t1 &&& c)).bind k)
      = if a + 4 ≤ m.length then k (beAt m a 4 &&& K) else none := by
  by_cases h : a + 4 ≤ m.length
  · rw [rd4_bswap m a h, some_bind, hc, swap_and _ _ (beAt_lt4 m a), some_bind, if_pos h]
  · rw [Src.rd, if_neg h, none_bind, if_neg h]

theorem CanHeader_getCrc_src (m : Bytes) (this : Nat) :
    CanPayloadBase_Header_getCrc m this
      = if this + 8 + 4 ≤ m.length then some (C11.ext 0 15 (beAt m (this + 8) 4)) else none := by
  unfold CanPayloadBase_Header_getCrc
  simp only [bind]
  rw [masked_get m _ _ 32767 (by decide), (by decide : 32767 = (2 ^ 15 - 1) <<< 0), and_mask_eq_ext, Nat.shiftLeft_zero,
    Nat.mod_eq_of_lt (Nat.lt_trans (C11.ext_lt 0 15 _) (by decide))]
  rfl

theorem CanHeader_getCrcSbc_src (m : Bytes) (this : Nat) :
    CanPayloadBase_Header_getCrcSbc m this
      = if this + 8 + 4 ≤ m.length then some (C11.ext 0 21 (beAt m (this + 8) 4)) else none := by
  unfold CanPayloadBase_Header_getCrcSbc
  have h := masked_get m (this + 8) 4294909696 2097151 (by decide) some
  simp only [Option.bind_fun_some] at h
  simp only [bind, pure]
  rw [h, (by decide : 2097151 = (2 ^ 21 - 1) <<< 0), and_mask_eq_ext, Nat.shiftLeft_zero]

theorem CanHeader_getSbc_src (m : Bytes) (this : Nat) :
    CanPayloadBase_Header_getSbc m this
      = if this + 8 + 4 ≤ m.length then some (C11.ext 21 3 (beAt m (this + 8) 4)) else none := by
  unfold CanPayloadBase_Header_getSbc
  simp only [bind]
  rw [masked_get m _ _ 14680064 (by decide), (by decide : 14680064 = (2 ^ 3 - 1) <<< 21), ushr, if_pos (show 21 < 32 by decide),
    some_bind, and_mask_shr_eq_ext, Nat.mod_eq_of_lt (Nat.lt_trans (C11.ext_lt 21 3 _) (by decide))]
  rfl

/-- the `crc` word after `setSbc(sbc)`, for EVERY argument: `(crc & ~0x00E00000) | (sbc << 21)` — the argument is not masked -/
def sbcWord (W sbc : Nat) : Nat := (W &&& bnot 32 14680064) ||| (sbc <<< 21) % 2 ^ 32

theorem CanHeader_setSbc_src (m : Bytes) (this sbc : Nat) :
    CanPayloadBase_Header_setSbc m this sbc
      = if this + 8 + 4 ≤ m.length then
          some (writeAt m (this + 8) (beEnc 4 (sbcWord (beAt m (this + 8) 4) sbc))) else none := by
  unfold CanPayloadBase_Header_setSbc
  simp only [bind, pure]
  by_cases h : this + 8 + 4 ≤ m.length
  · have hb : bnot 32 57344 = bswap32 (bnot 32 14680064) := by decide
    have hl : (writeAt m (this + 8) (beEnc 4 (beAt m (this + 8) 4 &&& bnot 32 14680064))).length = m.length :=
      writeAt_length_of_le _ _ _ (by rw [beEnc_length]; exact h)
    have hlt : beAt m (this + 8) 4 &&& bnot 32 14680064 < 2 ^ 32 := Nat.lt_of_le_of_lt Nat.and_le_left (beAt_lt4 m _)
    rw [rd4_bswap m _ h, some_bind, hb, ← bswap32_and, wr4_bswap m _ _ h, some_bind, ushl, if_pos (by decide), some_bind,
      swapEndian_u32_eq, some_bind, rd4_bswap _ _ (by rw [hl]; exact h), some_bind,
      C11.beAt_writeAt_same (w := 4) h hlt, ← bswap32_or, wr4_bswap _ _ _ (by rw [hl]; exact h),
      writeAt_writeAt_of_length_eq _ _ _ _ (by omega) (by rw [beEnc_length, beEnc_length]), if_pos h]
    rfl
  · rw [Src.rd, if_neg h, none_bind, if_neg h]

/-- in range (`sbc < 8`): exactly the three `sbc` bits are replaced -/
theorem sbcWord_eq_upd (W sbc : Nat) (hW : W < 2 ^ 32) (h : sbc < 8) : sbcWord W sbc = C11.upd 21 3 sbc W := by
  unfold sbcWord
  rw [Nat.mod_eq_of_lt (by rw [Nat.shiftLeft_eq]; omega), (by decide : 14680064 = (2 ^ 3 - 1) <<< 21)]
  exact clear_or_eq_upd W sbc 21 3 hW h (by decide)

/-- every bit of the word after `setSbc`, for every argument: the high bits of an out-of-range argument (`sbc ≥ 8`) are OR-ed into
    the neighbouring fields (bits 24..: `sbcParity`, …) -/
theorem sbcWord_testBit (W sbc i : Nat) :
    (sbcWord W sbc).testBit i
      = (W.testBit i && (decide (i < 32) && !(decide (21 ≤ i) && decide (i - 21 < 3)))
          || decide (i < 32) && (decide (i ≥ 21) && sbc.testBit (i - 21))) := by
  unfold sbcWord
  rw [Nat.testBit_or, Nat.testBit_and, bnot32_testBit _ _ (by decide), (by decide : 14680064 = (2 ^ 3 - 1) <<< 21), mask_testBit,
    Nat.testBit_mod_two_pow, Nat.testBit_shiftLeft]


/-- frame, at any address: whenever one of the four setters is defined, the new memory differs from the old one at most in the
    four bytes of the word it addresses (`id` for `setRtrRrs`, `crc` for the others) -/
theorem CanHeader_setters_frame (m m' : Bytes) (this : Nat) (v : Bool) (sbc : Nat) :
    (CanPayloadBase_Header_setRtrRrs m this v = some m' → SameOutside m m' (this + 4) 4) ∧
    (CanPayloadBase_Header_setSbcParity m this v = some m' → SameOutside m m' (this + 8) 4) ∧
    (CanPayloadBase_Header_setSbcSupport m this v = some m' → SameOutside m m' (this + 8) 4) ∧
    (CanPayloadBase_Header_setSbc m this sbc = some m' → SameOutside m m' (this + 8) 4) := by
  have key (a W : Nat) (hm : (if a + 4 ≤ m.length then some (writeAt m a (beEnc 4 W)) else none) = some m') :
      SameOutside m m' a 4 := by
    by_cases h : a + 4 ≤ m.length
    · rw [if_pos h] at hm
      have e := Option.some.inj hm
      rw [← e]
      have := sameOutside_writeAt m a (beEnc 4 W) (by rw [beEnc_length]; exact h)
      rw [beEnc_length] at this; exact this
    · rw [if_neg h] at hm; cases hm
  refine ⟨fun h => ?_, fun h => ?_, fun h => ?_, fun h => ?_⟩
  · rw [CanHeader_setRtrRrs_src] at h; exact key _ _ h
  · rw [CanHeader_setSbcParity_src] at h; exact key _ _ h
  · rw [CanHeader_setSbcSupport_src] at h; exact key _ _ h
  · rw [CanHeader_setSbc_src] at h; exact key _ _ h

/-! ### the same statements against the protocol layout table (`Layout.c_can` / `Layout.c_canfd`, field model `getField` / `setField`
  of Fields.lean — the model C11 / C12 are proved about): the header `hdr` sits at address `pre.length` of `pre ++ hdr ++ post` -/

def fRtr : Field := ⟨"rtr", 4, 4, 30, 1, ""⟩
def fCrc : Field := ⟨"crc", 8, 4, 0, 15, ""⟩
def fCrcFd : Field := ⟨"crc", 8, 4, 0, 21, ""⟩
def fSbc : Field := ⟨"sbc", 8, 4, 21, 3, ""⟩
def fSbcParity : Field := ⟨"sbcParity", 8, 4, 24, 1, ""⟩
def fSbcSupport : Field := ⟨"sbcSupport", 8, 4, 30, 1, ""⟩

/-- these are the table's fields (`rtr` is called `rrs` in the CAN-FD table: same word, same bit) -/
theorem can_fields_in_layout :
    Layout.c_can.find "rtr" = some fRtr ∧ Layout.c_can.find "crc" = some fCrc ∧
    Layout.c_canfd.find "rrs" = some { fRtr with name := "rrs" } ∧ Layout.c_canfd.find "crc" = some fCrcFd ∧
    Layout.c_canfd.find "sbc" = some fSbc ∧ Layout.c_canfd.find "sbcParity" = some fSbcParity ∧
    Layout.c_canfd.find "sbcSupport" = some fSbcSupport := by decide +kernel

theorem writeAt_inside (pre b post x : Bytes) (i : Nat) (h : i + x.length ≤ b.length) :
    writeAt (pre ++ b ++ post) (pre.length + i) x = pre ++ writeAt b i x ++ post :=
  Bit.writeAt_inside pre b post x i h

theorem beAt_mid (pre b post : Bytes) (i w : Nat) (h : i + w ≤ b.length) :
    beAt (pre ++ b ++ post) (pre.length + i) w = beAt b i w :=
  (at_mid pre b post).beAt i w h

theorem mid_len (pre hdr post : Bytes) (k : Nat) (h : k ≤ hdr.length) : pre.length + k ≤ (pre ++ hdr ++ post).length := by
  have := (at_mid pre hdr post).le; omega

theorem flag_val (v : Bool) : ((if v then 1 else 0 : Nat) != 0) = v := by cases v <;> rfl
theorem flag_lt (v : Bool) : (if v then 1 else 0 : Nat) < 2 ^ 1 := by cases v <;> decide

/-- getters: defined, the field of the table (flags: `field != 0`) -/
theorem CanHeader_getters_mid (pre hdr post : Bytes) (h : 12 ≤ hdr.length) :
    CanPayloadBase_Header_getRtrRrs (pre ++ hdr ++ post) pre.length = some (getField fRtr hdr != 0) ∧
    CanPayloadBase_Header_getSbcParity (pre ++ hdr ++ post) pre.length = some (getField fSbcParity hdr != 0) ∧
    CanPayloadBase_Header_getSbcSupport (pre ++ hdr ++ post) pre.length = some (getField fSbcSupport hdr != 0) ∧
    CanPayloadBase_Header_getCrc (pre ++ hdr ++ post) pre.length = some (getField fCrc hdr) ∧
    CanPayloadBase_Header_getCrcSbc (pre ++ hdr ++ post) pre.length = some (getField fCrcFd hdr) ∧
    CanPayloadBase_Header_getSbc (pre ++ hdr ++ post) pre.length = some (getField fSbc hdr) := by
  have l4 := mid_len pre hdr post (4 + 4) (by omega)
  have l8 := mid_len pre hdr post (8 + 4) (by omega)
  rw [← Nat.add_assoc] at l4 l8
  refine ⟨?_, ?_, ?_, ?_, ?_, ?_⟩
  · rw [CanHeader_getRtrRrs_src, if_pos l4, beAt_mid pre hdr post 4 4 (by omega), ← ext_testBit_one]; rfl
  · rw [CanHeader_getSbcParity_src, if_pos l8, beAt_mid pre hdr post 8 4 (by omega), ← ext_testBit_one]; rfl
  · rw [CanHeader_getSbcSupport_src, if_pos l8, beAt_mid pre hdr post 8 4 (by omega), ← ext_testBit_one]; rfl
  · rw [CanHeader_getCrc_src, if_pos l8, beAt_mid pre hdr post 8 4 (by omega)]; rfl
  · rw [CanHeader_getCrcSbc_src, if_pos l8, beAt_mid pre hdr post 8 4 (by omega)]; rfl
  · rw [CanHeader_getSbc_src, if_pos l8, beAt_mid pre hdr post 8 4 (by omega)]; rfl

/-- setters: defined, the memory outside the header untouched, the header is `setField` of the table's field -/
theorem CanHeader_setters_mid (pre hdr post : Bytes) (h : 12 ≤ hdr.length) (v : Bool) (sbc : Nat) (hs : sbc < 8) :
    CanPayloadBase_Header_setRtrRrs (pre ++ hdr ++ post) pre.length v
      = some (pre ++ setField fRtr (if v then 1 else 0) hdr ++ post) ∧
    CanPayloadBase_Header_setSbcParity (pre ++ hdr ++ post) pre.length v
      = some (pre ++ setField fSbcParity (if v then 1 else 0) hdr ++ post) ∧
    CanPayloadBase_Header_setSbcSupport (pre ++ hdr ++ post) pre.length v
      = some (pre ++ setField fSbcSupport (if v then 1 else 0) hdr ++ post) ∧
    CanPayloadBase_Header_setSbc (pre ++ hdr ++ post) pre.length sbc = some (pre ++ setField fSbc sbc hdr ++ post) := by
  have l4 := mid_len pre hdr post (4 + 4) (by omega)
  have l8 := mid_len pre hdr post (8 + 4) (by omega)
  rw [← Nat.add_assoc] at l4 l8
  refine ⟨?_, ?_, ?_, ?_⟩
  · rw [CanHeader_setRtrRrs_src, if_pos l4, beAt_mid pre hdr post 4 4 (by omega),
      writeAt_inside pre hdr post _ 4 (by rw [beEnc_length]; omega)]; rfl
  · rw [CanHeader_setSbcParity_src, if_pos l8, beAt_mid pre hdr post 8 4 (by omega),
      writeAt_inside pre hdr post _ 8 (by rw [beEnc_length]; omega)]; rfl
  · rw [CanHeader_setSbcSupport_src, if_pos l8, beAt_mid pre hdr post 8 4 (by omega),
      writeAt_inside pre hdr post _ 8 (by rw [beEnc_length]; omega)]; rfl
  · rw [CanHeader_setSbc_src, if_pos l8, beAt_mid pre hdr post 8 4 (by omega),
      writeAt_inside pre hdr post _ 8 (by rw [beEnc_length]; omega),
      sbcWord_eq_upd _ sbc (beAt_lt4 hdr 8) hs]; rfl

/-- all six translated getters of the header at once -/
def canRead (M : Bytes) (this : Nat) : Option Bool × Option Bool × Option Bool × Option Nat × Option Nat × Option Nat :=
  (CanPayloadBase_Header_getRtrRrs M this, CanPayloadBase_Header_getSbcParity M this, CanPayloadBase_Header_getSbcSupport M this,
   CanPayloadBase_Header_getCrc M this, CanPayloadBase_Header_getCrcSbc M this, CanPayloadBase_Header_getSbc M this)

theorem canRead_mid (pre hdr post : Bytes) (h : 12 ≤ hdr.length) :
    canRead (pre ++ hdr ++ post) pre.length
      = (some (getField fRtr hdr != 0), some (getField fSbcParity hdr != 0), some (getField fSbcSupport hdr != 0),
         some (getField fCrc hdr), some (getField fCrcFd hdr), some (getField fSbc hdr)) := by
  obtain ⟨a, b, c, d, e, f⟩ := CanHeader_getters_mid pre hdr post h
  unfold canRead; rw [a, b, c, d, e, f]

/-- GET / SET laws: each setter is defined, changes the header only, makes its own getter return the value set and leaves the
    other five getters' results as they were (`sbc` in range; out of range see `sbcWord_testBit`) -/
theorem CanHeader_laws (pre hdr post : Bytes) (h : 12 ≤ hdr.length) (v : Bool) (sbc : Nat) (hs : sbc < 8) :
    (∃ hdr', CanPayloadBase_Header_setRtrRrs (pre ++ hdr ++ post) pre.length v = some (pre ++ hdr' ++ post) ∧
      hdr'.length = hdr.length ∧ (∀ i, i < 4 ∨ 8 ≤ i → hdr'[i]? = hdr[i]?) ∧
      canRead (pre ++ hdr' ++ post) pre.length
        = (some v, (canRead (pre ++ hdr ++ post) pre.length).2)) ∧
    (∃ hdr', CanPayloadBase_Header_setSbcParity (pre ++ hdr ++ post) pre.length v = some (pre ++ hdr' ++ post) ∧
      hdr'.length = hdr.length ∧ (∀ i, i < 8 ∨ 12 ≤ i → hdr'[i]? = hdr[i]?) ∧
      canRead (pre ++ hdr' ++ post) pre.length
        = ((canRead (pre ++ hdr ++ post) pre.length).1, some v, (canRead (pre ++ hdr ++ post) pre.length).2.2)) ∧
    (∃ hdr', CanPayloadBase_Header_setSbcSupport (pre ++ hdr ++ post) pre.length v = some (pre ++ hdr' ++ post) ∧
      hdr'.length = hdr.length ∧ (∀ i, i < 8 ∨ 12 ≤ i → hdr'[i]? = hdr[i]?) ∧
      canRead (pre ++ hdr' ++ post) pre.length
        = ((canRead (pre ++ hdr ++ post) pre.length).1, (canRead (pre ++ hdr ++ post) pre.length).2.1, some v,
           (canRead (pre ++ hdr ++ post) pre.length).2.2.2)) ∧
    (∃ hdr', CanPayloadBase_Header_setSbc (pre ++ hdr ++ post) pre.length sbc = some (pre ++ hdr' ++ post) ∧
      hdr'.length = hdr.length ∧ (∀ i, i < 8 ∨ 12 ≤ i → hdr'[i]? = hdr[i]?) ∧
      canRead (pre ++ hdr' ++ post) pre.length
        = ((canRead (pre ++ hdr ++ post) pre.length).1, (canRead (pre ++ hdr ++ post) pre.length).2.1,
           (canRead (pre ++ hdr ++ post) pre.length).2.2.1, (canRead (pre ++ hdr ++ post) pre.length).2.2.2.1,
           (canRead (pre ++ hdr ++ post) pre.length).2.2.2.2.1, some sbc)) := by
  obtain ⟨s1, s2, s3, s4⟩ := CanHeader_setters_mid pre hdr post h v sbc hs
  have hv := flag_lt v
  have hs3 : sbc < 2 ^ 3 := hs
  -- writing a field `f` of the first 12 bytes: length and the bytes outside its word stay, `f` reads the value written, and a field
  -- `g` that does not interfere (disjoint bits; same word or byte-disjoint words) reads what it read
  have F (f : Field) (x : Nat) (hf : f.off + f.w ≤ 12) : (setField f x hdr).length = hdr.length ∧
      ∀ i, i < f.off ∨ f.off + f.w ≤ i → (setField f x hdr)[i]? = hdr[i]? :=
    ⟨C11.length_setField x (Nat.le_trans hf h), fun i hi => C11.getElem?_setField_out x (Nat.le_trans hf h) hi⟩
  have S (f : Field) (x : Nat) (hf : f.off + f.w ≤ 12 ∧ f.shift + f.bits ≤ 8 * f.w) (hx : x < 2 ^ f.bits) :
      getField f (setField f x hdr) = x := C11.getField_setField_same hf.2 (Nat.le_trans hf.1 h) hx
  have O (f : Field) (x : Nat) (hx : x < 2 ^ f.bits) (g : Field)
      (hfg : f.off + f.w ≤ 12 ∧ f.shift + f.bits ≤ 8 * f.w ∧ g.shift + g.bits ≤ 8 * g.w ∧ f.disjoint g = true ∧
        ((f.off = g.off ∧ f.w = g.w) ∨ f.off + f.w ≤ g.off ∨ g.off + g.w ≤ f.off)) :
      getField g (setField f x hdr) = getField g hdr :=
    C11.getField_setField_other hfg.2.1 (Nat.le_trans hfg.1 h) hfg.2.2.1 hx hfg.2.2.2.1 hfg.2.2.2.2
  have R (f : Field) (x : Nat) (hf : f.off + f.w ≤ 12) := canRead_mid pre (setField f x hdr) post (by rw [(F f x hf).1]; exact h)
  refine ⟨⟨_, s1, (F fRtr _ (by decide)).1, (F fRtr _ (by decide)).2, ?_⟩,
    ⟨_, s2, (F fSbcParity _ (by decide)).1, (F fSbcParity _ (by decide)).2, ?_⟩,
    ⟨_, s3, (F fSbcSupport _ (by decide)).1, (F fSbcSupport _ (by decide)).2, ?_⟩,
    ⟨_, s4, (F fSbc _ (by decide)).1, (F fSbc _ (by decide)).2, ?_⟩⟩
  · simp (disch := decide) only [R fRtr _ (by decide), canRead_mid pre hdr post h, S fRtr _ (by decide) hv, O fRtr _ hv, flag_val]
  · simp (disch := decide) only [R fSbcParity _ (by decide), canRead_mid pre hdr post h, S fSbcParity _ (by decide) hv,
      O fSbcParity _ hv, flag_val]
  · simp (disch := decide) only [R fSbcSupport _ (by decide), canRead_mid pre hdr post h, S fSbcSupport _ (by decide) hv,
      O fSbcSupport _ hv, flag_val]
  · simp (disch := decide) only [R fSbc _ (by decide), canRead_mid pre hdr post h, S fSbc _ (by decide) hs3, O fSbc _ hs3]


/-! ## `TECMP::Payload::setData<Header>` / `TECMP::LinPayload::setData`

  `x` is the caller's buffer (the bytes readable behind the `data` pointer), `n` the `size_t` length argument; the object's vector is
  the whole memory `m` (template mode of the translator), the 2-byte LIN header at its start. -/

/-- defined iff `n` bytes are readable in the caller's buffer and `2 + n` does not wrap `size_t`; the vector becomes its first two
    bytes (zero-filled if it was shorter) followed by the `n` data bytes -/
theorem TECMP_Payload_setData_src (m : Bytes) (this : Nat) (x : Bytes) (n : Nat) :
    TECMP_Payload_setData_x_u64 m this x n
      = if n ≤ x.length ∧ 2 + n < 2 ^ 64 then some (resize m 2 ++ x.take n) else none := by
  by_cases h : n ≤ x.length ∧ 2 + n < 2 ^ 64
  · rw [if_pos h, payload_setData_spec TECMP_Payload_setData_x_u64 2 (fun _ _ _ _ => rfl) m this x n h.1 h.2,
      setTail_eq_resize]
  · rw [if_neg h]
    unfold TECMP_Payload_setData_x_u64 wrBytes
    simp only [bind, pure]
    rw [if_neg]
    intro hc
    apply h
    refine ⟨hc.1, ?_⟩
    have h2 := hc.2
    rw [resize_length] at h2
    unfold uadd at h2
    apply Classical.byContradiction
    intro hge
    have : (2 + n) % 2 ^ 64 < 2 + n := Nat.lt_of_lt_of_le (Nat.mod_lt _ (Nat.two_pow_pos 64)) (by omega)
    omega

theorem resize_two (m : Bytes) : resize m 2 = [m.getD 0 0, m.getD 1 0] := by
  unfold resize
  match m with
  | [] => rfl
  | [a] => rfl
  | a :: b :: r => simp

/-- `LinPayload::setData(data, n)`: the same, then the header's length byte (offset 1) is set to `(uint8_t) n`; the `pid` byte
    (offset 0) keeps its value -/
theorem TECMP_LinPayload_setData_src (m : Bytes) (this : Nat) (x : Bytes) (n : Nat) :
    TECMP_LinPayload_setData m this x n
      = if n ≤ x.length ∧ 2 + n < 2 ^ 64 then some ([m.getD 0 0, UInt8.ofNat n] ++ x.take n) else none := by
  unfold TECMP_LinPayload_setData
  simp only [bind, pure]
  rw [TECMP_Payload_setData_src]
  by_cases h : n ≤ x.length ∧ 2 + n < 2 ^ 64
  · rw [if_pos h, if_pos h, some_bind, resize_two]
    unfold TECMP_LinPayload_getHeader_v2 TECMP_LinPayload_Header_setDataLength swapEndian_u8
    simp only [bind, pure, some_bind]
    rw [wr_eq _ _ _ _ (by simp), leEnc_one]
    rfl
  · rw [if_neg h, if_neg h, none_bind]

/-- GET after SET through the translated readers of the same class (object = its own memory, as the converter uses them): length,
    `pid` unchanged, `dataLength = n mod 256`, the data pointer and the data bytes -/
theorem TECMP_LinPayload_setData_laws (m : Bytes) (this : Nat) (x : Bytes) (n : Nat) (hn : n ≤ x.length) (h64 : 2 + n < 2 ^ 64) :
    ∃ m', TECMP_LinPayload_setData m this x n = some m' ∧ m'.length = 2 + n ∧ m'.drop 2 = x.take n ∧
      TECMP_Payload_getLength 0 m'.length this = some (2 + n) ∧
      TECMP_LinPayload_getPid m' 0 m'.length this = some (byteAt m 0) ∧
      TECMP_LinPayload_getDataLength m' 0 m'.length this = some (n % 256) ∧
      TECMP_LinPayload_getData 0 m'.length this = some 2 := by
  have hl : ([m.getD 0 0, UInt8.ofNat n] ++ x.take n).length = 2 + n := by
    simp only [List.length_append, List.length_cons, List.length_nil, List.length_take]; omega
  -- the readers of the class on the new object as its own memory
  have T := tecmp_lin_at (at_whole ([m.getD 0 0, UInt8.ofNat n] ++ x.take n)) this (by rw [hl]; exact h64) (by rw [hl]; omega)
  refine ⟨_, by rw [TECMP_LinPayload_setData_src, if_pos ⟨hn, h64⟩], hl, rfl, by rw [hl]; rfl, ?_, ?_, rfl⟩
  · rw [T.1]; rfl
  · rw [T.2.1]
    simp [byteAt]


/-! ## `CaptureModulePayload::getVendorDataStringView`

  Behind the 26-byte header follow five length-prefixed blocks (16-bit big-endian length, then the bytes); the function walks over the
  first four and returns the fifth as a `string_view` = (pointer, length) pair.  `pd` is the address of the payload bytes. -/

theorem beAt2_lt (m : Bytes) (a : Nat) : beAt m a 2 < 65536 := beAt_two_lt_65536 m a

/-- address of the block behind the block at `p` -/
def cmNext (m : Bytes) (p : Nat) : Nat := p + 2 + beAt m p 2

/-- address of the `k`-th block (0 = device description, …, 4 = vendor data) -/
def cmBlockAt (m : Bytes) (pd : Nat) : Nat → Nat
  | 0 => pd + 26
  | k + 1 => cmNext m (cmBlockAt m pd k)

theorem cmNext_ge (m : Bytes) (p : Nat) : p + 2 ≤ cmNext m p := by unfold cmNext; omega

/-- `initStringView(ptr, str)`, total: defined iff the two length bytes are readable; `str` = the block's bytes, `ptr` moves behind -/
theorem initStringView_total (m : Bytes) (p : Nat) (sv : Nat × Nat) :
    CaptureModulePayload_initStringView m p sv
      = if p + 2 ≤ m.length then some (cmNext m p, (p + 2, beAt m p 2)) else none := by
  unfold CaptureModulePayload_initStringView
  simp only [bind, pure]
  by_cases h : p + 2 ≤ m.length
  · rw [rd_eq _ _ _ h, some_bind, swap16_leAt m p h, some_bind, nonneg_u16 _ (beAt2_lt m p), some_bind, if_pos h]; rfl
  · rw [Src.rd, if_neg h, none_bind, if_neg h]

/-- one step of a forward walk: what follows is defined only if a prefix further on (at `q`) is readable, and that implies this
    step's own guard -/
theorem walk_step {α β : Type} {p q L : Nat} (a : α) (F : α → Option β) (X : Option β) (hpq : p ≤ q)
    (hF : F a = if q + 2 ≤ L then X else none) :
    (if p + 2 ≤ L then some a else none).bind F = if q + 2 ≤ L then X else none := by
  by_cases h : p + 2 ≤ L
  · rw [if_pos h, some_bind, hF]
  · rw [if_neg h, none_bind, if_neg (by omega)]

/-- defined iff the length prefix of the fifth block is readable (the earlier prefixes then are, the walk only moves forward);
    the view is the fifth block: pointer behind its prefix, its declared length -/
theorem CaptureModulePayload_getVendorDataStringView_src (m : Bytes) (pd sz this : Nat) :
    CaptureModulePayload_getVendorDataStringView m pd sz this
      = if cmBlockAt m pd 4 + 2 ≤ m.length then some (cmBlockAt m pd 4 + 2, beAt m (cmBlockAt m pd 4) 2) else none := by
  unfold CaptureModulePayload_getVendorDataStringView
  simp only [bind, pure, initStringView_total]
  have g0 := cmNext_ge m (pd + 26)
  have g1 := cmNext_ge m (cmNext m (pd + 26))
  have g2 := cmNext_ge m (cmNext m (cmNext m (pd + 26)))
  have g3 := cmNext_ge m (cmNext m (cmNext m (cmNext m (pd + 26))))
  have e4 : cmBlockAt m pd 4 = cmNext m (cmNext m (cmNext m (cmNext m (pd + 26)))) := rfl
  rw [e4]
  refine walk_step _ _ _ ?_ (walk_step _ _ _ ?_ (walk_step _ _ _ ?_ (walk_step _ _ _ ?_ ?_)))
  · omega
  · omega
  · dsimp only; omega
  · dsimp only; omega
  · dsimp only; split <;> rfl

/-- the two accessors already tied to the model (`cm_access_src`) are the components of this view -/
theorem CaptureModulePayload_vendorData_components (m : Bytes) (pd sz this : Nat) :
    CaptureModulePayload_getVendorData m pd sz this
      = (CaptureModulePayload_getVendorDataStringView m pd sz this).map (·.1) ∧
    CaptureModulePayload_getVendorDataLength m pd sz this
      = (CaptureModulePayload_getVendorDataStringView m pd sz this).map (fun v => v.2 % 65536) := by
  unfold CaptureModulePayload_getVendorData CaptureModulePayload_getVendorDataLength
    CaptureModulePayload_getVendorDataStringView
  constructor <;> simp only [bind, pure, Option.map_bind, Function.comp_def, Option.map_some]


/-- on a payload `b` the library's validator accepts (`cmValid`, tied to `isValidPayload` by `cm_validator_src`), at any position of
    any memory: defined, independent of the surrounding memory, and the view lies inside `b` — it is the fifth block of `b` -/
theorem CaptureModulePayload_getVendorDataStringView_valid (pre b post : Bytes) (this : Nat) (hv : cmValid b = true) :
    CaptureModulePayload_getVendorDataStringView (pre ++ b ++ post) pre.length b.length this
      = some (pre.length + (cmBlockAt b 0 4 + 2), beAt b (cmBlockAt b 0 4) 2) ∧
    cmBlockAt b 0 4 + 2 + beAt b (cmBlockAt b 0 4) 2 ≤ b.length := by
  obtain ⟨l1, p2, l2, p3, l3, p4, l4, p5, l5, p6, _, B1, B2, B3, B4, B5, _⟩ := C03.cm_blocks b hv
  -- one block of the walk over `b` alone, and of the same walk inside `pre ++ b ++ post`
  have n {p l p' : Nat} (B : C03.Blk b p l p') :
      cmNext b p = p' ∧ cmNext (pre ++ b ++ post) (pre.length + p) = pre.length + p' := by
    have := B.next; have := B.inside
    unfold cmNext
    rw [beAt_mid pre b post p 2 (by omega), B.len]
    omega
  have c4 : cmBlockAt b 0 4 = p5 := by
    show cmNext b (cmNext b (cmNext b (cmNext b (0 + 26)))) = p5
    rw [Nat.zero_add, (n B1).1, (n B2).1, (n B3).1, (n B4).1]
  have k4 : cmBlockAt (pre ++ b ++ post) pre.length 4 = pre.length + p5 := by
    show cmNext _ (cmNext _ (cmNext _ (cmNext _ (pre.length + 26)))) = _
    rw [(n B1).2, (n B2).2, (n B3).2, (n B4).2]
  have := B5.next; have := B5.inside
  rw [c4, B5.len, CaptureModulePayload_getVendorDataStringView_src, k4, Nat.add_assoc,
    if_pos (mid_len pre b post (p5 + 2) (by omega)), beAt_mid pre b post p5 2 (by omega), B5.len]
  exact ⟨rfl, by omega⟩


/-! ## the second translation of the accessors: bit programs (GeneratedSrcFields.lean, semantics `Src.Bit.run`)

  For every accessor above that also has a bit program: running the program at `this` on the memory `m` computes exactly what the
  shallow translation computes — same definedness, same result, same final memory (getters: unchanged).  So every theorem above is also
  a theorem about the program.  Value arguments are passed as argument 0 (`Op.arg 0`). -/

section progs
open AsamCmp.Src.Bit

theorem map_bind' {α β γ : Type} (x : Option α) (f : α → β) (g : β → Option γ) :
    (x.map f).bind g = x.bind (fun a => g (f a)) := by cases x <;> rfl
theorem bind_map' {α β γ : Type} (x : Option α) (f : α → Option β) (g : β → γ) :
    (x.bind f).map g = x.bind (fun a => (f a).map g) := by cases x <;> rfl
theorem map_some' {α β : Type} (a : α) (g : α → β) : (some a).map g = some (g a) := by rw [Option.map_some]
@[bit_run] theorem bind_assoc' {α β γ : Type} (x : Option α) (f : α → Option β) (g : β → Option γ) :
    (x.bind f).bind g = x.bind fun a => (f a).bind g := by cases x <;> rfl
@[bit_run] theorem map_eq_bind' {α β : Type} (x : Option α) (f : α → β) : x.map f = x.bind fun a => some (f a) := by cases x <;> rfl
@[bit_run] theorem bind_some_id {α : Type} (x : Option α) : (x.bind fun a => some a) = x := by cases x <;> rfl

/-! one step of `run`, the state kept as (memory, list of values) -/
variable (this : Nat) (args : List Nat) (m : Bytes) (vals : List Nat) (os : List Bit.Op)
theorem run_nil : Bit.run this args ⟨m, vals⟩ [] = some ⟨m, vals⟩ := rfl
@[bit_run] theorem run_rd (off w : Nat) : Bit.run this args ⟨m, vals⟩ (.rd off w :: os)
    = (Src.rd m (this + off) w).bind fun v => Bit.run this args ⟨m, vals ++ [v]⟩ os := by
  simp only [Bit.run, Bit.step, map_bind', Bit.St.push]
@[bit_run] theorem run_wr (off w a : Nat) : Bit.run this args ⟨m, vals⟩ (.wr off w a :: os)
    = (wr m (this + off) w (vals.getD a 0)).bind fun m' => Bit.run this args ⟨m', vals ++ [0]⟩ os := by
  simp only [Bit.run, Bit.step, map_bind', Bit.St.val]
@[bit_run] theorem run_arg (k : Nat) : Bit.run this args ⟨m, vals⟩ (.arg k :: os) = Bit.run this args ⟨m, vals ++ [args.getD k 0]⟩ os := by
  simp only [Bit.run, Bit.step, some_bind, Bit.St.push]
@[bit_run] theorem run_const (c : Nat) : Bit.run this args ⟨m, vals⟩ (.const c :: os) = Bit.run this args ⟨m, vals ++ [c]⟩ os := by
  simp only [Bit.run, Bit.step, some_bind, Bit.St.push]
@[bit_run] theorem run_band (a b : Nat) : Bit.run this args ⟨m, vals⟩ (.band a b :: os)
    = Bit.run this args ⟨m, vals ++ [vals.getD a 0 &&& vals.getD b 0]⟩ os := by
  simp only [Bit.run, Bit.step, some_bind, Bit.St.push, Bit.St.val]
@[bit_run] theorem run_bor (a b : Nat) : Bit.run this args ⟨m, vals⟩ (.bor a b :: os)
    = Bit.run this args ⟨m, vals ++ [vals.getD a 0 ||| vals.getD b 0]⟩ os := by
  simp only [Bit.run, Bit.step, some_bind, Bit.St.push, Bit.St.val]
@[bit_run] theorem run_bnot (bits a : Nat) : Bit.run this args ⟨m, vals⟩ (.bnot bits a :: os)
    = Bit.run this args ⟨m, vals ++ [bnot bits (vals.getD a 0)]⟩ os := by
  simp only [Bit.run, Bit.step, some_bind, Bit.St.push, Bit.St.val]
@[bit_run] theorem run_trunc (bits a : Nat) : Bit.run this args ⟨m, vals⟩ (.trunc bits a :: os)
    = Bit.run this args ⟨m, vals ++ [vals.getD a 0 % 2 ^ bits]⟩ os := by
  simp only [Bit.run, Bit.step, some_bind, Bit.St.push, Bit.St.val]
@[bit_run] theorem run_ushl (bits a n : Nat) : Bit.run this args ⟨m, vals⟩ (.ushl bits a n :: os)
    = (ushl bits (vals.getD a 0) n).bind fun v => Bit.run this args ⟨m, vals ++ [v]⟩ os := by
  simp only [Bit.run, Bit.step, map_bind', Bit.St.push, Bit.St.val]
@[bit_run] theorem run_ushr (bits a n : Nat) : Bit.run this args ⟨m, vals⟩ (.ushr bits a n :: os)
    = (ushr bits (vals.getD a 0) n).bind fun v => Bit.run this args ⟨m, vals ++ [v]⟩ os := by
  simp only [Bit.run, Bit.step, map_bind', Bit.St.push, Bit.St.val]
@[bit_run] theorem run_sshl (bits a n : Nat) : Bit.run this args ⟨m, vals⟩ (.sshl bits a n :: os)
    = (sshl bits (vals.getD a 0) n).bind fun v => Bit.run this args ⟨m, vals ++ [v]⟩ os := by
  simp only [Bit.run, Bit.step, map_bind', Bit.St.push, Bit.St.val]

-- `swapEndian_u32` is unfolded: the programs have its four shifts inlined, the shallow translation calls it
attribute [bit_run] run_nil map_some' some_bind List.nil_append List.cons_append List.getD_cons_zero List.getD_cons_succ List.getD_nil
  Bit.St.val swapEndian_u32 Nat.add_zero Bool.false_eq_true if_true if_false

/-- evaluate a concrete program step by step; normalise both sides to right-nested `bind`s of the partial primitives -/
macro "prog_norm" : tactic =>
  `(tactic| simp only [bit_run, bind, pure, Nat.reducePow])

theorem CanPayloadBase_Header_getCrc_prog_agrees (m : Bytes) (this : Nat) :
    (Bit.run this [] ⟨m, []⟩ CanPayloadBase_Header_getCrc_prog.1).map (fun st => (st.m, st.val CanPayloadBase_Header_getCrc_prog.2))
      = (CanPayloadBase_Header_getCrc m this).map (fun r => (m, r)) := by
  unfold CanPayloadBase_Header_getCrc_prog CanPayloadBase_Header_getCrc
  prog_norm

theorem CanPayloadBase_Header_getCrcSbc_prog_agrees (m : Bytes) (this : Nat) :
    (Bit.run this [] ⟨m, []⟩ CanPayloadBase_Header_getCrcSbc_prog.1).map (fun st => (st.m, st.val CanPayloadBase_Header_getCrcSbc_prog.2))
      = (CanPayloadBase_Header_getCrcSbc m this).map (fun r => (m, r)) := by
  unfold CanPayloadBase_Header_getCrcSbc_prog CanPayloadBase_Header_getCrcSbc
  prog_norm

theorem CanPayloadBase_Header_getSbc_prog_agrees (m : Bytes) (this : Nat) :
    (Bit.run this [] ⟨m, []⟩ CanPayloadBase_Header_getSbc_prog.1).map (fun st => (st.m, st.val CanPayloadBase_Header_getSbc_prog.2))
      = (CanPayloadBase_Header_getSbc m this).map (fun r => (m, r)) := by
  unfold CanPayloadBase_Header_getSbc_prog CanPayloadBase_Header_getSbc
  prog_norm

theorem Encoder_getDeviceId_prog_agrees (m : Bytes) (this : Nat) :
    (Bit.run this [] ⟨m, []⟩ Encoder_getDeviceId_prog.1).map (fun st => (st.m, st.val Encoder_getDeviceId_prog.2))
      = (Encoder_getDeviceId m this).map (fun r => (m, r)) := by
  unfold Encoder_getDeviceId_prog Encoder_getDeviceId
  prog_norm

theorem Encoder_getStreamId_prog_agrees (m : Bytes) (this : Nat) :
    (Bit.run this [] ⟨m, []⟩ Encoder_getStreamId_prog.1).map (fun st => (st.m, st.val Encoder_getStreamId_prog.2))
      = (Encoder_getStreamId m this).map (fun r => (m, r)) := by
  unfold Encoder_getStreamId_prog Encoder_getStreamId
  prog_norm

theorem InterfaceStatus_getInterfaceId_prog_agrees (m : Bytes) (this : Nat) :
    (Bit.run this [] ⟨m, []⟩ InterfaceStatus_getInterfaceId_prog.1).map (fun st => (st.m, st.val InterfaceStatus_getInterfaceId_prog.2))
      = (InterfaceStatus_getInterfaceId m this).map (fun r => (m, r)) := by
  unfold InterfaceStatus_getInterfaceId_prog InterfaceStatus_getInterfaceId
  prog_norm

theorem TECMP_PayloadType_getRawPayloadType_prog_agrees (m : Bytes) (this : Nat) :
    (Bit.run this [] ⟨m, []⟩ TECMP_PayloadType_getRawPayloadType_prog.1).map (fun st => (st.m, st.val TECMP_PayloadType_getRawPayloadType_prog.2))
      = (TECMP_PayloadType_getRawPayloadType m this).map (fun r => (m, r)) := by
  unfold TECMP_PayloadType_getRawPayloadType_prog TECMP_PayloadType_getRawPayloadType
  prog_norm

theorem CanPayloadBase_Header_getRtrRrs_prog_agrees (m : Bytes) (this : Nat) :
    (Bit.run this [] ⟨m, []⟩ CanPayloadBase_Header_getRtrRrs_prog.1).map (fun st => (st.m, st.val CanPayloadBase_Header_getRtrRrs_prog.2 != 0))
      = (CanPayloadBase_Header_getRtrRrs m this).map (fun r => (m, r)) := by
  unfold CanPayloadBase_Header_getRtrRrs_prog CanPayloadBase_Header_getRtrRrs
  prog_norm

theorem CanPayloadBase_Header_getSbcParity_prog_agrees (m : Bytes) (this : Nat) :
    (Bit.run this [] ⟨m, []⟩ CanPayloadBase_Header_getSbcParity_prog.1).map (fun st => (st.m, st.val CanPayloadBase_Header_getSbcParity_prog.2 != 0))
      = (CanPayloadBase_Header_getSbcParity m this).map (fun r => (m, r)) := by
  unfold CanPayloadBase_Header_getSbcParity_prog CanPayloadBase_Header_getSbcParity
  prog_norm

theorem CanPayloadBase_Header_getSbcSupport_prog_agrees (m : Bytes) (this : Nat) :
    (Bit.run this [] ⟨m, []⟩ CanPayloadBase_Header_getSbcSupport_prog.1).map (fun st => (st.m, st.val CanPayloadBase_Header_getSbcSupport_prog.2 != 0))
      = (CanPayloadBase_Header_getSbcSupport m this).map (fun r => (m, r)) := by
  unfold CanPayloadBase_Header_getSbcSupport_prog CanPayloadBase_Header_getSbcSupport
  prog_norm

theorem Packet_getCommonFlag_prog_agrees (m : Bytes) (this mask : Nat) :
    (Bit.run this [mask] ⟨m, []⟩ (Packet_getCommonFlag_prog (.arg 0)).1).map
        (fun st => (st.m, st.val (Packet_getCommonFlag_prog (.arg 0)).2 != 0))
      = (Packet_getCommonFlag m this mask).map (fun r => (m, r)) := by
  unfold Packet_getCommonFlag_prog Packet_getCommonFlag
  prog_norm

theorem CanPayloadBase_Header_setRtrRrs_prog_agrees (m : Bytes) (this : Nat) (v : Bool) :
    (Bit.run this [] ⟨m, []⟩ (CanPayloadBase_Header_setRtrRrs_prog v).1).map (fun st => st.m) = CanPayloadBase_Header_setRtrRrs m this v := by
  unfold CanPayloadBase_Header_setRtrRrs_prog CanPayloadBase_Header_setRtrRrs
  cases v <;> prog_norm <;> cases (Src.rd m (this + 4) 4) <;> rfl

theorem CanPayloadBase_Header_setSbcParity_prog_agrees (m : Bytes) (this : Nat) (v : Bool) :
    (Bit.run this [] ⟨m, []⟩ (CanPayloadBase_Header_setSbcParity_prog v).1).map (fun st => st.m) = CanPayloadBase_Header_setSbcParity m this v := by
  unfold CanPayloadBase_Header_setSbcParity_prog CanPayloadBase_Header_setSbcParity
  cases v <;> prog_norm <;> cases (Src.rd m (this + 8) 4) <;> rfl

theorem CanPayloadBase_Header_setSbcSupport_prog_agrees (m : Bytes) (this : Nat) (v : Bool) :
    (Bit.run this [] ⟨m, []⟩ (CanPayloadBase_Header_setSbcSupport_prog v).1).map (fun st => st.m) = CanPayloadBase_Header_setSbcSupport m this v := by
  unfold CanPayloadBase_Header_setSbcSupport_prog CanPayloadBase_Header_setSbcSupport
  cases v <;> prog_norm <;> cases (Src.rd m (this + 8) 4) <;> rfl

theorem Packet_setCommonFlag_prog_agrees (m : Bytes) (this mask : Nat) (v : Bool) :
    (Bit.run this [mask] ⟨m, []⟩ (Packet_setCommonFlag_prog (.arg 0) v).1).map (fun st => st.m) = Packet_setCommonFlag m this mask v := by
  unfold Packet_setCommonFlag_prog Packet_setCommonFlag
  cases v <;> prog_norm <;> cases (Src.rd m (this + 30) 1) <;> rfl

theorem CanPayloadBase_Header_setSbc_prog_agrees (m : Bytes) (this x : Nat) :
    (Bit.run this [x] ⟨m, []⟩ (CanPayloadBase_Header_setSbc_prog (.arg 0)).1).map (fun st => st.m) = CanPayloadBase_Header_setSbc m this x := by
  unfold CanPayloadBase_Header_setSbc_prog CanPayloadBase_Header_setSbc
  prog_norm

theorem PayloadType_setMessageType_prog_agrees (m : Bytes) (this x : Nat) :
    (Bit.run this [x] ⟨m, []⟩ (PayloadType_setMessageType_prog (.arg 0)).1).map (fun st => st.m) = PayloadType_setMessageType m this x := by
  have e : PayloadType_setMessageType m this x = (do
      let t1 ← Src.rd m this 4
      let m ← wr m this 4 (t1 &&& bnot 32 65280)
      let t3 ← sshl 32 x 8
      let t4 ← Src.rd m this 4
      let m ← wr m this 4 (t4 ||| t3)
      pure m) := rfl
  rw [e]
  unfold PayloadType_setMessageType_prog
  prog_norm

theorem PayloadType_setRawPayloadType_prog_agrees (m : Bytes) (this x : Nat) :
    (Bit.run this [x] ⟨m, []⟩ (PayloadType_setRawPayloadType_prog (.arg 0)).1).map (fun st => st.m) = PayloadType_setRawPayloadType m this x := by
  unfold PayloadType_setRawPayloadType_prog PayloadType_setRawPayloadType
  prog_norm

theorem PayloadType_setType_prog_agrees (m : Bytes) (this x : Nat) :
    (Bit.run this [x] ⟨m, []⟩ (PayloadType_setType_prog (.arg 0)).1).map (fun st => st.m) = PayloadType_setType m this x := by
  unfold PayloadType_setType_prog PayloadType_setType
  prog_norm

theorem TECMP_PayloadType_setMessageType_prog_agrees (m : Bytes) (this x : Nat) :
    (Bit.run this [x] ⟨m, []⟩ (TECMP_PayloadType_setMessageType_prog (.arg 0)).1).map (fun st => st.m) = TECMP_PayloadType_setMessageType m this x := by
  have e : TECMP_PayloadType_setMessageType m this x = (do
      let t1 ← Src.rd m this 4
      let m ← wr m this 4 (t1 &&& bnot 32 65280)
      let t3 ← sshl 32 x 8
      let t4 ← Src.rd m this 4
      let m ← wr m this 4 (t4 ||| t3)
      pure m) := rfl
  rw [e]
  unfold TECMP_PayloadType_setMessageType_prog
  prog_norm

theorem TECMP_PayloadType_setRawPayloadType_prog_agrees (m : Bytes) (this x : Nat) :
    (Bit.run this [x] ⟨m, []⟩ (TECMP_PayloadType_setRawPayloadType_prog (.arg 0)).1).map (fun st => st.m) = TECMP_PayloadType_setRawPayloadType m this x := by
  unfold TECMP_PayloadType_setRawPayloadType_prog TECMP_PayloadType_setRawPayloadType
  prog_norm

theorem TECMP_PayloadType_setType_prog_agrees (m : Bytes) (this x : Nat) :
    (Bit.run this [x] ⟨m, []⟩ (TECMP_PayloadType_setType_prog (.arg 0)).1).map (fun st => st.m) = TECMP_PayloadType_setType m this x := by
  unfold TECMP_PayloadType_setType_prog TECMP_PayloadType_setType
  prog_norm

end progs

end AsamCmp.SrcLeft
