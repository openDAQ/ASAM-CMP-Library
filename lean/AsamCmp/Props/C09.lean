/-
  C09  Frame headers carry consecutive sequence counters and the encoder's identity.

  Statement (properties.jsonl): over any history of configuration changes and encode calls on
  one encoder, every emitted frame carries the currently configured device id and stream id,
  the batch's protocol version and the message type of its messages, and a 16-bit sequence
  counter exactly one greater (modulo 65536) than that of the previously emitted frame,
  starting again at 1 after the device id or stream id is set or the encoder is restarted.
  The counter the encoder reports always equals that of the last frame it emitted.

  Every theorem starts from an IDLE encoder (`Enc.Idle`, EncHist.lean: the state between two API calls — no closed frames kept,
  no frame under construction, no template, counter below 2^16).  A freshly constructed encoder is idle and every operation
  leaves it idle (`C09_config`, `C09_encode`), so "any history" is any list of operations run from an idle state.
-/
import AsamCmp.EncHist
import AsamCmp.Lemmas.EncOpen
import AsamCmp.Lemmas.C09SRun
namespace AsamCmp

/-- bytes 0..7 of a serialised frame are its header fields, big-endian, at the layout's offsets -/
theorem C09_header_bytes (min : Nat) (f : EFrame) :
    (EFrame.bytes min f).take 8 = frameHeader f.ver f.dev f.mt f.stream f.seq := by
  rw [EFrame.bytes_eq]
  exact List.take_left' (frameHeader_length ..)

/-- one encode call from an idle encoder: identity, counters, message type and version of
    every frame, and the counter reported afterwards -/
theorem C09_encode (e : Enc) (batch : List Packet) (c : Ctx) (hidle : e.Idle) :
    let r := e.encode batch c
    r.1.Idle ∧ r.1.dev = e.dev ∧ r.1.stream = e.stream ∧
    r.1.seqc = (e.seqc + r.2.length) % 65536 ∧
    (∀ i (h : i < r.2.length), r.2[i].seq = (e.seqc + i + 1) % 65536 ∧ r.2[i].dev = e.dev ∧ r.2[i].stream = e.stream) ∧
    (∀ f ∈ r.2, ∀ m ∈ f.msgs, m.pkt.mt = f.mt) ∧
    (∀ v, (∀ p ∈ batch, p.version = v) → ∀ f ∈ r.2, f.ver = v % 256) := by
  obtain ⟨hn, hd, hs, hq, hlt, h1, h2, h3⟩ := Open.encode_numbered e batch c
  refine ⟨⟨h1, h2, h3, hlt hidle.2.2.2⟩, hd, hs, ?_, hn, ?_, ?_⟩
  · rw [← hq, Nat.mod_eq_of_lt (hlt hidle.2.2.2)]
  · intro f hf m hm
    exact ((C09S.encode_closedOk e batch c f hf).2 m hm).hmt
  · intro v hv f hf
    obtain ⟨hne, hok⟩ := C09S.encode_closedOk e batch c f hf
    obtain ⟨m, hm⟩ := List.exists_mem_of_ne_nil _ hne
    obtain ⟨q, hq', hver⟩ := (hok m hm).hver
    rw [hver, hv q (List.mem_of_getElem? hq')]

/-- the setters and restart: idle again, counter 0, ids as configured -/
theorem C09_config (e : Enc) (hidle : e.Idle) (d : Nat) :
    (e.setDevice d).Idle ∧ (e.setDevice d).seqc = 0 ∧ (e.setDevice d).dev = d % 65536 ∧ (e.setDevice d).stream = e.stream ∧
    (e.setStream d).Idle ∧ (e.setStream d).seqc = 0 ∧ (e.setStream d).stream = d % 256 ∧ (e.setStream d).dev = e.dev ∧
    e.restart.Idle ∧ e.restart.seqc = 0 ∧ e.restart.dev = e.dev ∧ e.restart.stream = e.stream := by
  obtain ⟨h1, h2, h3, -⟩ := hidle
  simp [Enc.setDevice, Enc.setStream, Enc.restart, Enc.Idle, h1, h2, h3]

/-- what an observer of the frames knows of the encoder: the triple `g = (g.1, g.2.1, g.2.2)` =
    (configured device id, configured stream id, counter of the last frame emitted since the last reset, or 0 if none);
    `ghost g op fs` is the triple after operation `op` that returned the frames `fs`.  The history theorems
    (`C09_headers`) show that the encoder's own `dev`, `stream`, `seqc` are this triple -/
def ghost : (Nat × Nat × Nat) → EncOp → List EFrame → (Nat × Nat × Nat)
  | (_, s, _), .setDev d, _ => (d % 65536, s, 0)
  | (d, _, _), .setStream s, _ => (d, s % 256, 0)
  | (d, s, _), .restart, _ => (d, s, 0)
  | (d, s, q), .encode _ _, fs => (d, s, (q + fs.length) % 65536)

/-- what C09 demands of the frames `fs` of one call, given the triple `g` = (device id, stream id, last counter) of `ghost`
    before it -/
def C09_call_ok (g : Nat × Nat × Nat) (op : EncOp) (fs : List EFrame) : Prop :=
  match op with
  | .encode batch _ =>
    (∀ i (h : i < fs.length), fs[i].seq = (g.2.2 + i + 1) % 65536 ∧ fs[i].dev = g.1 ∧ fs[i].stream = g.2.1) ∧
    (∀ f ∈ fs, ∀ m ∈ f.msgs, m.pkt.mt = f.mt) ∧
    (∀ v, (∀ p ∈ batch, p.version = v) → ∀ f ∈ fs, f.ver = v % 256)
  | _ => fs = []

/-- all calls of a history satisfy `C09_call_ok`, the triple `g` carried along by `ghost` -/
def C09_hist_ok : (Nat × Nat × Nat) → List EncOp → List (List EFrame) → Prop
  | _, [], [] => True
  | g, op :: ops, fs :: fss => C09_call_ok g op fs ∧ C09_hist_ok (ghost g op fs) ops fss
  | _, _, _ => False

/-- one call from an idle encoder: its frames are as C09 demands, the encoder is idle again and reports the ghost view -/
theorem C09_call (e : Enc) (hidle : e.Idle) (op : EncOp) :
    C09_call_ok (e.dev, e.stream, e.seqc) op (e.apply op).2 ∧ (e.apply op).1.Idle ∧
    ((e.apply op).1.dev, (e.apply op).1.stream, (e.apply op).1.seqc) =
      ghost (e.dev, e.stream, e.seqc) op (e.apply op).2 := by
  have hcfg := C09_config e hidle
  cases op with
  | setDev d =>
    obtain ⟨h1, h2, h3, h4, -⟩ := hcfg d
    refine ⟨rfl, h1, ?_⟩
    simp only [Enc.apply, ghost, h2, h3, h4]
  | setStream d =>
    obtain ⟨-, -, -, -, h1, h2, h3, h4, -⟩ := hcfg d
    refine ⟨rfl, h1, ?_⟩
    simp only [Enc.apply, ghost, h2, h3, h4]
  | restart =>
    obtain ⟨-, -, -, -, -, -, -, -, h1, h2, h3, h4⟩ := hcfg 0
    refine ⟨rfl, h1, ?_⟩
    simp only [Enc.apply, ghost, h2, h3, h4]
  | encode b c =>
    obtain ⟨h1, h2, h3, h4, h5, h6, h7⟩ := C09_encode e b c hidle
    refine ⟨⟨h5, h6, h7⟩, h1, ?_⟩
    simp only [Enc.apply, ghost, h2, h3, h4]

/-- C09 for every history: every frame of every call has the configured ids, consecutive
    counters (restarting at 1 after a reset) and the reported counter is that of the last frame -/
theorem C09_headers (e : Enc) (hidle : e.Idle) (ops : List EncOp) :
    let r := e.runOps ops
    C09_hist_ok (e.dev, e.stream, e.seqc) ops r.2 ∧
    r.1.Idle ∧
    (r.1.dev, r.1.stream, r.1.seqc) = (List.zip ops r.2).foldl (fun g x => ghost g x.1 x.2) (e.dev, e.stream, e.seqc) := by
  induction ops generalizing e with
  | nil => exact ⟨trivial, hidle, rfl⟩
  | cons op ops ih =>
    obtain ⟨h1, h2, h3⟩ := C09_call e hidle op
    have h := ih (e.apply op).1 h2
    rw [h3] at h
    simp only [Enc.runOps, List.zip_cons_cons, List.foldl_cons, C09_hist_ok]
    exact ⟨⟨h1, h.1⟩, h.2.1, h.2.2⟩

/-- non-vacuity: a freshly constructed encoder is idle -/
example : (Enc.fresh 5 7).Idle := by simp [Enc.fresh, Enc.Idle]

end AsamCmp
