/-
  C15  TECMP messages convert to equivalent ASAM CMP packets.

  For every well-formed TECMP message of a supported kind (CAN, CAN-FD and LIN data, capture-module
  status, bus status), decoding yields packets whose device id, timestamp, interface id, arbitration
  or LIN id, data bytes and data length, LIN checksum, serial-number and version strings and
  per-interface counters equal the big-endian TECMP wire fields, with one interface-status packet per
  bus-status entry.  Messages of unsupported kinds, or whose inner lengths do not fit the buffer,
  yield no packet.
-/
import AsamCmp.Tecmp
import AsamCmp.Access
import AsamCmp.Fields
import AsamCmp.Lemmas.TecmpWire
namespace AsamCmp.C15
open AsamCmp

/-- the 28-byte TECMP header as the protocol lays it out: 0x00 @0 (routes the buffer to the TECMP
    decoder), device id u8 @1, counter u16 @2, version u8 @4, message type u8 @5, data type u16 @6,
    reserved u16 @8, device flags u16 @10, interface id u32 @12, timestamp u64 @16,
    payload length u16 @24, data flags u16 @26 -/
structure THdr where
  dev : Nat
  counter : Nat
  version : Nat
  mt : Nat
  dt : Nat
  reserved : Nat
  devFlags : Nat
  ifId : Nat
  ts : Nat
  plen : Nat
  dataFlags : Nat

def THdr.bytes (h : THdr) : Bytes :=
  [0, UInt8.ofNat h.dev] ++ beEnc 2 h.counter ++ [UInt8.ofNat h.version, UInt8.ofNat h.mt] ++ beEnc 2 h.dt ++
  beEnc 2 h.reserved ++ beEnc 2 h.devFlags ++ beEnc 4 h.ifId ++ beEnc 8 h.ts ++ beEnc 2 h.plen ++ beEnc 2 h.dataFlags

def THdr.WF (h : THdr) : Prop :=
  h.dev < 256 ∧ h.counter < 65536 ∧ h.version < 256 ∧ h.mt < 256 ∧ h.dt < 65536 ∧ h.reserved < 65536 ∧
  h.devFlags < 65536 ∧ h.ifId < 2 ^ 32 ∧ h.ts < 2 ^ 64 ∧ h.plen < 65536 ∧ h.dataFlags < 65536

/-- a message the decoder looks at: header valid (`mt ≠ 0xFF`, data type bytes ≠ FF 00), payload
    length non-zero and inside the buffer -/
def Accepts (h : THdr) (payload : Bytes) : Prop :=
  h.WF ∧ h.mt ≠ 0xFF ∧ h.dt ≠ 0xFF00 ∧ 1 ≤ h.plen ∧ h.plen ≤ payload.length

/-- common part: every converted packet carries the header's device id, timestamp, version 1 and
    stream 0 -/
def FromHdr (h : THdr) (p : Packet) : Prop :=
  p.deviceId = h.dev ∧ p.ts = h.ts ∧ p.version = 1 ∧ p.streamId = 0 ∧ p.seq = 0 ∧ p.vendorId = 0 ∧ p.flags = 0 ∧ p.segType = 0

/-- bus status: 12 generic bytes (vendor data length `v`: u16 @4), then entries of `12 + v` bytes (interface id u32,
    messages total u32, errors total u32, `v` bytes of vendor data): one interface-status packet per complete entry -/
structure BusEntry where
  ifId : Nat
  msgs : Nat
  errs : Nat

def BusEntry.bytes (e : BusEntry) : Bytes := beEnc 4 e.ifId ++ beEnc 4 e.msgs ++ beEnc 4 e.errs
def BusEntry.WF (e : BusEntry) : Prop := e.ifId < 2 ^ 32 ∧ e.msgs < 2 ^ 32 ∧ e.errs < 2 ^ 32

/-- the interface-status packet of one entry: interface id, msg-total-rx and errors-total-rx set on a
    default interface payload; the packet's interface id is the entry's -/
def busPacket (h : THdr) (e : BusEntry) : Packet :=
  { payload := some ⟨tyIf, writeAt (writeAt (writeAt ifDefault 0 (beEnc 4 e.ifId)) 4 (beEnc 4 e.msgs)) 20 (beEnc 4 e.errs)⟩,
    version := 1, deviceId := h.dev, ts := h.ts, ifId := e.ifId }

/-- a bus-status entry on the wire: the 12 counter bytes followed by its vendor data -/
def vendorEntry (e : BusEntry) (vendor : Bytes) : Bytes := e.bytes ++ vendor

/-! ### what the property theorems below are read off: the header read back, the dispatch on an accepted message, one equation per kind -/

theorem hdr_length (h : THdr) : h.bytes.length = 28 := by
  simp [THdr.bytes]

theorem length_hdr_append (h : THdr) (pay : Bytes) : (h.bytes ++ pay).length = 28 + pay.length := by
  rw [List.length_append, hdr_length]

/-- what the decoder and the converter read from the 28 header bytes of a buffer `b` -/
structure HeaderReadBack (b : Bytes) (dev mt dt ifId ts plen : Nat) : Prop where
  dev : byteAt b 1 = dev
  mt : byteAt b 5 = mt
  dt : beAt b 6 2 = dt
  ifId : beAt b 12 4 = ifId
  ts : beAt b 16 8 = ts
  plen : beAt b 24 2 = plen

/-- a buffer that starts with a well-formed `THdr`: with the header written field after field, a field is read by skipping
    the fields in front of it -/
theorem headerReadBack_of_wf (h : THdr) (hwf : h.WF) (pay : Bytes) : HeaderReadBack (h.bytes ++ pay) h.dev h.mt h.dt h.ifId h.ts h.plen := by
  obtain ⟨hdev, _, _, hmtlt, hdtlt, _, _, hif, hts, hpl, _⟩ := hwf
  have hb : h.bytes ++ pay = [0, UInt8.ofNat h.dev] ++ (beEnc 2 h.counter ++ ([UInt8.ofNat h.version, UInt8.ofNat h.mt] ++
      (beEnc 2 h.dt ++ (beEnc 2 h.reserved ++ (beEnc 2 h.devFlags ++ (beEnc 4 h.ifId ++ (beEnc 8 h.ts ++
      (beEnc 2 h.plen ++ (beEnc 2 h.dataFlags ++ pay))))))))) := by
    simp only [THdr.bytes, List.append_assoc]
  refine ⟨by rw [hb]; exact UInt8.toNat_ofNat_of_lt' hdev, ?_, ?_, ?_, ?_, ?_⟩
  all_goals
    rw [hb]
    simp (disch := simp only [List.length_cons, List.length_nil, beEnc_length, Nat.reduceAdd, Nat.reduceLeDiff]) only
      [byteAt_append_of_length_le, beAt_append_of_length_le, beAt_head, List.length_cons, List.length_nil, beEnc_length, Nat.reduceAdd, Nat.reduceSub]
  · exact UInt8.toNat_ofNat_of_lt' hmtlt
  · exact Nat.mod_eq_of_lt hdtlt
  · exact Nat.mod_eq_of_lt hif
  · exact Nat.mod_eq_of_lt hts
  · exact Nat.mod_eq_of_lt hpl

/-- an accepted message passes the header checks: what is behind the header goes to the converter of its kind -/
theorem decode_accepted (h : THdr) (pay : Bytes) (hacc : Accepts h pay) :
    tecmpDecode (h.bytes ++ pay) =
      if h.mt = 1 then tecmpCm (h.bytes ++ pay) pay
      else if h.mt = 3 then
        if h.dt = 2 ∨ h.dt = 3 then tecmpCan (h.bytes ++ pay) pay
        else if h.dt = 4 then tecmpLin (h.bytes ++ pay) pay
        else []
      else if h.mt = 2 then tecmpBus (h.bytes ++ pay) pay
      else [] := by
  obtain ⟨hwf, hmt, hdt, h1, h2⟩ := hacc
  have hf := headerReadBack_of_wf h hwf pay
  have hlen := length_hdr_append h pay
  have hd2 := beAt_two_eq_byteAt (h.bytes ++ pay) 6 (by omega)
  -- data type bytes `FF 00` would make the data type 0xFF00
  have hvalid : ¬ (byteAt (h.bytes ++ pay) 5 = 0xFF ∨ (byteAt (h.bytes ++ pay) 6 = 0xFF ∧ byteAt (h.bytes ++ pay) 7 = 0)) := by
    rw [hf.mt]
    intro hi
    rcases hi with hi | ⟨h6, h7⟩
    · exact hmt hi
    · rw [hf.dt, h6, h7] at hd2
      exact hdt hd2
  rw [tecmpDecode_accepted _ (by rw [hf.plen]; omega) hvalid, tecmpKind, hf.mt, hf.dt, List.drop_left' (hdr_length h)]

theorem accepted_cm (h : THdr) (pay : Bytes) (hmt : h.mt = 1) (hacc : Accepts h pay) :
    tecmpDecode (h.bytes ++ pay) = tecmpCm (h.bytes ++ pay) pay := by
  rw [decode_accepted h pay hacc, if_pos hmt]

theorem accepted_can (h : THdr) (pay : Bytes) (hmt : h.mt = 3) (hdt : h.dt = 2 ∨ h.dt = 3) (hacc : Accepts h pay) :
    tecmpDecode (h.bytes ++ pay) = tecmpCan (h.bytes ++ pay) pay := by
  rw [decode_accepted h pay hacc, if_neg (by omega), if_pos hmt, if_pos hdt]

theorem accepted_lin (h : THdr) (pay : Bytes) (hmt : h.mt = 3) (hdt : h.dt = 4) (hacc : Accepts h pay) :
    tecmpDecode (h.bytes ++ pay) = tecmpLin (h.bytes ++ pay) pay := by
  rw [decode_accepted h pay hacc, if_neg (by omega), if_pos hmt, if_neg (by omega), if_pos hdt]

theorem accepted_bus (h : THdr) (pay : Bytes) (hmt : h.mt = 2) (hacc : Accepts h pay) :
    tecmpDecode (h.bytes ++ pay) = tecmpBus (h.bytes ++ pay) pay := by
  rw [decode_accepted h pay hacc, if_neg (by omega), if_neg (by omega), if_pos hmt]

theorem packet_of_hdr (h : THdr) (pay : Bytes) (hwf : h.WF) (i : Nat) (pl : Payload) :
    tecmpPacket (h.bytes ++ pay) i pl = { payload := some pl, version := 1, deviceId := h.dev, ts := h.ts, ifId := i } := by
  rw [tecmpPacket, (headerReadBack_of_wf h hwf pay).dev, (headerReadBack_of_wf h hwf pay).ts]

theorem ifId_of_hdr (h : THdr) (pay : Bytes) (hwf : h.WF) : beAt (h.bytes ++ pay) 12 4 = h.ifId :=
  (headerReadBack_of_wf h hwf pay).ifId

theorem fromHdr_mk (h : THdr) (i : Nat) (pl : Payload) :
    FromHdr h { payload := some pl, version := 1, deviceId := h.dev, ts := h.ts, ifId := i } :=
  ⟨rfl, rfl, rfl, rfl, rfl, rfl, rfl, rfl⟩

/-- CAN / CAN-FD, as an equation: the one packet; `crc` is whatever follows the data (any length, also empty) -/
theorem decode_can (h : THdr) (arb : Nat) (data crc : Bytes) (hdt : h.dt = 2 ∨ h.dt = 3) (hmt : h.mt = 3)
    (harb : arb < 2 ^ 32) (hn : data.length < 256)
    (hacc : Accepts h (beEnc 4 arb ++ [UInt8.ofNat data.length] ++ data ++ crc)) :
    tecmpDecode (h.bytes ++ (beEnc 4 arb ++ [UInt8.ofNat data.length] ++ data ++ crc)) =
      [{ payload := some ⟨if data.length > 8 then tyCanFd else tyCan,
            canObj arb (canCrcWord (beEnc 4 arb ++ [UInt8.ofNat data.length] ++ data ++ crc) data.length) data⟩,
         version := 1, deviceId := h.dev, ts := h.ts, ifId := h.ifId }] := by
  rw [accepted_can h _ hmt hdt hacc, can_conv _ arb data crc harb hn, packet_of_hdr h _ hacc.1, ifId_of_hdr h _ hacc.1]

/-- LIN, as an equation: the one packet; `tail` is whatever follows the data, its first byte is reported as the checksum -/
theorem decode_lin (h : THdr) (pid : Nat) (data tail : Bytes) (hdt : h.dt = 4) (hmt : h.mt = 3)
    (hpid : pid < 256) (hn : data.length < 256)
    (hacc : Accepts h ([UInt8.ofNat pid, UInt8.ofNat data.length] ++ data ++ tail)) :
    tecmpDecode (h.bytes ++ ([UInt8.ofNat pid, UInt8.ofNat data.length] ++ data ++ tail)) =
      [{ payload := some ⟨tyLin, linObj (UInt8.ofNat (pid % 64)) (tail.headD 0) data⟩,
         version := 1, deviceId := h.dev, ts := h.ts, ifId := h.ifId }] := by
  rw [accepted_lin h _ hmt hdt hacc, lin_conv _ pid data tail hpid hn, packet_of_hdr h _ hacc.1, ifId_of_hdr h _ hacc.1]

/-- capture-module status, as an equation: the packet with all its fields.  `hvd`: the vendor data the generic part
    declares (u16 @4) lies inside the payload, behind the 12 generic bytes -/
theorem decode_cm (h : THdr) (pay : Bytes) (hmt : h.mt = 1) (hlen : 18 ≤ pay.length)
    (hvd : beAt pay 4 2 ≤ pay.length - 12) (hacc : Accepts h pay) :
    tecmpDecode (h.bytes ++ pay) =
      [{ payload := some ⟨tyCm, cmSetData cmDefault []
            (decimal (beAt pay 8 4))
            ([chr 'v'] ++ decimal (byteAt pay 16) ++ [chr '.'] ++ decimal (byteAt pay 17))
            ([chr 'v'] ++ decimal (byteAt pay 13) ++ [chr '.'] ++ decimal (byteAt pay 14) ++ [chr '.'] ++
              decimal (byteAt pay 15))
            []⟩,
         version := 1, deviceId := h.dev, ts := h.ts, ifId := h.ifId }] := by
  rw [accepted_cm h pay hmt hacc, tecmpCm_shape, if_neg (by omega), packet_of_hdr h _ hacc.1, ifId_of_hdr h _ hacc.1]

theorem vendorEntries_length (v : Nat) (es : List (BusEntry × Bytes)) (hv : ∀ e ∈ es, e.2.length = v) :
    (es.flatMap fun e => vendorEntry e.1 e.2).length = (12 + v) * es.length := by
  induction es with
  | nil => rfl
  | cons e es ih =>
    have h1 : (vendorEntry e.1 e.2).length = 12 + v := by
      simp only [vendorEntry, BusEntry.bytes, List.length_append, beEnc_length, hv e (List.mem_cons_self ..)]
    rw [List.flatMap_cons, List.length_append, ih (fun x hx => hv x (List.mem_cons_of_mem _ hx)), h1, List.length_cons,
      Nat.mul_succ, Nat.add_comm]

/-- one entry read back: interface id and counters from its first 12 bytes, whatever follows -/
theorem busPkt_entry (b : Bytes) (e : BusEntry) (vd : Bytes) (hwf : e.WF) (pre rest : Bytes) :
    busPkt b (pre ++ vendorEntry e vd ++ rest) pre.length =
      tecmpPacket b e.ifId ⟨tyIf, busObj e.ifId e.msgs e.errs⟩ := by
  obtain ⟨h1, h2, h3⟩ := hwf
  have hp : pre ++ vendorEntry e vd ++ rest =
      pre ++ (beEnc 4 e.ifId ++ (beEnc 4 e.msgs ++ (beEnc 4 e.errs ++ (vd ++ rest)))) := by
    simp only [vendorEntry, BusEntry.bytes, List.append_assoc]
  have ha : beAt (pre ++ vendorEntry e vd ++ rest) pre.length 4 = e.ifId := by
    rw [hp, C13.beAt_at _ _ _ 4 _ rfl]; exact Nat.mod_eq_of_lt h1
  have hm : beAt (pre ++ vendorEntry e vd ++ rest) (pre.length + 4) 4 = e.msgs := by
    rw [hp, ← List.append_assoc pre, C13.beAt_at _ _ _ 4 _ (by simp)]; exact Nat.mod_eq_of_lt h2
  have he : beAt (pre ++ vendorEntry e vd ++ rest) (pre.length + 8) 4 = e.errs := by
    rw [hp, ← List.append_assoc pre, ← List.append_assoc (pre ++ _), C13.beAt_at _ _ _ 4 _ (by simp)]
    exact Nat.mod_eq_of_lt h3
  rw [busPkt, ha, hm, he]

theorem beAt_drop (b : Bytes) (k off w : Nat) : beAt (b.drop k) off w = beAt b (k + off) w :=
  beAt_drop_add b k off w

/-! ### the property -/

/-- CAN / CAN-FD data: arbitration id u32 @0, data length u8 @4, data @5, then 3 crc bytes -/
theorem C15_can (h : THdr) (arb : Nat) (data crc : Bytes) (hdt : h.dt = 2 ∨ h.dt = 3) (hmt : h.mt = 3)
    (harb : arb < 2 ^ 32) (hn : data.length < 256)
    (hacc : Accepts h (beEnc 4 arb ++ [UInt8.ofNat data.length] ++ data ++ crc)) :
    ∃ p pl, tecmpDecode (h.bytes ++ (beEnc 4 arb ++ [UInt8.ofNat data.length] ++ data ++ crc)) = [p] ∧
      FromHdr h p ∧ p.ifId = h.ifId ∧ p.payload = some pl ∧
      pl.ty = (if data.length > 8 then tyCanFd else tyCan) ∧
      -- arbitration id: the 29 identifier bits of the CAN id word
      getField ⟨"id", 4, 4, 0, 29, ""⟩ pl.data = arb % 2 ^ 29 ∧
      byteAt pl.data 15 = data.length ∧ byteAt pl.data 14 = dlcOf data.length ∧ pl.data.drop 16 = data ∧
      beAt pl.data 0 2 = 0 ∧ beAt pl.data 12 2 = 0 := by
  obtain ⟨_, hid, _, h15, h14, hdrop, h0, h12, _⟩ :=
    canObj_facts arb (canCrcWord (beEnc 4 arb ++ [UInt8.ofNat data.length] ++ data ++ crc) data.length) data hn
  refine ⟨_, _, decode_can h arb data crc hdt hmt harb hn hacc, fromHdr_mk h _ _, rfl, rfl, rfl, ?_,
    h15, h14, hdrop, h0, h12⟩
  show beAt (canObj arb _ data) 4 4 / 2 ^ 0 % 2 ^ 29 = arb % 2 ^ 29
  rw [hid, Nat.mod_eq_of_lt (by omega : arb < 256 ^ 4), Nat.pow_zero, Nat.div_one]

/-- LIN data: pid u8 @0, data length u8 @1, data @2, then the checksum byte -/
theorem C15_lin (h : THdr) (pid : Nat) (data : Bytes) (cks : Nat) (hdt : h.dt = 4) (hmt : h.mt = 3)
    (hpid : pid < 256) (hn : data.length < 256) (hc : cks < 256)
    (hacc : Accepts h ([UInt8.ofNat pid, UInt8.ofNat data.length] ++ data ++ [UInt8.ofNat cks])) :
    ∃ p pl, tecmpDecode (h.bytes ++ ([UInt8.ofNat pid, UInt8.ofNat data.length] ++ data ++ [UInt8.ofNat cks])) = [p] ∧
      FromHdr h p ∧ p.ifId = h.ifId ∧ p.payload = some pl ∧ pl.ty = tyLin ∧
      byteAt pl.data 4 = pid % 64 ∧ byteAt pl.data 6 = cks ∧ byteAt pl.data 7 = data.length ∧ pl.data.drop 8 = data ∧
      pl.data.length = 8 + data.length := by
  obtain ⟨hlen, h4, h6, h7, hdrop, _⟩ := linObj_facts (UInt8.ofNat (pid % 64)) (UInt8.ofNat cks) data hn
  refine ⟨_, _, decode_lin h pid data _ hdt hmt hpid hn hacc, fromHdr_mk h _ _, rfl, rfl, rfl,
    h4.trans ?_, h6.trans ?_, h7, hdrop, hlen⟩
  · simp; omega
  · simp; omega

/-- capture-module status: vendor data length u16 @4 (the vendor data starts behind the 12 generic bytes and must lie inside
    the payload), serial number u32 @8, sw version @13..15, hw version @16..17 -/
theorem C15_cm (h : THdr) (pay : Bytes) (hmt : h.mt = 1) (hlen : 18 ≤ pay.length) (hvd : beAt pay 4 2 ≤ pay.length - 12)
    (hacc : Accepts h pay) :
    ∃ p, tecmpDecode (h.bytes ++ pay) = [p] ∧ FromHdr h p ∧ p.ifId = h.ifId ∧
      p.payload = some ⟨tyCm, cmSetData cmDefault []
        (decimal (beAt pay 8 4))
        ([chr 'v'] ++ decimal (byteAt pay 16) ++ [chr '.'] ++ decimal (byteAt pay 17))
        ([chr 'v'] ++ decimal (byteAt pay 13) ++ [chr '.'] ++ decimal (byteAt pay 14) ++ [chr '.'] ++ decimal (byteAt pay 15))
        []⟩ :=
  ⟨_, decode_cm h pay hmt hlen hvd hacc, fromHdr_mk h _ _, rfl, rfl⟩

/-- bus status, EVERY declared vendor data length `v`: `es.length` entries, each the 12 counter bytes followed by `v` vendor
    bytes (any content), then fewer than `12 + v` trailing bytes (nothing, or an incomplete entry): exactly one packet per
    entry, in order, interface id and counters from the entry's first 12 bytes -/
theorem C15_bus (h : THdr) (generic : Bytes) (v : Nat) (es : List (BusEntry × Bytes)) (trail : Bytes) (hmt : h.mt = 2)
    (hg : generic.length = 12) (hv : beAt generic 4 2 = v) (hes : ∀ e ∈ es, e.1.WF ∧ e.2.length = v)
    (ht : trail.length < 12 + v)
    (hacc : Accepts h (generic ++ es.flatMap (fun e => vendorEntry e.1 e.2) ++ trail)) :
    tecmpDecode (h.bytes ++ (generic ++ es.flatMap (fun e => vendorEntry e.1 e.2) ++ trail)) =
      es.map (fun e => busPacket h e.1) := by
  have hblk : ∀ e ∈ es, (vendorEntry e.1 e.2).length = 12 + v := fun e he => by
    simp only [vendorEntry, BusEntry.bytes, List.length_append, beEnc_length, (hes e he).2]
  have hplen : (generic ++ es.flatMap (fun e => vendorEntry e.1 e.2) ++ trail).length =
      12 + (12 + v) * es.length + trail.length := by
    simp only [List.length_append, vendorEntries_length v es (fun x hx => (hes x hx).2), hg]
  have hvd : beAt (generic ++ es.flatMap (fun e => vendorEntry e.1 e.2) ++ trail) 4 2 = v := by
    rw [List.append_assoc, beAt_append_of_le _ _ _ _ (by omega), hv]
  -- the complete entries behind the generic part are exactly `es`
  have hn : ((generic ++ es.flatMap (fun e => vendorEntry e.1 e.2) ++ trail).length - 12) / (12 + v) = es.length := by
    rw [hplen, Nat.add_assoc, Nat.add_sub_cancel_left, Nat.mul_add_div (by omega), Nat.div_eq_of_lt ht, Nat.add_zero]
  have hread := map_range_flatMap (fun e : BusEntry × Bytes => vendorEntry e.1 e.2) (12 + v)
    (busPkt (h.bytes ++ (generic ++ es.flatMap (fun e => vendorEntry e.1 e.2) ++ trail))) _ trail es generic hblk
    fun e he pre rest => busPkt_entry _ e.1 e.2 (hes e he).1 pre rest
  rw [hg] at hread
  rw [accepted_bus h _ hmt hacc, tecmpBus_eq_map, hvd, hn, hread]
  exact List.map_congr_left fun e _ => by rw [packet_of_hdr h _ hacc.1]; rfl

/-- unsupported message types (all 256 values) and data types (all 65536 values) yield no packet -/
theorem C15_unsupported (b : Bytes) (h : ¬ (byteAt b 5 = 1 ∨ byteAt b 5 = 2 ∨ (byteAt b 5 = 3 ∧ (beAt b 6 2 = 2 ∨ beAt b 6 2 = 3 ∨ beAt b 6 2 = 4)))) :
    tecmpDecode b = [] :=
  tecmpDecode_nil b (tecmpKind_unsupported b h)

/-- inner lengths that do not fit the buffer yield no packet -/
theorem C15_misfit_can (b : Bytes) (hmt : byteAt b 5 = 3) (hdt : beAt b 6 2 = 2 ∨ beAt b 6 2 = 3)
    (h : b.length < 28 + 5 ∨ b.length - 33 < byteAt b 32) : tecmpDecode b = [] := by
  apply tecmpDecode_nil
  have h4 : byteAt (b.drop 28) 4 = byteAt b 32 := byteAt_drop_add b 28 4
  rw [tecmpKind_can b hmt hdt, tecmpCan_nil_iff, List.length_drop]
  omega
theorem C15_misfit_lin (b : Bytes) (hmt : byteAt b 5 = 3) (hdt : beAt b 6 2 = 4)
    (h : b.length < 28 + 2 ∨ b.length - 30 < byteAt b 29) : tecmpDecode b = [] := by
  apply tecmpDecode_nil
  have h1 : byteAt (b.drop 28) 1 = byteAt b 29 := byteAt_drop_add b 28 1
  rw [tecmpKind_lin b hmt hdt, tecmpLin_nil_iff, List.length_drop]
  omega

/-- capture-module status: fewer than 18 payload bytes, or a declared vendor data length (u16 @4 of the payload = @32 of the
    buffer) exceeding the bytes behind the 12 generic bytes (buffer length − 40) -/
theorem C15_misfit_cm (b : Bytes) (hmt : byteAt b 5 = 1) (h : b.length < 28 + 18 ∨ b.length - 40 < beAt b 32 2) :
    tecmpDecode b = [] := by
  apply tecmpDecode_nil
  have h4 : beAt (b.drop 28) 4 2 = beAt b 32 2 := beAt_drop b 28 4 2
  rw [tecmpKind_cm b hmt, tecmpCm_nil_iff, List.length_drop]
  omega
/-- bus status: not even one complete entry (12 generic bytes, 12 counter bytes and the declared vendor data: u16 @4 of the
    payload = @32 of the buffer) -/
theorem C15_misfit_bus (b : Bytes) (hmt : byteAt b 5 = 2) (h : b.length < 28 + 24 + beAt b 32 2) : tecmpDecode b = [] := by
  apply tecmpDecode_nil
  have h4 : beAt (b.drop 28) 4 2 = beAt b 32 2 := beAt_drop b 28 4 2
  rw [tecmpKind_bus b hmt, tecmpBus_nil_iff, List.length_drop]
  omega
/-- a declared payload length of zero, or one exceeding the buffer, yields no packet -/
theorem C15_misfit_header (b : Bytes) (h : b.length < 28 ∨ beAt b 24 2 = 0 ∨ b.length < 28 + beAt b 24 2) :
    tecmpDecode b = [] :=
  tecmpDecode_rej b h

/-- every packet the TECMP path returns holds a payload its own class validator accepts (so C03's
    accessor theorem applies to TECMP-converted packets too) -/
theorem C15_valid_payloads (b : Bytes) :
    ∀ p ∈ tecmpDecode b, ∃ pl v, p.payload = some pl ∧ validatorOf pl.ty = some v ∧ v pl.data = true := by
  exact valid_payloads b

end AsamCmp.C15
