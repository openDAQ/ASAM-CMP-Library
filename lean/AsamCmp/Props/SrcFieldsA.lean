/-
  Source-level C11 / C12 (part A): every field accessor of the wire records named by the API glue, translated from /repo's source on
  every run into a bit program (GeneratedSrcFields.lean), passes the decidable check of Src/BitProg.lean against the protocol
  layout table (Layout.lean) — evaluated by the kernel (`decide +kernel`, no extra axioms) in the equal form `fieldsCheckF`
  of Lemmas/BitProgFast.lean — and therefore (`classCheck_sound`)
  does, for EVERY memory content, object position and in-range value, exactly what the table says: defined (no undefined
  behaviour, no access outside the header bytes), a getter returns the field and changes nothing, a setter changes exactly the
  field's bits (`setField` of the layout model, about which C11 / C12 are proved).  `*_coverage`: every field of the class has a
  getter entry and a setter entry (from `coverage_strong`, Props/SrcFieldsCov.lean).
-/
import AsamCmp.GeneratedSrcFields
import AsamCmp.Lemmas.FieldCheckSound
import AsamCmp.Lemmas.BitProgFast
import AsamCmp.Props.SrcFieldsCov
namespace AsamCmp.SrcFields
open AsamCmp AsamCmp.Src.Bit AsamCmp.SrcGen

theorem cmphdr_checks : classCheck Layout.c_cmphdr entries_cmphdr = true :=
  classCheck_of_fieldsCheckF (by decide +kernel)
theorem cmphdr_src : ∀ e ∈ entries_cmphdr, ∃ f, Layout.c_cmphdr.find e.field = some f ∧ e.acc.Holds Layout.c_cmphdr.size f :=
  classCheck_sound _ _ cmphdr_checks
theorem cmphdr_coverage : coverageOk Layout.c_cmphdr entries_cmphdr [] = true := C11S.coverage_at 0 rfl

theorem msghdr_checks : classCheck Layout.c_msghdr entries_msghdr = true :=
  classCheck_of_fieldsCheckF (by decide +kernel)
theorem msghdr_src : ∀ e ∈ entries_msghdr, ∃ f, Layout.c_msghdr.find e.field = some f ∧ e.acc.Holds Layout.c_msghdr.size f :=
  classCheck_sound _ _ msghdr_checks
theorem msghdr_coverage : coverageOk Layout.c_msghdr entries_msghdr [] = true := C11S.coverage_at 1 rfl

/-- The CAN and the CAN-FD header have the same size and share twenty fields with their accessors.  In one evaluation, with the
    size written out, a shared accessor is the same term both times and the kernel evaluates it once. -/
theorem can_canfd_checksF :
    (fieldsCheckF 16 Layout.c_can.fields entries_can && fieldsCheckF 16 Layout.c_canfd.fields entries_canfd) = true := by
  decide +kernel

theorem can_checks : classCheck Layout.c_can entries_can = true :=
  classCheck_of_fieldsCheckF (Bool.and_eq_true_iff.mp can_canfd_checksF).1
theorem can_src : ∀ e ∈ entries_can, ∃ f, Layout.c_can.find e.field = some f ∧ e.acc.Holds Layout.c_can.size f :=
  classCheck_sound _ _ can_checks
theorem can_coverage : coverageOk Layout.c_can entries_can [] = true := C11S.coverage_at 2 rfl

theorem canfd_checks : classCheck Layout.c_canfd entries_canfd = true :=
  classCheck_of_fieldsCheckF (Bool.and_eq_true_iff.mp can_canfd_checksF).2
theorem canfd_src : ∀ e ∈ entries_canfd, ∃ f, Layout.c_canfd.find e.field = some f ∧ e.acc.Holds Layout.c_canfd.size f :=
  classCheck_sound _ _ canfd_checks

end AsamCmp.SrcFields
