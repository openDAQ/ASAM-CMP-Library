/-
  Source-level C11 / C12, part C (capture module, interface, TECMP header): what is checked and what it means is said in SrcFieldsA.lean.
-/
import AsamCmp.GeneratedSrcFields
import AsamCmp.Lemmas.FieldCheckSound
import AsamCmp.Lemmas.BitProgFast
import AsamCmp.Props.SrcFieldsCov
namespace AsamCmp.SrcFields
open AsamCmp AsamCmp.Src.Bit AsamCmp.SrcGen

theorem cm_checks : classCheck Layout.c_cm entries_cm = true :=
  classCheck_of_fieldsCheckF (by decide +kernel)
theorem cm_src : ∀ e ∈ entries_cm, ∃ f, Layout.c_cm.find e.field = some f ∧ e.acc.Holds Layout.c_cm.size f :=
  classCheck_sound _ _ cm_checks
theorem cm_coverage : coverageOk Layout.c_cm entries_cm [] = true := C11S.coverage_at 7 rfl

theorem if_checks : classCheck Layout.c_if entries_if = true :=
  classCheck_of_fieldsCheckF (by decide +kernel)
theorem if_src : ∀ e ∈ entries_if, ∃ f, Layout.c_if.find e.field = some f ∧ e.acc.Holds Layout.c_if.size f :=
  classCheck_sound _ _ if_checks
theorem if_coverage : coverageOk Layout.c_if entries_if [] = true := C11S.coverage_at 8 rfl

theorem tecmphdr_checks : classCheck Layout.c_tecmphdr entries_tecmphdr = true :=
  classCheck_of_fieldsCheckF (by decide +kernel)
theorem tecmphdr_src : ∀ e ∈ entries_tecmphdr, ∃ f, Layout.c_tecmphdr.find e.field = some f ∧ e.acc.Holds Layout.c_tecmphdr.size f :=
  classCheck_sound _ _ tecmphdr_checks
theorem tecmphdr_coverage : coverageOk Layout.c_tecmphdr entries_tecmphdr [] = true := C11S.coverage_at 9 rfl

end AsamCmp.SrcFields
