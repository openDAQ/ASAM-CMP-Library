/-
  Source-level C15: the TECMP decoding path — `TECMP::Decoder::Decode`, `GetHeader`, `HandlePayload`, `GetDataPayload`,
  `GetCanPayload`, `GetLinPayload`, `GetCaptureModulePayload`, `GetInterfacePayload` (with its loop), `ConvertPacketsToAsam`
  (src/tecmp_decoder.cpp) and `TECMP::Converter` (src/tecmp_converter.cpp, all eight functions), with the `TECMP::Payload`
  constructors, `PayloadType`, `CanPayload::getCrc`, `CaptureModulePayload::getHwVersion / getSwVersion` and the ASAM payload objects
  the converter builds — is translated from the typed clang AST on every run (GeneratedSrcTecmp.lean, vlib/srctecmp.py).
  The theorems say that this translation, on ANY buffer `b` at a non-null address of ANY memory, is DEFINED (no undefined behaviour,
  in particular no read outside `b`) and returns exactly the packets of the TECMP model `tecmpDecode` (Tecmp.lean) that C15, C02
  and C19 are about.
-/
import AsamCmp.Lemmas.SrcTecmpDecode
import AsamCmp.Props.SrcDecoder
set_option linter.unusedSimpArgs false
set_option linter.unusedVariables false
namespace AsamCmp.SrcTec
open AsamCmp AsamCmp.Src AsamCmp.SrcGen AsamCmp.SrcTie

/-! ## the branches -/

/-- `GetHeader`: too short / declared length 0 / declared payload not inside the buffer → a default (invalid) header and a null
    payload pointer; otherwise the first 28 bytes and the address behind them -/
theorem getHeader_src (pre b post : Bytes) (hmem : (pre ++ b ++ post).length < 2 ^ 64) :
    TECMP_Decoder_GetHeader_obj (pre ++ b ++ post) pre.length b.length =
      some (if b.length < 28 ∨ beAt b 24 2 = 0 ∨ b.length < 28 + beAt b 24 2 then (hdrDefault, 0)
            else (b.take 28, pre.length + 28)) :=
  getHeader_spec pre b post hmem

/-- `GetCanPayload`: null unless the 5 header bytes and the declared data bytes are there; then the object holds ALL of `p` -/
theorem canPayload_src (pre p post : Bytes) (hmem : (pre ++ p ++ post).length < 2 ^ 64) :
    TECMP_Decoder_GetCanPayload_obj (pre ++ p ++ post) pre.length p.length =
      some (if p.length < 5 ∨ p.length - 5 < byteAt p 4 then none else some ⟨p, 0x0302⟩) :=
  getCanPayload_src pre p post hmem

theorem linPayload_src (pre p post : Bytes) (hmem : (pre ++ p ++ post).length < 2 ^ 64) :
    TECMP_Decoder_GetLinPayload_obj (pre ++ p ++ post) pre.length p.length =
      some (if p.length < 2 ∨ p.length - 2 < byteAt p 1 then none else some ⟨p, 0x0304⟩) :=
  getLinPayload_src pre p post hmem

/-- `GetCaptureModulePayload`: null unless the serial number and version fields (bytes 8..17) are there AND the vendor data the
    generic part declares (u16 @4, big-endian; it starts behind the 12 generic bytes) lies inside the payload -/
theorem cmPayload_src (pre p post : Bytes) (hmem : (pre ++ p ++ post).length < 2 ^ 64) :
    TECMP_Decoder_GetCaptureModulePayload_obj (pre ++ p ++ post) pre.length p.length =
      some (if p.length < 18 ∨ p.length - 12 < beAt p 4 2 then none else some ⟨p, 0x0100⟩) :=
  getCmPayload_src pre p post hmem

/-- `GetInterfacePayload`: one 28-byte object per COMPLETE entry behind the 12 generic bytes — an entry is 12 bytes followed by the
    vendor data whose length the generic part declares (u16 @4, big-endian) — holding the generic bytes, the entry's first 12
    bytes and four zero bytes, for any sufficient fuel.  `hmem`: the loop adds the entry size to the running offset in `size_t`;
    the sum cannot wrap exactly when payload size + 12 + declared vendor data length stays below 2^64. -/
theorem busPayload_src (pre p post H : Bytes) (fuel : Nat) (hmem : p.length + 12 + beAt p 4 2 < 2 ^ 64) (hH : 28 ≤ H.length)
    (hmt : byteAt H 5 = 2) (hf : p.length / 12 + 1 ≤ fuel) :
    TECMP_Decoder_GetInterfacePayload_obj fuel (pre ++ p ++ post) pre.length p.length H =
      some (if p.length < 12 then [] else busPl p (beAt p 4 2) (p.length / 12 + 1) 12) :=
  getInterfacePayload_src pre p post H fuel hmem hH hmt hf

/-- `HandlePayload`: the list of payload objects by message type (and data type) of the header -/
theorem handlePayload_src' (pre p post H : Bytes) (fuel : Nat) (hmem : (pre ++ p ++ post).length < 2 ^ 64)
    (hp12 : byteAt H 5 = 2 → p.length + 12 + beAt p 4 2 < 2 ^ 64) (hH : 28 ≤ H.length) (hf : p.length / 12 + 1 ≤ fuel) :
    TECMP_Decoder_HandlePayload_obj fuel (pre ++ p ++ post) pre.length p.length H = some (handleR H p) :=
  handlePayload_src pre p post H fuel hmem hp12 hH hf

/-- `ConvertCanPayload` (and `ConvertCanFdPayload` behind it): CAN-FD exactly when the length byte exceeds 8; the id word is the
    arbitration id, the data is copied, the crc word holds the three little-endian bytes behind the data (0 when absent) — all 24
    bits for CAN-FD, the low 16 for CAN -/
theorem convertCan_src' (H p : Bytes) (ty : Nat) (hH : 28 ≤ H.length) (h64 : p.length < 2 ^ 64) (h5 : 5 ≤ p.length)
    (hd : byteAt p 4 ≤ p.length - 5) :
    TECMP_Converter_ConvertCanPayload_obj H (some ⟨p, ty⟩) = some (some (tpkt H (beAt H 12 4) (some (canPl p)))) := by
  rw [convertCan_src H p ty hH h64 h5 hd]; unfold canPl; rfl

theorem convertLin_src' (H p : Bytes) (ty : Nat) (hH : 28 ≤ H.length) (h64 : p.length < 2 ^ 64) (h2 : 2 ≤ p.length)
    (hd : byteAt p 1 ≤ p.length - 2) :
    TECMP_Converter_convertLinPayload_obj H (some ⟨p, ty⟩) = some (some (tpkt H (beAt H 12 4) (some (tyLin, linObjOf p)))) :=
  convertLin_src H p ty hH h64 h2 hd

theorem convertCm_src' (H p : Bytes) (ty : Nat) (hH : 28 ≤ H.length) (h18 : 18 ≤ p.length) :
    TECMP_Converter_ConvertCaptureModulePayload_obj H (some ⟨p, ty⟩) =
      some (some (tpkt H (beAt H 12 4) (some (tyCm, cmObjOf p)))) :=
  convertCm_src H p ty hH h18

theorem convertIf_src' (H q : Bytes) (ty : Nat) (hH : 28 ≤ H.length) (h24 : 24 ≤ q.length) :
    TECMP_Converter_ConvertInterfacePayload_obj H (some ⟨q, ty⟩) =
      some (some (tpkt H (beAt q 12 4) (some (tyIf, ifObjOf q)))) :=
  convertIf_src H q ty hH h24

/-- a null payload pointer handed to a converter is dereferenced: undefined behaviour (the decoder never does it) -/
theorem convert_null (H : Bytes) (hH : 28 ≤ H.length) :
    TECMP_Converter_ConvertCanPayload_obj H none = none ∧ TECMP_Converter_convertLinPayload_obj H none = none ∧
    TECMP_Converter_ConvertCaptureModulePayload_obj H none = none ∧ TECMP_Converter_ConvertInterfacePayload_obj H none = none := by
  refine ⟨?_, ?_, ?_, ?_⟩
  · simp only [TECMP_Converter_ConvertCanPayload_obj, getPackage_src H hH, bind, pure, some_bind, none_bind]
  · simp only [TECMP_Converter_convertLinPayload_obj, getPackage_src H hH, linCtor_src, bind, pure, some_bind, none_bind]
  · simp only [TECMP_Converter_ConvertCaptureModulePayload_obj, getPackage_src H hH, cmCtor_src, bind, pure, some_bind, none_bind]
  · simp only [TECMP_Converter_ConvertInterfacePayload_obj, getPackage_src H hH, ifCtor_src, bind, pure, some_bind, none_bind]

/-! ## the whole decoder -/

/-- `TECMP::Decoder::Decode` on the buffer `b` at the non-null address `pre.length` of any memory that fits the address space:
    defined, and exactly the model's packets (every returned pointer non-null).  In particular everything behind the 28-byte header
    (`b.drop 28`, not the declared `plen` bytes) is handed to the payload parsers.  No hypothesis on the CONTENT of `b`.
    (`hpre` is not used by the proof — in the flat memory of `Src/Sem.lean` address 0 is an ordinary index and `Decode` itself
    never tests `data` — it is kept so that the statement claims nothing about a null `data`; `hf`: any fuel ≥ `b.length`, the
    bus loop needs `(b.length - 28) / 12 + 1`.  `hsz` is there for the per-entry vendor data: the bus-status loop tests
    `busDataOffset + entrySize <= size` in `size_t`, `entrySize = 12 + vendorDataLength` (u16 @32 of the buffer); for a bus-status
    message the sum stays below 2^64 — the test means what it says — exactly when payload size (`b.length - 28`) + 12 + the
    declared vendor data length does.  Every buffer of less than 2^64 − 2^16 bytes satisfies it: `tecmpDecode_src_small`.) -/
theorem tecmpDecode_src (pre b post : Bytes) (fuel : Nat) (hpre : 0 < pre.length)
    (hmem : (pre ++ b ++ post).length < 2 ^ 64) (hf : b.length ≤ fuel)
    (hsz : byteAt b 5 = 2 → b.length - 16 + beAt b 32 2 < 2 ^ 64) :
    TECMP_Decoder_Decode_obj fuel (pre ++ b ++ post) pre.length b.length =
      some ((tecmpDecode b).map fun p => some (tRepr p)) := by
  have hb := mid_length_lt pre b post hmem
  unfold TECMP_Decoder_Decode_obj
  simp only [getHeader_spec pre b post hmem, bind, pure, some_bind]
  by_cases hrej : hdrRej b
  · simp only [hrej, if_true, hdrDefault_invalid, some_bind, Bool.not_false, Bool.true_or, tecmpDecode_rej b hrej, List.map_nil]
  · have h28 : 28 ≤ b.length := by unfold hdrRej at hrej; omega
    have hH : 28 ≤ (b.take 28).length := by simp only [List.length_take]; omega
    have hval := (tecmp_header_src (b.take 28) hH).1
    rw [byteAt_take_of_lt b 28 5 (by omega), byteAt_take_of_lt b 28 6 (by omega), byteAt_take_of_lt b 28 7 (by omega)] at hval
    have hp0 : (pre.length + 28 == 0) = false := by simp
    simp only [hrej, if_false, hval, some_bind, hp0, Bool.or_false, Bool.not_not]
    by_cases hv : byteAt b 5 = 0xFF ∨ (byteAt b 6 = 0xFF ∧ byteAt b 7 = 0)
    · have hd : (decide (byteAt b 5 = 255) || decide (byteAt b 6 = 255) && decide (byteAt b 7 = 0)) = true := by simpa using hv
      simp only [hd, if_true, tecmpDecode_invalid b hv, List.map_nil]
    · have hd : (decide (byteAt b 5 = 255) || decide (byteAt b 6 = 255) && decide (byteAt b 7 = 0)) = false := by
        simpa [not_or] using hv
      have hM : pre ++ b ++ post = (pre ++ b.take 28) ++ b.drop 28 ++ post := by
        simp only [List.append_assoc, List.take_append_drop]
      have hL : pre.length + 28 = (pre ++ b.take 28).length := by simp only [List.length_append, List.length_take]; omega
      have hS : usub 64 b.length 28 = (b.drop 28).length := by rw [usub_eq _ _ h28 hb, List.length_drop]
      have hlen : (pre ++ b ++ post).length = pre.length + b.length + post.length := by simp only [List.length_append]
      have hpl : (b.drop 28).length = b.length - 28 := List.length_drop
      have hh := handlePayload_src (pre ++ b.take 28) (b.drop 28) post (b.take 28) fuel (by rw [← hM]; exact hmem)
        (by intro h2
            rw [byteAt_take_of_lt b 28 5 (by omega)] at h2
            have := hsz h2
            rw [beAt_drop_add, hpl, show 28 + 4 = 32 from rfl]; omega) hH (by omega)
      rw [← hM, ← hL, ← hS] at hh
      simp only [hd, Bool.false_eq_true, if_false, hh, some_bind]
      obtain ⟨l, hdec, hobj, hconv⟩ := tecmpDecode_shape b hrej hv (Nat.lt_of_le_of_lt (List.length_drop ▸ Nat.sub_le _ _) hb)
      have hc := convertPackets_map (α := Packet × TECMP_Payload_St) (b.take 28) (fun x => some x.2) (fun x => tRepr x.1) l
        fun x hx => hconv x hx
      rw [hdec, hobj, List.map_map]
      cases l with
      | nil => simp only [List.map_nil, List.isEmpty_nil, if_true]
      | cons x xs =>
        rw [List.map_cons] at hc
        simp only [List.map_cons, List.isEmpty_cons, Bool.false_eq_true, if_false, hc, some_bind]
        rfl

/-- the size hypothesis of `tecmpDecode_src` holds for every buffer that ends at least 2^16 bytes below the top of the address
    space, whatever it contains -/
theorem tecmpDecode_src_small (pre b post : Bytes) (fuel : Nat) (hpre : 0 < pre.length)
    (hmem : (pre ++ b ++ post).length < 2 ^ 64) (hf : b.length ≤ fuel) (hsz : b.length + 2 ^ 16 ≤ 2 ^ 64) :
    TECMP_Decoder_Decode_obj fuel (pre ++ b ++ post) pre.length b.length =
      some ((tecmpDecode b).map fun p => some (tRepr p)) :=
  tecmpDecode_src pre b post fuel hpre hmem hf (fun _ => by have := beAt_lt_pow b 32 2; omega)

/-- a CAN-FD message: 28 header bytes (device 7, message type 3, data type 3, interface id 0x11223344, declared length 5),
    arbitration id, length byte 12, 12 data bytes, 3 crc bytes, one trailing byte -/
def exCanFd : Bytes :=
  [0, 7, 0, 9, 3, 3, 0, 3, 0, 0, 0, 0, 0x11, 0x22, 0x33, 0x44, 1, 2, 3, 4, 5, 6, 7, 8, 0, 5, 0, 0,
   0x9A, 0xBC, 0xDE, 0xF1, 12, 1, 2, 3, 4, 5, 6, 7, 8, 9, 10, 11, 12, 0xAA, 0xBB, 0xCC, 4]

/-- a bus status message: header (message type 2), 12 generic bytes (declaring no vendor data), two complete entries and a
    partial third -/
def exBus : Bytes :=
  [0, 7, 0, 9, 3, 2, 0, 0, 0, 0, 0, 0, 0x11, 0x22, 0x33, 0x44, 1, 2, 3, 4, 5, 6, 7, 8, 0, 5, 0, 0] ++
    [1, 1, 1, 1, 0, 0, 1, 1, 1, 1, 1, 1] ++ List.replicate 12 2 ++ List.replicate 12 3 ++ List.replicate 7 4

/-- a bus status message whose generic part declares 4 vendor bytes per entry: three entries of 16 bytes (interfaces 0x0A, 0x0B,
    0x0C) and 15 bytes of an incomplete fourth -/
def exBusV : Bytes :=
  [0, 7, 0, 9, 3, 2, 0, 0, 0, 0, 0, 0, 0x11, 0x22, 0x33, 0x44, 1, 2, 3, 4, 5, 6, 7, 8, 0, 5, 0, 0] ++
    [0x0C, 1, 2, 0, 0, 4, 0, 7, 0, 0, 0, 99] ++
    [0, 0, 0, 0x0A, 0, 0, 0, 100, 0, 0, 0, 1, 1, 200, 0, 5] ++ [0, 0, 0, 0x0B, 0, 0, 0, 200, 0, 0, 0, 2, 1, 201, 0, 6] ++
    [0, 0, 0, 0x0C, 0, 0, 1, 44, 0, 0, 0, 3, 1, 202, 0, 7] ++ List.replicate 15 9

/-- the hypotheses of the main theorem are satisfiable on non-trivial buffers, and the model's answer there is not empty -/
example : TECMP_Decoder_Decode_obj 49 ([9] ++ exCanFd ++ [5, 5]) 1 49 = some ((tecmpDecode exCanFd).map fun p => some (tRepr p)) :=
  tecmpDecode_src [9] exCanFd [5, 5] 49 (by decide) (by decide) (by decide) (by decide)
example : (tecmpDecode exCanFd).map (fun p => (p.payload.map (·.ty), p.deviceId, p.ifId)) = [(some tyCanFd, 7, 0x11223344)] := by decide +kernel
example : TECMP_Decoder_Decode_obj 100 ([9] ++ exBus ++ []) 1 71 = some ((tecmpDecode exBus).map fun p => some (tRepr p)) :=
  tecmpDecode_src [9] exBus [] 100 (by decide) (by decide) (by decide) (by decide)
example : (tecmpDecode exBus).map (fun p => (p.payload.map (·.ty), p.ifId)) = [(some tyIf, 0x02020202), (some tyIf, 0x03030303)] := by
  decide +kernel
example : TECMP_Decoder_Decode_obj 120 ([9] ++ exBusV ++ [7]) 1 103 = some ((tecmpDecode exBusV).map fun p => some (tRepr p)) :=
  tecmpDecode_src [9] exBusV [7] 120 (by decide) (by decide) (by decide) (by decide)
/-- three entries of 12 + 4 bytes: exactly three packets, interface ids and counters from each entry's first 12 bytes -/
example : (tecmpDecode exBusV).map (fun p => (p.payload.map (·.ty), p.ifId,
      p.payload.map fun pl => (beAt pl.data 0 4, beAt pl.data 4 4, beAt pl.data 20 4))) =
    [(some tyIf, 0x0A, some (0x0A, 100, 1)), (some tyIf, 0x0B, some (0x0B, 200, 2)), (some tyIf, 0x0C, some (0x0C, 300, 3))] := by
  decide +kernel
/-- … and of the branch theorems -/
example : TECMP_Converter_ConvertCanPayload_obj (exCanFd.take 28) (some ⟨exCanFd.drop 28, 0x0302⟩) =
    some (some (tpkt (exCanFd.take 28) (beAt (exCanFd.take 28) 12 4) (some (canPl (exCanFd.drop 28))))) :=
  convertCan_src' _ _ _ (by decide) (by decide) (by decide) (by decide)
example : TECMP_Decoder_GetInterfacePayload_obj 5 ([9] ++ exBus.drop 28 ++ []) 1 43 (exBus.take 28) =
    some (if (exBus.drop 28).length < 12 then [] else
      busPl (exBus.drop 28) (beAt (exBus.drop 28) 4 2) ((exBus.drop 28).length / 12 + 1) 12) :=
  busPayload_src [9] (exBus.drop 28) [] (exBus.take 28) 5 (by decide) (by decide) (by decide) (by decide)
example : TECMP_Decoder_GetInterfacePayload_obj 8 ([9] ++ exBusV.drop 28 ++ [7]) 1 75 (exBusV.take 28) =
    some (if (exBusV.drop 28).length < 12 then [] else
      busPl (exBusV.drop 28) (beAt (exBusV.drop 28) 4 2) ((exBusV.drop 28).length / 12 + 1) 12) :=
  busPayload_src [9] (exBusV.drop 28) [7] (exBusV.take 28) 8 (by decide) (by decide) (by decide) (by decide)
example : beAt (exBusV.drop 28) 4 2 = 4 ∧ (busPl (exBusV.drop 28) 4 7 12).length = 3 := by decide +kernel

/-! ## the TECMP decoder as the parameter `ext_Decode` of the translated `Decoder::decode`

  `Decoder_decode_obj` (GeneratedSrcObj.lean) takes the TECMP decoder as a parameter `ext_Decode : Bytes → Nat → Nat → List F` for
  ANY packet representation `F` and returns a list of `PktOut ⊕ F`: packets of the CMP path (`std::make_shared<Packet>(type, data,
  size)` read back by `Packet.ofMsg`) on the left, the TECMP decoder's packets — built by setters, not representable as `PktOut`
  in general — on the right.  The instance the TRANSLATION provides is `tecmpExt`; the theorem covering `Decoder::decode` on every
  buffer with it plugged in is `SrcDec.decode_total_src` (Props/SrcDecoderTotal.lean). -/

/-- a packet of the translated source read as a packet of the model (inverse of `tRepr`) -/
def tAbs (t : TPacket_St) : Packet :=
  { payload := t.payload.map fun x => ⟨x.1, x.2⟩, version := t.hdr.f_version, deviceId := t.hdr.f_deviceId,
    streamId := t.hdr.f_streamId, seq := t.hdr.f_sequenceCounter, ts := t.hdr.f_timestamp, ifId := t.hdr.f_interfaceId,
    vendorId := t.hdr.f_vendorId, flags := t.hdr.f_commonFlags, segType := t.hdr.f_segmentType }

theorem tAbs_tRepr (p : Packet) : tAbs (tRepr p) = p := by
  cases p with
  | mk payload version deviceId streamId seq ts ifId vendorId flags segType =>
    cases payload <;> rfl

/-- the translated `TECMP::Decoder::Decode` as a TOTAL function into lists of packets, as `Decoder_decode_obj` wants it: `none` of
    the monad (undefined behaviour — never taken, see `tecmpDecode_src`) becomes the empty list, null pointers in the returned
    vector (never produced) are dropped -/
def tecmpExt (fuel : Nat) (m : Bytes) (data size : Nat) : List TPacket_St :=
  ((TECMP_Decoder_Decode_obj fuel m data size).getD []).filterMap id

/-- on every buffer the instance is exactly the representation of the model's packets -/
theorem tecmpExt_src (pre b post : Bytes) (fuel : Nat) (hpre : 0 < pre.length)
    (hmem : (pre ++ b ++ post).length < 2 ^ 64) (hf : b.length ≤ fuel)
    (hsz : byteAt b 5 = 2 → b.length - 16 + beAt b 32 2 < 2 ^ 64) :
    tecmpExt fuel (pre ++ b ++ post) pre.length b.length = (tecmpDecode b).map tRepr := by
  unfold tecmpExt
  rw [tecmpDecode_src pre b post fuel hpre hmem hf hsz, Option.getD_some, List.filterMap_map]
  simp [Function.comp_def]

def extOfTranslation (fuel : Nat) (m : Bytes) (data size : Nat) : List Packet := (tecmpExt fuel m data size).map tAbs

/-- the instance of `ext_Decode` the translation provides, read as model packets, IS the model's TECMP decoder -/
theorem ext_of_translation (pre b post : Bytes) (fuel : Nat) (hpre : 0 < pre.length)
    (hmem : (pre ++ b ++ post).length < 2 ^ 64) (hf : b.length ≤ fuel)
    (hsz : byteAt b 5 = 2 → b.length - 16 + beAt b 32 2 < 2 ^ 64) :
    extOfTranslation fuel (pre ++ b ++ post) pre.length b.length = tecmpDecode b := by
  unfold extOfTranslation
  rw [tecmpExt_src pre b post fuel hpre hmem hf hsz, List.map_map]
  simp [Function.comp_def, tAbs_tRepr]

/-- composition with `SrcDec.decode_other_src`: the translated `Decoder::decode` with the translated TECMP decoder plugged in, on a
    TECMP buffer (first byte 0): the state is left alone and the returned packets — right summands only — are, through `tAbs`,
    the model's `tecmpDecode b`; `g` (the reading of left summands) is arbitrary because there are none -/
theorem decode_tecmp_src (s : Decoder_St) (pre b post : Bytes) (fuel : Nat) (g : PktOut → Packet)
    (hpre : 0 < pre.length) (h8 : 8 ≤ b.length) (h0 : byteAt b 0 = 0)
    (hmem : (pre ++ b ++ post).length < 2 ^ 64) (hf : b.length ≤ fuel)
    (hsz : byteAt b 5 = 2 → b.length - 16 + beAt b 32 2 < 2 ^ 64) :
    Decoder_decode_obj fuel s (pre ++ b ++ post) pre.length b.length (tecmpExt fuel) =
        some (s, ((tecmpDecode b).map tRepr).map Sum.inr) ∧
      (((tecmpDecode b).map tRepr).map (Sum.inr : TPacket_St → PktOut ⊕ TPacket_St)).map (Sum.elim g tAbs) = tecmpDecode b := by
  have hb0 : byteAt (pre ++ b ++ post) pre.length = 0 := by
    have := (at_mid pre b post).leAt 0 1 (by omega)
    rw [leAt_one, leAt_one] at this
    simpa [h0] using this
  constructor
  · rw [(SrcDec.decode_other_src s (pre ++ b ++ post) pre.length b.length fuel (tecmpExt fuel)).2.2 hpre h8
      (by simp only [List.length_append]; omega) hb0, tecmpExt_src pre b post fuel hpre hmem hf hsz]
  · simp [List.map_map, Function.comp_def, tAbs_tRepr]

end AsamCmp.SrcTec
