/-
  C02  Decoding arbitrary bytes is memory-safe and terminates.

  For every byte string of every length, presented after any history of earlier decode calls,
  decoding returns normally without reading outside the supplied buffer, and returns at most one
  packet per 12 input bytes.  Every returned packet carries a payload object.

  Memory safety is stated on `decodeM` (DecodeM.lean), the decoder with every read of the buffer checked: it never
  fails and equals the plain `decode`.  Termination is Lean's termination checker on the message walk `walk` and its
  checked twin `walkM` (each step consumes ≥ 16 bytes) and the structural recursion of the TECMP entry loop.  Ownership of the returned data after the buffer /
  decoder is released is a runtime fact the immutable model cannot state (partial; observed with ASan).
-/
import AsamCmp.DecodeM
import AsamCmp.Props.C17
import AsamCmp.Lemmas.DecodeM
namespace AsamCmp.C02
open AsamCmp

/-- C02 memory safety: the checked-read decoder never reads outside the buffer (it never returns
    `none`), for EVERY decoder state and EVERY buffer, and computes what the plain model computes -/
theorem decode_inbounds (s : DecState) (buf : Option Bytes) : decodeM s buf = some (decode s buf) := by
  rcases decodeWith_cases tecmpDecode buf with ⟨rfl | ⟨b, rfl, h8⟩, _, hd⟩ | ⟨b, rfl, h8, h0, _, hd⟩ |
    ⟨b, rfl, h8, h0, _, hd⟩ <;> rw [decode, hd]
  · rfl
  · rw [decodeM, if_pos h8]
  · rw [decodeM, if_neg (by omega), rdN1_some b 0 (by omega)]
    simp [h0, tecmpDecodeM_eq]
  · rw [decodeM, if_neg (by omega), rdN1_some b 0 (by omega)]
    simp [h0, parseFrameM_eq b h8]

/-- the reassembled message is read back with the rewritten 16-bit length, which never exceeds the
    bytes accumulated — also when more than 65535 bytes were accumulated and the length wraps -/
theorem reassembled_length_inbounds (x : Bytes) (h : 16 ≤ x.length) :
    (fixLen x).length = x.length ∧ 16 + beAt (fixLen x) 14 2 ≤ x.length := by
  exact fixLen_read x h

/-- at most one packet per 12 input bytes, for every state and buffer (CMP and TECMP) -/
theorem decode_count (s : DecState) (b : Bytes) : 12 * (decode s (some b)).2.length ≤ b.length := by
  rcases decodeWith_cases tecmpDecode (some b) with ⟨_, _, hd⟩ | ⟨b', hb, _, _, _, hd⟩ | ⟨b', hb, h8, _, _, hd⟩
  · rw [decode, hd]; exact Nat.zero_le _
  · cases hb; rw [decode, hd]; exact tecmpDecode_count b
  · cases hb
    rw [decode, hd, step_snd]
    have h1 := localStep_count (s (parseFrame b).ep) (parseFrame b)
    have h2 : 16 * (parseFrame b).unseg.length + (match (parseFrame b).term with | .seg _ => 16 | _ => 0) ≤
        (b.drop 8).length := walk_count _ _ _ _
    rw [List.length_drop] at h2
    generalize (parseFrame b).term = t at h1 h2
    cases t <;> dsimp only at h1 h2 <;> omega

/-- every returned packet carries a payload object -/
theorem decode_payload_present (s : DecState) (buf : Option Bytes) :
    ∀ p ∈ (decode s buf).2, p.payload.isSome = true := by
  rcases decodeWith_cases tecmpDecode buf with ⟨_, _, hd⟩ | ⟨b, _, _, _, _, hd⟩ | ⟨b, _, _, _, _, hd⟩
  · rw [decode, hd]; exact fun _ hp => (List.not_mem_nil hp).elim
  · rw [decode, hd]; exact tecmpDecode_payload b
  · rw [decode, hd, step_snd]; exact localStep_payload _ _ (walk_payload _ _ _ _)

/-- the invariant that every stored reassembly holds at least the 16 header bytes is preserved by every call.  The
    statements above need no hypothesis on the state; the invariant is what keeps the decoder's accesses of its OWN
    reassembly vector in range (the length rewrite at offset 14, `C02S.localStepM_none_iff`, `C02S.history_safe`) -/
theorem decode_state_ok (s : DecState) (buf : Option Bytes) (h : ∀ e, PendingOk (s e)) :
    ∀ e, PendingOk ((decode s buf).1 e) := by
  intro e
  rcases decodeWith_cases tecmpDecode buf with ⟨_, _, hd⟩ | ⟨_, _, _, _, _, hd⟩ | ⟨b, _, _, _, _, hd⟩
  · rw [decode, hd]; exact h e
  · rw [decode, hd]; exact h e
  · rw [decode, hd]
    by_cases he : (parseFrame b).ep = e
    · subst he
      rw [step_fst_same]
      exact (localStep_refines _ _ (h _) (parseFrame_WF b)).2
    · rw [step_fst_other _ _ _ he]
      exact h e

/-- null pointer and undersized buffers return nothing -/
theorem decode_null (s : DecState) : decode s none = (s, []) := by
  rfl
theorem decode_short (s : DecState) (b : Bytes) (h : b.length < 8) : decode s (some b) = (s, []) := by
  simp [decode, decodeWith, h]

end AsamCmp.C02
