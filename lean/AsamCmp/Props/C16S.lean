/-
  C16S  Strengthening of property C16 (status tracker = per-device, per-interface latest-message map).

  Further theorems about the same definitions (`Status.lean`, `Lemmas/StatusSpec.lean`, the translated tracker
  `GeneratedSrcObj.lean` through `Props/SrcStatus.lean`), from the statement audit of the C16 theorems (DESIGN.md section J.4):

  §1  lookups / observations: exact (iff) characterisation of `getIndexByDeviceId` / `getIndexByInterfaceId`, the
      found entry IS the map's value, element counts = number of keys, every stored element is the map's value, and ONE
      end-to-end observation theorem on runs (`observe_run`).
  §2  history: the map `specRun ∅ ops` has a closed form that mentions only the HISTORY `ops` (latest capture-module
      message after the last removal / clear; latest interface message after the device became known and after the last
      `removeInterfaceById`), stated declaratively as list decompositions `ops = before ++ update p :: after`.
  §3  totalised cases made explicit.
  §4  source level: `InterfaceStatus::getInterfaceId`, the translated tracker for ANY packet image that keeps the
      three observed values — in particular an INJECTIVE one (`fullImg`, every field and every payload byte) —, the copy
      assignment of the stored packet, and the translated methods composed over whole operation sequences.
  §5  concrete evaluations.
-/
import AsamCmp.Props.C16
import AsamCmp.Props.SrcStatus
import AsamCmp.Props.SrcStatusPkt
import AsamCmp.Lemmas.C16SHist
import AsamCmp.Lemmas.C16SImg
set_option linter.unusedSimpArgs false
set_option linter.unusedVariables false
namespace AsamCmp.C16S
open AsamCmp AsamCmp.C16 AsamCmp.Src AsamCmp.SrcGen AsamCmp.SrcSt

/-! ## §1 lookups and observations -/

/-- EXACT lookup (device level), for every state: `getIndexByDeviceId(id)` is either
    * a valid index `i`, the element there has device id `id`, it is the FIRST such element, and it is precisely what the map
      holds at `id` (packet and interface map) — "the index of the matching entry" —, or
    * the element count, and then the map is undefined at `id` and no element has that id — "or the element count when there
      is none".  Never anything else. -/
theorem lookup_dev_spec (s : StatusSt) (id : Nat) :
    (indexOfDev s id < s.length ∧ ∃ d, s[indexOfDev s id]? = some d ∧ d.pkt.deviceId = id ∧
        absSt s id = some (d.pkt, absIfs d.ifs) ∧
        ∀ j, j < indexOfDev s id → ∀ e, s[j]? = some e → e.pkt.deviceId ≠ id) ∨
    (indexOfDev s id = s.length ∧ absSt s id = none ∧ ∀ e ∈ s, e.pkt.deviceId ≠ id) :=
  absL_lookup kD vD s id

/-- the lookup finds an entry exactly for the keys of the map -/
theorem lookup_dev_iff (s : StatusSt) (id : Nat) :
    (indexOfDev s id < s.length ↔ (absSt s id).isSome) ∧ (indexOfDev s id = s.length ↔ absSt s id = none) :=
  ⟨findIdx_lt_iff_isSome kD vD s id, findIdx_eq_length_iff kD vD s id⟩

/-- EXACT lookup (interface level), for every device entry -/
theorem lookup_if_spec (d : DevSt) (id : Nat) :
    (d.indexOfIf id < d.ifs.length ∧ ∃ x, d.ifs[d.indexOfIf id]? = some x ∧ x.id = id ∧ absIfs d.ifs id = some x.pkt ∧
        ∀ j, j < d.indexOfIf id → ∀ e, d.ifs[j]? = some e → e.id ≠ id) ∨
    (d.indexOfIf id = d.ifs.length ∧ absIfs d.ifs id = none ∧ ∀ e ∈ d.ifs, e.id ≠ id) :=
  absL_lookup kI vI d.ifs id

theorem lookup_if_iff (d : DevSt) (id : Nat) :
    (d.indexOfIf id < d.ifs.length ↔ (absIfs d.ifs id).isSome) ∧ (d.indexOfIf id = d.ifs.length ↔ absIfs d.ifs id = none) :=
  ⟨findIdx_lt_iff_isSome kI vI d.ifs id,
    findIdx_eq_length_iff kI vI d.ifs id⟩

/-- interface-level analogue of `C16.entries_are_keys` -/
theorem if_entries_are_keys (l : List IfSt) (id : Nat) : (absIfs l id).isSome ↔ id ∈ l.map (·.id) :=
  absL_isSome_iff kI vI l id

/-- with one entry per key (the invariant), EVERY stored element — wherever removal has moved it — is the value the map
    holds at its key: device entries with their packet and interface map, interface entries with their packet.  Together with
    `entries_are_keys` this is "exactly one entry per …, holding …" read element by element. -/
theorem elements_are_values (s : StatusSt) (h : Inv s) :
    ∀ d ∈ s, absSt s d.pkt.deviceId = some (d.pkt, absIfs d.ifs) ∧ ∀ x ∈ d.ifs, absIfs d.ifs x.id = some x.pkt :=
  fun d hd => ⟨absL_of_mem kD vD s h.1 d hd, absL_of_mem kI vI d.ifs (h.2 d hd)⟩

/-- "exactly one entry per device id" as a COUNT: for every duplicate-free enumeration `ks` of the map's keys, the element count
    is the number of keys. -/
theorem count_is_keys (s : StatusSt) (h : Inv s) (ks : List Nat) (hnd : ks.Nodup)
    (hks : ∀ dev, dev ∈ ks ↔ (absSt s dev).isSome) : s.length = ks.length :=
  length_eq_of_keys kD vD s h.1 ks hnd hks

/-- "exactly one entry per interface id" as a count -/
theorem if_count_is_keys (s : StatusSt) (h : Inv s) (d : DevSt) (hd : d ∈ s) (ks : List Nat) (hnd : ks.Nodup)
    (hks : ∀ id, id ∈ ks ↔ (absIfs d.ifs id).isSome) : d.ifs.length = ks.length :=
  length_eq_of_keys kI vI d.ifs (h.2 d hd) ks hnd hks

/-- END-TO-END OBSERVATION.  After ANY sequence of operations from the empty tracker, for every device id `dev`: what the two
    lookups and the two element reads deliver is dictated by the latest-message map `specRun ∅ ops`:
    * the map is undefined at `dev`: `getIndexByDeviceId(dev)` is the element count;
    * the map holds `(cm, ifs)`: the index is valid, the element there holds the packet `cm` (whole packet: all fields, all
      payload bytes) with device id `dev`, and for every interface id `id`
        - `ifs id = none`: `getIndexByInterfaceId(id)` of that element is ITS element count,
        - `ifs id = some q`: the index is valid and the interface element there has key `id`, holds `q`, and `id` is the
          interface id inside `q`'s own payload. -/
theorem observe_run (ops : List StOp) (dev : Nat) :
    match specRun (fun _ => none) ops dev with
    | none => indexOfDev (statusRun [] ops) dev = (statusRun [] ops).length
    | some (cm, ifs) =>
      indexOfDev (statusRun [] ops) dev < (statusRun [] ops).length ∧
      ∃ d, (statusRun [] ops)[indexOfDev (statusRun [] ops) dev]? = some d ∧ d.pkt = cm ∧ d.pkt.deviceId = dev ∧
        ∀ id, match ifs id with
          | none => d.indexOfIf id = d.ifs.length
          | some q => d.indexOfIf id < d.ifs.length ∧
              ∃ x, d.ifs[d.indexOfIf id]? = some x ∧ x.id = id ∧ x.pkt = q ∧ q.payloadIfId = id := by
  obtain ⟨habs, _⟩ := status_refines ops
  have hkey := if_key_is_payload_id ops
  rw [← habs]
  rcases lookup_dev_spec (statusRun [] ops) dev with ⟨hlt, d, hd, hk, hval, _⟩ | ⟨heq, hval, _⟩
  · rw [hval]
    refine ⟨hlt, d, hd, rfl, hk, ?_⟩
    intro id
    rcases lookup_if_spec d id with ⟨hlt', x, hx, hkx, hv, _⟩ | ⟨heq', hv, _⟩
    · rw [hv]
      refine ⟨hlt', x, hx, hkx, rfl, ?_⟩
      rw [← hkx]
      exact (hkey d (List.mem_of_getElem? hd) x (List.mem_of_getElem? hx)).symm
    · rw [hv]; exact heq'
  · rw [hval]; exact heq

/-- element counts on runs: the device count is the number of keys of the map, and each device element's interface count is the
    number of keys of its interface map (`ks` any duplicate-free enumeration of the keys) -/
theorem count_run (ops : List StOp) :
    (∀ ks : List Nat, ks.Nodup → (∀ dev, dev ∈ ks ↔ (specRun (fun _ => none) ops dev).isSome) →
      (statusRun [] ops).length = ks.length) ∧
    (∀ d ∈ statusRun [] ops, ∀ ks : List Nat, ks.Nodup →
      (∀ id, id ∈ ks ↔ ∃ cm ifs, specRun (fun _ => none) ops d.pkt.deviceId = some (cm, ifs) ∧ (ifs id).isSome) →
      d.ifs.length = ks.length) := by
  obtain ⟨habs, hinv⟩ := status_refines ops
  constructor
  · intro ks hnd hks
    exact count_is_keys _ hinv ks hnd (by rw [habs]; exact hks)
  · intro d hd ks hnd hks
    refine if_count_is_keys _ hinv d hd ks hnd fun id => ?_
    rw [hks, ← habs, (elements_are_values _ hinv d hd).1]
    constructor
    · rintro ⟨cm, ifs, h, h2⟩
      cases h; exact h2
    · intro h2; exact ⟨_, _, rfl, h2⟩

/-! ## §2 history: the map specification `specRun` has a closed form in terms of the operation sequence alone

  `specStep` is a program with the case structure of `Status::update`; the theorems of this section
  say what it COMPUTES, in the property's own words: `spec_known_iff`, `spec_cm_iff`, `spec_if_iff` for the map and
  `tracker_history`, `lookup_history` for the tracker's vectors. -/

/-! The one-operation classifiers, the closed form `cmHist` / `ifHist` / `closed` (history most recent first), the proof
  `specRun_closed : specRun ∅ ops dev = closed dev ops.reverse` and the three predicates on a stretch `l` of the sequence are in
  `AsamCmp/Lemmas/C16SHist.lean`:
    `NoReset dev l  := StOp.clear ∉ l ∧ StOp.rmDev dev ∉ l`
    `NoCm dev l     := ∀ q, StOp.update q ∈ l → ¬ (q.pty = tyCm ∧ q.deviceId = dev)`
    `NoIf dev id l  := ∀ q, StOp.update q ∈ l → ¬ (q.pty = tyIf ∧ q.deviceId = dev ∧ q.payloadIfId = id)` -/

/-- THE PROPERTY'S TEXT, device level: `dev` "has sent a capture-module status message since it was last removed or cleared":
    some `update p` in the sequence with `p` a capture-module status message of `dev`, and no `clear` / `removeDeviceById(dev)`
    after it -/
def Known (ops : List StOp) (dev : Nat) : Prop :=
  ∃ before p after, ops = before ++ .update p :: after ∧ (p.pty = tyCm ∧ p.deviceId = dev) ∧ NoReset dev after

/-- `p` is "that device's latest such packet": as `Known`, and no further capture-module status message of `dev` after it -/
def CmHistory (ops : List StOp) (dev : Nat) (p : Packet) : Prop :=
  ∃ before after, ops = before ++ .update p :: after ∧ (p.pty = tyCm ∧ p.deviceId = dev) ∧
    NoReset dev after ∧ NoCm dev after

/-- `p` is "the latest one" for interface `id` "seen in that device's interface status messages since then": an `update p` with `p`
    an interface status message of `dev` whose payload names interface `id`, sent when the device was known (`Known before dev`:
    its capture-module message came earlier and it was not removed in between), and after it no `clear`, no
    `removeDeviceById(dev)`, no `removeInterfaceById(dev, id)` and no further interface message of `dev` for `id` -/
def IfHistory (ops : List StOp) (dev id : Nat) (p : Packet) : Prop :=
  ∃ before after, ops = before ++ .update p :: after ∧ (p.pty = tyIf ∧ p.deviceId = dev ∧ p.payloadIfId = id) ∧
    Known before dev ∧ NoReset dev after ∧ StOp.rmIf dev id ∉ after ∧ NoIf dev id after

theorem cmHist_isSome_known (dev : Nat) (l : List StOp) : (cmHist dev l.reverse).isSome ↔ Known l dev :=
  cmHist_reverse_isSome_iff dev l

/-- the map is defined at `dev` exactly when the history says `dev` is known -/
theorem spec_known_iff (ops : List StOp) (dev : Nat) : (specRun (fun _ => none) ops dev).isSome ↔ Known ops dev := by
  rw [specRun_closed, ← cmHist_isSome_known]
  unfold closed
  rw [Option.isSome_map]

/-- the capture-module packet the map holds for `dev` is `p` exactly when the history says `p` is the latest one -/
theorem spec_cm_iff (ops : List StOp) (dev : Nat) (p : Packet) :
    (specRun (fun _ => none) ops dev).map (·.1) = some p ↔ CmHistory ops dev p := by
  rw [specRun_fst]
  exact cmHist_reverse_eq_some_iff dev p ops

/-- the packet the map holds for interface `id` of `dev` is `p` exactly when the history says so -/
theorem spec_if_iff (ops : List StOp) (dev id : Nat) (p : Packet) :
    (specRun (fun _ => none) ops dev).bind (fun e => e.2 id) = some p ↔ IfHistory ops dev id p := by
  rw [specRun_snd, ifHist_reverse_eq_some_iff]
  simp only [cmHist_isSome_known]
  rfl

/-! ### the tracker's vectors against the history -/

/-- C16, HISTORY FORM.  After ANY sequence of operations from the empty tracker, for every device id `dev`:
    * the device vector has an element with that id iff `dev` has sent a capture-module status message since it was last
      removed or cleared (`Known`);
    * an element with that id holds packet `p` iff `p` is the device's latest capture-module status message (`CmHistory`);
    * under an element with that id there is an interface element with key `id` holding `p` iff `p` is the latest interface
      status message for `id` seen since the device became known / since the interface was last removed (`IfHistory`).
    (At most one element per id: `C16.status_refines`, `Inv`.) -/
theorem tracker_history (ops : List StOp) (dev : Nat) :
    ((∃ d ∈ statusRun [] ops, d.pkt.deviceId = dev) ↔ Known ops dev) ∧
    (∀ p, (∃ d ∈ statusRun [] ops, d.pkt.deviceId = dev ∧ d.pkt = p) ↔ CmHistory ops dev p) ∧
    (∀ id p, (∃ d ∈ statusRun [] ops, d.pkt.deviceId = dev ∧ ∃ x ∈ d.ifs, x.id = id ∧ x.pkt = p) ↔
      IfHistory ops dev id p) := by
  obtain ⟨habs, hinv⟩ := status_refines ops
  have hdev := absL_eq_some_iff kD vD _ hinv.1 dev
  refine ⟨?_, fun p => ?_, fun id p => ?_⟩
  · rw [← spec_known_iff, ← habs, entries_are_keys _ hinv, List.mem_map]
  · rw [← spec_cm_iff, ← habs, Option.map_eq_some_iff]
    constructor
    · rintro ⟨d, hd, hk, rfl⟩
      exact ⟨_, (hdev _).2 ⟨d, hd, hk, rfl⟩, rfl⟩
    · rintro ⟨b, hb, rfl⟩
      obtain ⟨d, hd, hk, rfl⟩ := (hdev b).1 hb
      exact ⟨d, hd, hk, rfl⟩
  · rw [← spec_if_iff, ← habs, Option.bind_eq_some_iff]
    constructor
    · rintro ⟨d, hd, hk, x, hx, hkx, rfl⟩
      exact ⟨_, (hdev _).2 ⟨d, hd, hk, rfl⟩, (absL_eq_some_iff kI vI d.ifs (hinv.2 d hd) id _).2 ⟨x, hx, hkx, rfl⟩⟩
    · rintro ⟨b, hb, hp⟩
      obtain ⟨d, hd, hk, rfl⟩ := (hdev b).1 hb
      obtain ⟨x, hx, hkx, rfl⟩ := (absL_eq_some_iff kI vI d.ifs (hinv.2 d hd) id p).1 hp
      exact ⟨d, hd, hk, x, hx, hkx, rfl⟩

/-- … and read through the LOOKUPS (the property's observation points): `getIndexByDeviceId(dev)` is a valid index iff `dev` is
    known by the history, the element read there holds the latest capture-module message, and the interface element read at
    `getIndexByInterfaceId(id)` of that element holds the latest interface message for `id` -/
theorem lookup_history (ops : List StOp) (dev : Nat) :
    (indexOfDev (statusRun [] ops) dev < (statusRun [] ops).length ↔ Known ops dev) ∧
    (¬ Known ops dev → indexOfDev (statusRun [] ops) dev = (statusRun [] ops).length) ∧
    ∀ d, (statusRun [] ops)[indexOfDev (statusRun [] ops) dev]? = some d →
      d.pkt.deviceId = dev ∧ CmHistory ops dev d.pkt ∧
      ∀ id, (d.indexOfIf id < d.ifs.length ↔ ∃ p, IfHistory ops dev id p) ∧
        ∀ x, d.ifs[d.indexOfIf id]? = some x → x.id = id ∧ IfHistory ops dev id x.pkt := by
  obtain ⟨habs, _⟩ := status_refines ops
  have hlt : indexOfDev (statusRun [] ops) dev < (statusRun [] ops).length ↔ Known ops dev := by
    rw [← spec_known_iff, ← habs]
    exact findIdx_lt_iff_isSome kD vD _ dev
  refine ⟨hlt, fun h => ?_, fun d hd => ?_⟩
  · have : indexOfDev (statusRun [] ops) dev ≤ _ := findIdx_le _ _
    have := mt hlt.1 h
    omega
  · -- the map at `dev` is the entry read: its packet and the abstraction of its interface vector
    obtain ⟨hk, hval⟩ := absL_of_getElem? kD vD _ dev d hd
    have hval : specRun (fun _ => none) ops dev = some (d.pkt, absIfs d.ifs) := habs ▸ hval
    have hif : ∀ id p, absIfs d.ifs id = some p ↔ IfHistory ops dev id p := fun id p => by
      rw [← spec_if_iff, hval]; rfl
    refine ⟨hk, (spec_cm_iff ..).1 (by rw [hval]; rfl), fun id => ⟨?_, fun x hx => ?_⟩⟩
    · rw [show d.indexOfIf id < d.ifs.length ↔ _ from findIdx_lt_iff_isSome kI vI d.ifs id, Option.isSome_iff_exists]
      exact exists_congr fun p => hif id p
    · obtain ⟨hkx, hv⟩ := absL_of_getElem? kI vI d.ifs id x hx
      exact ⟨hkx, (hif id x.pkt).1 hv⟩

/-! ## §3 the totalised cases, made explicit

  `C16.update_other_kind` and `C16.abs_step` also cover inputs on which the C++ has no defined behaviour; the model answers
  "nothing changes" there.  The theorems of this section separate the two: the statement for the inputs the property talks
  about, with the precondition explicit, and — separately — what the model does outside it, together with the translated
  source being UNDEFINED (`none`) there, so that nobody reads the model's answer as a claim about the code. -/

/-- "messages of other kinds change nothing": a packet WITH a payload (`hp`: the property's "data packet of device d") whose type is
    neither capture-module status nor interface status leaves the tracker exactly as it was -/
theorem update_other_kind_payload (s : StatusSt) (p : Packet) (pl : Payload) (hp : p.payload = some pl)
    (h1 : pl.ty ≠ tyCm) (h2 : pl.ty ≠ tyIf) : statusUpdate s p = s :=
  update_other_kind s p (by simpa [Packet.pty, hp] using h1) (by simpa [Packet.pty, hp] using h2)

/-- OUTSIDE the property (a payload-less packet, e.g. default-constructed): the model says "nothing changes", but this is a
    totalisation — the translated `Packet::getPayload`, which `Status::update` calls first, is undefined on it -/
theorem update_no_payload_totalised (s : StatusSt) (p : Packet) (hp : p.payload = none) :
    statusUpdate s p = s ∧ Packet_getPayload_pv (SrcPv.repr p) = none :=
  ⟨update_other_kind s p (by simp [Packet.pty, hp, tyCm]) (by simp [Packet.pty, hp, tyIf]), (SrcPv.no_payload_src p hp).2.2.1⟩

/-- `removeInterfaceById` of the model on a device WITHOUT entry: a no-op by the model's guard (totalisation; at source level the
    composed step is undefined there: `srcStep_img_partial`, second part) -/
theorem rmIf_unknown_model_noop (s : StatusSt) (dev id : Nat) (h : absSt s dev = none) : statusRemoveIf s dev id = s := by
  have hn : ¬ indexOfDev s dev < s.length := fun hlt => by
    have := (lookup_dev_iff s dev).1.1 hlt
    rw [h] at this; cases this
  rw [statusRemoveIf_eq, if_neg hn]

/-- `abs_step` for `removeInterfaceById` under its real precondition (the device has an entry): the interface `id` of `dev` is
    removed from the map, the device's packet and its other interfaces, and all other devices, stay -/
theorem rmIf_known_step (s : StatusSt) (dev id : Nat) (h : Inv s) (cm : Packet) (ifs : IfMap) (hk : absSt s dev = some (cm, ifs)) :
    absSt (statusRemoveIf s dev id) = setMap (absSt s) dev (some (cm, setMap ifs id none)) := by
  have := abs_step s (.rmIf dev id) h
  simp only [statusStep, specStep, hk] at this
  exact this

/-! ## §4 source level

  `Obs img` (the image keeps `getDeviceId`, `getPayload.getType`, `…getInterfaceId`), the per-method theorems `*_img` for every such
  image, the injective image `fullImg` and `Small` are in `AsamCmp/Lemmas/C16SImg.lean`. -/

variable {img : Packet → OPkt}

/-! ### the translated methods over whole operation sequences -/

/-- one operation through the TRANSLATED methods.  `update`, `removeDeviceById`, `clear` are the translated methods themselves.
    `removeInterfaceById` is `DeviceStatus`'s translated method applied to `getDeviceStatus(getIndexByDeviceId(dev))`; the accessor
    `getDeviceStatus` returns a reference and is NOT translated (`Status_untranslated`), so it is composed here the way the
    translator renders `devices[index].update(packet)` inside `Status::update`: `getIdx` (undefined outside the vector), the
    method on the element, write-back. -/
def srcStep (img : Packet → OPkt) (st : Status_St) : StOp → Option Status_St
  | .update p => (Status_update_obj st (img p)).map (·.1)
  | .rmDev id => (Status_removeDeviceById_obj st id).map (·.1)
  | .rmIf dev id =>
    (Status_getIndexByDeviceId_obj st dev).bind fun r =>
      (getIdx r.1.f_devices r.2).bind fun el =>
        (DeviceStatus_removeInterfaceById_obj el id).map fun r2 => { r.1 with f_devices := r.1.f_devices.set r.2 r2.1 }
  | .clear => (Status_clear_obj st).map (·.1)

def srcRun (img : Packet → OPkt) (st : Status_St) : List StOp → Option Status_St
  | [] => some st
  | op :: ops => (srcStep img st op).bind fun st' => srcRun img st' ops

/-- every `removeInterfaceById(dev, ·)` of the sequence meets a state in which `dev` has an entry -/
def RmIfKnown (s : StatusSt) : List StOp → Prop
  | [] => True
  | op :: ops => (∀ dev id, op = .rmIf dev id → indexOfDev s dev < s.length) ∧ RmIfKnown (statusStep s op) ops

theorem rmIfKnown_iff (ops : List StOp) : ∀ s, RmIfKnown s ops ↔
    ∀ pre dev id post, ops = pre ++ .rmIf dev id :: post →
      indexOfDev (statusRun s pre) dev < (statusRun s pre).length := by
  induction ops with
  | nil =>
    intro s
    refine ⟨fun _ pre dev id post h => ?_, fun _ => trivial⟩
    cases pre <;> cases h
  | cons op ops ih =>
    intro s
    constructor
    · rintro ⟨hk, hrest⟩ pre dev id post h
      cases pre with
      | nil =>
        simp only [List.nil_append, List.cons.injEq] at h
        exact hk dev id h.1
      | cons a pre' =>
        simp only [List.cons_append, List.cons.injEq] at h
        rw [← h.1]
        exact (ih (statusStep s op)).1 hrest pre' dev id post h.2
    · intro h
      refine ⟨fun dev id ho => h [] dev id ops (by rw [ho]; rfl), (ih (statusStep s op)).2 ?_⟩
      intro pre dev id post hp
      exact h (op :: pre) dev id post (by rw [hp]; rfl)

/-- one step: the translated methods on the image of a model state compute the image of the model's step; the composed
    `removeInterfaceById` is defined exactly when the device has an entry -/
theorem srcStep_img_partial (H : Obs img) (s : StatusSt) (op : StOp) (h64 : s.length < 2 ^ 64)
    (h64' : ∀ d ∈ s, d.ifs.length < 2 ^ 64) :
    ((∀ dev id, op = .rmIf dev id → indexOfDev s dev < s.length) →
      srcStep img (stSt img s) op = some (stSt img (statusStep s op))) ∧
    ((∃ dev id, op = .rmIf dev id ∧ ¬ indexOfDev s dev < s.length) → srcStep img (stSt img s) op = none) := by
  cases op with
  | update p =>
    refine ⟨fun _ => ?_, fun ⟨_, _, h, _⟩ => by cases h⟩
    simp only [srcStep, update_img H, Option.map_some, statusStep]
  | rmDev id =>
    refine ⟨fun _ => ?_, fun ⟨_, _, h, _⟩ => by cases h⟩
    simp only [srcStep, removeDev_img H s id h64, Option.map_some, statusStep]
  | clear =>
    refine ⟨fun _ => rfl, fun ⟨_, _, h, _⟩ => by cases h⟩
  | rmIf dev id =>
    constructor
    · intro hk
      have hlt := hk dev id rfl
      have hmem : s[indexOfDev s dev] ∈ s := List.getElem_mem hlt
      simp only [srcStep, indexOfDev_img H, Option.bind_some, stSt_devs', getIdx_map _ _ _ hlt,
        removeIf_img H _ id (h64' _ hmem), Option.map_some, set_map_eq, statusStep, statusRemoveIf_eq, if_pos hlt,
        modify_eq_set_getElem _ _ _ hlt]
      rfl
    · rintro ⟨dev', id', h, hn⟩
      cases h
      have : (s.map (devSt img))[indexOfDev s dev]? = none := by
        rw [List.getElem?_eq_none_iff, List.length_map]; omega
      simp only [srcStep, indexOfDev_img H, Option.bind_some, stSt_devs', getIdx, this, Option.bind_none]

/-- SOURCE-LEVEL RUN (partial: see `srcStep` for the untranslated accessor, and `h64`).  Starting from the image of ANY model state
    whose vectors have at most `n` elements, a sequence of operations through the translated methods
    * is defined and ends in the image of the model's run when every `removeInterfaceById` meets a known device;
    * is undefined (`none`: `devices[size]` in the C++) otherwise.
    `h64`: `n + ops.length < 2^64` — no vector can outgrow `size_t` during the run (each operation adds at most one element);
    inherited from `removeDev_src` / `removeIf_src`. -/
theorem srcRun_img_partial (H : Obs img) (ops : List StOp) : ∀ (n : Nat) (s : StatusSt), Small n s → n + ops.length < 2 ^ 64 →
    (RmIfKnown s ops → srcRun img (stSt img s) ops = some (stSt img (statusRun s ops))) ∧
    (¬ RmIfKnown s ops → srcRun img (stSt img s) ops = none) := by
  induction ops with
  | nil => intro n s _ _; exact ⟨fun _ => rfl, fun h => absurd trivial h⟩
  | cons op ops ih =>
    intro n s hs h64
    simp only [List.length_cons] at h64
    have hl : s.length < 2 ^ 64 := by have := hs.1; omega
    have hl' : ∀ d ∈ s, d.ifs.length < 2 ^ 64 := fun d hd => by have := hs.2 d hd; omega
    obtain ⟨hok, hbad⟩ := srcStep_img_partial H s op hl hl'
    obtain ⟨ih1, ih2⟩ := ih (n + 1) (statusStep s op) (small_step n s op hs) (by omega)
    constructor
    · intro ⟨hk, hrest⟩
      simp only [srcRun, hok hk, Option.bind_some]
      exact ih1 hrest
    · intro hn
      by_cases hk : ∀ dev id, op = .rmIf dev id → indexOfDev s dev < s.length
      · simp only [srcRun, hok hk, Option.bind_some]
        exact ih2 (fun hrest => hn ⟨hk, hrest⟩)
      · simp only [Classical.not_forall, exists_prop] at hk
        simp only [srcRun, hbad hk, Option.bind_none]


/-! ### element reads and the stored packet -/

/-- `InterfaceStatus::getInterfaceId()` (translated, no theorem so far): returns the key of the entry and changes nothing -/
theorem getInterfaceId_src (img : Packet → OPkt) (x : IfSt) :
    InterfaceStatus_getInterfaceId_obj (ifSt img x) = some (ifSt img x, x.id) := rfl

/-- … and on every interface entry the tracker can reach, that is the interface id the translated tracker reads from the entry's
    OWN stored packet ("getInterfaceStatus(j).getInterfaceId()" = id in its packet) -/
theorem getInterfaceId_run_src (ops : List StOp) : ∀ d ∈ statusRun [] ops, ∀ x ∈ d.ifs,
    InterfaceStatus_getInterfaceId_obj (ifSt oPkt x) =
      some (ifSt oPkt x, opq (ifSt oPkt x).f_interfacePacket "getPayload.as_InterfacePayload.getInterfaceId") := by
  intro d hd x hx
  rw [getInterfaceId_src]
  show _ = some (_, opq (oPkt x.pkt) _)
  rw [obs_oPkt.ifid, ← if_key_is_payload_id ops d hd x hx]

/-- what the (untranslated, reference-returning) accessors `getDeviceStatus(i)`, `getInterfaceStatus(j)`, `getPacket()` have to
    read — PARTIAL: the accessors themselves are not translated (`Status_untranslated`, `DeviceStatus_untranslated`,
    `InterfaceStatus_untranslated`: "reference type"), so this is a statement about the member records, rendered as the
    translator renders `devices[index]` (`getIdx`): element `i` of the translated vector is the image of element `i` of the
    model's vector, its packet member is the image of the model's packet, likewise one level down; outside the vector the read is
    undefined -/
theorem elem_read_src_partial (img : Packet → OPkt) (s : StatusSt) (i : Nat) :
    getIdx (stSt img s).f_devices i = (s[i]?).map (devSt img) ∧
    (∀ d : DevSt, (devSt img d).f_devicePacket = img d.pkt ∧
      ∀ j, getIdx (devSt img d).f_interfaces j = (d.ifs[j]?).map (ifSt img)) ∧
    (∀ x : IfSt, (ifSt img x).f_interfacePacket = img x.pkt) := by
  refine ⟨by simp only [getIdx, stSt, List.getElem?_map], fun d => ⟨rfl, fun j => ?_⟩, fun _ => rfl⟩
  simp only [getIdx, devSt, List.getElem?_map]

/-- the assignment `devicePacket = packet` / `interfacePacket = packet` (the user-written `Packet::operator=(const Packet&)`:
    copy constructor + `swap`), translated in packet value mode: WHATEVER the slot held before (`dst`), afterwards it is the
    representation of exactly the assigned packet — every member and every payload byte (`repr` is injective) -/
theorem stored_copy_exact (dst src : Packet) :
    Packet_opAssign_copy_pv (SrcPv.repr dst) (SrcPv.repr src) = some (SrcPv.repr src, ()) ∧
    ∀ q, SrcPv.repr q = SrcPv.repr src → q = src := by
  refine ⟨(SrcPv.copyAssign_src dst src).1, fun q h => ?_⟩
  have := congrArg SrcPv.abs h
  rwa [SrcPv.abs_repr, SrcPv.abs_repr] at this

/-- "messages of other kinds change nothing" at source level: the translated `Status::update` on such a packet (with payload,
    other type) returns the member record unchanged -/
theorem update_other_kind_src (H : Obs img) (s : StatusSt) (p : Packet) (pl : Payload) (hp : p.payload = some pl)
    (h1 : pl.ty ≠ tyCm) (h2 : pl.ty ≠ tyIf) : Status_update_obj (stSt img s) (img p) = some (stSt img s, ()) := by
  rw [update_img H, update_other_kind_payload s p pl hp h1 h2]

/-- "messages for unknown devices change nothing" at source level -/
theorem update_unknown_device_src (H : Obs img) (s : StatusSt) (p : Packet) (hdev : absSt s p.deviceId = none)
    (h1 : p.pty ≠ tyCm) : Status_update_obj (stSt img s) (img p) = some (stSt img s, ()) := by
  rw [update_img H, update_unknown_device s p hdev h1]

/-! ### whole runs from the default-constructed `Status` -/

/-- SOURCE-LEVEL C16 OVER WHOLE RUNS (partial, see below).  From the default-constructed `Status`, ANY sequence of fewer than
    2^64 operations in which `removeInterfaceById(dev, ·)` is applied only while `dev` is known (by the history: `Known pre dev`),
    run through the translated methods, is defined and ends in the image of the model's run — for every packet image `img` that
    keeps the three observed values, in particular the injective `fullImg`; hence (`status_refines`, `tracker_history`) in the
    latest-message map.  And if some `removeInterfaceById` meets an unknown device, the run is undefined.
    PARTIAL because (i) `getDeviceStatus` is not translated and is composed in `srcStep` as the translator renders `devices[index]`;
    (ii) `h64` (a `std::vector` cannot hold 2^64 elements) is not in the property's text. -/
theorem src_run_refines_partial (H : Obs img) (ops : List StOp) (h64 : ops.length < 2 ^ 64) :
    ((∀ pre dev id post, ops = pre ++ .rmIf dev id :: post → Known pre dev) →
      srcRun img Status_default ops = some (stSt img (statusRun [] ops))) ∧
    ((∃ pre dev id post, ops = pre ++ .rmIf dev id :: post ∧ ¬ Known pre dev) → srcRun img Status_default ops = none) := by
  obtain ⟨h1, h2⟩ := srcRun_img_partial H ops 0 [] ⟨Nat.le_refl _, fun d hd => by cases hd⟩ (by omega)
  constructor
  · intro hk
    exact h1 ((rmIfKnown_iff ops []).2 fun pre dev id post hp => (lookup_history pre dev).1.2 (hk pre dev id post hp))
  · rintro ⟨pre, dev, id, post, hp, hn⟩
    exact h2 fun hr => hn ((lookup_history pre dev).1.1 ((rmIfKnown_iff ops []).1 hr pre dev id post hp))

/-- … and, with the injective image, the source-level end state DETERMINES the model state: whatever member record `stSt fullImg t`
    the translated run ends in, `t` is the model's run, so its vectors read as the latest-message map and satisfy the invariant -/
theorem src_run_determines_partial (ops : List StOp) (h64 : ops.length < 2 ^ 64) (t : StatusSt)
    (h : srcRun fullImg Status_default ops = some (stSt fullImg t)) :
    t = statusRun [] ops ∧ absSt t = specRun (fun _ => none) ops ∧ Inv t := by
  obtain ⟨h1, h2⟩ := src_run_refines_partial obs_fullImg ops h64
  have ht : t = statusRun [] ops := by
    by_cases hk : ∀ pre dev id post, ops = pre ++ .rmIf dev id :: post → Known pre dev
    · rw [h1 hk] at h
      exact (stSt_fullImg_injective _ _ (Option.some.inj h)).symm
    · simp only [Classical.not_forall, exists_prop] at hk
      rw [h2 hk] at h
      cases h
  rw [ht]
  exact ⟨rfl, status_refines ops⟩

/-! ## §5 concrete evaluations -/

deriving instance DecidableEq for StOp

/-- capture-module status packet of device `dev`, distinguishable by its timestamp -/
def cmT (dev ts : Nat) : Packet := { payload := some ⟨tyCm, []⟩, deviceId := dev, ts := ts }
/-- interface status packet of device `dev` for interface `ifId` (< 256), distinguishable by its timestamp -/
def ifT (dev ifId ts : Nat) : Packet := { payload := some ⟨tyIf, [0, 0, 0, UInt8.ofNat ifId]⟩, deviceId := dev, ts := ts }
/-- a CAN data packet of device `dev` -/
def canT (dev ts : Nat) : Packet := { payload := some ⟨tyCan, []⟩, deviceId := dev, ts := ts }

/-- interface message before the device is known (dropped); devices 1 and 2; interface 7 of device 1 reported three times
    (timestamps 3, 6 — the latest wins), interface 8 reported and removed; a data packet; device 1's capture-module message
    renewed (7); device 2 removed and an interface message for it afterwards (dropped) -/
def exOps : List StOp :=
  [.update (ifT 1 7 1), .update (cmT 1 2), .update (ifT 1 7 3), .update (cmT 2 4), .update (ifT 1 8 5), .update (ifT 1 7 6),
   .update (canT 1 100), .update (cmT 1 7), .rmIf 1 8, .update (ifT 2 7 8), .rmDev 2, .update (ifT 2 7 9)]

/-- the vectors: one device entry (device 1, packet of time 7), one interface entry (interface 7, packet of time 6) -/
example : (statusRun [] exOps).map (fun d => (d.pkt.deviceId, d.pkt.ts, d.ifs.map fun x => (x.id, x.pkt.ts))) =
    [(1, 7, [(7, 6)])] := by decide +kernel
/-- the whole stored packets are the sent ones -/
example : statusRun [] exOps = [⟨cmT 1 7, [⟨7, ifT 1 7 6⟩]⟩] := by decide +kernel
/-- the abstraction and the specification evaluated at points -/
example : (absSt (statusRun [] exOps) 1).map (fun e => (e.1, e.2 7, e.2 8)) = some (cmT 1 7, some (ifT 1 7 6), none) ∧
    (absSt (statusRun [] exOps) 2).isNone := by decide +kernel
example : (specRun (fun _ => none) exOps 1).map (fun e => (e.1, e.2 7, e.2 8)) = some (cmT 1 7, some (ifT 1 7 6), none) ∧
    (specRun (fun _ => none) exOps 2).isNone := by decide +kernel
/-- the closed form on the history (most recent first) -/
example : cmHist 1 exOps.reverse = some (cmT 1 7) ∧ ifHist 1 7 exOps.reverse = some (ifT 1 7 6) ∧
    ifHist 1 8 exOps.reverse = none ∧ cmHist 2 exOps.reverse = none ∧ ifHist 2 7 exOps.reverse = none := by decide +kernel
/-- lookups: device 1 at index 0, device 2 → element count 1; interface 7 at 0, interface 8 → its element count 1 -/
example : indexOfDev (statusRun [] exOps) 1 = 0 ∧ indexOfDev (statusRun [] exOps) 2 = 1 ∧
    ((statusRun [] exOps)[0]?).map (fun d => (d.indexOfIf 7, d.indexOfIf 8)) = some (0, 1) := by decide +kernel

/-- the history predicates are satisfiable on it (and refutable: device 2 is not known at the end) -/
example : Known exOps 1 ∧ CmHistory exOps 1 (cmT 1 7) ∧ IfHistory exOps 1 7 (ifT 1 7 6) ∧ ¬ Known exOps 2 ∧
    ¬ CmHistory exOps 1 (cmT 1 2) ∧ ¬ IfHistory exOps 1 7 (ifT 1 7 3) ∧ ∀ p, ¬ IfHistory exOps 1 8 p :=
  ⟨(spec_known_iff ..).1 (by decide +kernel), (spec_cm_iff ..).1 (by decide +kernel), (spec_if_iff ..).1 (by decide +kernel),
   fun h => absurd ((spec_known_iff ..).2 h) (by decide +kernel), fun h => absurd ((spec_cm_iff ..).2 h) (by decide +kernel),
   fun h => absurd ((spec_if_iff ..).2 h) (by decide +kernel),
   fun p h => by have := (spec_if_iff ..).2 h; rw [show (specRun (fun _ => none) exOps 1).bind (fun e => e.2 8) = none by decide +kernel] at this; cases this⟩

/-- an explicit witness for `CmHistory`: the decomposition the property's text describes -/
example : CmHistory exOps 1 (cmT 1 7) :=
  ⟨exOps.take 7, exOps.drop 8, by decide +kernel, ⟨by decide, by decide⟩,
   ⟨by decide +kernel, by decide +kernel⟩,
   fun q hq => by
     simp only [exOps, List.drop_succ_cons, List.drop_zero, List.mem_cons, StOp.update.injEq, reduceCtorEq, false_or,
       List.mem_nil_iff, or_false] at hq
     rcases hq with rfl | rfl <;> decide⟩

example := observe_run exOps 1
example := lookup_history exOps 1
/-- the count theorem's hypotheses are satisfiable: `[1]` enumerates the keys -/
example : (statusRun [] exOps).length = [1].length :=
  count_is_keys _ (status_refines exOps).2 [1] (by decide) fun dev => by
    rw [entries_are_keys _ (status_refines exOps).2,
      show (statusRun [] exOps).map (·.pkt.deviceId) = [1] by decide +kernel]

theorem exOps_rmIfKnown : RmIfKnown [] exOps := by
  simp only [exOps, RmIfKnown]
  repeat' apply And.intro
  all_goals first | trivial | (intro dev id h; cases h <;> decide +kernel)

example : srcRun oPkt Status_default exOps = some (stSt oPkt [⟨cmT 1 7, [⟨7, ifT 1 7 6⟩]⟩]) := by
  have := (srcRun_img_partial obs_oPkt exOps 0 [] ⟨Nat.le_refl _, fun d hd => by cases hd⟩ (by decide)).1 exOps_rmIfKnown
  rw [show statusRun [] exOps = [⟨cmT 1 7, [⟨7, ifT 1 7 6⟩]⟩] by decide +kernel] at this
  exact this


/-- THE TEXT'S AMBIGUITY, MADE EXPLICIT (not a violation).  An interface status message that arrives BEFORE the device's first
    capture-module status message is "seen since the device was last removed or cleared" (it never was), yet it is NOT stored:
    the clause "messages for unknown devices change nothing" wins, and `IfHistory` says so by demanding `Known before dev`.
    Here interface 7 of device 1 is reported at time 1, the device becomes known at time 2: the device has an entry, the
    interface has none — in the tracker, in the map, and at source level. -/
theorem if_before_cm_not_stored :
    statusRun [] [.update (ifT 1 7 1), .update (cmT 1 2)] = [⟨cmT 1 2, []⟩] ∧
    (specRun (fun _ => none) [.update (ifT 1 7 1), .update (cmT 1 2)] 1).map (fun e => (e.1, e.2 7)) = some (cmT 1 2, none) ∧
    ∀ p, ¬ IfHistory [.update (ifT 1 7 1), .update (cmT 1 2)] 1 7 p := by
  refine ⟨by decide +kernel, by decide +kernel, fun p h => ?_⟩
  have := (spec_if_iff ..).2 h
  rw [show (specRun (fun _ => none) [.update (ifT 1 7 1), .update (cmT 1 2)] 1).bind (fun e => e.2 7) = none
    by decide +kernel] at this
  cases this

/-! ### the remaining theorems on literals -/

example := lookup_dev_spec (statusRun [] exOps) 1
example := lookup_if_spec ⟨cmT 1 7, [⟨7, ifT 1 7 6⟩]⟩ 8
example := elements_are_values _ (status_refines exOps).2
example : statusUpdate (statusRun [] exOps) (canT 1 5) = statusRun [] exOps :=
  update_other_kind_payload _ _ ⟨tyCan, []⟩ rfl (by decide) (by decide)
example := update_no_payload_totalised (statusRun [] exOps) Packet.dflt rfl
example : statusRemoveIf (statusRun [] exOps) 2 7 = statusRun [] exOps :=
  rmIf_unknown_model_noop _ 2 7 (by decide +kernel)
example := rmIf_known_step (statusRun [] exOps) 1 7 (status_refines exOps).2 _ _
  ((elements_are_values _ (status_refines exOps).2 ⟨cmT 1 7, [⟨7, ifT 1 7 6⟩]⟩ (by decide +kernel)).1)
example : Status_update_obj (stSt fullImg (statusRun [] exOps)) (fullImg (canT 1 5)) =
    some (stSt fullImg (statusRun [] exOps), ()) :=
  update_other_kind_src obs_fullImg _ _ ⟨tyCan, []⟩ rfl (by decide) (by decide)
example : Status_update_obj (stSt oPkt (statusRun [] exOps)) (oPkt (ifT 2 7 9)) = some (stSt oPkt (statusRun [] exOps), ()) :=
  update_unknown_device_src obs_oPkt _ _ (by decide +kernel) (by decide)

/-- the 3-entry table is NOT injective (two packets differing in their timestamp have the same table), `fullImg` is -/
example : oPkt (cmT 1 2) = oPkt (cmT 1 3) ∧ fullImg (cmT 1 2) ≠ fullImg (cmT 1 3) :=
  ⟨rfl, fun h => absurd (fullImg_injective _ _ h) (by decide)⟩
example := stored_copy_exact Packet.dflt (cmT 1 7)
example : InterfaceStatus_getInterfaceId_obj (ifSt oPkt ⟨7, ifT 1 7 6⟩) = some (ifSt oPkt ⟨7, ifT 1 7 6⟩, 7) :=
  getInterfaceId_src oPkt _
example := getInterfaceId_run_src exOps ⟨cmT 1 7, [⟨7, ifT 1 7 6⟩]⟩ (by decide +kernel) ⟨7, ifT 1 7 6⟩ (by decide +kernel)
example := elem_read_src_partial fullImg (statusRun [] exOps) 0

/-- the whole-run theorem's hypotheses are satisfiable on `exOps` (its one `removeInterfaceById` meets the known device 1) … -/
theorem exOps_rmIf_known : ∀ pre dev id post, exOps = pre ++ .rmIf dev id :: post → Known pre dev :=
  fun pre dev id post hp => (lookup_history pre dev).1.1 ((rmIfKnown_iff exOps []).1 exOps_rmIfKnown pre dev id post hp)
example : srcRun fullImg Status_default exOps = some (stSt fullImg [⟨cmT 1 7, [⟨7, ifT 1 7 6⟩]⟩]) := by
  have := (src_run_refines_partial obs_fullImg exOps (by decide)).1 exOps_rmIf_known
  rw [show statusRun [] exOps = [⟨cmT 1 7, [⟨7, ifT 1 7 6⟩]⟩] by decide +kernel] at this
  exact this
example := src_run_determines_partial exOps (by decide) (statusRun [] exOps)
  ((src_run_refines_partial obs_fullImg exOps (by decide)).1 exOps_rmIf_known)
/-- … and `removeInterfaceById` on a device without entry makes the source-level run undefined (`devices[size]`) -/
example : srcRun oPkt Status_default [.update (cmT 1 2), .rmIf 2 7] = none :=
  (src_run_refines_partial obs_oPkt _ (by decide)).2
    ⟨[.update (cmT 1 2)], 2, 7, [], rfl, fun h => absurd ((spec_known_iff ..).2 h) (by decide +kernel)⟩

end AsamCmp.C16S
