/-
  C08  Segmentation and aggregation follow the protocol rules — STRENGTHENING theorems.

  Theorems about the definitions of Tile.lean / Encoder.lean that say what the statements registered for C08
  (Props/C07.lean, C07b.lean, SrcEncoder*.lean) leave open when read against the property's text (DESIGN.md, section J.4):

   §1  `P_C08` on its own admits message-less frames.  `P_C08s` = `P_C08` + "every frame holds a message";
       proved on the bytes; `frameChainOk`: the explicit reading of "segments occupy consecutive frames, one per frame
       and alone in it, flagged first, intermediary…, last", derived from `P_C08s` for ANY frame list (wire-level lemma).
   §2  batches that contain an EMPTY payload: conjuncts 1–4 of `P_C08` (and `P_C07`, and the frame chain) hold for
       every batch; the greedy conjunct holds whenever an empty payload has the message type of its predecessor; and the
       negative: an empty payload of a FOREIGN message type between two packets of one type breaks the greedy conjunct.
   §3  the message HEADERS on the wire: a second walker that keeps the 16 header bytes finds, for every batch,
       exactly the prescribed (header, body) sequence `wireOf` — every piece carries its own packet's header.
   §4  `P_C08s` determines the frame layout UNIQUELY.
   §5  composed end-to-end statements about the translated C++ entry points (`encode` over an iterator
       range, over a `shared_ptr` range, and the single-packet overload) from ANY encoder object.
   §6  evaluated examples, positive and negative.

  HYPOTHESES used by the main theorems, and the words of the property they stand for:
    `hc : c.ok = true`                       "all DataContext in the C07 domain": 25 ≤ max and min ≤ max (no upper bound on max)
    `hb : ∀ p ∈ batch, p.Enc ∧ 1 ≤ len`      "all batches … in the C07 domain": a payload is present, 1..65535 bytes
    `hb : ∀ p ∈ batch, p.Enc`                the same WITHOUT the lower bound (payload 0..65535 bytes): beyond the domain, §2
    `emptyFollows none …`                    only in §2, only for the greedy clause: "an empty payload has the message type of
                                             its predecessor" (vacuous on the property's domain: `emptyFollows_of_pos`)
    any `e : Enc` / any `s : Encoder_St`     every encoder object, whatever earlier calls left in it
    `hq : seqc < 65536`, `hmax : max < 2^32`, `hf : 65536 ≤ fuel`
                                             only in the statements about the low-level model / the translated C++: the members
                                             are within their C types (uint16_t counter, the DataContext fields), and the
                                             translation's loop fuel covers the longest payload.  Not restrictions of the batch.
  Every main theorem is instantiated on a literal input in §2b / §6.
-/
import AsamCmp.Props.C07b
import AsamCmp.Props.SrcEncoderE2E
import AsamCmp.Props.SrcPacketValue
import AsamCmp.Lemmas.C08SGreedy
import AsamCmp.Lemmas.C08SHdr
import AsamCmp.Lemmas.C08SUnique
namespace AsamCmp.C08S
open AsamCmp

/-! ## §1  frames without messages; segments in consecutive frames -/

/-- conjuncts 1–4 of `P_C08` (Tile.lean), verbatim: prescribed (flag, length) sequence; a segment is alone in its frame;
    every message has the type announced in its frame header; no frame overflows -/
def P_C08core (c : Ctx) (batch : List (Nat × Nat)) (fs : List SFrame) : Bool :=
  ((fs.flatMap fun f => f.msgs.map fun m => (m.seg, m.body.length)) == batch.flatMap (fun (_, len) => pieceShape c.cap len)) &&
  fs.all (fun f => f.msgs.all (·.seg == 0) || f.msgs.length == 1) &&
  ((fs.flatMap fun f => f.msgs.map fun _ => f.mt) == pieceMts c.cap batch) &&
  fs.all (fun f => decide (f.used ≤ c.cap))

/-- `P_C08` is its first four conjuncts and the greedy-fill conjunct -/
theorem P_C08_split (c : Ctx) (batch : List (Nat × Nat)) (fs : List SFrame) :
    P_C08 c batch fs = (P_C08core c batch fs && greedyOk c.cap fs) := rfl

/-- every frame holds at least one message -/
def noEmptyFrame (fs : List SFrame) : Bool := fs.all (fun f => !f.msgs.isEmpty)

/-- C08 as the property's text reads it: `P_C08` and no message-less frame (without which "consecutive frames" and
    "appended whenever it fits" say nothing: an interposed empty frame hides both from `P_C08`) -/
def P_C08s (c : Ctx) (batch : List (Nat × Nat)) (fs : List SFrame) : Bool :=
  noEmptyFrame fs && P_C08 c batch fs

/-- `P_C07` contains the clause -/
theorem P_C07_noEmpty {c : Ctx} {pl : List Bytes} {fs : List SFrame} (h : P_C07 c pl fs = true) :
    noEmptyFrame fs = true := by
  unfold P_C07 at h
  simp only [Bool.and_eq_true] at h
  have h1 := h.1.1
  rw [List.all_eq_true] at h1
  unfold noEmptyFrame
  rw [List.all_eq_true]
  intro f hf
  have := h1 f hf
  simp only [Bool.and_eq_true] at this
  exact this.1.1.2

/-- the flag sequence of a well-segmented message stream, as a two-state machine (`inside` = a first segment was seen and
    its last segment not yet): outside only 0 (unsegmented) or 4 (first) may come, inside only 8 (intermediary) or 12 (last) -/
def segSeqOk : Bool → List Nat → Bool
  | inside, [] => !inside
  | inside, s :: r =>
    if inside then (s == 8 && segSeqOk true r) || (s == 12 && segSeqOk false r)
    else (s == 0 && segSeqOk false r) || (s == 4 && segSeqOk true r)

/-- "its segments occupy consecutive frames, one per frame and alone in it, flagged first, intermediary…, last", frame by
    frame: after a frame holding a first segment the IMMEDIATELY following frames hold exactly one message each, flagged
    intermediary, up to the one flagged last; outside such a run no frame holds a segment flag; no frame is empty -/
def frameChainOk : Bool → List SFrame → Bool
  | inside, [] => !inside
  | inside, f :: r =>
    match f.msgs with
    | [] => false
    | [m] =>
      if inside then (m.seg == 8 && frameChainOk true r) || (m.seg == 12 && frameChainOk false r)
      else (m.seg == 0 && frameChainOk false r) || (m.seg == 4 && frameChainOk true r)
    | m :: m' :: ms => !inside && (m :: m' :: ms).all (·.seg == 0) && frameChainOk false r

theorem segSeqOk_append (l2 : List Nat) (h2 : segSeqOk false l2 = true) :
    ∀ (l1 : List Nat) (b : Bool), segSeqOk b l1 = true → segSeqOk b (l1 ++ l2) = true := by
  intro l1
  induction l1 with
  | nil =>
    intro b h
    cases b with
    | false => simpa using h2
    | true => simp [segSeqOk] at h
  | cons s r ih =>
    intro b h
    -- inside or outside a run, the head is one of two flags and the tail goes on in the state it leads to
    cases b <;>
      simp only [List.cons_append, segSeqOk, Bool.false_eq_true, if_false, if_true, Bool.or_eq_true,
        Bool.and_eq_true] at h ⊢ <;>
      exact h.imp (fun h => ⟨h.1, ih _ h.2⟩) (fun h => ⟨h.1, ih _ h.2⟩)

theorem segSeqOk_tail (n : Nat) : segSeqOk true (List.replicate n 8 ++ [12]) = true := by
  induction n with
  | zero => simp [segSeqOk]
  | succ n ih => simp [List.replicate_succ, segSeqOk, ih]

/-- the prescribed pieces of one packet are a closed run: nothing, one unsegmented message, or first, intermediary…, last -/
theorem pieceShape_segSeq (cap len : Nat) (hcap : 17 ≤ cap) :
    segSeqOk false ((pieceShape cap len).map Prod.fst) = true := by
  unfold pieceShape
  by_cases h0 : len = 0
  · simp [h0, segSeqOk]
  · rw [if_neg h0]
    by_cases h1 : 16 + len ≤ cap
    · simp [h1, segSeqOk]
    · rw [if_neg h1]
      simp only
      have hfull : 1 ≤ (len - 1) / (cap - 16) := by
        rw [Nat.le_div_iff_mul_le (by omega)]
        omega
      obtain ⟨n, hn⟩ : ∃ n, (len - 1) / (cap - 16) = n + 1 := ⟨(len - 1) / (cap - 16) - 1, by omega⟩
      rw [hn, range_flags]
      simp [segSeqOk, segSeqOk_tail n]

theorem batch_segSeq (cap : Nat) (hcap : 17 ≤ cap) (batch : List (Nat × Nat)) :
    segSeqOk false ((batch.flatMap (fun (_, len) => pieceShape cap len)).map Prod.fst) = true := by
  induction batch with
  | nil => rfl
  | cons x r ih =>
    simp only [List.flatMap_cons, List.map_append]
    exact segSeqOk_append _ ih _ _ (pieceShape_segSeq cap x.2 hcap)

theorem segSeqOk_zeros (rest : List Nat) : ∀ (zs : List Nat) (b : Bool), (∀ z ∈ zs, z = 0) → zs ≠ [] →
    segSeqOk b (zs ++ rest) = true → b = false ∧ segSeqOk false rest = true := by
  intro zs
  induction zs with
  | nil => intro _ _ h; exact absurd rfl h
  | cons z zs ih =>
    intro b hz _ h
    have hz0 : z = 0 := hz z (by simp)
    subst hz0
    cases b with
    | true => simp [segSeqOk] at h
    | false =>
      simp only [List.cons_append, segSeqOk, Bool.false_eq_true, if_false, beq_self_eq_true, Bool.true_and] at h
      have h' : segSeqOk false (zs ++ rest) = true := by simpa using h
      refine ⟨rfl, ?_⟩
      cases zs with
      | nil => simpa using h'
      | cons z' zs' => exact (ih false (fun x hx => hz x (by simp [hx])) (by simp) h').2

/-- wire-level lemma, for ANY frame list: no empty frame, segments alone in their frame, and a well-bracketed flag
    sequence give the frame chain -/
theorem frameChain_of (fs : List SFrame) :
    ∀ b, noEmptyFrame fs = true →
      fs.all (fun f => f.msgs.all (·.seg == 0) || f.msgs.length == 1) = true →
      segSeqOk b (fs.flatMap fun f => f.msgs.map (·.seg)) = true → frameChainOk b fs = true := by
  induction fs with
  | nil => intro b _ _ h; simpa [frameChainOk, segSeqOk] using h
  | cons f r ih =>
    intro b hne hal hs
    simp only [noEmptyFrame, List.all_cons, Bool.and_eq_true] at hne hal
    have ih' := fun b => ih b hne.2 hal.2
    simp only [List.flatMap_cons] at hs
    unfold frameChainOk
    cases hm : f.msgs with
    | nil => simp [hm] at hne
    | cons m ms =>
      cases ms with
      | nil =>
        simp only [hm, List.map_cons, List.map_nil, List.cons_append, List.nil_append, segSeqOk] at hs
        cases b <;> simp only [Bool.false_eq_true, if_false, if_true, Bool.or_eq_true, Bool.and_eq_true] at hs ⊢ <;>
          exact hs.imp (fun h => ⟨h.1, ih' _ h.2⟩) (fun h => ⟨h.1, ih' _ h.2⟩)
      | cons m' ms' =>
        have hall : (m :: m' :: ms').all (·.seg == 0) = true := by
          have := hal.1
          rw [hm] at this
          simpa using this
        have hz : ∀ z ∈ (m :: m' :: ms').map (·.seg), z = 0 := by
          intro z hz
          obtain ⟨x, hx, rfl⟩ := List.mem_map.mp hz
          have := List.all_eq_true.mp hall x hx
          simpa using this
        rw [hm] at hs
        obtain ⟨hb, hrest⟩ := segSeqOk_zeros _ _ b hz (by simp) hs
        subst hb
        simp only [Bool.not_false, Bool.true_and, Bool.and_eq_true]
        exact ⟨hall, ih' _ hrest⟩

/-- wire-level: `P_C08s` (for a frame size of the domain, `25 ≤ max`) implies the frame chain — for ANY frame list, not only
    the encoder's.  In particular `[[(4,76)], [], [(12,24)]]` cannot satisfy `P_C08s`. -/
theorem P_C08s_frameChain (c : Ctx) (hc : c.ok = true) (batch : List (Nat × Nat)) (fs : List SFrame)
    (h : P_C08s c batch fs = true) : frameChainOk false fs = true := by
  unfold P_C08s P_C08 at h
  simp only [Bool.and_eq_true, beq_iff_eq] at h
  obtain ⟨hne, ⟨⟨⟨⟨h1, h2⟩, _⟩, _⟩, _⟩⟩ := h
  apply frameChain_of fs false hne h2
  have : (fs.flatMap fun f => f.msgs.map (·.seg)) =
      (fs.flatMap fun f => f.msgs.map fun m => (m.seg, m.body.length)).map Prod.fst := by
    rw [List.map_flatMap]
    simp [List.map_map, Function.comp_def]
  rw [this, h1]
  exact batch_segSeq c.cap (Ctx.ok_cap hc).1 batch

theorem pieceShape_full (cap len : Nat) : ∀ x ∈ pieceShape cap len, x.1 = 4 ∨ x.1 = 8 → x.2 = cap - 16 := by
  intro x hx hseg
  unfold pieceShape at hx
  by_cases h0 : len = 0
  · simp [h0] at hx
  · rw [if_neg h0] at hx
    by_cases h1 : 16 + len ≤ cap
    · rw [if_pos h1] at hx
      simp only [List.mem_singleton] at hx
      subst hx
      simp at hseg
    · rw [if_neg h1] at hx
      simp only [List.mem_append, List.mem_map, List.mem_singleton] at hx
      rcases hx with ⟨i, _, rfl⟩ | rfl
      · rfl
      · simp at hseg

/-- wire-level, for ANY frame list: "each [segment] but the last filling its frame to the maximum", spelled out.  If `P_C07` and
    conjuncts 1–4 of `P_C08` hold (frame size of the domain), a frame that holds a message flagged first (4) or intermediary
    (8) holds nothing else, carries no padding, and is exactly `max` bytes long. -/
theorem nonlast_segment_fills_frame (c : Ctx) (hc : c.ok = true) (payloads : List Bytes) (batch : List (Nat × Nat))
    (fs : List SFrame) (h7 : P_C07 c payloads fs = true) (h8 : P_C08core c batch fs = true) :
    ∀ f ∈ fs, ∀ m ∈ f.msgs, (m.seg = 4 ∨ m.seg = 8) → f.msgs = [m] ∧ f.pad = 0 ∧ f.len = c.max := by
  intro f hf m hm hseg
  obtain ⟨hcap, hmax, _⟩ := Ctx.ok_cap hc
  unfold P_C08core at h8
  simp only [Bool.and_eq_true, beq_iff_eq] at h8
  obtain ⟨⟨⟨h1, h2⟩, _⟩, _⟩ := h8
  -- alone in its frame
  have hal := List.all_eq_true.mp h2 f hf
  simp only [Bool.or_eq_true, List.all_eq_true, beq_iff_eq] at hal
  have hone : f.msgs = [m] := eq_singleton_of_alone hal hm (by omega)
  -- its length is the prescribed full-segment length
  have hin : (m.seg, m.body.length) ∈ fs.flatMap (fun f => f.msgs.map fun m => (m.seg, m.body.length)) :=
    List.mem_flatMap.mpr ⟨f, hf, List.mem_map.mpr ⟨m, hm, rfl⟩⟩
  rw [h1] at hin
  obtain ⟨b, _, hb⟩ := List.mem_flatMap.mp hin
  have hlen : m.body.length = c.cap - 16 := pieceShape_full c.cap b.2 _ hb hseg
  have hused : f.used = c.cap := by
    simp only [SFrame.used, hone, List.map_cons, List.map_nil, List.sum_cons, List.sum_nil, SMsg.size, hlen]
    omega
  -- C07: length = 8 + used + pad ≤ max
  unfold P_C07 at h7
  simp only [Bool.and_eq_true] at h7
  have hw := List.all_eq_true.mp h7.1.1 f hf
  simp only [Bool.and_eq_true, decide_eq_true_eq] at hw
  obtain ⟨⟨⟨⟨_, hle⟩, _⟩, heq⟩, _⟩ := hw
  rw [hused] at heq
  exact ⟨hone, by omega, by omega⟩

/-! ## §2  every payload length 0..65535 -/

theorem tile_all (c : Ctx) (fs : List EFrame)
    (hm : ∀ f ∈ fs, ∀ m ∈ f.msgs, 1 ≤ m.body.length ∧ m.body.length < 65536 ∧ (m.seg = 0 ∨ m.seg = 4 ∨ m.seg = 8 ∨ m.seg = 12)) :
    tileFrames (fs.map (EFrame.bytes c.min)) = some (fs.map (EFrame.shape c.min)) :=
  tileFrames_bytes c.min fs hm

/-- conjuncts 1–4 of `P_C08` on the model for EVERY batch of packets with a payload shorter than 2^16 — empty payloads
    included (hypothesis `p.Enc` only: the "1 ≤ length" of `C08_seg_rules` is not needed for them) -/
theorem C08_core_any_length (e : Enc) (batch : List Packet) (c : Ctx) (hc : c.ok = true)
    (hb : ∀ p ∈ batch, p.Enc) :
    P_C08core c (batch.map fun p => (p.mt, p.data.length)) ((e.encode batch c).2.map (EFrame.shape c.min)) = true := by
  obtain ⟨h1, h2, h3, h4⟩ := C08_without_greedy e batch c hc hb
  unfold P_C08core
  rw [h1, h2, h3, h4]
  rfl

/-- the greedy conjunct on the model for every batch in which an empty payload has the message type of the packet in front
    of it (`emptyFollows`, Lemmas/C08SGreedy.lean; true of every batch without empty payloads) -/
theorem C08_greedy_empty_follows (e : Enc) (batch : List Packet) (c : Ctx) (hc : c.ok = true)
    (hb : ∀ p ∈ batch, p.Enc)
    (hef : emptyFollows none (batch.map fun p => (p.mt, p.data.length)) = true) :
    greedyOk c.cap ((e.encode batch c).2.map (EFrame.shape c.min)) = true := by
  obtain ⟨hcap, _, _⟩ := Ctx.ok_cap hc
  obtain ⟨hok, _, _⟩ := encode_spec e batch c hcap
  have e1 : (batch.map fun p => (p.mt, p.payloadLength)) = batch.map fun p => (p.mt, p.data.length) := by
    apply List.map_congr_left
    intro p hp
    rw [(hb p hp).plen]
  exact greedyOk_of c c.min _ (fun f hf => (hok f hf).1.mtlt) (encode_greedyE e batch c hcap (e1 ▸ hef))

/-- On the BYTES, for every encoder state, every configuration with `25 ≤ max`, `min ≤ max` and every
    batch of packets with a payload of 0..65535 bytes: tiling succeeds, `P_C07` holds, no frame is empty, conjuncts 1–4 of
    `P_C08` hold, the segments form the frame chain — and the greedy conjunct (hence all of `P_C08`) holds whenever an empty
    payload has the message type of its predecessor. -/
theorem C08_bytes_any_length (e : Enc) (batch : List Packet) (c : Ctx) (hc : c.ok = true)
    (hb : ∀ p ∈ batch, p.Enc) :
    ∃ fs, tileFrames ((e.encode batch c).2.map (EFrame.bytes c.min)) = some fs ∧
      P_C07 c (batch.map Packet.data) fs = true ∧
      noEmptyFrame fs = true ∧
      P_C08core c (batch.map fun p => (p.mt, p.data.length)) fs = true ∧
      (emptyFollows none (batch.map fun p => (p.mt, p.data.length)) = true →
        P_C08s c (batch.map fun p => (p.mt, p.data.length)) fs = true ∧ frameChainOk false fs = true) := by
  have h7 := C07_frames_wf e batch c hc hb
  have hcore := C08_core_any_length e batch c hc hb
  refine ⟨_, tile_all c _ (encode_msgs_ok e batch c hc), h7, P_C07_noEmpty h7, hcore, ?_⟩
  intro hef
  have hs : P_C08s c (batch.map fun p => (p.mt, p.data.length)) ((e.encode batch c).2.map (EFrame.shape c.min)) = true := by
    unfold P_C08s
    rw [P_C08_split, P_C07_noEmpty h7, hcore, C08_greedy_empty_follows e batch c hc hb hef]
    rfl
  exact ⟨hs, P_C08s_frameChain c hc _ _ hs⟩

/-- "each but the last filling its frame to the maximum" on the encoder's bytes, every payload length 0..65535: a frame that
    holds a first or intermediary segment holds nothing else, has no padding and is exactly `max` bytes long -/
theorem C08_nonlast_segments_fill_bytes (e : Enc) (batch : List Packet) (c : Ctx) (hc : c.ok = true)
    (hb : ∀ p ∈ batch, p.Enc) :
    ∃ fs, tileFrames ((e.encode batch c).2.map (EFrame.bytes c.min)) = some fs ∧
      ∀ f ∈ fs, ∀ m ∈ f.msgs, (m.seg = 4 ∨ m.seg = 8) → f.msgs = [m] ∧ f.pad = 0 ∧ f.len = c.max := by
  obtain ⟨fs, h1, h2, _, h4, _⟩ := C08_bytes_any_length e batch c hc hb
  exact ⟨fs, h1, nonlast_segment_fills_frame c hc _ _ fs h2 h4⟩

/-- on the property's own domain (payload length 1..65535, `25 ≤ max`, `min ≤ max`): the strengthened
    predicate `P_C08s` (no message-less frame) and the explicit consecutive-frames chain hold of the tiled bytes -/
theorem C08_strong_bytes (e : Enc) (batch : List Packet) (c : Ctx) (hc : c.ok = true)
    (hb : ∀ p ∈ batch, p.Enc ∧ 1 ≤ p.data.length) :
    ∃ fs, tileFrames ((e.encode batch c).2.map (EFrame.bytes c.min)) = some fs ∧
      P_C07 c (batch.map Packet.data) fs = true ∧
      P_C08s c (batch.map fun p => (p.mt, p.data.length)) fs = true ∧
      frameChainOk false fs = true := by
  obtain ⟨fs, h1, h2, _, _, h5⟩ := C08_bytes_any_length e batch c hc (fun p hp => (hb p hp).1)
  have := h5 (emptyFollows_of_pos _ _ (by
    intro x hx
    obtain ⟨p, hp, rfl⟩ := List.mem_map.mp hx
    exact (hb p hp).2))
  exact ⟨fs, h1, h2, this.1, this.2⟩

/-- the same of the low-level (line-by-line) model -/
theorem C08_strong_lowlevel (e : Enc) (batch : List Packet) (c : Ctx) (hc : c.ok = true)
    (hb : ∀ p ∈ batch, p.Enc ∧ 1 ≤ p.data.length) (hq : e.seqc < 65536) :
    ∃ fs, tileFrames (e.toLL.encode batch c).2 = some fs ∧
      P_C07 c (batch.map Packet.data) fs = true ∧
      P_C08s c (batch.map fun p => (p.mt, p.data.length)) fs = true ∧
      frameChainOk false fs = true := by
  rw [(C07b.encodeLL_refines e batch c hc (fun p hp => (hb p hp).1) hq).1]
  exact C08_strong_bytes e batch c hc hb

/-- … and `C08_bytes_any_length` of the low-level model -/
theorem C08_lowlevel_any_length (e : Enc) (batch : List Packet) (c : Ctx) (hc : c.ok = true)
    (hb : ∀ p ∈ batch, p.Enc) (hq : e.seqc < 65536) :
    ∃ fs, tileFrames (e.toLL.encode batch c).2 = some fs ∧
      P_C07 c (batch.map Packet.data) fs = true ∧
      noEmptyFrame fs = true ∧
      P_C08core c (batch.map fun p => (p.mt, p.data.length)) fs = true ∧
      (emptyFollows none (batch.map fun p => (p.mt, p.data.length)) = true →
        P_C08s c (batch.map fun p => (p.mt, p.data.length)) fs = true ∧ frameChainOk false fs = true) := by
  rw [(C07b.encodeLL_refines e batch c hc hb hq).1]
  exact C08_bytes_any_length e batch c hc hb

/-! ## §3  the message headers on the wire -/

/-- what the tiler of Tile.lean keeps of a message the header walker found -/
def toSMsg (hb : Bytes × Bytes) : SMsg := ⟨byteAt hb.1 12 &&& 0x0C, hb.2⟩

/-- the header walker (`tileFrameH`, Lemmas/C08SHdr.lean) and the tiler of Tile.lean cut a frame into the same messages -/
theorem tileFrameH_tileFrame (b : Bytes) :
    (tileFrameH b).map (fun ms => ms.map toSMsg) = (tileFrame b).map (·.msgs) := by
  unfold tileFrameH tileFrame
  split
  · rfl
  · refine (tileMsgsH_tileMsgs _ _).trans ?_
    cases tileMsgs (b.length + 1) (b.drop 8) <;> rfl

/-- … and so do `wireMsgs` and `tileFrames` over a list of frames: same success, same messages in the same order -/
theorem wireMsgs_tileFrames (bs : List Bytes) :
    (wireMsgs bs).map (fun ms => ms.map toSMsg) = (tileFrames bs).map (fun fs => fs.flatMap (·.msgs)) := by
  induction bs with
  | nil => rfl
  | cons b bs ih =>
    have hb := tileFrameH_tileFrame b
    unfold wireMsgs tileFrames
    -- both walks succeed on `b` together and on `bs` together
    cases h1 : tileFrameH b <;> cases h2 : tileFrame b <;>
      simp only [h1, h2, Option.map_some, Option.map_none, Option.some.injEq, reduceCtorEq] at hb
    · rfl
    · cases h3 : wireMsgs bs <;> cases h4 : tileFrames bs <;>
        simp only [h3, h4, Option.map_some, Option.map_none, Option.some.injEq, reduceCtorEq] at ih
      · rfl
      · simp only [Option.map_some, List.map_append, List.flatMap_cons, hb, ih]

/-- For every encoder state, every configuration of the domain and every batch of packets with a
    payload of 0..65535 bytes: the header-keeping walker succeeds on the encoder's bytes and finds EXACTLY the prescribed
    message sequence `batch.flatMap (wireOf cap)`: packets in batch order, for each packet one message per prescribed piece,
    every piece — first, intermediary and last segments alike — carrying the 16-byte header of ITS OWN packet
    (`msgHeader p seg len`: timestamp, interface / vendor id, flags, payload type, the piece's segment bits and length),
    followed by the consecutive slice of that packet's payload. -/
theorem C08_wire_messages (e : Enc) (batch : List Packet) (c : Ctx) (hc : c.ok = true)
    (hb : ∀ p ∈ batch, p.Enc) :
    wireMsgs ((e.encode batch c).2.map (EFrame.bytes c.min)) = some (batch.flatMap (wireOf c.cap)) := by
  obtain ⟨hcap, _, _⟩ := Ctx.ok_cap hc
  rw [wireMsgs_bytes c.min _ (encode_msgs_ok e batch c hc), (encode_spec e batch c hcap).2.1, List.map_flatMap,
    zip_flatMap batch _ (wireOf c.cap) (fun i p hp => pieces_wire c hcap i p (hb p hp).2)]

/-- the same of the low-level (line-by-line) model -/
theorem C08_wire_messages_lowlevel (e : Enc) (batch : List Packet) (c : Ctx) (hc : c.ok = true)
    (hb : ∀ p ∈ batch, p.Enc) (hq : e.seqc < 65536) :
    wireMsgs (e.toLL.encode batch c).2 = some (batch.flatMap (wireOf c.cap)) := by
  rw [(C07b.encodeLL_refines e batch c hc hb hq).1]
  exact C08_wire_messages e batch c hc hb

/-- `wireOf` unfolded for a packet that fits an empty frame: ONE message, unsegmented, the packet's header with its full
    length, the whole payload -/
theorem wireOf_fits (cap : Nat) (p : Packet) (h1 : 1 ≤ p.data.length) (h2 : 16 + p.data.length ≤ cap) :
    wireOf cap p = [(msgHeader p 0 p.data.length, p.data)] := by
  unfold wireOf pieceShape
  rw [if_neg (by omega), if_pos h2]
  simp [cut]

/-- `wireOf` for an empty payload: nothing -/
theorem wireOf_empty (cap : Nat) (p : Packet) (h : p.data.length = 0) : wireOf cap p = [] := by
  unfold wireOf pieceShape
  rw [if_pos h]
  rfl

/-! ## §4  `P_C08s` determines the frame layout uniquely -/

/-- the clauses of `P_C08s`, as propositions -/
theorem P_C08s_parts {c : Ctx} {batch : List (Nat × Nat)} {fs : List SFrame} (h : P_C08s c batch fs = true) :
    (∀ f ∈ fs, FOk c.cap f) ∧ greedyOk c.cap fs = true ∧
    fs.flatMap K = batch.flatMap (fun (_, len) => pieceShape c.cap len) ∧ mtsOf fs = pieceMts c.cap batch := by
  unfold P_C08s P_C08 noEmptyFrame at h
  simp only [Bool.and_eq_true, beq_iff_eq] at h
  obtain ⟨hne, ⟨⟨⟨⟨h1, h2⟩, h3⟩, h4⟩, h5⟩⟩ := h
  rw [List.all_eq_true] at hne h2 h4
  refine ⟨?_, h5, h1, ?_⟩
  · intro f hf
    refine ⟨?_, ?_, ?_⟩
    · have := hne f hf
      intro hk
      have : f.msgs = [] := by simpa [K] using hk
      simp [this] at *
    · have := h2 f hf
      simp only [Bool.or_eq_true, List.all_eq_true, beq_iff_eq] at this
      rcases this with h | h
      · left
        intro x hx
        obtain ⟨m, hm, rfl⟩ := List.mem_map.mp hx
        exact h m hm
      · right; simpa [K] using h
    · simpa using h4 f hf
  · rw [← h3]
    simp only [mtsOf, K, List.map_map]
    rfl

/-- **exact characterisation.**  Two frame lists that both satisfy `P_C08s` for the same batch and configuration have the
    same layout: the same number of frames, frame by frame the same announced message type and the same (flag, length)
    list.  So the predicate leaves the encoder no freedom: any other way of cutting or grouping the batch is rejected. -/
theorem P_C08s_unique (c : Ctx) (batch : List (Nat × Nat)) (fs fs' : List SFrame)
    (h : P_C08s c batch fs = true) (h' : P_C08s c batch fs' = true) :
    fs.map frameKey = fs'.map frameKey := by
  obtain ⟨a1, a2, a3, a4⟩ := P_C08s_parts h
  obtain ⟨b1, b2, b3, b4⟩ := P_C08s_parts h'
  exact unique_aux c.cap fs fs' a1 b1 a2 b2 (a3.trans b3.symm) (a4.trans b4.symm)

/-- on the encoder: on the property's domain, whatever frame list `gs` an observer could write down that satisfies `P_C08s`
    for the batch has the layout of the frames the encoder put on the wire -/
theorem C08_layout_is_the_only_one (e : Enc) (batch : List Packet) (c : Ctx) (hc : c.ok = true)
    (hb : ∀ p ∈ batch, p.Enc ∧ 1 ≤ p.data.length) :
    ∃ fs, tileFrames ((e.encode batch c).2.map (EFrame.bytes c.min)) = some fs ∧
      ∀ gs, P_C08s c (batch.map fun p => (p.mt, p.data.length)) gs = true → gs.map frameKey = fs.map frameKey := by
  obtain ⟨fs, h1, _, h3, _⟩ := C08_strong_bytes e batch c hc hb
  exact ⟨fs, h1, fun gs hg => P_C08s_unique c _ gs fs hg h3⟩

/-- a frame list in which every message is a segment, no frame is empty and a segment is alone: one message per frame -/
theorem singletons_of_segments : ∀ (fs : List SFrame), (∀ f ∈ fs, K f ≠ [] ∧ ((∀ x ∈ K f, x.1 = 0) ∨ (K f).length = 1)) →
    (∀ x ∈ fs.flatMap K, x.1 ≠ 0) → fs.map K = (fs.flatMap K).map (fun x => [x]) := by
  intro fs
  induction fs with
  | nil => intro _ _; rfl
  | cons f r ih =>
    intro h hs
    have hf := h f (by simp)
    obtain ⟨x, hx⟩ := List.exists_mem_of_ne_nil _ hf.1
    have hk : K f = [x] := eq_singleton_of_alone hf.2 hx (hs x (by simp [hx]))
    simp only [List.map_cons, List.flatMap_cons, hk, List.cons_append, List.nil_append, List.cons.injEq, true_and]
    exact ih (fun g hg => h g (by simp [hg])) (fun y hy => hs y (by simp [hy]))

theorem pieceShape_seg_ne (cap len : Nat) (h : ¬ 16 + len ≤ cap) : ∀ x ∈ pieceShape cap len, x.1 ≠ 0 := by
  intro x hx
  unfold pieceShape at hx
  by_cases h0 : len = 0
  · simp [h0] at hx
  · rw [if_neg h0, if_neg h] at hx
    simp only [List.mem_append, List.mem_map, List.mem_singleton] at hx
    rcases hx with ⟨i, _, rfl⟩ | rfl
    · simp only; split <;> omega
    · simp

/-- **the single large packet** (the use of the overload `encode(const Packet&, const DataContext&)`): a packet that does not
    fit an empty frame comes out as exactly one frame per prescribed piece — consecutive frames, each holding that one
    segment and nothing else, each announcing the packet's message type -/
theorem C08_single_large_packet (e : Enc) (p : Packet) (c : Ctx) (hc : c.ok = true) (hp : p.Enc)
    (hbig : ¬ 16 + p.data.length ≤ c.cap) :
    ∃ fs, tileFrames ((e.encode [p] c).2.map (EFrame.bytes c.min)) = some fs ∧
      fs.map frameKey = (pieceShape c.cap p.data.length).map (fun x => (p.mt, [x])) := by
  have hb : ∀ q ∈ [p], q.Enc ∧ 1 ≤ q.data.length := by
    intro q hq
    simp only [List.mem_singleton] at hq
    subst hq
    have := (Ctx.ok_cap hc).1
    exact ⟨hp, by omega⟩
  obtain ⟨fs, h1, _, h3, _⟩ := C08_strong_bytes e [p] c hc hb
  refine ⟨fs, h1, ?_⟩
  obtain ⟨a1, _, a3, a4⟩ := P_C08s_parts h3
  simp only [List.map_cons, List.map_nil, List.flatMap_cons, List.flatMap_nil, List.append_nil] at a3
  have a4' : mtsOf fs = (pieceShape c.cap p.data.length).map (fun _ => p.mt) := by
    rw [a4]; simp [pieceMts]
  have hK := singletons_of_segments fs (fun f hf => ⟨(a1 f hf).ne, (a1 f hf).alone⟩)
    (by rw [a3]; exact pieceShape_seg_ne c.cap _ hbig)
  rw [a3] at hK
  -- every frame holds a message, so its announced type occurs in `mtsOf fs`, which is constantly the packet's
  have hmt : ∀ f ∈ fs, f.mt = p.mt := by
    intro f hf
    obtain ⟨x, hx⟩ := List.exists_mem_of_ne_nil _ (a1 f hf).ne
    have : f.mt ∈ mtsOf fs := List.mem_flatMap.mpr ⟨f, hf, List.mem_map.mpr ⟨x, hx, rfl⟩⟩
    rw [a4'] at this
    obtain ⟨_, _, h⟩ := List.mem_map.mp this
    exact h.symm
  have : fs.map frameKey = (fs.map K).map (fun k => (p.mt, k)) := by
    rw [List.map_map]
    exact List.map_congr_left fun f hf => by simp [frameKey, hmt f hf]
  rw [this, hK, List.map_map]
  rfl

/-! ## §5  the translated C++ entry points, end to end -/

open AsamCmp.Src AsamCmp.SrcGen

/-- the encoder object of the model that a record of the C++ data members stands for: identity, counter, message type (the
    scratch members — frames, template, bytesLeft, min, max — are overwritten by `init` at the start of every `encode`) -/
def encOf (s : Encoder_St) : Enc :=
  { dev := s.f_deviceId, stream := s.f_streamId, seqc := s.f_sequenceCounter, curMt := s.f_messageType }

/-- `EncLL.init` overwrites every scratch member: an `encode` call from ANY member values is the call from the idle state
    with the same identity, counter and message type -/
theorem toLL_encode_eq (s : Encoder_St) (batch : List Packet) (c : Ctx) :
    (SrcEnc.toLL s).encode batch c = (encOf s).toLL.encode batch c := rfl

/-- everything §1–§3 say about one frame list, in one predicate over the BYTES an entry point returned -/
def C08Bytes (c : Ctx) (batch : List Packet) (frames : List Bytes) : Prop :=
  ∃ fs, tileFrames frames = some fs ∧
    P_C07 c (batch.map Packet.data) fs = true ∧
    P_C08s c (batch.map fun p => (p.mt, p.data.length)) fs = true ∧
    frameChainOk false fs = true ∧
    wireMsgs frames = some (batch.flatMap (wireOf c.cap))

theorem C08Bytes_model (e : Enc) (batch : List Packet) (c : Ctx) (hc : c.ok = true)
    (hb : ∀ p ∈ batch, p.Enc ∧ 1 ≤ p.data.length) :
    C08Bytes c batch ((e.encode batch c).2.map (EFrame.bytes c.min)) := by
  obtain ⟨fs, h1, h2, h3, h4⟩ := C08_strong_bytes e batch c hc hb
  exact ⟨fs, h1, h2, h3, h4, C08_wire_messages e batch c hc (fun p hp => (hb p hp).1)⟩

/-- The two iterator-range overloads of `Encoder::encode` as TRANSLATED FROM THE C++ SOURCE, called on
    ANY encoder object `s` whose sequence counter is within its C type (uint16_t; nothing is asked of the scratch members:
    whatever earlier calls left there), with any configuration of the domain below 4 GiB (the C type of the DataContext
    fields) and any batch of packets with a payload of 1..65535 bytes: the call is defined, and the returned byte vectors
    tile into frames that satisfy C07, the strengthened C08, the consecutive-segment chain and the header sequence. -/
theorem C08_source_range (s : Encoder_St) (batch : List Packet) (c : Ctx) (fuel : Nat)
    (hq : s.f_sequenceCounter < 65536) (hc : c.ok = true) (hmax : c.max < 2 ^ 32)
    (hb : ∀ p ∈ batch, p.Enc ∧ 1 ≤ p.data.length) (hf : 65536 ≤ fuel) :
    ∃ s' frames,
      Encoder_encode_range_obj fuel s (batch.map SrcEnc.pktIn) c.min c.max = some (s', frames) ∧
      Encoder_encode_ptrRange_obj fuel s (batch.map SrcEnc.pktIn) c.min c.max = some (s', frames) ∧
      frames = ((encOf s).encode batch c).2.map (EFrame.bytes c.min) ∧
      C08Bytes c batch frames := by
  obtain ⟨h1, h2⟩ := SrcEnc.encodeRange_src s batch c fuel hc hmax hf
  have hr := (C07b.encodeLL_refines (encOf s) batch c hc (fun p hp => (hb p hp).1) hq).1
  rw [toLL_encode_eq] at h1 h2
  exact ⟨_, _, h1, h2, hr, hr ▸ C08Bytes_model (encOf s) batch c hc hb⟩

/-- the single-packet overload `encode(const Packet&, const DataContext&)`, translated as a whole, from
    ANY encoder object: defined, returns the serialised frames of the structured model for the one-packet batch -/
theorem encode1_src_struct (s : Encoder_St) (p : Packet) (c : Ctx) (fuel : Nat)
    (hq : s.f_sequenceCounter < 65536) (hc : c.ok = true) (hmax : c.max < 2 ^ 32) (hp : p.Enc) (hf : 65536 ≤ fuel) :
    ∃ s', Encoder_encode_obj fuel s (SrcEnc.pktIn p) c.min c.max
            = some (s', ((encOf s).encode [p] c).2.map (EFrame.bytes c.min)) ∧
      s'.f_sequenceCounter = ((encOf s).encode [p] c).1.seqc ∧ s'.f_messageType = ((encOf s).encode [p] c).1.curMt ∧
      s'.f_deviceId = s.f_deviceId ∧ s'.f_streamId = s.f_streamId ∧ s'.f_cmpFrames = [] ∧ s'.f_cmpFrameTemplate = [] := by
  have h := SrcEnc.encode1_src_gen s p c fuel hc hmax hf
  rw [toLL_encode_eq] at h
  have hb : ∀ q ∈ [p], q.Enc := by
    intro q hq'
    simp only [List.mem_singleton] at hq'
    subst hq'
    exact hp
  obtain ⟨r1, r2, r3, r4, r5, r6, r7⟩ := C07b.encodeLL_refines (encOf s) [p] c hc hb hq
  exact ⟨_, by rw [h, r1], r2, r3, r4, r5, r6, r7⟩

/-- … and C07 / C08 of what it returns, for a packet of the domain (payload 1..65535 bytes) -/
theorem C08_source_single (s : Encoder_St) (p : Packet) (c : Ctx) (fuel : Nat)
    (hq : s.f_sequenceCounter < 65536) (hc : c.ok = true) (hmax : c.max < 2 ^ 32)
    (hp : p.Enc ∧ 1 ≤ p.data.length) (hf : 65536 ≤ fuel) :
    ∃ s' frames, Encoder_encode_obj fuel s (SrcEnc.pktIn p) c.min c.max = some (s', frames) ∧
      C08Bytes c [p] frames ∧
      (¬ 16 + p.data.length ≤ c.cap →
        ∃ fs, tileFrames frames = some fs ∧
          fs.map frameKey = (pieceShape c.cap p.data.length).map (fun x => (p.mt, [x]))) := by
  obtain ⟨s', h, _⟩ := encode1_src_struct s p c fuel hq hc hmax hp.1 hf
  have hb : ∀ q ∈ [p], q.Enc ∧ 1 ≤ q.data.length := by
    intro q hq'
    simp only [List.mem_singleton] at hq'
    subst hq'
    exact hp
  exact ⟨s', _, h, C08Bytes_model (encOf s) [p] c hc hb,
    fun hbig => C08_single_large_packet (encOf s) p c hc hp.1 hbig⟩

/-- `C08_bytes_any_length` (payload length 0..65535) of the translated entry points -/
theorem C08_source_range_any_length (s : Encoder_St) (batch : List Packet) (c : Ctx) (fuel : Nat)
    (hq : s.f_sequenceCounter < 65536) (hc : c.ok = true) (hmax : c.max < 2 ^ 32)
    (hb : ∀ p ∈ batch, p.Enc) (hf : 65536 ≤ fuel) :
    ∃ s' frames fs,
      Encoder_encode_range_obj fuel s (batch.map SrcEnc.pktIn) c.min c.max = some (s', frames) ∧
      Encoder_encode_ptrRange_obj fuel s (batch.map SrcEnc.pktIn) c.min c.max = some (s', frames) ∧
      tileFrames frames = some fs ∧
      P_C07 c (batch.map Packet.data) fs = true ∧ noEmptyFrame fs = true ∧
      P_C08core c (batch.map fun p => (p.mt, p.data.length)) fs = true ∧
      wireMsgs frames = some (batch.flatMap (wireOf c.cap)) ∧
      (emptyFollows none (batch.map fun p => (p.mt, p.data.length)) = true →
        P_C08s c (batch.map fun p => (p.mt, p.data.length)) fs = true ∧ frameChainOk false fs = true) := by
  obtain ⟨h1, h2⟩ := SrcEnc.encodeRange_src s batch c fuel hc hmax hf
  have hr := (C07b.encodeLL_refines (encOf s) batch c hc hb hq).1
  rw [toLL_encode_eq, hr] at h1 h2
  obtain ⟨fs, a1, a2, a3, a4, a5⟩ := C08_bytes_any_length (encOf s) batch c hc hb
  exact ⟨_, _, fs, h1, h2, a1, a2, a3, a4, C08_wire_messages (encOf s) batch c hc hb, a5⟩

/-- what the encoder READS from a packet is consistent, and it is what the translated C++ getters
    of `Packet` return (`SrcPv.pktIn_src`).  For a packet within its C types that owns a payload: `getMessageType()` returns
    the payload's message type, byte 4 of `getRawCmpHeader()` — the type the frame header will announce — is that same value,
    and `getPayloadLength()` is the size of the payload `getPayload()` hands out (for a payload shorter than 2^16).  So a
    `getRawCmpHeader` writing a fixed type, or a `getPayloadLength` disagreeing with the payload, is excluded. -/
theorem C08_packet_getters_consistent (p : Packet) (pl : Payload) (hfit : p.Fits) (hp : p.payload = some pl) :
    ∃ mt len hdr q,
      Packet_getMessageType_pv (SrcPv.repr p) = some (SrcPv.repr p, mt) ∧
      Packet_getPayloadLength_pv (SrcPv.repr p) = some (SrcPv.repr p, len) ∧
      Packet_getRawCmpHeader_pv (SrcPv.repr p) = some (SrcPv.repr p, hdr) ∧
      Packet_getPayload_pv (SrcPv.repr p) = some (SrcPv.repr p, q) ∧
      mt = pl.mt ∧ byteAt hdr 4 = mt ∧ (pl.data.length < 65536 → len = q.f_payloadData.length) ∧
      q.f_payloadData = pl.data := by
  obtain ⟨g1, g2, ⟨q, g3, g3'⟩, g4, _⟩ := SrcPv.pktIn_src p pl hfit hp
  refine ⟨_, _, _, q, g1, g2, g4, g3, ?_, ?_, ?_, ?_⟩
  · simp [SrcEnc.pktIn, Packet.mt, hp]
  · have := (C01.parse_fields (p.version % 256) p.deviceId p.mt p.streamId p.seq []).2.2.2.1
    rw [List.append_nil] at this
    simp only [SrcEnc.pktIn]
    rw [this]
    exact Nat.mod_eq_of_lt (Packet.mt_lt p)
  · intro hl
    rw [g3']
    simp only [SrcEnc.pktIn, Packet.payloadLength, Packet.data, hp]
    exact Nat.mod_eq_of_lt hl
  · rw [g3']
    simp [SrcEnc.pktIn, Packet.data, hp]

/-! ## §2b  the negative: an empty payload of a foreign message type breaks the greedy clause

  OUTSIDE the property's domain (payload length 1..65535) but inside what the header comment of Props/C07.lean calls
  "covered too".  The witness: a CAN packet of 8 bytes, a packet whose payload is what `Packet::create` makes of ZERO bytes of
  CAN data (rejected by the validator: the invalid-marked payload of the same length, i.e. empty, message type 0), and another
  CAN packet of 8 bytes, at min 64 / max 100.  `putPacket` sees a message-type change (1 → 0), closes the data frame and
  opens a frame of type 0; the empty payload adds nothing; the next packet changes the type back, the message-less frame is
  dropped — and the two 8-byte data messages sit in two frames of the same type although both fit one (40 of 92 bytes). -/

local instance : DecidablePred Packet.Enc := fun p => by unfold Packet.Enc; exact inferInstance

def pk (ty : Nat) (n : Nat) (b : UInt8) : Packet := { payload := some ⟨ty, List.replicate n b⟩ }

/-- the witness batch -/
def exBad : List Packet := [pk tyCan 8 1, { payload := some (create tyCan []) }, pk tyCan 8 3]

/-- **negative (model level).**  Every hypothesis of `C08_bytes_any_length` holds of the witness (`p.Enc` for every packet, a
    configuration of the domain, the idle encoder); the bytes tile, `P_C07` and conjuncts 1–4 of `P_C08` hold — and the greedy
    conjunct, hence `P_C08`, is FALSE: the layout is two data frames with one 8-byte message each.  (`emptyFollows` is false
    of the batch, as it must be.) -/
theorem C08_empty_foreign_payload_breaks_greedy :
    (∀ p ∈ exBad, p.Enc) ∧ (⟨64, 100⟩ : Ctx).ok = true ∧
    emptyFollows none (exBad.map fun p => (p.mt, p.data.length)) = false ∧
    (tileFrames ((({} : Enc).encode exBad ⟨64, 100⟩).2.map (EFrame.bytes 64))).map
        (fun fs => (fs.map frameKey,
          P_C07 ⟨64, 100⟩ (exBad.map Packet.data) fs,
          P_C08core ⟨64, 100⟩ (exBad.map fun p => (p.mt, p.data.length)) fs,
          greedyOk 92 fs,
          P_C08 ⟨64, 100⟩ (exBad.map fun p => (p.mt, p.data.length)) fs))
      = some ([(1, [(0, 8)]), (1, [(0, 8)])], true, true, false, false) := by
  refine ⟨by decide, rfl, by decide, by decide +kernel⟩

/-- **negative (source level).**  The translated C++ `encode` over the iterator range, called on a default-constructed encoder
    with the witness batch, is defined and returns exactly those bytes: the frames the C++ puts on the wire violate the
    greedy clause of `P_C08` -/
theorem C08_empty_foreign_payload_source (fuel : Nat) (hf : 65536 ≤ fuel) :
    ∃ s' frames, Encoder_encode_range_obj fuel Encoder_default (exBad.map SrcEnc.pktIn) 64 100 = some (s', frames) ∧
      (tileFrames frames).map (fun fs =>
        (fs.map frameKey, P_C08 ⟨64, 100⟩ (exBad.map fun p => (p.mt, p.data.length)) fs))
        = some ([(1, [(0, 8)]), (1, [(0, 8)])], false) := by
  obtain ⟨h1, _⟩ := SrcEnc.encodeRange_src Encoder_default exBad ⟨64, 100⟩ fuel rfl (by decide) hf
  rw [toLL_encode_eq] at h1
  have hr := (C07b.encodeLL_refines (encOf Encoder_default) exBad ⟨64, 100⟩ rfl
    C08_empty_foreign_payload_breaks_greedy.1 (by decide)).1
  refine ⟨_, _, h1, ?_⟩
  rw [hr]
  have := C08_empty_foreign_payload_breaks_greedy.2.2.2
  have e : encOf Encoder_default = ({} : Enc) := rfl
  rw [e]
  generalize tileFrames ((({} : Enc).encode exBad ⟨64, 100⟩).2.map (EFrame.bytes (⟨64, 100⟩ : Ctx).min)) = o at this ⊢
  cases o with
  | none => simp at this
  | some fs =>
    simp only [Option.map_some, Option.some.injEq, Prod.mk.injEq] at this ⊢
    exact ⟨this.1, this.2.2.2.2⟩

/-- the harmless cases, for contrast: the same empty payload FIRST in the batch, or an empty payload of the SAME message
    type (a data message of an unknown payload type with no bytes), leave `P_C08` true -/
example : emptyFollows none (([{ payload := some (create tyCan []) }, pk tyCan 8 1, pk tyCan 8 3] : List Packet).map
    fun p => (p.mt, p.data.length)) = true := by decide +kernel
example : emptyFollows none (([pk tyCan 8 1, pk 0x0110 0 0, pk tyCan 8 3] : List Packet).map
    fun p => (p.mt, p.data.length)) = true := by decide +kernel

set_option maxRecDepth 100000 in
/-- a batch with an empty payload that keeps the type of its predecessor (hypotheses of `C08_bytes_any_length` incl.
    `emptyFollows`): evaluated, the two data messages share one frame and `P_C08s` is true -/
example : let b : List Packet := [pk tyCan 8 1, pk 0x0110 0 0, pk tyCan 8 3]
    (∀ p ∈ b, p.Enc) ∧ emptyFollows none (b.map fun p => (p.mt, p.data.length)) = true ∧
    (tileFrames (({} : Enc).toLL.encode b ⟨64, 100⟩).2).map (fun fs =>
      (fs.map frameKey, P_C08s ⟨64, 100⟩ (b.map fun p => (p.mt, p.data.length)) fs))
      = some ([(1, [(0, 8), (0, 8)])], true) := by
  refine ⟨by decide, by decide, by decide +kernel⟩

/-! ## §6  evaluated examples -/

/-- the test suite's batch shape 8,8,100 | 60,8,8 at (64,100), with a message-type change (data → status → data) in it -/
def ex1 : List Packet := [pk tyCan 8 1, pk tyCan 8 2, pk tyCan 100 3, pk tyCm 60 4, pk tyCm 8 5, pk tyCan 8 6]

/-- the hypotheses of the main theorems hold of it … -/
example : ∀ p ∈ ex1, p.Enc ∧ 1 ≤ p.data.length := by decide +kernel
example := C08_strong_bytes {} ex1 ⟨64, 100⟩ rfl (by decide)
example := C08_layout_is_the_only_one {} ex1 ⟨64, 100⟩ rfl (by decide)
example := C08_wire_messages {} ex1 ⟨64, 100⟩ rfl (by decide)
example := C08_source_range Encoder_default ex1 ⟨64, 100⟩ 65536 (by decide) rfl (by decide) (by decide) (by decide)
example := C08_source_single Encoder_default (pk tyCan 100 3) ⟨64, 100⟩ 65536 (by decide) rfl (by decide) (by decide) (by decide)
example := C08_single_large_packet {} (pk tyCan 100 3) ⟨64, 100⟩ rfl (by decide) (by decide)

set_option maxRecDepth 100000 in
/-- … and the low-level model, evaluated by the kernel, gives the layout written out here: two aggregated messages; a packet of
    100 bytes as first segment (76 = 92 − 16 bytes: the frame is full) and last segment (24 bytes) in two consecutive frames of
    their own; the status packets in a frame announcing type 3 — 60 and 8 bytes do NOT fit together (76 + 24 > 92), so two
    frames; a new frame when the type changes back; frame lengths 64 (padded), 100, 64, 84, 64, 64 -/
example : (tileFrames (({} : Enc).toLL.encode ex1 ⟨64, 100⟩).2).map (fun fs =>
      (fs.map frameKey, fs.map (·.len),
       P_C07 ⟨64, 100⟩ (ex1.map Packet.data) fs, P_C08s ⟨64, 100⟩ (ex1.map fun p => (p.mt, p.data.length)) fs,
       frameChainOk false fs))
    = some ([(1, [(0, 8), (0, 8)]), (1, [(4, 76)]), (1, [(12, 24)]), (3, [(0, 60)]), (3, [(0, 8)]), (1, [(0, 8)])],
            [64, 100, 64, 84, 64, 64], true, true, true) := by decide +kernel

set_option maxRecDepth 100000 in
/-- the translated C++ itself, evaluated by the kernel (no theorem involved), returns those bytes -/
example : (Encoder_encode_range_obj 65536 Encoder_default (ex1.map SrcEnc.pktIn) 64 100).map (·.2)
    = some (({} : Enc).toLL.encode ex1 ⟨64, 100⟩).2 := by decide +kernel

/-- a packet with a timestamp, an interface id and flag bits, 3 payload bytes, at the smallest frame size (max 25: one payload
    byte per frame) -/
def exHdr : Packet :=
  { payload := some ⟨tyCan, [0xA1, 0xA2, 0xA3]⟩, ts := 0x0102030405060708, ifId := 0x0A0B0C0D, flags := 0x03 }

/-- `wireOf`, written out: three messages flagged 4, 8, 12 (byte 12: 0x03 ||| flag), EACH carrying the packet's timestamp,
    interface id and payload type 1, length 1, and the payload bytes in order -/
example : wireOf 17 exHdr =
    [([1, 2, 3, 4, 5, 6, 7, 8, 0x0A, 0x0B, 0x0C, 0x0D, 0x07, 1, 0, 1], [0xA1]),
     ([1, 2, 3, 4, 5, 6, 7, 8, 0x0A, 0x0B, 0x0C, 0x0D, 0x0B, 1, 0, 1], [0xA2]),
     ([1, 2, 3, 4, 5, 6, 7, 8, 0x0A, 0x0B, 0x0C, 0x0D, 0x0F, 1, 0, 1], [0xA3])] := by decide +kernel

set_option maxRecDepth 100000 in
/-- … and that is what the header walker finds in the three 25-byte frames of the low-level model -/
example : wireMsgs (({} : Enc).toLL.encode [exHdr] ⟨0, 25⟩).2 = some (wireOf 17 exHdr) ∧
    (({} : Enc).toLL.encode [exHdr] ⟨0, 25⟩).2.map List.length = [25, 25, 25] := by decide +kernel

example := C08_bytes_any_length {} exBad ⟨64, 100⟩ rfl (by decide)
example := C08_nonlast_segments_fill_bytes {} ex1 ⟨64, 100⟩ rfl (by decide)
example := C08_source_range_any_length Encoder_default exBad ⟨64, 100⟩ 65536 (by decide) rfl (by decide) (by decide) (by decide)
example := encode1_src_struct Encoder_default (pk tyCan 100 3) ⟨64, 100⟩ 65536 (by decide) rfl (by decide) (by decide) (by decide)
example := C08_packet_getters_consistent exHdr ⟨tyCan, [0xA1, 0xA2, 0xA3]⟩
  ⟨by decide, by decide, by decide, by decide, by decide, by decide, by decide, by decide, by decide,
    fun pl h => by cases h; exact ⟨by decide, by decide⟩⟩ rfl

/-! the prescribed pieces at the fit / no-fit boundaries of max = 100 (cap 92, 76 payload bytes per full segment), ±2 -/
example : [74, 75, 76, 77, 78].map (pieceShape 92) =
    [[(0, 74)], [(0, 75)], [(0, 76)], [(4, 76), (12, 1)], [(4, 76), (12, 2)]] := by decide +kernel
example : [150, 151, 152, 153, 154].map (pieceShape 92) =
    [[(4, 76), (12, 74)], [(4, 76), (12, 75)], [(4, 76), (12, 76)], [(4, 76), (8, 76), (12, 1)], [(4, 76), (8, 76), (12, 2)]] := by
  decide +kernel
/-- … and of the smallest frame (max 25, cap 17): every payload is cut into single bytes -/
example : [1, 2, 3].map (pieceShape 17) = [[(0, 1)], [(4, 1), (12, 1)], [(4, 1), (8, 1), (12, 1)]] := by decide +kernel

/-! ### violating layouts are rejected

  hand-made frame lists for the batch "data 8, data 8" resp. "data 100" resp. "data 8, status 8" at (64,100) -/

/-- a frame with the given announced type and (flag, length) messages -/
def mkF (mt : Nat) (ms : List (Nat × Nat)) : SFrame :=
  ⟨mt, ms.map (fun x => ⟨x.1, List.replicate x.2 0⟩), 0, 8 + (ms.map (fun x => 16 + x.2)).sum⟩

/-- the right layouts are accepted -/
example : P_C08s ⟨64, 100⟩ [(1, 8), (1, 8)] [mkF 1 [(0, 8), (0, 8)]] = true := by decide +kernel
example : P_C08s ⟨64, 100⟩ [(1, 100)] [mkF 1 [(4, 76)], mkF 1 [(12, 24)]] = true := by decide +kernel
example : P_C08s ⟨64, 100⟩ [(1, 8), (3, 8)] [mkF 1 [(0, 8)], mkF 3 [(0, 8)]] = true := by decide +kernel
/-- not aggregated although it fits -/
example : P_C08 ⟨64, 100⟩ [(1, 8), (1, 8)] [mkF 1 [(0, 8)], mkF 1 [(0, 8)]] = false := by decide +kernel
/-- the same hidden behind an interposed empty frame (announcing another type — exactly the frame the witness of §2b opens
    and drops): `P_C08` alone accepts it, `P_C08s` and
    `frameChainOk` do not -/
example : P_C08 ⟨64, 100⟩ [(1, 8), (1, 8)] [mkF 1 [(0, 8)], mkF 3 [], mkF 1 [(0, 8)]] = true := by decide +kernel
example : P_C08s ⟨64, 100⟩ [(1, 8), (1, 8)] [mkF 1 [(0, 8)], mkF 3 [], mkF 1 [(0, 8)]] = false := by decide +kernel
/-- segments NOT in consecutive frames (an empty frame between first and last): `P_C08` alone accepts, `P_C08s` /
    `frameChainOk` reject -/
example : P_C08 ⟨64, 100⟩ [(1, 100)] [mkF 1 [(4, 76)], mkF 1 [], mkF 1 [(12, 24)]] = true := by decide +kernel
example : P_C08s ⟨64, 100⟩ [(1, 100)] [mkF 1 [(4, 76)], mkF 1 [], mkF 1 [(12, 24)]] = false := by decide +kernel
example : frameChainOk false [mkF 1 [(4, 76)], mkF 1 [], mkF 1 [(12, 24)]] = false := by decide +kernel
/-- a segment sharing its frame with another message -/
example : P_C08 ⟨64, 100⟩ [(1, 8), (1, 100)] [mkF 1 [(0, 8)], mkF 1 [(4, 76)], mkF 1 [(12, 24), (0, 8)]] = false := by decide +kernel
example : P_C08 ⟨64, 100⟩ [(1, 100), (1, 8)] [mkF 1 [(4, 76)], mkF 1 [(12, 24), (0, 8)]] = false := by decide +kernel
/-- first segment not filling its frame -/
example : P_C08 ⟨64, 100⟩ [(1, 100)] [mkF 1 [(4, 50)], mkF 1 [(12, 50)]] = false := by decide +kernel
/-- last segment flagged intermediary; first flagged unsegmented -/
example : P_C08 ⟨64, 100⟩ [(1, 100)] [mkF 1 [(4, 76)], mkF 1 [(8, 24)]] = false := by decide +kernel
example : P_C08 ⟨64, 100⟩ [(1, 100)] [mkF 1 [(0, 76)], mkF 1 [(12, 24)]] = false := by decide +kernel
/-- split although it fits an empty frame -/
example : P_C08 ⟨64, 100⟩ [(1, 76)] [mkF 1 [(4, 38)], mkF 1 [(12, 38)]] = false := by decide +kernel
/-- frame header announcing the wrong message type: with the frame break, and two types in one frame -/
example : P_C08 ⟨64, 100⟩ [(1, 8), (3, 8)] [mkF 1 [(0, 8)], mkF 1 [(0, 8)]] = false := by decide +kernel
example : P_C08 ⟨64, 100⟩ [(1, 8), (3, 8)] [mkF 1 [(0, 8), (0, 8)]] = false := by decide +kernel
/-- batch order not kept (lengths swapped) -/
example : P_C08 ⟨64, 100⟩ [(1, 8), (1, 9)] [mkF 1 [(0, 9), (0, 8)]] = false := by decide +kernel
/-- a frame that overflows -/
example : P_C08 ⟨64, 100⟩ [(1, 40), (1, 40)] [mkF 1 [(0, 40), (0, 40)]] = false := by decide +kernel

end AsamCmp.C08S
