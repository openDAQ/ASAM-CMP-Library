/-
  C18S  C18 (endpoints are isolated from each other) at full strength: what the statement audit of C18 (DESIGN.md section
  J.4) asked for, as theorems about the definitions C18 is stated on (`decodeWith`, `decodeAll`, `bufEp`, `decode`,
  `tecmpDecode`, `C06S.decodeAllT`, `SrcHist.srcDecodeRun`, `SrcHist.decodeEach`, the translated `Endpoint::operator==`).

   §1  the two ad-hoc folds of `C18_isolation` ARE `decodeAll` / `C06S.decodeAllT` (`fold_decodeAll`,
      `foldObs_decodeAllT`, `C18_isolation_sides`), and C18 restated on `decodeAll` itself (`C18_decodeAll`).
   §2  the TAG-based reading ("the packets whose own device id / stream id are e's"): exact characterisation of when it
      coincides with the projected run (`C18_tag_reading_iff`, `tag_isolation_iff`), the conditional positive forms
      (`tag_isolation_partial`, `tag_isolation_no_tecmp`, `tag_isolation_stream_nonzero`), the view theorem (`tag_view`), the exact
      packet count (`tag_count`), and the NEGATIVE result: under the tag reading the property's text is violated by TECMP frames of a
      device d against the capture-module endpoint (d, 0) (`C18_tag_reading_violated`, `C18_tag_reading_violated_src` on the
      translated C++).
   §3  source level over HISTORIES: the run of the translated `Decoder::decode` over any list of calls, observed at the
      calls that address `e`, is the run of the translated decoder over the projected list of calls (`C18_src_isolation_partial`); the key
      comparison of the container instantiated with the TRANSLATED `Endpoint::operator==` (`mapFind_keyEqSrc`, `mapErase_keyEqSrc`,
      `mapPut_keyEqSrc`) and what a comparison ignoring the stream id would do (`keyEq_device_only_merges`).
   §4  `bufEp` pinned to the wire layout (`bufEp_frameHeader`, `bufEp_iff`, `bufEp_none_iff`, `bufEp_frameHeader_inj`).
   §5  the clauses on TECMP frames and short buffers, on OUTPUTS, not only the state: removing any set of TECMP / short / null buffers from a history
      changes neither the final table nor what any capture-module call returns (`foreign_removed`).
   §6  worked instances: three endpoints (1,0), (1,1), (2,0), TECMP traffic of device 1, a short buffer, a null
      pointer, an invalid message — on the low-level model and on the TRANSLATED decoder, evaluated by the kernel.
-/
import AsamCmp.Props.C18
import AsamCmp.Props.C05S
import AsamCmp.Props.C06S
import AsamCmp.Props.C15S
import AsamCmp.Props.C17S
import AsamCmp.Props.SrcHistory
import AsamCmp.Props.SrcEndpoint
namespace AsamCmp.C18S
open AsamCmp AsamCmp.C06S

/-! ## §1  the history functions of C18 are `decodeAll` -/

/-- the unfiltered fold used on the left of `C18_isolation` is `decodeAll` (with an accumulator) -/
theorem fold_decodeAll (t : Bytes → List Packet) (bufs : List (Option Bytes)) (s : DecState) (acc : List Packet) :
    bufs.foldl (fun (acc : DecState × List Packet) b =>
        let r := decodeWith t acc.1 b; (r.1, acc.2 ++ r.2)) (s, acc) =
      ((decodeAll t s bufs).1, acc ++ (decodeAll t s bufs).2) := by
  rw [decodeAll_eq]
  exact Run.foldl_eq (decodeWith t) (·.2) s acc bufs

/-- the fold with `if isE b then r.2 else []` used on the right of `C18_isolation` is the run `decodeAllT` (every packet tagged with
    the endpoint its BUFFER addresses) filtered to the tag `e` -/
theorem foldObs_decodeAllT (t : Bytes → List Packet) (e : Ep) (bufs : List (Option Bytes)) (s : DecState) (acc : List Packet) :
    bufs.foldl (fun (acc : DecState × List Packet) b =>
        let r := decodeWith t acc.1 b
        (r.1, acc.2 ++ (if (fun (b : Option Bytes) => bufEp b = some e) b then r.2 else []))) (s, acc) =
      ((decodeAll t s bufs).1, acc ++ ((decodeAllT t s bufs).2.filter (fun x => x.1 = some e)).map (·.2)) := by
  refine (Run.foldl_eq (decodeWith t) (fun x => if bufEp x.1 = some e then x.2 else []) s acc bufs).trans ?_
  rw [decodeAll_eq, decodeAllT_eq, Run.filter_tagged bufEp (some e), Run.tagged_of_all bufEp (some e) _ fun x hx =>
    of_decide_eq_true (List.mem_filter.1 hx).2, List.map_map]
  exact congrArg (fun l => (_, acc ++ l))
    ((Run.flatMap_filter _ _ _ _ fun x _ => by simp only [decide_eq_true_eq]).trans (List.map_id _).symm)

/-- **C18 on `decodeAll`.**  For every TECMP path `t`, endpoint `e`, history `bufs` of arbitrary buffers and states agreeing at
    `e`: the packets returned by the calls whose buffer addresses `e` (`decodeAllT` filtered to the tag `e`, tags dropped) are,
    in order, exactly what `decodeAll` delivers on the projected history, and the entry of `e` in the final table is the same. -/
theorem C18_decodeAll (t : Bytes → List Packet) (e : Ep) (bufs : List (Option Bytes)) (s s' : DecState) (h : s e = s' e) :
    ((decodeAllT t s bufs).2.filter (fun x => x.1 = some e)).map (·.2) =
      (decodeAll t s' (bufs.filter (fun b => bufEp b = some e))).2 ∧
    (decodeAll t s bufs).1 e = (decodeAll t s' (bufs.filter (fun b => bufEp b = some e))).1 e := by
  obtain ⟨h1, h2⟩ := decodeAllT_filter t e bufs s s' h
  obtain ⟨u1, u2⟩ := decodeAllT_untag t s' (bufs.filter (fun b => bufEp b = some e))
  obtain ⟨v1, _⟩ := decodeAllT_untag t s bufs
  exact ⟨by rw [h1, u2], by rw [← v1, h2, u1]⟩

/-- the two sides of `C18_isolation`, literally as written there, are the two sides of `C18_decodeAll` -/
theorem C18_isolation_sides (tecmp : Bytes → List Packet) (e : Ep) (bufs : List (Option Bytes)) (s s' : DecState) :
    let isE := fun (b : Option Bytes) => bufEp b = some e
    ((bufs.filter isE).foldl (fun (acc : DecState × List Packet) b =>
        let r := decodeWith tecmp acc.1 b; (r.1, acc.2 ++ r.2)) (s', [])).2 =
      (decodeAll tecmp s' (bufs.filter (fun b => bufEp b = some e))).2 ∧
    (bufs.foldl (fun (acc : DecState × List Packet) b =>
        let r := decodeWith tecmp acc.1 b; (r.1, acc.2 ++ (if isE b then r.2 else []))) (s, [])).2 =
      ((decodeAllT tecmp s bufs).2.filter (fun x => x.1 = some e)).map (·.2) := by
  intro isE
  refine ⟨?_, ?_⟩
  · rw [fold_decodeAll]; rfl
  · exact (congrArg Prod.snd (foldObs_decodeAllT tecmp e bufs s [])).trans (List.nil_append _)

/-! ## §2  the tag-based reading -/

/-- a packet's OWN (device id, stream id) — what `getDeviceId()` / `getStreamId()` return -/
def tagOf (p : Packet) : Ep := (p.deviceId, p.streamId)

/-- what a call on a buffer that is no capture-module frame returns (it does not depend on the decoder state, `step_none`) -/
def foreignOut (t : Bytes → List Packet) (b : Option Bytes) : List Packet := (decodeWith t DecState.empty b).2

/-- the packets with tag `e` delivered by the calls of a history whose buffer is no capture-module frame (only TECMP buffers
    deliver anything, `foreignOut_cases`) -/
def tecmpHits (t : Bytes → List Packet) (e : Ep) (bufs : List (Option Bytes)) : List Packet :=
  bufs.flatMap fun b => if bufEp b = none then (foreignOut t b).filter (fun p => tagOf p = e) else []

theorem tecmpHits_cons (t : Bytes → List Packet) (e : Ep) (b : Option Bytes) (bs : List (Option Bytes)) :
    tecmpHits t e (b :: bs) =
      (if bufEp b = none then (foreignOut t b).filter (fun p => tagOf p = e) else []) ++ tecmpHits t e bs := by
  simp only [tecmpHits, List.flatMap_cons]

/-- `bufEp` exactly (wire level): a buffer addresses `e` iff it is non-null, has the 8 header bytes, its first byte (version) is
    not 0, its bytes 2–3 are `e`'s device id and its byte 5 is `e`'s stream id -/
theorem bufEp_iff (buf : Option Bytes) (e : Ep) :
    bufEp buf = some e ↔ ∃ b, buf = some b ∧ 8 ≤ b.length ∧ byteAt b 0 ≠ 0 ∧ beAt b 2 2 = e.1 ∧ byteAt b 5 = e.2 := by
  have hep : ∀ b : Bytes, (parseFrame b).ep = (beAt b 2 2, byteAt b 5) := fun _ => rfl
  constructor
  · intro h
    rcases decodeWith_cases tecmpDecode buf with ⟨_, hn, _⟩ | ⟨_, _, _, _, hn, _⟩ | ⟨b, rfl, h8, h0, hf, _⟩
    · rw [hn] at h; cases h
    · rw [hn] at h; cases h
    · rw [hf, hep] at h
      exact ⟨b, rfl, h8, h0, congrArg Prod.fst (Option.some.inj h), congrArg Prod.snd (Option.some.inj h)⟩
  · rintro ⟨b, rfl, h8, h0, h2, h5⟩
    rw [bufEp, if_neg (by omega), if_neg h0, hep, h2, h5]

/-- … and it addresses no endpoint iff it is the null pointer, shorter than the 8 header bytes ("too short to be a frame") or
    starts with a zero byte (a TECMP message) -/
theorem bufEp_none_iff (buf : Option Bytes) :
    bufEp buf = none ↔ buf = none ∨ ∃ b, buf = some b ∧ (b.length < 8 ∨ byteAt b 0 = 0) := by
  cases buf with
  | none => simp [bufEp]
  | some b => by_cases h8 : b.length < 8 <;> by_cases h0 : byteAt b 0 = 0 <;> simp [bufEp, h8, h0]

theorem foreignOut_cases (t : Bytes → List Packet) (buf : Option Bytes) (h : bufEp buf = none) :
    foreignOut t buf = [] ∨ ∃ b, buf = some b ∧ 8 ≤ b.length ∧ byteAt b 0 = 0 ∧ foreignOut t buf = t b := by
  rcases decodeWith_cases t buf with ⟨_, _, hd⟩ | ⟨b, hb, h8, h0, _, hd⟩ | ⟨_, _, _, _, hf, _⟩
  · exact .inl (by rw [foreignOut, hd])
  · exact .inr ⟨b, hb, h8, h0, by rw [foreignOut, hd]⟩
  · rw [hf] at h; cases h

theorem foreignOut_tecmp (t : Bytes → List Packet) (b : Bytes) (h8 : 8 ≤ b.length) (h0 : byteAt b 0 = 0) :
    foreignOut t (some b) = t b ∧ bufEp (some b) = none :=
  ⟨by rw [foreignOut, decodeWith, if_neg (by omega), if_pos h0], by rw [bufEp, if_neg (by omega), if_pos h0]⟩

/-- one call on a buffer that is no capture-module frame: the table is untouched and the packets do not depend on it -/
theorem step_none (t : Bytes → List Packet) (s : DecState) (b : Option Bytes) (h : bufEp b = none) :
    (decodeWith t s b).1 = s ∧ (decodeWith t s b).2 = foreignOut t b :=
  ⟨decode_foreign_state t s b h, (congrArg Prod.snd (decodeWith_foreign t s b h) : _)⟩

/-- one call on a frame of `e`: packets and new entry of `e` depend on the table only through the entry of `e`, and every
    returned packet carries `e` as its own (device id, stream id) -/
theorem step_own (t : Bytes → List Packet) (s s' : DecState) (b : Option Bytes) (e : Ep) (hb : bufEp b = some e)
    (h : s e = s' e) :
    (decodeWith t s b).2 = (decodeWith t s' b).2 ∧ (decodeWith t s b).1 e = (decodeWith t s' b).1 e ∧
    ∀ p ∈ (decodeWith t s b).2, tagOf p = e := by
  have L := (decode_local t e).own
  obtain ⟨h1, h2⟩ := Prod.mk.inj ((L s b (decide_eq_true hb)).symm.trans (h ▸ L s' b (decide_eq_true hb)))
  obtain ⟨bb, rfl, rfl, hdec⟩ := decodeWith_of_bufEp t b e hb
  exact ⟨h2, h1, hdec s ▸ delivered_tagged s bb⟩

/-- one call on a frame of another endpoint `x ≠ e`: the entry of `e` is untouched and no returned packet carries `e` -/
theorem step_other (t : Bytes → List Packet) (s : DecState) (b : Option Bytes) (x e : Ep) (hb : bufEp b = some x) (hx : x ≠ e) :
    (decodeWith t s b).1 e = s e ∧ ∀ p ∈ (decodeWith t s b).2, tagOf p ≠ e := by
  refine ⟨decode_other_endpoint t s b e (by rw [hb]; intro hc; exact hx (Option.some.inj hc)), ?_⟩
  intro p hp hc
  exact hx ((step_own t s s b x hb rfl).2.2 p hp ▸ hc)

/-- every packet returned by a capture-module call carries the endpoint the BUFFER addresses: on such calls the two readings of
    "delivered for endpoint `e`" (call attribution / the packet's own ids) coincide -/
theorem cmp_call_tagged (t : Bytes → List Packet) (s : DecState) (b : Option Bytes) (x : Ep) (hb : bufEp b = some x) :
    ∀ p ∈ (decodeWith t s b).2, tagOf p = x :=
  (step_own t s s b x hb rfl).2.2

theorem filter_tag_self (e : Ep) (l : List Packet) (h : ∀ p ∈ l, tagOf p = e) : l.filter (fun p => tagOf p = e) = l :=
  List.filter_eq_self.2 (by intro p hp; simp [h p hp])

theorem filter_tag_nil (e : Ep) (l : List Packet) (h : ∀ p ∈ l, tagOf p ≠ e) : l.filter (fun p => tagOf p = e) = [] :=
  List.filter_eq_nil_iff.2 (by intro p hp; simp [h p hp])

/-- the projection used by C18 -/
abbrev proj (e : Ep) (bufs : List (Option Bytes)) : List (Option Bytes) := bufs.filter (fun b => bufEp b = some e)

theorem proj_cons_own (e : Ep) (b : Option Bytes) (bs : List (Option Bytes)) (h : bufEp b = some e) :
    proj e (b :: bs) = b :: proj e bs := by simp [proj, h]

theorem proj_cons_not (e : Ep) (b : Option Bytes) (bs : List (Option Bytes)) (h : bufEp b ≠ some e) :
    proj e (b :: bs) = proj e bs := by simp [proj, h]

/-- **the tag view.**  What a consumer that demultiplexes by the packets' own ids sees for `e` depends on the history only through
    `e`'s frames AND the buffers that are no capture-module frames (i.e. the TECMP traffic): all other endpoints' frames can be
    removed without changing it — for every history and every TECMP path. -/
theorem tag_view (t : Bytes → List Packet) (e : Ep) : ∀ (bufs : List (Option Bytes)) (s s' : DecState), s e = s' e →
    (decodeAll t s bufs).2.filter (fun p => tagOf p = e) =
      (decodeAll t s' (bufs.filter (fun b => bufEp b = some e ∨ bufEp b = none))).2.filter (fun p => tagOf p = e) := by
  intro bufs
  induction bufs with
  | nil => intro s s' _; rfl
  | cons b bs ih =>
    intro s s' h
    cases hb : bufEp b with
    | none =>
      rw [List.filter_cons_of_pos (by simp [hb])]
      simp only [decodeAll]
      obtain ⟨a1, a2⟩ := step_none t s b hb
      obtain ⟨b1, b2⟩ := step_none t s' b hb
      rw [a1, a2, b1, b2, List.filter_append, List.filter_append, ih s s' h]
    | some x =>
      by_cases hx : x = e
      · subst hx
        rw [List.filter_cons_of_pos (by simp [hb])]
        simp only [decodeAll]
        obtain ⟨a1, a2, _⟩ := step_own t s s' b x hb h
        rw [List.filter_append, List.filter_append, a1, ih _ _ a2]
      · rw [List.filter_cons_of_neg (by simp [hb, hx])]
        simp only [decodeAll]
        obtain ⟨a1, a2⟩ := step_other t s b x e hb hx
        rw [List.filter_append, filter_tag_nil e _ a2, List.nil_append]
        exact ih _ _ (a1.trans h)

/-- every packet of a history consisting of `e`'s frames only carries `e` -/
theorem proj_tagged (t : Bytes → List Packet) (e : Ep) : ∀ (bufs : List (Option Bytes)) (s : DecState),
    (∀ b ∈ bufs, bufEp b = some e) → ∀ p ∈ (decodeAll t s bufs).2, tagOf p = e :=
  fun bufs s h => decodeAll_forall t (fun p => tagOf p = e) bufs s fun s' b hb => cmp_call_tagged t s' b e (h b hb)

/-- **exact count.**  The number of packets with tag `e` over a history = the number delivered on the projected history + the
    number of TECMP packets that happen to carry `e` -/
theorem tag_count (t : Bytes → List Packet) (e : Ep) : ∀ (bufs : List (Option Bytes)) (s s' : DecState), s e = s' e →
    ((decodeAll t s bufs).2.filter (fun p => tagOf p = e)).length =
      (decodeAll t s' (proj e bufs)).2.length + (tecmpHits t e bufs).length := by
  intro bufs
  induction bufs with
  | nil => intro s s' _; rfl
  | cons b bs ih =>
    intro s s' h
    rw [tecmpHits_cons]
    cases hb : bufEp b with
    | none =>
      rw [proj_cons_not e b bs (by simp [hb])]
      simp only [decodeAll, if_true]
      obtain ⟨a1, a2⟩ := step_none t s b hb
      rw [a1, a2, List.filter_append, List.length_append, List.length_append, ih s s' h]
      omega
    | some x =>
      by_cases hx : x = e
      · subst hx
        rw [proj_cons_own x b bs hb]
        simp only [decodeAll]
        obtain ⟨a1, a2, a3⟩ := step_own t s s' b x hb h
        rw [List.filter_append, filter_tag_self x _ a3, List.length_append, List.length_append, ih _ _ a2, a1]
        simp
        omega
      · rw [proj_cons_not e b bs (by simp [hb, hx])]
        simp only [decodeAll]
        obtain ⟨a1, a2⟩ := step_other t s b x e hb hx
        rw [List.filter_append, filter_tag_nil e _ a2, List.nil_append, ih _ _ (a1.trans h)]
        simp

/-- the tag reading coincides with the projected run PROVIDED no TECMP packet of the history carries `e`.
    `_partial`: the property's text has no such proviso; without it the statement is FALSE (`C18_tag_reading_violated`), and the
    proviso is exactly what is missing (`tag_isolation_iff`). -/
theorem tag_isolation_partial (t : Bytes → List Packet) (e : Ep) : ∀ (bufs : List (Option Bytes)) (s s' : DecState), s e = s' e →
    tecmpHits t e bufs = [] →
    (decodeAll t s bufs).2.filter (fun p => tagOf p = e) = (decodeAll t s' (proj e bufs)).2 := by
  intro bufs s s' h hh
  rw [decodeAll_eq, decodeAll_eq]
  show ((Run.io _ s bufs).flatMap (·.2)).filter _ = (Run.io _ s' (bufs.filter _)).flatMap (·.2)
  rw [List.filter_flatMap, ← ((decode_local t e).congr bufs s s' h).2]
  -- call by call: a call on a frame of `e` returns only packets carrying `e`, any other call none
  refine Run.flatMap_filter _ _ _ _ fun c hc => ?_
  obtain ⟨hmem, s0, hs0⟩ := Run.io_mem _ s bufs c hc
  rw [hs0]
  cases hb : bufEp c.1 with
  | none =>
    have := List.flatMap_eq_nil_iff.1 hh c.1 hmem
    rw [if_pos hb] at this
    rw [if_neg (by simp), (step_none t s0 c.1 hb).2, this]
  | some x =>
    by_cases hx : x = e
    · rw [if_pos (by simp [hx])]
      exact filter_tag_self e _ (cmp_call_tagged t s0 c.1 e (hx ▸ hb))
    · rw [if_neg (by simp [hx])]
      exact filter_tag_nil e _ (step_other t s0 c.1 x e hb hx).2

/-- **exact characterisation of the tag reading**, for every TECMP path, history, endpoint and pair of states agreeing at `e`:
    the packets carrying `e` are, in order, those of the projected run IF AND ONLY IF no TECMP packet of the history carries `e` -/
theorem tag_isolation_iff (t : Bytes → List Packet) (e : Ep) (bufs : List (Option Bytes)) (s s' : DecState) (h : s e = s' e) :
    (decodeAll t s bufs).2.filter (fun p => tagOf p = e) = (decodeAll t s' (proj e bufs)).2 ↔ tecmpHits t e bufs = [] := by
  constructor
  · intro heq
    have hc := tag_count t e bufs s s' h
    rw [heq] at hc
    exact List.eq_nil_of_length_eq_zero (by omega)
  · exact tag_isolation_partial t e bufs s s' h

/-- a history WITHOUT TECMP frames ("TECMP frames": at least 8 bytes, first byte 0; null pointers and short buffers may occur):
    the tag reading and the call-attribution reading coincide, and C18 holds in the tag reading -/
theorem tag_isolation_no_tecmp (t : Bytes → List Packet) (e : Ep) (bufs : List (Option Bytes)) (s s' : DecState) (h : s e = s' e)
    (hno : ∀ b, some b ∈ bufs → 8 ≤ b.length → byteAt b 0 ≠ 0) :
    (decodeAll t s bufs).2.filter (fun p => tagOf p = e) = (decodeAll t s' (proj e bufs)).2 := by
  apply tag_isolation_partial t e bufs s s' h
  unfold tecmpHits
  rw [List.flatMap_eq_nil_iff]
  intro b hb
  split
  · rename_i hn
    rcases foreignOut_cases t b hn with h1 | ⟨bb, rfl, h8, h0, _⟩
    · rw [h1]; rfl
    · exact absurd h0 (hno bb hb h8)
  · rfl

/-! ### the real TECMP path: packets carry (byte 1 of the buffer, 0) -/

/-- every packet of `TECMP::Decoder::Decode` carries the 8-bit device id of the TECMP header and stream id 0
    (`C15S.C15S_all_from_header`, restated on the tag) -/
theorem tecmp_tag (b : Bytes) : ∀ p ∈ tecmpDecode b, tagOf p = (byteAt b 1, 0) := by
  intro p hp
  obtain ⟨h1, _, _, _, h5, _⟩ := C15S.C15S_all_from_header b p hp
  simp only [tagOf, h1, h5]

/-- exactly which histories have TECMP packets that carry `e`: stream id 0 and a TECMP frame of device `e.1` that yields a packet -/
theorem tecmpHits_nil_iff (e : Ep) (bufs : List (Option Bytes)) :
    tecmpHits tecmpDecode e bufs = [] ↔
      e.2 ≠ 0 ∨ ∀ b, some b ∈ bufs → 8 ≤ b.length → byteAt b 0 = 0 → byteAt b 1 = e.1 → tecmpDecode b = [] := by
  unfold tecmpHits
  rw [List.flatMap_eq_nil_iff]
  constructor
  · intro hall
    by_cases h2 : e.2 = 0
    · right
      intro b hb h8 h0 h1
      have := hall (some b) hb
      obtain ⟨f1, f2⟩ := foreignOut_tecmp tecmpDecode b h8 h0
      rw [f2, f1] at this
      simp only [if_true] at this
      rw [filter_tag_self e _ (by
        intro p hp
        rw [tecmp_tag b p hp, h1, ← h2])] at this
      exact this
    · exact Or.inl h2
  · intro hor b hb
    split
    · rename_i hn
      rcases foreignOut_cases tecmpDecode b hn with h1 | ⟨bb, rfl, h8, h0, hout⟩
      · rw [h1]; rfl
      · rw [hout]
        rcases hor with h2 | hall
        · apply filter_tag_nil
          intro p hp hc
          rw [tecmp_tag bb p hp] at hc
          exact h2 (by rw [← hc])
        · by_cases h1 : byteAt bb 1 = e.1
          · rw [hall bb hb h8 h0 h1]; rfl
          · apply filter_tag_nil
            intro p hp hc
            rw [tecmp_tag bb p hp] at hc
            exact h1 (by rw [← hc])
    · rfl

/-- **C18 in the tag reading, on the real decoder `decode` (= `decodeWith tecmpDecode`), exactly.**  For every history of
    arbitrary buffers, every endpoint `e` and states agreeing at `e`: the delivered packets whose own (device id, stream id) is
    `e` are, in order, what the decoder delivers on `e`'s frames alone IF AND ONLY IF `e`'s stream id is not 0 or no TECMP frame
    of the 8-bit device `e.1` in the history yields a packet. -/
theorem C18_tag_reading_iff (e : Ep) (bufs : List (Option Bytes)) (s s' : DecState) (h : s e = s' e) :
    (decodeAll tecmpDecode s bufs).2.filter (fun p => tagOf p = e) = (decodeAll tecmpDecode s' (proj e bufs)).2 ↔
      (e.2 ≠ 0 ∨ ∀ b, some b ∈ bufs → 8 ≤ b.length → byteAt b 0 = 0 → byteAt b 1 = e.1 → tecmpDecode b = []) := by
  rw [tag_isolation_iff tecmpDecode e bufs s s' h, tecmpHits_nil_iff]

/-- capture-module endpoints with a stream id other than 0 (and, `tag_isolation_device_wide`, with a device id above 255) are
    isolated in the tag reading too, against ALL traffic including TECMP -/
theorem tag_isolation_stream_nonzero (e : Ep) (he : e.2 ≠ 0) (bufs : List (Option Bytes)) (s s' : DecState) (h : s e = s' e) :
    (decodeAll tecmpDecode s bufs).2.filter (fun p => tagOf p = e) = (decodeAll tecmpDecode s' (proj e bufs)).2 :=
  (C18_tag_reading_iff e bufs s s' h).2 (Or.inl he)

theorem tag_isolation_device_wide (e : Ep) (he : 256 ≤ e.1) (bufs : List (Option Bytes)) (s s' : DecState) (h : s e = s' e) :
    (decodeAll tecmpDecode s bufs).2.filter (fun p => tagOf p = e) = (decodeAll tecmpDecode s' (proj e bufs)).2 :=
  (C18_tag_reading_iff e bufs s s' h).2 (Or.inr (fun b _ _ _ h1 => by have := byteAt_lt_256 b 1; omega))

/-! ### the witness history (used for the negative result here and for the worked instances of §6)

Three capture-module endpoints A = (1,0), B = (1,1) (same device, other stream), C = (2,0) (other device, same stream); a TECMP
CAN-FD message of the 8-bit device 1; a 5-byte buffer; a null pointer; an invalid message for B between B's segments. -/

/-- frame of endpoint (dev, stream), counter `seq`, holding one Ethernet segment message with flags byte `fl` and 4 payload bytes -/
def segFrame (dev stream seq fl : UInt8) (body : Bytes) : Bytes :=
  [1, 0, 0, dev, 1, stream, 0, seq,  0, 0, 0, 0, 0, 0, 0, 9,  0, 0, 0, 3,  fl, 8, 0, 4] ++ body

def fA1 : Bytes := segFrame 1 0 5 0x04 [0, 0, 0, 0]
def fA2 : Bytes := segFrame 1 0 6 0x0C [0, 2, 0xAA, 0xBB]
def fB1 : Bytes := segFrame 1 1 1 0x04 [0, 0, 0, 0]
/-- a frame of B whose only message is 3 bytes long: invalid, B's reassembly is aborted -/
def fBinv : Bytes := [1, 0, 0, 1, 1, 1, 0, 2,  1, 2, 3]
def fB2 : Bytes := segFrame 1 1 3 0x0C [0, 2, 0xAA, 0xBB]
def fC1 : Bytes := segFrame 2 0 0 0x04 [0, 0, 0, 0]
def fC2 : Bytes := segFrame 2 0 1 0x0C [0, 2, 0xCC, 0xDD]
/-- `SrcTec.exCanFd` with TECMP device id 1 instead of 7 -/
def fT : Bytes :=
  [0, 1, 0, 9, 3, 3, 0, 3, 0, 0, 0, 0, 0x11, 0x22, 0x33, 0x44, 1, 2, 3, 4, 5, 6, 7, 8, 0, 5, 0, 0,
   0x9A, 0xBC, 0xDE, 0xF1, 12, 1, 2, 3, 4, 5, 6, 7, 8, 9, 10, 11, 12, 0xAA, 0xBB, 0xCC, 4]

def hist : List (Option Bytes) :=
  [some fA1, some fB1, some fT, some [1, 2, 3, 4, 5], none, some fBinv, some fC1, some fA2, some fB2, some fC2]

def pktOf (dev : Nat) (x y : UInt8) : Packet :=
  { payload := some ⟨tyEth, [0, 0, 0, 0, 0, 2, x, y]⟩, version := 1, deviceId := dev, streamId := 0, ts := 9, ifId := 3, flags := 4 }
def pktA : Packet := pktOf 1 0xAA 0xBB
def pktC : Packet := pktOf 2 0xCC 0xDD
/-- the packet the TECMP message converts to: it carries device id 1 and stream id 0 — the ids of endpoint A -/
def pktT : Packet :=
  { payload := some ⟨tyCanFd, [0, 0, 0, 0, 0x9A, 0xBC, 0xDE, 0xF1, 0, 0xCC, 0xBB, 0xAA, 0, 0, 9, 12, 1, 2, 3, 4, 5, 6, 7, 8, 9, 10, 11, 12]⟩,
    version := 1, deviceId := 1, streamId := 0, ts := 0x0102030405060708, ifId := 0x11223344 }

theorem hist_proj_A : proj (1, 0) hist = [some fA1, some fA2] := by decide +kernel
theorem hist_proj_B : proj (1, 1) hist = [some fB1, some fBinv, some fB2] := by decide +kernel
theorem hist_proj_C : proj (2, 0) hist = [some fC1, some fC2] := by decide +kernel

/-- the whole history with every packet tagged by the endpoint its BUFFER addresses: the TECMP packet (tag `none`, although its
    own ids are (1,0)), A's reassembled message, C's reassembled message; B's message is aborted by the invalid frame -/
theorem hist_tagged : (decodeAllT tecmpDecode DecState.empty hist).2 =
    [(none, pktT), (some (1, 0), pktA), (some (2, 0), pktC)] := by decide +kernel

/-- what the whole history delivers: the TECMP packet, A's message (at A's last segment), C's message -/
theorem hist_out : (decodeAll tecmpDecode DecState.empty hist).2 = [pktT, pktA, pktC] := by
  rw [← (decodeAllT_untag tecmpDecode DecState.empty hist).2, hist_tagged]
  rfl

theorem hist_out_A : (decodeAll tecmpDecode DecState.empty [some fA1, some fA2]).2 = [pktA] := by
  rw [← hist_proj_A, ← (C18_decodeAll tecmpDecode (1, 0) hist DecState.empty DecState.empty rfl).1, hist_tagged]
  rfl

/-- **the property's text is VIOLATED in the tag reading** (model = translated C++, `C18_tag_reading_violated_src`).  History
    `hist`; endpoint A = (1,0).  "The packets delivered for (device 1, stream 0)", read as the delivered packets whose own
    `getDeviceId()` / `getStreamId()` are (1,0), are `[pktT, pktA]`: the TECMP packet of the 8-bit TECMP device 1 is among them.
    The decoder fed with A's frames alone delivers `[pktA]`.  So a TECMP frame DOES change what is delivered for the
    capture-module endpoint (1,0) unless "delivered for" is read as "returned by a call whose BUFFER addresses the endpoint"
    (the reading of `C18_isolation`, under which the property holds).  The converter sets the device id only
    (src/tecmp_converter.cpp) and leaves stream id 0, so this affects exactly the endpoints (d, 0), d < 256
    (`C18_tag_reading_iff`). -/
theorem C18_tag_reading_violated :
    (decodeAll tecmpDecode DecState.empty hist).2.filter (fun p => tagOf p = (1, 0)) = [pktT, pktA] ∧
    (decodeAll tecmpDecode DecState.empty (proj (1, 0) hist)).2 = [pktA] ∧
    (decodeAll tecmpDecode DecState.empty hist).2.filter (fun p => tagOf p = (1, 0)) ≠
      (decodeAll tecmpDecode DecState.empty (proj (1, 0) hist)).2 := by
  rw [hist_out, hist_proj_A, hist_out_A]
  decide

/-- the minimal witness: ONE TECMP frame and nothing else.  The projection to (1,0) is the empty history. -/
theorem C18_tag_reading_violated_min :
    (decodeAll tecmpDecode DecState.empty [some fT]).2.filter (fun p => tagOf p = (1, 0)) = [pktT] ∧
    (decodeAll tecmpDecode DecState.empty (proj (1, 0) [some fT])).2 = [] := by
  decide +kernel

/-- the right-hand side of `C18_tag_reading_iff` fails on `hist` for (1,0) — the iff is not vacuous in either direction -/
example : ¬ ((1, 0) : Ep).2 ≠ 0 ∧ some fT ∈ hist ∧ 8 ≤ fT.length ∧ byteAt fT 0 = 0 ∧ byteAt fT 1 = ((1, 0) : Ep).1 ∧
    tecmpDecode fT ≠ [] := by decide
/-- … and holds for B = (1,1) and C = (2,0): there the tag reading gives the projected run, TECMP traffic of device 1 included -/
example : (decodeAll tecmpDecode DecState.empty hist).2.filter (fun p => tagOf p = (1, 1)) =
    (decodeAll tecmpDecode DecState.empty (proj (1, 1) hist)).2 :=
  tag_isolation_stream_nonzero (1, 1) (by decide) hist _ _ rfl
example : (decodeAll tecmpDecode DecState.empty hist).2.filter (fun p => tagOf p = (2, 0)) =
    (decodeAll tecmpDecode DecState.empty (proj (2, 0) hist)).2 :=
  (C18_tag_reading_iff (2, 0) hist _ _ rfl).2 (Or.inr (by
    intro b hb _ h0 h1
    simp only [hist, List.mem_cons, Option.some.injEq, List.not_mem_nil, or_false, reduceCtorEq, false_or] at hb
    rcases hb with rfl | rfl | rfl | rfl | rfl | rfl | rfl | rfl | rfl <;> revert h0 h1 <;> decide))
example : (decodeAll tecmpDecode DecState.empty hist).2.filter (fun p => tagOf p = (2, 0)) = [pktC] := by
  rw [hist_out]; decide


/-! ## §3  source level, over histories -/

section Src
open AsamCmp.Src AsamCmp.SrcGen AsamCmp.SrcDec AsamCmp.SrcHist

/-- per-call isolation on the model's run with the calls kept apart (`SrcHist.decodeEach`, the run `decode_history_src` speaks
    about): the packets returned by the calls whose buffer addresses `e`, call by call, are those of the run on the projected
    history -/
theorem decodeEach_filter (e : Ep) (bufs : List (Option Bytes)) (s s' : DecState) (h : s e = s' e) :
    ((bufs.zip (decodeEach s bufs).2).filter (fun x => bufEp x.1 = some e)).map (·.2) = (decodeEach s' (proj e bufs)).2 ∧
    (decodeEach s bufs).1 e = (decodeEach s' (proj e bufs)).1 e := by
  obtain ⟨h1, h2⟩ := (decode_local tecmpDecode e).congr bufs s s' h
  rw [decodeEach_eq, decodeEach_eq, Run.zip_outs]
  exact ⟨congrArg (List.map (·.2)) h2, h1⟩

theorem bytes_sum_filter (p : Call → Bool) (calls : List Call) :
    ((calls.filter p).map Call.bytes).sum ≤ (calls.map Call.bytes).sum := by
  induction calls with
  | nil => exact Nat.le_refl _
  | cons c cs ih =>
    by_cases hp : p c = true
    · rw [List.filter_cons_of_pos hp]; simp only [List.map_cons, List.sum_cons]; omega
    · rw [List.filter_cons_of_neg hp]; simp only [List.map_cons, List.sum_cons]; omega

theorem zip_filter_arg {α : Type} (e : Ep) : ∀ (calls : List Call) (outs : List α),
    ((calls.zip outs).filter (fun x => bufEp x.1.arg = some e)).map (·.2) =
      (((calls.map Call.arg).zip outs).filter (fun x => bufEp x.1 = some e)).map (·.2) := by
  intro calls outs
  rw [List.zip_map_left, List.filter_map, List.map_map]
  rfl

theorem find_eq_of_abs (t1 t2 : Table) (e : Ep) (h : t1.abs e = t2.abs e) : t1.find e = t2.find e := by
  rw [C17b.abs_apply, C17b.abs_apply] at h
  refine Option.map_injective (fun u v huv => ?_) h
  cases u; cases v
  simp only [C17b.absP, Pending.mk.injEq] at huv
  obtain ⟨rfl, rfl, rfl, rfl, rfl⟩ := huv
  rfl

/-- **C18 on the translated C++, over histories.**  For EVERY list of calls `decode(data, size)` on one `Decoder` object — null
    pointers, short buffers, TECMP messages, frames of any number of endpoints in any interleaving, well-formed or not —, each
    buffer in a memory of its own at a non-null address (`Call.Ok`, the hypotheses of `decode_history_src`) and fewer than
    2^64 − 2^16 bytes in total, and EVERY endpoint `e`:
    the run of the TRANSLATED `Decoder::decode` (translated `TECMP::Decoder::Decode` plugged in) from the freshly constructed
    decoder is defined on the whole history AND on the history projected to the calls whose buffer addresses `e`; it returns
    one list of packets per call; the lists returned by the calls that address `e` are, call by call and in order, exactly the
    lists the projected run returns; and the entry of `e` in the member `segmentedPackets` is the same after both runs.
    `_partial`: the property's text says "any history"; the hypotheses `hok` / `htot` are NOT in it — they are the memory-model
    side conditions inherited unchanged from `SrcHist.decode_history_src` (buffer at a non-null address of a memory shorter than
    2^63 bytes, `fuel` ≥ the buffer's length, fewer than 2^64 − 2^16 bytes handed over in total: `std::vector::size()` is a 64-bit
    quantity).  Nothing else is missing: no bound on a buffer's own length, no well-formedness, any number of endpoints. -/
theorem C18_src_isolation_partial (calls : List Call) (fuel : Nat) (hok : ∀ c ∈ calls, c.Ok fuel)
    (htot : (calls.map Call.bytes).sum + 65536 < 2 ^ 64) (e : Ep) :
    ∃ st outs st' outs',
      srcDecodeRun fuel Decoder_default calls = some (st, outs) ∧
      srcDecodeRun fuel Decoder_default (calls.filter (fun c => bufEp c.arg = some e)) = some (st', outs') ∧
      outs.length = calls.length ∧
      ((calls.zip outs).filter (fun x => bufEp x.1.arg = some e)).map (·.2) = outs' ∧
      mapFind st.f_segmentedPackets e = mapFind st'.f_segmentedPackets e := by
  have hd : tblSt [] = Decoder_default := rfl
  obtain ⟨t1, h1, _, j1⟩ := decode_history_from fuel calls 0 [] tableInv_fresh.1 hok (by omega)
  obtain ⟨t2, h2, _, j2⟩ := decode_history_from fuel (calls.filter (fun c => bufEp c.arg = some e)) 0 []
    tableInv_fresh.1 (fun c hc => hok c (List.mem_filter.1 hc).1)
    (by have := bytes_sum_filter (fun c => bufEp c.arg = some e) calls; omega)
  rw [hd] at h1 h2
  have hmap : (calls.filter (fun c => bufEp c.arg = some e)).map Call.arg = proj e (calls.map Call.arg) := by
    unfold proj
    rw [List.filter_map]
    rfl
  rw [hmap] at h2 j2
  obtain ⟨f1, f2⟩ := decodeEach_filter e (calls.map Call.arg) (Table.abs []) (Table.abs []) rfl
  refine ⟨_, _, _, _, h1, h2, ?_, ?_, ?_⟩
  · rw [decodeEach_length, List.length_map]
  · rw [zip_filter_arg, f1]
  · show mapFind (tmap t1) e = mapFind (tmap t2) e
    rw [map_find, map_find, find_eq_of_abs t1 t2 e (by rw [j1, j2, f2])]

/-! ### the key comparison of the container is the TRANSLATED `Endpoint::operator==` -/

/-- the translated `Endpoint::operator==` (include/asam_cmp/decoder.h) as a comparison of keys -/
def keyEqSrc (k1 k2 : Nat × Nat) : Bool :=
  match Decoder_Endpoint_operator___obj ⟨k1.1, k1.2⟩ k2.1 k2.2 with
  | some (_, r) => r
  | none => false

/-- it is defined for all keys, leaves its object alone, and is structural equality of the pair — both members -/
theorem keyEqSrc_eq (k1 k2 : Nat × Nat) :
    Decoder_Endpoint_operator___obj ⟨k1.1, k1.2⟩ k2.1 k2.2 = some (⟨k1.1, k1.2⟩, k1 == k2) ∧ keyEqSrc k1 k2 = (k1 == k2) := by
  have h := endpoint_eq_src ⟨k1.1, k1.2⟩ k2.1 k2.2
  have hb : decide ((k1.1, k1.2) = (k2.1, k2.2)) = (k1 == k2) := by
    obtain ⟨a, b⟩ := k1
    obtain ⟨c, d⟩ := k2
    by_cases hh : (a, b) = (c, d)
    · simp [hh]
    · simp only [hh, decide_false]
      exact (beq_eq_false_iff_ne.2 hh).symm
  refine ⟨by rw [h, hb], ?_⟩
  unfold keyEqSrc
  rw [h, hb]

/-- the operations of `std::unordered_map<Endpoint, T, …>` with the key comparison as a PARAMETER (what `Src/Obj.lean` fixes to
    structural equality of `Nat × Nat`) -/
def mapFindBy {α : Type} (eq : Nat × Nat → Nat × Nat → Bool) (m : SMap α) (k : Nat × Nat) : Option α :=
  (m.find? (fun x => eq x.1 k)).map (·.2)
def mapEraseBy {α : Type} (eq : Nat × Nat → Nat × Nat → Bool) (m : SMap α) (k : Nat × Nat) : SMap α :=
  m.filter (fun x => !eq x.1 k)
def mapPutBy {α : Type} (eq : Nat × Nat → Nat × Nat → Bool) (m : SMap α) (k : Nat × Nat) (v : α) : SMap α :=
  (k, v) :: mapEraseBy eq m k
def mapIndexBy {α : Type} (eq : Nat × Nat → Nat × Nat → Bool) (m : SMap α) (k : Nat × Nat) (d : α) : SMap α × α :=
  match mapFindBy eq m k with
  | some v => (m, v)
  | none => (mapPutBy eq m k d, d)

theorem keyEqSrc_fun : (fun (k1 k2 : Nat × Nat) => keyEqSrc k1 k2) = (fun k1 k2 => k1 == k2) := by
  funext k1 k2; exact (keyEqSrc_eq k1 k2).2

/-- a container whose key equality is the translated `Endpoint::operator==` behaves as the `SMap` primitives the translated
    `Decoder::decode` calls: all four operations coincide -/
theorem mapFind_keyEqSrc {α : Type} (m : SMap α) (k : Nat × Nat) : mapFindBy keyEqSrc m k = mapFind m k := by
  unfold mapFindBy mapFind
  simp only [(keyEqSrc_eq _ _).2]

theorem mapErase_keyEqSrc {α : Type} (m : SMap α) (k : Nat × Nat) : mapEraseBy keyEqSrc m k = mapErase m k := by
  unfold mapEraseBy mapErase
  simp only [(keyEqSrc_eq _ _).2, bne]

theorem mapPut_keyEqSrc {α : Type} (m : SMap α) (k : Nat × Nat) (v : α) : mapPutBy keyEqSrc m k v = mapPut m k v := by
  unfold mapPutBy mapPut
  rw [mapErase_keyEqSrc]

theorem mapIndex_keyEqSrc {α : Type} (m : SMap α) (k : Nat × Nat) (d : α) : mapIndexBy keyEqSrc m k d = mapIndex m k d := by
  unfold mapIndexBy mapIndex
  rw [mapFind_keyEqSrc, mapPut_keyEqSrc]
  cases mapFind m k <;> rfl

/-- what a comparison that looks at the device id only would do: storing a first segment for (1,1)
    overwrites the pending entry of (1,0) — the parametrised operations distinguish the two comparisons, so the coincidence
    above is a real obligation on `operator==` -/
theorem keyEq_device_only_merges :
    mapFindBy (fun a b => a.1 == b.1) (mapPutBy (fun a b => a.1 == b.1) [((1, 0), "A")] (1, 1) "B") (1, 0) = some "B" ∧
    mapFindBy keyEqSrc (mapPutBy keyEqSrc [((1, 0), "A")] (1, 1) "B") (1, 0) = some "A" := by decide

end Src

/-! ## §4  the endpoint a buffer addresses, pinned to the wire layout -/

/-- a buffer that starts with the 8-byte ASAM CMP frame header written for (version, device, message type, stream, counter)
    addresses the endpoint (device mod 2^16, stream mod 2^8) — and none at all when the version byte is 0 -/
theorem bufEp_frameHeader (ver dev mt stream seq : Nat) (rest : Bytes) :
    bufEp (some (frameHeader ver dev mt stream seq ++ rest)) =
      if ver % 256 = 0 then none else some (dev % 65536, stream % 256) := by
  obtain ⟨f0, _, f2, _, f5, _, _⟩ := C01.parse_fields ver dev mt stream seq rest
  have hl : ¬ (frameHeader ver dev mt stream seq ++ rest).length < 8 := by
    rw [List.length_append, frameHeader_length]; omega
  have hep : ∀ b : Bytes, (parseFrame b).ep = (beAt b 2 2, byteAt b 5) := fun _ => rfl
  unfold bufEp
  simp only [hl, if_false, f0, hep, f2, f5]

/-- frames written for capture-module endpoints within their C types address the same table key iff device id AND stream id
    are equal: same device / other stream and other device / same stream are different endpoints -/
theorem bufEp_frameHeader_inj (ver dev mt stream seq ver' dev' mt' stream' seq' : Nat) (rest rest' : Bytes)
    (hv : ver % 256 ≠ 0) (hv' : ver' % 256 ≠ 0) (hd : dev < 65536) (hd' : dev' < 65536) (hs : stream < 256) (hs' : stream' < 256) :
    bufEp (some (frameHeader ver dev mt stream seq ++ rest)) = bufEp (some (frameHeader ver' dev' mt' stream' seq' ++ rest')) ↔
      dev = dev' ∧ stream = stream' := by
  rw [bufEp_frameHeader, bufEp_frameHeader, if_neg hv, if_neg hv', Nat.mod_eq_of_lt hd, Nat.mod_eq_of_lt hd',
    Nat.mod_eq_of_lt hs, Nat.mod_eq_of_lt hs']
  simp

example : bufEp (some (frameHeader 1 0x0102 1 7 5 ++ [1, 2, 3])) = some (0x0102, 7) := by decide
example : bufEp (some (frameHeader 0 0x0102 1 7 5 ++ [1, 2, 3])) = none := by decide
example : bufEp (some fA1) = some (1, 0) ∧ bufEp (some fB1) = some (1, 1) ∧ bufEp (some fC1) = some (2, 0) ∧
    bufEp (some fT) = none ∧ bufEp (some [1, 2, 3, 4, 5]) = none ∧ bufEp none = none := by decide

/-! ## §5  on OUTPUTS: removing TECMP frames / short buffers / null pointers -/

/-- **TECMP frames and buffers too short to be a frame never change what is delivered for capture-module endpoints**, stated
    honestly: remove ANY set of buffers that are no capture-module frames (`keep b = false` only for null / shorter than 8 bytes /
    first byte 0, `bufEp_none_iff`) from ANY history.  The final table is identical, and the packets returned by the calls on
    capture-module frames (`decodeAllT`, tag `some _`) are identical, in order — for every TECMP path `t`. -/
theorem foreign_removed (t : Bytes → List Packet) (keep : Option Bytes → Bool) (hk : ∀ b, keep b = false → bufEp b = none) :
    ∀ (bufs : List (Option Bytes)) (s : DecState),
    (decodeAll t s (bufs.filter keep)).1 = (decodeAll t s bufs).1 ∧
    (decodeAllT t s (bufs.filter keep)).2.filter (fun x => x.1.isSome) =
      (decodeAllT t s bufs).2.filter (fun x => x.1.isSome) := by
  intro bufs s
  -- the removed calls leave the whole table alone: the table is its own view, every kept buffer its input
  obtain ⟨h1, h2⟩ := Run.Local.congr (step := decodeWith t) (step' := decodeWith t) (view := id) (mine := keep) (f := id)
    ⟨fun _ _ _ => rfl, fun s b hb => (step_none t s b (hk b hb)).1⟩ bufs s s rfl
  rw [decodeAll_eq, decodeAll_eq, decodeAllT_eq, decodeAllT_eq, ← h2, List.filter_flatMap, List.filter_flatMap]
  refine ⟨h1.symm, (Run.flatMap_filter _ _ _ _ fun x _ => ?_).symm⟩
  cases hx : keep x.1 with
  | true => rw [if_pos rfl]
  | false =>
    rw [if_neg Bool.false_ne_true, hk x.1 hx]
    exact List.filter_eq_nil_iff.2 fun y hy => by obtain ⟨p, _, rfl⟩ := List.mem_map.1 hy; exact Bool.false_ne_true

/-- in particular with ALL TECMP frames removed (buffers of at least 8 bytes whose first byte is 0) -/
theorem tecmp_removed (t : Bytes → List Packet) (bufs : List (Option Bytes)) (s : DecState) :
    let noTecmp := fun (b : Option Bytes) => match b with
      | some x => !(decide (8 ≤ x.length) && decide (byteAt x 0 = 0))
      | none => true
    (decodeAll t s (bufs.filter noTecmp)).1 = (decodeAll t s bufs).1 ∧
    (decodeAllT t s (bufs.filter noTecmp)).2.filter (fun x => x.1.isSome) =
      (decodeAllT t s bufs).2.filter (fun x => x.1.isSome) := by
  intro noTecmp
  apply foreign_removed t noTecmp
  intro b hb
  cases b with
  | none => rfl
  | some x =>
    simp only [noTecmp, Bool.not_eq_false', Bool.and_eq_true, decide_eq_true_eq] at hb
    exact (foreignOut_tecmp t x hb.1 hb.2).2

/-- … and a non-frame call returns what a FRESH decoder returns for that buffer (nothing of the reassembly state can come out
    of it), while the table is untouched: the clauses on TECMP frames and short buffers for a single call, outputs included -/
theorem foreign_call (t : Bytes → List Packet) (s : DecState) (buf : Option Bytes) (h : bufEp buf = none) :
    decodeWith t s buf = (s, (decodeWith t DecState.empty buf).2) :=
  decodeWith_foreign t s buf h

/-- a buffer shorter than the 8-byte frame header ("too short to be a frame"): nothing is returned and nothing changes -/
theorem short_call (t : Bytes → List Packet) (s : DecState) (b : Bytes) (h : b.length < 8) : decodeWith t s (some b) = (s, []) := by
  rw [decodeWith, if_pos h]


/-! ## §6  worked instances: the witness history `hist` of §2 -/

section Instances
open AsamCmp.Src AsamCmp.SrcGen AsamCmp.SrcDec AsamCmp.SrcHist

/-- instance of `C18_decodeAll` for A = (1,0): hypotheses none but `s e = s' e`; both sides literally `[pktA]` — between A's two
    segments the decoder saw a first segment of (1,1), a TECMP frame of device 1, a short buffer, a null pointer, an invalid
    frame of (1,1) and a first segment of (2,0) -/
example : ((decodeAllT tecmpDecode DecState.empty hist).2.filter (fun x => x.1 = some (1, 0))).map (·.2) =
      (decodeAll tecmpDecode DecState.empty (proj (1, 0) hist)).2 ∧
    ((decodeAllT tecmpDecode DecState.empty hist).2.filter (fun x => x.1 = some (1, 0))).map (·.2) = [pktA] ∧
    (decodeAll tecmpDecode DecState.empty (proj (1, 0) hist)).2 = [pktA] :=
  ⟨(C18_decodeAll tecmpDecode (1, 0) hist _ _ rfl).1, by rw [hist_tagged]; decide, by rw [hist_proj_A, hist_out_A]⟩

/-- B = (1,1), same device as A: nothing is delivered (its reassembly was aborted by its OWN invalid frame, not by foreign
    traffic), in the full and in the projected run -/
example : ((decodeAllT tecmpDecode DecState.empty hist).2.filter (fun x => x.1 = some (1, 1))).map (·.2) = [] ∧
    (decodeAll tecmpDecode DecState.empty (proj (1, 1) hist)).2 = [] := by
  refine ⟨by rw [hist_tagged]; decide, ?_⟩
  rw [← (C18_decodeAll tecmpDecode (1, 1) hist DecState.empty DecState.empty rfl).1, hist_tagged]
  decide

/-- C = (2,0), same stream id as A -/
example : ((decodeAllT tecmpDecode DecState.empty hist).2.filter (fun x => x.1 = some (2, 0))).map (·.2) = [pktC] ∧
    (decodeAll tecmpDecode DecState.empty (proj (2, 0) hist)).2 = [pktC] := by
  refine ⟨by rw [hist_tagged]; decide, ?_⟩
  rw [← (C18_decodeAll tecmpDecode (2, 0) hist DecState.empty DecState.empty rfl).1, hist_tagged]
  decide

/-- `C18_isolation` itself on `hist` and A: its two folds evaluate to `[pktA]` -/
example :
    ((hist.filter (fun (b : Option Bytes) => bufEp b = some (1, 0))).foldl (fun (acc : DecState × List Packet) b =>
        let r := decodeWith tecmpDecode acc.1 b; (r.1, acc.2 ++ r.2)) (DecState.empty, [])).2 = [pktA] ∧
    (hist.foldl (fun (acc : DecState × List Packet) b =>
        let r := decodeWith tecmpDecode acc.1 b
        (r.1, acc.2 ++ (if (fun (b : Option Bytes) => bufEp b = some (1, 0)) b then r.2 else []))) (DecState.empty, [])).2 =
      [pktA] := by
  obtain ⟨h1, h2⟩ := C18_isolation_sides tecmpDecode (1, 0) hist DecState.empty DecState.empty
  refine ⟨h1.trans ?_, h2.trans ?_⟩
  · exact (congrArg (fun l => (decodeAll tecmpDecode DecState.empty l).2) hist_proj_A).trans hist_out_A
  · rw [hist_tagged]; decide

/-- `foreign_removed` on `hist`: dropping the TECMP frame, the short buffer and the null pointer leaves the capture-module
    deliveries `[(some (1,0), pktA), (some (2,0), pktC)]` and the (empty) final table unchanged -/
example : (decodeAllT tecmpDecode DecState.empty (hist.filter (fun b => (bufEp b).isSome))).2.filter (fun x => x.1.isSome) =
    [(some (1, 0), pktA), (some (2, 0), pktC)] := by
  rw [(foreign_removed tecmpDecode (fun b => (bufEp b).isSome) (by intro b hb; simpa using hb) hist DecState.empty).2, hist_tagged]
  decide


/-! ### further instances on `hist` -/

/-- `tag_view`: what a tag-demultiplexing consumer sees for (1,0) is determined by A's frames and the non-frames -/
example : hist.filter (fun b => bufEp b = some (1, 0) ∨ bufEp b = none) =
    [some fA1, some fT, some [1, 2, 3, 4, 5], none, some fA2] := by decide +kernel
example : (decodeAll tecmpDecode DecState.empty hist).2.filter (fun p => tagOf p = (1, 0)) =
    (decodeAll tecmpDecode DecState.empty
      (hist.filter (fun b => bufEp b = some (1, 0) ∨ bufEp b = none))).2.filter (fun p => tagOf p = (1, 0)) :=
  tag_view tecmpDecode (1, 0) hist _ _ rfl

/-- `tag_count`: 2 packets carry (1,0) = 1 from the projected run + 1 TECMP hit -/
example : tecmpHits tecmpDecode (1, 0) hist = [pktT] := by decide +kernel
example : ((decodeAll tecmpDecode DecState.empty hist).2.filter (fun p => tagOf p = (1, 0))).length = 1 + 1 := by
  rw [tag_count tecmpDecode (1, 0) hist _ DecState.empty rfl, hist_proj_A, hist_out_A]
  decide +kernel

/-- `tag_isolation_no_tecmp`: the history without its TECMP frame (short buffer and null pointer kept) satisfies the hypothesis,
    and the packets carrying (1,0) are then exactly `[pktA]` -/
def histNoT : List (Option Bytes) := hist.filter (fun b => b != some fT)

theorem histNoT_no_tecmp : ∀ b, some b ∈ histNoT → 8 ≤ b.length → byteAt b 0 ≠ 0 := by
  intro b hb
  have e : histNoT = [some fA1, some fB1, some [1, 2, 3, 4, 5], none, some fBinv, some fC1, some fA2, some fB2, some fC2] := by
    decide +kernel
  rw [e] at hb
  simp only [List.mem_cons, Option.some.injEq, List.not_mem_nil, or_false, reduceCtorEq, false_or] at hb
  rcases hb with rfl | rfl | rfl | rfl | rfl | rfl | rfl | rfl <;> decide

example : (decodeAll tecmpDecode DecState.empty histNoT).2.filter (fun p => tagOf p = (1, 0)) = [pktA] := by
  rw [tag_isolation_no_tecmp tecmpDecode (1, 0) histNoT _ DecState.empty rfl histNoT_no_tecmp]
  have e : proj (1, 0) histNoT = [some fA1, some fA2] := by decide +kernel
  rw [e, hist_out_A]

/-- `tecmp_removed` on `hist`: its filter removes exactly the TECMP frame -/
example : hist.filter (fun (b : Option Bytes) => match b with
      | some x => !(decide (8 ≤ x.length) && decide (byteAt x 0 = 0))
      | none => true) = histNoT := by decide +kernel

/-- `bufEp_iff` read on a literal: version 1, device bytes 0x01 0x02, stream byte 7 -/
example : bufEp (some [1, 0, 1, 2, 9, 7, 0, 0]) = some (0x0102, 7) :=
  (bufEp_iff _ _).2 ⟨_, rfl, by decide, by decide, by decide, by decide⟩

/-! ### the same history on the TRANSLATED `Decoder::decode`, evaluated by the kernel -/

/-- every buffer of `hist` in a memory of its own at address 1 (one byte in front, one behind); the null pointer with size 4 -/
def histCalls : List Call :=
  [.buf [9] fA1 [5], .buf [9] fB1 [5], .buf [9] fT [5], .buf [9] [1, 2, 3, 4, 5] [5], .null [7, 7] 4, .buf [9] fBinv [5],
   .buf [9] fC1 [5], .buf [9] fA2 [5], .buf [9] fB2 [5], .buf [9] fC2 [5]]

example : histCalls.map Call.arg = hist := rfl

instance (fuel : Nat) (c : Call) : Decidable (c.Ok fuel) := by
  cases c <;> (unfold Call.Ok; infer_instance)

theorem histCalls_ok : ∀ c ∈ histCalls, c.Ok 64 := by decide

/-- the translated decoder on the ten calls: defined; call by call it returns nothing except the TECMP packet at call 3, A's
    message at call 8 and C's at call 10; the member `segmentedPackets` is empty at the end -/
theorem histCalls_src : (srcDecodeRun 64 Decoder_default histCalls).map (fun r => (r.1.f_segmentedPackets.map (·.1), r.2)) =
    some ([], [[], [], [pktT], [], [], [], [], [pktA], [], [pktC]]) := by decide +kernel

/-- while the TECMP frame of device 1 is decoded (call 3) the table holds the open reassemblies of (1,1) and (1,0), and still
    does afterwards -/
example : (srcDecodeRun 64 Decoder_default (histCalls.take 3)).map (fun r => (r.1.f_segmentedPackets.map (·.1), r.2)) =
    some ([(1, 1), (1, 0)], [[], [], [pktT]]) := by decide +kernel

/-- the translated decoder on A's two calls alone -/
theorem histCalls_src_A :
    (srcDecodeRun 64 Decoder_default (histCalls.filter (fun c => bufEp c.arg = some (1, 0)))).map (·.2) = some [[], [pktA]] := by
  decide +kernel

/-- instance of `C18_src_isolation_partial` (hypotheses checked on `histCalls`), with the literal values: A's two calls return `[]` and
    `[pktA]` in the full run and in the projected run -/
example : ∃ st outs st' outs',
    srcDecodeRun 64 Decoder_default histCalls = some (st, outs) ∧
    srcDecodeRun 64 Decoder_default (histCalls.filter (fun c => bufEp c.arg = some (1, 0))) = some (st', outs') ∧
    ((histCalls.zip outs).filter (fun x => bufEp x.1.arg = some (1, 0))).map (·.2) = outs' ∧ outs' = [[], [pktA]] := by
  obtain ⟨st, outs, st', outs', h1, h2, _, h4, _⟩ := C18_src_isolation_partial histCalls 64 histCalls_ok (by decide) (1, 0)
  refine ⟨st, outs, st', outs', h1, h2, h4, ?_⟩
  have := histCalls_src_A
  rw [h2] at this
  exact Option.some.inj this

/-- **the tag-reading violation on the translated C++**: the packets the translated `Decoder::decode` returns over `histCalls`
    whose own ids are (1,0) are `[pktT, pktA]`; the translated decoder run on A's calls alone returns `[pktA]` -/
theorem C18_tag_reading_violated_src :
    (srcDecodeRun 64 Decoder_default histCalls).map (fun r => r.2.flatten.filter (fun p => tagOf p = (1, 0))) =
      some [pktT, pktA] ∧
    (srcDecodeRun 64 Decoder_default (histCalls.filter (fun c => bufEp c.arg = some (1, 0)))).map (fun r => r.2.flatten) =
      some [pktA] := by
  obtain ⟨r, hr, he⟩ := Option.map_eq_some_iff.mp histCalls_src
  obtain ⟨r', hr', he'⟩ := Option.map_eq_some_iff.mp histCalls_src_A
  rw [hr, hr', Option.map_some, Option.map_some, (Prod.mk.inj he).2, he']
  decide

/-! ### a source-level call from a NON-EMPTY table holding another endpoint's entry -/

/-- the entry the first segment of B = (1,1) leaves in the table -/
def entryB : Ep × SegPkt :=
  ((1, 1), ⟨[0, 0, 0, 0, 0, 0, 0, 9, 0, 0, 0, 3, 0x04, 8, 0, 4, 0, 0, 0, 0], 4, 1, 1, 1⟩)

theorem tbl_B : decodeLL [] (some fB1) = ([entryB], []) := by decide +kernel

theorem inv_B : TableInv 28 [entryB] := by
  have h := tableInv_decodeLL (some fB1) tableInv_fresh.1
  rw [tbl_B] at h
  exact h

/-- the hypotheses of `tableInv_preserved` (hence of `decode_total_src`: `TableOk`, `TableReg`) are satisfiable with a non-empty
    table holding ANOTHER endpoint's reassembly — the situation C18 is about: the first segment of A = (1,0) decoded by the
    translated `Decoder::decode` while B = (1,1) is pending … -/
example : ∃ t' outs, Decoder_decode_obj 64 (tblSt [entryB]) ([9] ++ fA1 ++ [5]) 1 28 (SrcTec.tecmpExt 64) = some (tblSt t', outs) ∧
    TableInv (28 + 28) t' ∧ t'.abs = (decode (Table.abs [entryB]) (some fA1)).1 ∧
    outs.map (Sum.elim toPacket SrcTec.tAbs) = (decode (Table.abs [entryB]) (some fA1)).2 :=
  tableInv_preserved 28 [entryB] [9] fA1 [5] 64 inv_B (by decide) (by decide) (by decide) (by decide)

/-- … leaves B's entry exactly as it was and adds A's -/
example : (Decoder_decode_obj 64 (tblSt [entryB]) ([9] ++ fA1 ++ [5]) 1 28 (SrcTec.tecmpExt 64)).map
      (fun r => (r.1.f_segmentedPackets.map (·.1), r.2.length)) = some ([(1, 0), (1, 1)], 0) := by
  decide +kernel
example : (Decoder_decode_obj 64 (tblSt [entryB]) ([9] ++ fA1 ++ [5]) 1 28 (SrcTec.tecmpExt 64)).map
      (fun r => (mapFind r.1.f_segmentedPackets (1, 1)).map
        (fun x => [x.f_payload, [UInt8.ofNat x.f_segmentType, UInt8.ofNat x.f_curVersion, UInt8.ofNat x.f_curMessageType,
          UInt8.ofNat x.f_curSegment]])) =
    some (some [entryB.2.payload, [4, 1, 1, 1]]) := by
  decide +kernel

end Instances

end AsamCmp.C18S
