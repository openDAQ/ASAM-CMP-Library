/-
  C06 end to end on bytes: the fault theorem of Props/C06.lean is about an abstract sent stream
  (`SStream`); here it is instantiated with what the ENCODER MODEL really emits and lifted to the
  byte buffers handed to `decode`.

  Whatever sub-multiset of the encoder's serialised frames arrives, in whatever order and
  multiplicity, and whichever copies of SEGMENT frames carry another version byte and / or message
  type byte — as long as two arrived copies of different segments of one packet that agree on
  (version, type) carry the original pair (the side condition forced by the property itself) —
  every packet the decoder delivers is one of the packets that were sent.
-/
import AsamCmp.Props.C01
import AsamCmp.Props.C06
import AsamCmp.Lemmas.FaultBytesCopy
namespace AsamCmp.C06b
open AsamCmp

/-- frame `i` of the encoder output holds a segment (then it holds exactly that one message) -/
def isSegFrame (fs : List EFrame) (i : Nat) : Bool :=
  match fs[i]? with
  | some f => f.msgs.any (fun m => m.seg != 0)
  | none => false

/-- index (in the batch) of the packet whose segment frame `i` carries -/
def segPacket (fs : List EFrame) (i : Nat) : Option Nat :=
  match fs[i]? with
  | some f => (f.msgs.find? (fun m => m.seg != 0)).map (·.idx)
  | none => none

/-- `b` arrived as a copy of serialised frame `i`; a copy of a segment frame may carry any non-zero
    version byte and any message type byte (equal to the originals or not) -/
inductive Arrived (fs : List EFrame) (min : Nat) : Bytes → Nat → Prop
  | clean (i : Nat) (f : EFrame) : fs[i]? = some f → Arrived fs min (EFrame.bytes min f) i
  | corrupted (i : Nat) (f : EFrame) (ver mt : Nat) : fs[i]? = some f → isSegFrame fs i = true →
      1 ≤ ver → ver < 256 → mt < 256 →
      Arrived fs min (writeAt (writeAt (EFrame.bytes min f) 0 [UInt8.ofNat ver]) 4 [UInt8.ofNat mt]) i

/-- side condition on what arrived: two copies of DIFFERENT segment frames of the same packet that
    agree on (version byte, type byte) carry the original pair -/
def SideB (fs : List EFrame) (min v : Nat) (arr : List Bytes) : Prop :=
  ∀ b ∈ arr, ∀ b' ∈ arr, ∀ i i' f, Arrived fs min b i → Arrived fs min b' i' → i ≠ i' →
    fs[i]? = some f → isSegFrame fs i = true → isSegFrame fs i' = true → segPacket fs i = segPacket fs i' →
    byteAt b 0 = byteAt b' 0 → byteAt b 4 = byteAt b' 4 → byteAt b 0 = v ∧ byteAt b 4 = f.mt

/-- `Arrived` in the vocabulary of the lemma files, both directions -/
theorem _root_.AsamCmp.C06S.arrived_of_arrP {fs : List EFrame} {min : Nat} {b : Bytes} {i : Nat}
    (h : ArrP fs min b i) : Arrived fs min b i := by
  obtain ⟨f, hf, rfl | ⟨ver, mt, hany, h1, h2, h3, rfl⟩⟩ := h
  · exact Arrived.clean i f hf
  · exact Arrived.corrupted i f ver mt hf (by simpa [isSegFrame, hf] using hany) h1 h2 h3

theorem _root_.AsamCmp.C06S.arrP_of_arrived {fs : List EFrame} {min : Nat} {b : Bytes} {i : Nat}
    (h : Arrived fs min b i) : ArrP fs min b i := by
  cases h with
  | clean i f hf => exact ⟨f, hf, Or.inl rfl⟩
  | corrupted i f ver mt hf hseg h1 h2 h3 =>
    exact ⟨f, hf, Or.inr ⟨ver, mt, by simpa [isSegFrame, hf] using hseg, h1, h2, h3, rfl⟩⟩

/-- the frame behind the `i`-th entry of an evaluated list of serialised frames -/
theorem frame_of {fs : List EFrame} {min : Nat} {bs : List Bytes} (h : fs.map (EFrame.bytes min) = bs)
    {i : Nat} {b : Bytes} (hb : bs[i]? = some b) : ∃ f, fs[i]? = some f ∧ EFrame.bytes min f = b := by
  rw [← h, List.getElem?_map] at hb
  exact Option.map_eq_some_iff.1 hb

theorem arrived_clean_of {fs : List EFrame} {min : Nat} {bs : List Bytes} (h : fs.map (EFrame.bytes min) = bs)
    {i : Nat} {b : Bytes} (hb : bs[i]? = some b) : Arrived fs min b i := by
  obtain ⟨f, hf, rfl⟩ := frame_of h hb
  exact Arrived.clean i f hf

theorem arrived_corrupted_of {fs : List EFrame} {min : Nat} {bs : List Bytes} (h : fs.map (EFrame.bytes min) = bs)
    {i : Nat} {b : Bytes} (hb : bs[i]? = some b) (hseg : isSegFrame fs i = true) (ver mt : Nat)
    (h1 : 1 ≤ ver) (h2 : ver < 256) (h3 : mt < 256) :
    Arrived fs min (writeAt (writeAt b 0 [UInt8.ofNat ver]) 4 [UInt8.ofNat mt]) i := by
  obtain ⟨f, hf, rfl⟩ := frame_of h hb
  exact Arrived.corrupted i f ver mt hf hseg h1 h2 h3

theorem _root_.AsamCmp.C06S.zip_mem (batch : List Packet) : ∀ ip ∈ (List.range batch.length).zip batch, ip.2 ∈ batch :=
  fun _ hip => (List.of_mem_zip hip).2

/-- the `Setup` of one `encode` call -/
def mkSetup (e : Enc) (batch : List Packet) (c : Ctx) (v : Nat)
    (hc : c.ok = true) (hwf : ∀ p ∈ batch, p.WF) (hver : ∀ p ∈ batch, p.version = v)
    (hdev : e.dev < 65536) (hstream : e.stream < 256)
    (hN : (e.encode batch c).2.length < 65536) (hv1 : 1 ≤ v) (hv2 : v < 256) : Setup :=
  { c := c, min := c.min, dev := e.dev, stream := e.stream, v := v,
    ib := (List.range batch.length).zip batch, fs := (e.encode batch c).2,
    hcap := (Ctx.ok_cap hc).1, hdev := hdev, hstream := hstream, hv1 := hv1, hv := hv2,
    hwf := fun ip hip => hwf _ (C06S.zip_mem batch ip hip), hver := fun ip hip => hver _ (C06S.zip_mem batch ip hip),
    hg := C01.encode_good e batch c v (Ctx.ok_cap hc).1 hwf hver hv2,
    hflat := (encode_spec e batch c (Ctx.ok_cap hc).1).2.1, hN := hN }

/-- if the decoder delivers anything, something arrived, so something was sent: the packets `ps` the frames `fs` were made of
    (`hnil`: no packets, no frames) are not empty, and their version is a non-zero byte -/
theorem ver_of_output {fs : List EFrame} {min : Nat} {ps : List Packet} {v : Nat} (hnil : ps = [] → fs = [])
    (hwf : ∀ p ∈ ps, p.WF) (hver : ∀ p ∈ ps, p.version = v) {arr : List Bytes}
    (harr : ∀ b ∈ arr, ∃ i, Arrived fs min b i) {t : Bytes → List Packet} {p : Packet}
    (hp : p ∈ (decodeAll t DecState.empty (arr.map some)).2) : 1 ≤ v ∧ v < 256 := by
  cases arr with
  | nil => simp [decodeAll] at hp
  | cons b _ =>
    cases ps with
    | nil =>
      obtain ⟨i, hi⟩ := harr b (by simp)
      obtain ⟨f, hf, _⟩ := C06S.arrP_of_arrived hi
      rw [hnil rfl] at hf
      simp at hf
    | cons p0 _ =>
      obtain ⟨_, _, _, _, _, _, _, hv1, hv2, _⟩ := C01.wf_unpack (hwf p0 (by simp))
      rw [hver p0 (by simp)] at hv1 hv2
      exact ⟨hv1, hv2⟩

/-- C06 end to end with no field masked: the delivered packet is `dec` of a packet of the batch, whose
    flags carry 0 if that packet fitted a frame and 4 (the first segment's bits) if it was segmented -/
theorem _root_.AsamCmp.C06S.bytes_exact_core (e : Enc) (batch : List Packet) (c : Ctx) (v : Nat)
    (hc : c.ok = true) (hwf : ∀ p ∈ batch, p.WF) (hver : ∀ p ∈ batch, p.version = v)
    (hdev : e.dev < 65536) (hstream : e.stream < 256)
    (hN : (e.encode batch c).2.length < 65536)
    (arr : List Bytes)
    (harr : ∀ b ∈ arr, ∃ i, Arrived (e.encode batch c).2 c.min b i)
    (hside : SideB (e.encode batch c).2 c.min v arr) :
    ∀ p ∈ (decodeAll tecmpDecode DecState.empty (arr.map some)).2,
      ∃ q ∈ batch, p = C01.dec e.dev e.stream v q (if 16 + q.data.length ≤ c.cap then 0 else 4) := by
  intro p hp
  obtain ⟨hv1, hv2⟩ := ver_of_output (fun h => h ▸ (encode_nil e c).1) hwf hver harr hp
  let X : Setup := mkSetup e batch c v hc hwf hver hdev hstream hN hv1 hv2
  have harr' : ∀ b ∈ arr, ∃ i, ArrP X.fs X.min b i := fun b hb => (harr b hb).imp fun _ => C06S.arrP_of_arrived
  have hsideP : SideP X arr := by
    intro b hb b' hb' i i' f f' m m' ha ha' hii hf hf' hm hm' hs hs' hidx h0 h4
    have hf1 : (e.encode batch c).2[i]? = some f := hf
    have hf2 : (e.encode batch c).2[i']? = some f' := hf'
    exact hside b hb b' hb' i i' f (C06S.arrived_of_arrP ha) (C06S.arrived_of_arrP ha') hii hf1
      (by simp [isSegFrame, hf1, hm, hs]) (by simp [isSegFrame, hf2, hm', hs'])
      (by simp [segPacket, hf1, hf2, hm, hm', hs, hs', hidx]) h0 h4
  obtain ⟨ip, hip, hpe⟩ := C06S.good_of_arrived X arr harr' (C06S.side2_of_side _ _ (side_of_sideP X arr harr' hsideP)) p hp
  exact ⟨ip.2, C06S.zip_mem batch ip hip, hpe⟩

/-- C06 end to end: encoder model → bytes → faults → decoder model -/
theorem C06_bytes (e : Enc) (batch : List Packet) (c : Ctx) (v : Nat)
    (hc : c.ok = true) (hwf : ∀ p ∈ batch, p.WF) (hver : ∀ p ∈ batch, p.version = v)
    (hdev : e.dev < 65536) (hstream : e.stream < 256)
    (hN : (e.encode batch c).2.length < 65536)
    (arr : List Bytes)
    (harr : ∀ b ∈ arr, ∃ i, Arrived (e.encode batch c).2 c.min b i)
    (hside : SideB (e.encode batch c).2 c.min v arr) :
    ∀ p ∈ (decodeAll tecmpDecode DecState.empty (arr.map some)).2,
      clearSeg p ∈ batch.map (obsSent e.dev e.stream) := by
  intro p hp
  obtain ⟨q, hq, rfl⟩ := C06S.bytes_exact_core e batch c v hc hwf hver hdev hstream hN arr harr hside p hp
  refine List.mem_map.2 ⟨q, hq, ?_⟩
  rw [← hver q hq]
  exact (C01.clearSeg_dec e.dev e.stream q (hwf q hq) _ (by split <;> simp)).symm

/-- … and recovery on bytes: from ANY decoder state, the clean frames of the whole batch, in order,
    are decoded to exactly the batch (this is C01 again, stated here for the record) -/
theorem C06_recovery_bytes (e : Enc) (d : DecState) (batch : List Packet) (c : Ctx) (v : Nat)
    (hc : c.ok = true) (hne : batch ≠ []) (hwf : ∀ p ∈ batch, p.WF) (hver : ∀ p ∈ batch, p.version = v)
    (hdev : e.dev < 65536) (hstream : e.stream < 256) :
    P_C01 e.dev e.stream batch
      (decodeAll tecmpDecode d (((e.encode batch c).2.map (EFrame.bytes c.min)).map some)).2 = true :=
  (C01.C01_roundtrip e d batch c v hc hne hwf hver hdev hstream).1

end AsamCmp.C06b
