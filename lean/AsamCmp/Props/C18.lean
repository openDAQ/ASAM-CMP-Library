/-
  C18  Endpoints are isolated from each other.

  For any history of frames, the packets delivered for one (device id, stream id) endpoint are
  the same, in the same order, as if only that endpoint's frames had been fed to the decoder.
  TECMP frames and buffers too short to be a frame never change what is delivered for
  capture-module endpoints.
-/
import AsamCmp.Decoder
import AsamCmp.Lemmas.LayerB
namespace AsamCmp

/-- outputs tagged with the endpoint of the frame that produced them -/
def runT (s : DecState) : List PFrame → DecState × List (Ep × Packet)
  | [] => (s, [])
  | f :: fs =>
    let r := step s f
    let r' := runT r.1 fs
    (r'.1, r.2.map (fun p => (f.ep, p)) ++ r'.2)

theorem runT_eq (s : DecState) (fs : List PFrame) :
    runT s fs = (Run.final step s fs, (Run.io step s fs).flatMap fun x => x.2.map fun p => (x.1.ep, p)) :=
  Run.eq_flatMap step _ runT (fun _ => rfl) (fun _ _ _ => rfl) s fs

theorem runT_untag (s : DecState) (fs : List PFrame) :
    (runT s fs).1 = (run s fs).1 ∧ (runT s fs).2.map (·.2) = (run s fs).2 := by
  rw [runT_eq, run_eq]
  refine ⟨rfl, ?_⟩
  rw [List.map_flatMap]
  simp only [List.map_map, Function.comp_def, List.map_id']
  rfl

/-- every packet a capture-module frame delivers carries that frame's endpoint -/
theorem delivered_tagged (s : DecState) (b : Bytes) :
    ∀ p ∈ (step s (parseFrame b)).2, (p.deviceId, p.streamId) = (parseFrame b).ep := by
  intro p hp
  rw [step_snd] at hp
  rcases localStep_delivers_tagged _ _ p hp with h | h
  · exact walk_tagged _ _ _ _ p h
  · exact h

-- `C06S.runT_append` and `C06S.runT_single` are stated here because `runT` is; Props/C06S.lean uses them
theorem _root_.AsamCmp.C06S.runT_append (s : DecState) (fs gs : List PFrame) :
    runT s (fs ++ gs) = ((runT (runT s fs).1 gs).1, (runT s fs).2 ++ (runT (runT s fs).1 gs).2) := by
  simp only [runT_eq, Run.final_append, Run.io_append, List.flatMap_append]

/-- the packets delivered for endpoint `e` in an arbitrary history, and the entry of `e` it leaves,
    are those of the single-endpoint automaton on the frames of `e` -/
theorem runT_proj (e : Ep) (fs : List PFrame) (s : DecState) :
    (runT s fs).2.filter (fun x => x.1 = e) =
      (runLocal (s e) (fs.filter (fun f => f.ep = e))).2.map (fun p => (e, p)) ∧
    (runT s fs).1 e = (runLocal (s e) (fs.filter (fun f => f.ep = e))).1 := by
  obtain ⟨h1, h2⟩ := (step_local e).filter s fs
  rw [List.map_id] at h1 h2
  rw [runT_eq, runLocal_eq, Run.filter_tagged PFrame.ep e, Run.tagged_of_all PFrame.ep e _ fun x hx =>
    of_decide_eq_true (List.mem_filter.1 hx).2, h2]
  exact ⟨rfl, h1⟩

/-- on frames of one endpoint the decoder table behaves as the single-endpoint automaton started
    from the table's entry for that endpoint -/
theorem _root_.AsamCmp.C06S.runT_single (e : Ep) (fs : List PFrame) (s : DecState) (h : ∀ f ∈ fs, f.ep = e) :
    (runT s fs).2 = (runLocal (s e) fs).2.map (fun p => (e, p)) ∧
    (runT s fs).1 e = (runLocal (s e) fs).1 := by
  obtain ⟨h1, h2⟩ := (step_local e).all s fs fun f hf => decide_eq_true (h f hf)
  rw [List.map_id] at h1 h2
  rw [runT_eq, runLocal_eq, Run.tagged_of_all PFrame.ep e _ fun x hx => h x.1 (Run.io_mem step s fs x hx).1, ← h2]
  exact ⟨rfl, h1⟩

/-- C18 on parsed frames (`step` / `runT`, the reassembly layer of Lemmas/LayerB.lean): the outputs and the state at endpoint `e` of any
    history are those of the history projected to `e`, from any two states agreeing at `e` -/
theorem run_filter (e : Ep) : ∀ (fs : List PFrame) (s s' : DecState), s e = s' e →
    (runT s fs).2.filter (fun x => x.1 = e) = (runT s' (fs.filter (fun f => f.ep = e))).2 ∧
    (runT s fs).1 e = (runT s' (fs.filter (fun f => f.ep = e))).1 e := by
  intro fs s s' h
  obtain ⟨h1, h2⟩ := (step_local e).congr fs s s' h
  rw [runT_eq, runT_eq, Run.filter_tagged PFrame.ep e, h2]
  exact ⟨rfl, h1⟩

/-- whatever is delivered for endpoint `e` in an arbitrary history, by a decoder that starts with
    nothing pending for `e`, is delivered by the single-endpoint automaton on the frames of `e` -/
theorem runT_mem_local (e : Ep) (fs : List PFrame) (s : DecState) (arrived : List PFrame) (hs : s e = none)
    (hproj : fs.filter (fun f => f.ep = e) = arrived) :
    ∀ x ∈ (runT s fs).2, x.1 = e → x.2 ∈ (runLocal none arrived).2 := by
  intro x hx hxe
  have hmem : x ∈ (runT s fs).2.filter (fun x => x.1 = e) := List.mem_filter.2 ⟨hx, by simp [hxe]⟩
  rw [(runT_proj e fs s).1, hproj, hs] at hmem
  obtain ⟨o, ho, rfl⟩ := List.mem_map.1 hmem
  exact ho

/-- a capture-module frame changes the state of its own endpoint only -/
theorem decode_other_endpoint (tecmp : Bytes → List Packet) (s : DecState) (buf : Option Bytes) (e : Ep)
    (h : bufEp buf ≠ some e) : (decodeWith tecmp s buf).1 e = s e := by
  rcases decodeWith_cases tecmp buf with ⟨_, _, hd⟩ | ⟨b, _, _, _, _, hd⟩ | ⟨b, _, _, _, hep, hd⟩
  · rw [hd]
  · rw [hd]
  · rw [hd]
    exact step_fst_other _ _ _ fun hc => h (hep.trans (congrArg some hc))

/-- null pointers, buffers shorter than a frame header and TECMP buffers leave the reassembly
    state untouched -/
theorem decode_foreign_state (tecmp : Bytes → List Packet) (s : DecState) (buf : Option Bytes)
    (h : bufEp buf = none) : (decodeWith tecmp s buf).1 = s :=
  congrArg Prod.fst (decodeWith_foreign tecmp s buf h)

/-- `decodeWith` seen at endpoint `e`: a buffer that addresses `e` acts on `e`'s entry, and returns, as `localStep` on its
    parsed frame; any other buffer (another endpoint's frame, TECMP, short, null) leaves the entry alone -/
theorem decode_local (tecmp : Bytes → List Packet) (e : Ep) :
    Run.Local (decodeWith tecmp) localStep (fun s => s e) (fun b => bufEp b = some e) (fun b => parseFrame (b.getD [])) where
  own s b hb := by
    obtain ⟨bb, rfl, rfl, hdec⟩ := decodeWith_of_bufEp tecmp b e (of_decide_eq_true hb)
    rw [hdec]
    exact Prod.ext (step_fst_same s _).symm rfl
  other s b hb := decode_other_endpoint tecmp s b e (of_decide_eq_false hb)

/-- byte level: packets of endpoint `e` delivered over a history of arbitrary buffers equal the
    packets delivered for the sub-history of buffers that address `e` -/
theorem C18_isolation (tecmp : Bytes → List Packet) (e : Ep) :
    ∀ (bufs : List (Option Bytes)) (s s' : DecState), s e = s' e →
    let isE := fun (b : Option Bytes) => bufEp b = some e
    ((bufs.filter isE).foldl (fun (acc : DecState × List Packet) b =>
        let r := decodeWith tecmp acc.1 b; (r.1, acc.2 ++ r.2)) (s', [])).2 =
    (bufs.foldl (fun (acc : DecState × List Packet) b =>
        let r := decodeWith tecmp acc.1 b; (r.1, acc.2 ++ (if isE b then r.2 else []))) (s, [])).2 := by
  intro bufs s s' h
  refine (congrArg Prod.snd (Run.foldl_eq (decodeWith tecmp) (fun x => x.2) s' [] _)).trans (Eq.trans ?_
    (congrArg Prod.snd (Run.foldl_eq (decodeWith tecmp) (fun x => if bufEp x.1 = some e then x.2 else []) s [] bufs)).symm)
  rw [← ((decode_local tecmp e).congr bufs s s' h).2]
  exact congrArg ([] ++ ·) (Run.flatMap_filter _ _ _ _ fun x _ => by simp only [decide_eq_true_eq]).symm

theorem decodeAll_forall (tecmp : Bytes → List Packet) (P : Packet → Prop) : ∀ (bufs : List (Option Bytes)) (s : DecState),
    (∀ s, ∀ b ∈ bufs, ∀ p ∈ (decodeWith tecmp s b).2, P p) → ∀ p ∈ (decodeAll tecmp s bufs).2, P p := by
  intro bufs s h p hp
  rw [decodeAll_eq] at hp
  obtain ⟨x, hx, hp⟩ := List.mem_flatMap.1 hp
  obtain ⟨hb, s', hs'⟩ := Run.io_mem _ s bufs x hx
  exact h s' x.1 hb p (hs' ▸ hp)

end AsamCmp
