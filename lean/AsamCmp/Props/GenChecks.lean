/-
  Obligations that tie the constants reflected from /repo's current headers and objects
  (`Generated.lean`, rewritten on every run) to the protocol tables the model is built from.
  A changed struct member, mask, enum value, DLC table entry or a new mutable static breaks one of
  these at build time.
-/
import AsamCmp.Generated
import AsamCmp.Layout
import AsamCmp.Builders
import AsamCmp.Decoder
namespace AsamCmp.GenChecks
open AsamCmp

def lookupNat (l : List (String × Nat)) (k : String) : Option Nat := (l.find? (·.1 == k)).map (·.2)

/-- header sizes are exactly those of the standard (C12) -/
theorem sizes_ok :
    Generated.sizes.all (fun (n, sz) => (Layout.all.find? (·.name == n)).map (·.size) == some sz) = true ∧
    Generated.sizes.length = 14 := by decide +kernel

def layoutOff (c f : String) : Option Nat :=
  ((Layout.all.find? (·.name == c)).bind (·.find f)).map (·.off)

/-- every struct member sits at the byte offset the protocol table gives its field (C12) -/
theorem offsets_ok : Generated.offsets.all (fun (c, f, o) => layoutOff c f == some o) = true ∧
    70 ≤ Generated.offsets.length := by decide +kernel

def fieldMask (c f : String) : Option Nat :=
  ((Layout.all.find? (·.name == c)).bind (·.find f)).map fun fl => (2 ^ fl.bits - 1) * 2 ^ fl.shift

/-- the library's private mask constants are the bit ranges of the table's fields (C11, C12) -/
theorem masks_ok :
    lookupNat Generated.masks "can.idMask" = fieldMask "can" "id" ∧
    lookupNat Generated.masks "can.rsvdMask" = fieldMask "can" "rsvd" ∧
    lookupNat Generated.masks "can.rtrMask" = fieldMask "can" "rtr" ∧
    lookupNat Generated.masks "can.ideMask" = fieldMask "can" "ide" ∧
    lookupNat Generated.masks "can.crcMask" = fieldMask "can" "crc" ∧
    lookupNat Generated.masks "can.crcSupportMask" = fieldMask "can" "crcSupport" ∧
    lookupNat Generated.masks "can.crcSbcMask" = fieldMask "canfd" "crc" ∧
    lookupNat Generated.masks "can.crcSbcSbcMask" = fieldMask "canfd" "sbc" ∧
    lookupNat Generated.masks "can.crcSbcSbcShift" = some 21 ∧
    lookupNat Generated.masks "can.crcSbcParityMask" = fieldMask "canfd" "sbcParity" ∧
    lookupNat Generated.masks "can.crcSbcSupportMask" = fieldMask "canfd" "sbcSupport" ∧
    lookupNat Generated.masks "lin.linIdMask" = fieldMask "lin" "linId" ∧
    lookupNat Generated.masks "lin.parityMask" = fieldMask "lin" "parityBits" ∧
    lookupNat Generated.masks "lin.parityShift" = some 6 ∧
    lookupNat Generated.masks "analog.sampleDtMask" = fieldMask "analog" "sampleDt" ∧
    lookupNat Generated.masks "analog.aInt16" = some 0 ∧
    lookupNat Generated.masks "analog.aInt32" = some 1 ∧
    -- validator masks: CAN error flags are bits 9..0, Ethernet error flags bits 0,1,3,4,5
    lookupNat Generated.masks "can.errorMask" = some 0x03FF ∧
    lookupNat Generated.masks "eth.errorMask" = some 0x003B ∧
    lookupNat Generated.masks "msghdr.seg" = some 0x0C ∧
    lookupNat Generated.masks "msghdr.errorInPayload" = some 0x40 ∧
    lookupNat Generated.masks "packet.errorInPayload" = some 0x40 ∧
    lookupNat Generated.masks "msghdr.firstSegment" = some 4 ∧
    lookupNat Generated.masks "msghdr.intermediarySegment" = some 8 ∧
    lookupNat Generated.masks "msghdr.lastSegment" = some 12 := by decide +kernel

/-- enum values used by the model -/
theorem enums_ok :
    Generated.enums =
      [("mt.data", 1), ("mt.control", 2), ("mt.status", 3), ("mt.vendor", 255),
       ("pt.can", tyCan), ("pt.canFd", tyCanFd), ("pt.lin", tyLin), ("pt.analog", tyAnalog), ("pt.ethernet", tyEth),
       ("pt.cmStatMsg", tyCm), ("pt.ifStatMsg", tyIf), ("pt.invalid", 0), ("if.disabled", 2),
       ("tecmp.mt.cmStatus", 1), ("tecmp.mt.busStatus", 2), ("tecmp.mt.data", 3),
       ("tecmp.dt.can", 2), ("tecmp.dt.canFd", 3), ("tecmp.dt.lin", 4),
       ("cm.minPayloadSize", 36), ("if.minPayloadSize", 40)] := by decide +kernel

/-- the real `encodeDlc`, evaluated on all 256 data lengths, is the ISO 11898 table of the model (C13) -/
theorem dlc_ok : Generated.dlcTable = (List.range 256).map dlcOf := by decide +kernel

/-- `SegmentedPacket::isValidSegmentType`, executed for all 16 (current, next) pairs, is the model's
    `validNext` (C05, C06, C17) -/
theorem validNext_ok :
    Generated.validNextTable = ([0, 4, 8, 12].flatMap fun c => [0, 4, 8, 12].map fun n => (c, n, validNext c n)) := by decide

/-- rules the dumper checked exhaustively on the real functions (payload type validity and packing,
    byte swaps, TECMP header validity, segment bits) all hold -/
theorem rules_ok : Generated.rules.all (fun r => r.2 == 1) = true ∧ Generated.rules.length = 5 := by decide

/-- the dispatch of `Packet::create`, translated from the current source text: every typed payload
    type is validated by, and constructed as, its own class (seven cases, nothing else); unknown
    types stay generic and rejected payloads are marked invalid — the shape `create`/`validatorOf`
    of the model have (C03, C04) -/
theorem create_dispatch_ok :
    Generated.createDispatch =
      [("can", "CanPayload", "CanPayload"), ("canFd", "CanFdPayload", "CanFdPayload"), ("lin", "LinPayload", "LinPayload"),
       ("analog", "AnalogPayload", "AnalogPayload"), ("ethernet", "EthernetPayload", "EthernetPayload"),
       ("cmStatMsg", "CaptureModulePayload", "CaptureModulePayload"), ("ifStatMsg", "InterfacePayload", "InterfacePayload")] ∧
    Generated.createShape = (7, true, true) := by decide +kernel

/-- the library objects have no mutable static storage besides the allow-list (C19) -/
theorem no_shared_state : Generated.mutableStatics = [] := by decide

end AsamCmp.GenChecks
