/-
  C13  Payload builders store data faithfully and produce self-valid payloads.

  After setting data on any payload class the getters return exactly the data and lengths supplied,
  header fields set earlier are preserved, the length fields and the CAN DLC code match the data
  length, strings are NUL-terminated and zero-padded to even length, the stream-id list is zero-padded
  to even length, and the library's own validity check and decoder accept the result.  The raw bytes
  depend only on the final logical content, not on what the object held before.
  (`b` is the object's byte string before the call; it always holds at least its header.)
-/
import AsamCmp.Access
import AsamCmp.Builders
import AsamCmp.Lemmas.Builders
namespace AsamCmp.C13
open AsamCmp

/-! ### CAN / CAN-FD -/

/-- `CanPayloadBase::setData` resizes the object to the 16 header bytes plus the data, copies the data behind the header and writes
    the DLC and data-length bytes: the first 14 header bytes are kept, bytes 14 / 15 are `dlcOf |d|` / `|d|`, the data follows,
    and the data getter returns it -/
theorem can_setData (b d : Bytes) (hb : 16 ≤ b.length) (hd : d.length < 256) :
    let o := canSetData b d
    o.length = 16 + d.length ∧ o.take 14 = b.take 14 ∧ byteAt o 14 = dlcOf d.length ∧ byteAt o 15 = d.length ∧
    o.drop 16 = d ∧ canAccess o = some [dataView "data" 16 d.length] := by
  -- `o` as a variable with its normal form (as a `let` it would be unfolded at every step)
  have ho := canSetData_eq b d hb
  dsimp only
  generalize canSetData b d = o at ho ⊢
  have h14 : (b.take 14).length = 14 := take_length_of_le b 14 (by omega)
  obtain ⟨hlen, htake, hdrop⟩ := layout_facts (w := 2) ho h14 rfl
  have hdlc := dlcOf_le d.length
  have h15 : byteAt o 15 = d.length := by
    rw [ho.trans (List.append_assoc _ [_] _).symm]
    exact byteAt_at_ofNat _ _ _ 15 (by rw [List.length_append, h14]; rfl) hd
  refine ⟨hlen, htake, ?_, h15, hdrop, ?_⟩
  · rw [ho, Nat.mod_eq_of_lt hd]
    exact byteAt_at_ofNat _ _ _ 14 h14 (by omega)
  · rw [C03.canAccess_eq o (by omega), h15]

theorem can_setData_valid (b d : Bytes) (hb : 16 ≤ b.length) (hd : d.length < 256)
    (hflags : beAt b 0 2 &&& 0x03FF = 0) (herr : beAt b 12 2 = 0) :
    canValid (canSetData b d) = true ∧ create tyCan (canSetData b d) = ⟨tyCan, canSetData b d⟩ ∧
    create tyCanFd (canSetData b d) = ⟨tyCanFd, canSetData b d⟩ := by
  have hfacts := can_setData b d hb hd
  dsimp only at hfacts
  obtain ⟨hlen, htake, _, h15, _, _⟩ := hfacts
  have hvalid : canValid (canSetData b d) = true :=
    (canValid_spec _).2 ⟨by omega, beAt_of_take _ b 14 0 2 htake (by omega) ▸ hflags,
      (beAt_of_take _ b 14 12 2 htake (by omega)).trans herr, by omega⟩
  exact ⟨hvalid, create_of_valid _ _ _ rfl hvalid, create_of_valid _ _ _ rfl hvalid⟩

/-- canonicity: the result depends on the header fields and the data only -/
theorem can_setData_canonical (b₁ b₂ d : Bytes) (h1 : 16 ≤ b₁.length) (h2 : 16 ≤ b₂.length)
    (hh : b₁.take 14 = b₂.take 14) : canSetData b₁ d = canSetData b₂ d := by
  rw [canSetData_eq b₁ d h1, canSetData_eq b₂ d h2, hh]

/-! ### the DLC code (ISO 11898-1) -/

theorem dlc_iso : dlcOf 0 = 0 ∧ dlcOf 8 = 8 ∧ dlcOf 12 = 9 ∧ dlcOf 16 = 10 ∧ dlcOf 20 = 11 ∧ dlcOf 24 = 12 ∧
    dlcOf 32 = 13 ∧ dlcOf 48 = 14 ∧ dlcOf 64 = 15 ∧ (∀ n, n ≤ 8 → dlcOf n = n) := by
  refine ⟨by decide, by decide, by decide, by decide, by decide, by decide, by decide, by decide,
    by decide, ?_⟩
  exact fun n hn => if_pos hn

/-- ISO 11898-1: the size of the data field a DLC code stands for (classic CAN 0..8 ↦ the code itself; CAN FD 9 ↦ 12, 10 ↦ 16,
    11 ↦ 20, 12 ↦ 24, 13 ↦ 32, 14 ↦ 48, 15 ↦ 64; a DLC is a 4-bit field, codes above 15 do not exist: 0) -/
def dlcLen (c : Nat) : Nat :=
  if c ≤ 8 then c
  else if c = 9 then 12 else if c = 10 then 16 else if c = 11 then 20 else if c = 12 then 24
  else if c = 13 then 32 else if c = 14 then 48 else if c = 15 then 64 else 0

theorem dlcLen_cases (c : Nat) :
    (c ≤ 8 ∧ dlcLen c = c) ∨ (c = 9 ∧ dlcLen c = 12) ∨ (c = 10 ∧ dlcLen c = 16) ∨ (c = 11 ∧ dlcLen c = 20) ∨
    (c = 12 ∧ dlcLen c = 24) ∨ (c = 13 ∧ dlcLen c = 32) ∨ (c = 14 ∧ dlcLen c = 48) ∨ (c = 15 ∧ dlcLen c = 64) ∨
    (15 < c ∧ dlcLen c = 0) := by
  by_cases h : c ≤ 15
  · revert c; decide
  · have e : dlcLen c = 0 := by
      unfold dlcLen
      rw [if_neg (by omega), if_neg (by omega), if_neg (by omega), if_neg (by omega), if_neg (by omega),
        if_neg (by omega), if_neg (by omega), if_neg (by omega)]
    exact .inr (.inr (.inr (.inr (.inr (.inr (.inr (.inr ⟨by omega, e⟩)))))))

/-- `dlcLen` is the ISO table -/
theorem dlcLen_table (c : Nat) : dlcLen c = [0,1,2,3,4,5,6,7,8,12,16,20,24,32,48,64].getD c 0 := by
  by_cases h : c < 16
  · revert c; decide
  · have := dlcLen_cases c
    rw [List.getD_eq_getElem?_getD, List.getElem?_eq_none (Nat.le_of_not_lt h)]
    show dlcLen c = 0
    omega

/-- `dlcOf` is the lower adjoint of `dlcLen`: a length gets a code up to `c` exactly when the data field of `c` has room for it
    (code 15 is the top: every length gets a code up to 15, `dlcOf_le`) -/
theorem dlcOf_le_iff (n c : Nat) (hc : c < 15) : dlcOf n ≤ c ↔ n ≤ dlcLen c := by
  have := dlcOf_cases n
  have := dlcLen_cases c
  omega

/-- the DLC code COVERS the data length, and it is the SMALLEST code that does: for every length a CAN FD data field can hold
    (0..64) the data field announced by `dlcOf n` has room for the `n` bytes, and no smaller code's data field has -/
theorem dlc_covers (n : Nat) (hn : n ≤ 64) : n ≤ dlcLen (dlcOf n) ∧ ∀ c, c < dlcOf n → dlcLen c < n := by
  have h15 := dlcOf_le n
  constructor
  · by_cases h : dlcOf n < 15
    · exact (dlcOf_le_iff n _ h).1 (Nat.le_refl _)
    · rw [show dlcOf n = 15 by omega]; exact hn
  · intro c hc
    have := dlcOf_le_iff n c (by omega)
    omega

theorem dlcLen_iso : ∀ c ≤ 15, dlcLen c ≤ 8 ∨ dlcLen c = 12 ∨ dlcLen c = 16 ∨ dlcLen c = 20 ∨ dlcLen c = 24 ∨
    dlcLen c = 32 ∨ dlcLen c = 48 ∨ dlcLen c = 64 := by
  decide

/-- the DLC code stands for EXACTLY the data length iff the length is one of the sixteen ISO data-field sizes -/
theorem dlc_exact_iff (n : Nat) :
    dlcLen (dlcOf n) = n ↔
      (n ≤ 8 ∨ n = 12 ∨ n = 16 ∨ n = 20 ∨ n = 24 ∨ n = 32 ∨ n = 48 ∨ n = 64) := by
  constructor
  · intro h
    have := dlcLen_iso _ (dlcOf_le n)
    rwa [h] at this
  · rintro (h | rfl | rfl | rfl | rfl | rfl | rfl | rfl)
    · rw [show dlcOf n = n from if_pos h]; exact if_pos h
    all_goals rfl

/-- above the largest CAN FD data field: the largest code -/
theorem dlc_above_64 (n : Nat) (hn : 64 < n) : dlcOf n = 15 := by
  have := dlcOf_cases n
  omega

/-- `dlcOf` is monotone -/
theorem dlc_mono (m n : Nat) (h : m ≤ n) : dlcOf m ≤ dlcOf n := by
  by_cases hn : dlcOf n < 15
  · -- `n`, hence `m`, fits the data field of `dlcOf n`
    exact (dlcOf_le_iff m _ hn).2 (Nat.le_trans h ((dlcOf_le_iff n _ hn).1 (Nat.le_refl _)))
  · have := dlcOf_le m
    omega

/-- … and never 0 for a non-empty data field (`encodeDlc` used to write DLC 0 next to a non-zero data length for the lengths
    between two CAN FD steps: DESIGN.md section F, the repair in `encodeDlc`) -/
theorem dlc_zero_iff (n : Nat) : dlcOf n = 0 ↔ n = 0 := by
  have := dlcOf_cases n
  omega

/-- the DLC byte of a built CAN / CAN-FD payload: it is `dlcOf` of the number of bytes supplied, the data-length byte is that
    number (both from `can_setData`), hence — for every length a CAN FD frame can carry — the data field the DLC byte announces
    covers the data-length byte, no smaller code does, and the two agree exactly on the ISO lengths; above 64 the DLC byte is 15. -/
theorem can_setData_dlc (b d : Bytes) (hb : 16 ≤ b.length) (hd : d.length < 256) :
    let o := canSetData b d
    byteAt o 14 = dlcOf d.length ∧ byteAt o 15 = d.length ∧ byteAt o 14 ≤ 15 ∧
    (d.length ≤ 64 → byteAt o 15 ≤ dlcLen (byteAt o 14) ∧ ∀ c, c < byteAt o 14 → dlcLen c < byteAt o 15) ∧
    (dlcLen (byteAt o 14) = byteAt o 15 ↔
      (d.length ≤ 8 ∨ d.length = 12 ∨ d.length = 16 ∨ d.length = 20 ∨ d.length = 24 ∨ d.length = 32 ∨ d.length = 48 ∨
        d.length = 64)) ∧
    (64 < d.length → byteAt o 14 = 15) ∧ (byteAt o 14 = 0 ↔ d.length = 0) := by
  intro o
  obtain ⟨_, _, h14, h15, _, _⟩ := can_setData b d hb hd
  rw [h14, h15]
  exact ⟨rfl, rfl, dlcOf_le _, dlc_covers _, dlc_exact_iff _, dlc_above_64 _, dlc_zero_iff _⟩

/-! ### LIN -/

/-- `LinPayload::setData` (8 header bytes, data-length byte 7): header bytes 0..6 kept, the length byte and the data written, the
    getter returns the data, and the validator and `Packet::create` accept the result for every header -/
theorem lin_setData (b d : Bytes) (hb : 8 ≤ b.length) (hd : d.length < 256) :
    let o := linSetData b d
    o.length = 8 + d.length ∧ o.take 7 = b.take 7 ∧ byteAt o 7 = d.length ∧ o.drop 8 = d ∧
    linAccess o = some [dataView "data" 8 d.length] ∧ linValid o = true ∧ create tyLin o = ⟨tyLin, o⟩ := by
  have ho := linSetData_eq b d hb
  dsimp only
  generalize linSetData b d = o at ho ⊢
  have h7l : (b.take 7).length = 7 := take_length_of_le b 7 (by omega)
  obtain ⟨hlen, htake, hdrop⟩ := layout_facts (w := 1) ho h7l rfl
  have h7 : byteAt o 7 = d.length := by rw [ho]; exact byteAt_at_ofNat _ _ _ 7 h7l hd
  have hvalid : linValid o = true := (linValid_spec o).2 ⟨by omega, by omega⟩
  exact ⟨hlen, htake, h7, hdrop, by rw [C03.linAccess_eq o (by omega), h7], hvalid, create_of_valid _ _ _ rfl hvalid⟩

theorem lin_setData_canonical (b₁ b₂ d : Bytes) (h1 : 8 ≤ b₁.length) (h2 : 8 ≤ b₂.length)
    (hh : b₁.take 7 = b₂.take 7) : linSetData b₁ d = linSetData b₂ d := by
  rw [linSetData_eq b₁ d h1, linSetData_eq b₂ d h2, hh]

/-! ### Ethernet -/

/-- `EthernetPayload::setData` (6 header bytes, 16-bit data length at 4): header bytes 0..3 kept, length and data written, the
    getter returns the data; accepted when the flags word has none of the bits `0x003B` set -/
theorem eth_setData (b d : Bytes) (hb : 6 ≤ b.length) (hd : d.length < 65536) :
    let o := ethSetData b d
    o.length = 6 + d.length ∧ o.take 4 = b.take 4 ∧ beAt o 4 2 = d.length ∧ o.drop 6 = d ∧
    ethAccess o = some [dataView "data" 6 d.length] ∧
    (beAt b 0 2 &&& 0x003B = 0 → ethValid o = true ∧ create tyEth o = ⟨tyEth, o⟩) := by
  have ho := ethSetData_eq b d hb
  dsimp only
  generalize ethSetData b d = o at ho ⊢
  have h4l : (b.take 4).length = 4 := take_length_of_le b 4 (by omega)
  obtain ⟨hlen, htake, hdrop⟩ := layout_facts ho h4l (beEnc_length 2 _)
  have h4 : beAt o 4 2 = d.length := by rw [ho]; exact beAt2_at _ _ 4 _ h4l hd
  refine ⟨hlen, htake, h4, hdrop, by rw [C03.ethAccess_eq o (by omega), h4], ?_⟩
  intro hflags
  have hvalid : ethValid o = true :=
    (ethValid_spec o).2 ⟨by omega, beAt_of_take o b 4 0 2 htake (by omega) ▸ hflags, by omega⟩
  exact ⟨hvalid, create_of_valid _ _ _ rfl hvalid⟩

theorem eth_setData_canonical (b₁ b₂ d : Bytes) (h1 : 6 ≤ b₁.length) (h2 : 6 ≤ b₂.length)
    (hh : b₁.take 4 = b₂.take 4) : ethSetData b₁ d = ethSetData b₂ d := by
  rw [ethSetData_eq b₁ d h1, ethSetData_eq b₂ d h2, hh]

/-! ### analog -/

/-- `AnalogPayload::setData` (16 header bytes, no length field: the samples are whatever follows): the header is kept, the data
    follows it; accepted when the sample type is 16 or 32 bit -/
theorem analog_setData (b d : Bytes) (hb : 16 ≤ b.length) :
    let o := analogSetData b d
    o.length = 16 + d.length ∧ o.take 16 = b.take 16 ∧ o.drop 16 = d ∧
    (byteAt b 1 &&& 3 ≤ 1 → analogValid o = true ∧ create tyAnalog o = ⟨tyAnalog, o⟩) := by
  have ho : analogSetData b d = b.take 16 ++ ([] ++ d) := analogSetData_eq b d hb
  dsimp only
  generalize analogSetData b d = o at ho ⊢
  obtain ⟨hlen, htake, hdrop⟩ := layout_facts (w := 0) ho (take_length_of_le b 16 hb) rfl
  refine ⟨hlen, htake, hdrop, ?_⟩
  intro hdt
  have hvalid : analogValid o = true :=
    (analogValid_spec o).2 ⟨by omega, byteAt_of_take o b 16 1 htake (by omega) ▸ hdt⟩
  exact ⟨hvalid, create_of_valid _ _ _ rfl hvalid⟩

theorem analog_setData_canonical (b₁ b₂ d : Bytes) (h1 : 16 ≤ b₁.length) (h2 : 16 ≤ b₂.length)
    (hh : b₁.take 16 = b₂.take 16) : analogSetData b₁ d = analogSetData b₂ d := by
  rw [analogSetData_eq b₁ d h1, analogSetData_eq b₂ d h2, hh]

/-! ### capture-module status -/

/-- one string block: even length field = text + NUL rounded up, the text, then NULs only -/
theorem cmString_spec (s : Bytes) (hs : s.length + 2 < 65536) :
    let n := s.length + 1 + (s.length + 1) % 2
    cmString s = beEnc 2 n ++ s ++ zeros (n - s.length) ∧ n % 2 = 0 ∧ (cmString s).length = 2 + n ∧
    1 ≤ n - s.length ∧ n - s.length ≤ 2 := by
  intro n
  have _ := hs
  exact ⟨rfl, by omega, cmString_length s, by omega, by omega⟩

/-- strings without NUL are returned exactly, with the vendor data, at offsets inside the payload;
    the validator and `Packet::create` accept the result; the header is preserved -/
theorem cm_setData (b s1 s2 s3 s4 v : Bytes) (hb : 26 ≤ b.length)
    (h1 : s1.length + 2 < 65536) (h2 : s2.length + 2 < 65536) (h3 : s3.length + 2 < 65536) (h4 : s4.length + 2 < 65536)
    (hv : v.length < 65536)
    (n1 : 0 ∉ s1) (n2 : 0 ∉ s2) (n3 : 0 ∉ s3) (n4 : 0 ∉ s4) :
    let o := cmSetData b s1 s2 s3 s4 v
    o.take 26 = b.take 26 ∧ cmValid o = true ∧ create tyCm o = ⟨tyCm, o⟩ ∧
    ∃ o1 o2 o3 o4 o5,
      cmAccess o = some [⟨"deviceDescription", some o1, s1.length⟩, ⟨"serialNumber", some o2, s2.length⟩,
                         ⟨"hardwareVersion", some o3, s3.length⟩, ⟨"softwareVersion", some o4, s4.length⟩,
                         ⟨"vendorData", some o5, v.length⟩] ∧
      slice o o1 s1.length = s1 ∧ slice o o2 s2.length = s2 ∧ slice o o3 s3.length = s3 ∧
      slice o o4 s4.length = s4 ∧ slice o o5 v.length = v := by
  intro o
  obtain ⟨htake, _, _, ⟨c1, c2, c3, c4, c5⟩, _, hacc, hvalid, hcreate⟩ :=
    C13S.cm_shape_facts (b.take 26) s1 s2 s3 s4 v o (take_length_of_le b 26 hb) (cmSetData_eq b s1 s2 s3 s4 v hb)
      h1 h2 h3 h4 n1 n2 n3 n4
  rw [Nat.mod_eq_of_lt hv] at hacc
  exact ⟨htake, hvalid, hcreate, _, _, _, _, _, hacc, c1, c2, c3, c4, c5⟩

theorem cm_setData_canonical (b₁ b₂ s1 s2 s3 s4 v : Bytes) (h1 : 26 ≤ b₁.length) (h2 : 26 ≤ b₂.length)
    (hh : b₁.take 26 = b₂.take 26) : cmSetData b₁ s1 s2 s3 s4 v = cmSetData b₂ s1 s2 s3 s4 v := by
  rw [cmSetData_eq b₁ s1 s2 s3 s4 v h1, cmSetData_eq b₂ s1 s2 s3 s4 v h2, hh]

/-! ### interface status -/

/-- `InterfacePayload::setData` (36 header bytes; stream-id count, the ids, a zero pad byte to even length, vendor-data length,
    vendor data): every field is where the getters look for it, the pad is zero, and the result is accepted when header
    byte 29 is at most 2 -/
theorem if_setData (b ids v : Bytes) (hb : 36 ≤ b.length) (hi : ids.length < 65536) (hv : v.length < 65536) :
    let o := ifSetData b ids v
    let pad := ids.length % 2
    o.take 36 = b.take 36 ∧ o.length = 36 + 2 + ids.length + pad + 2 + v.length ∧
    beAt o 36 2 = ids.length ∧ slice o 38 ids.length = ids ∧
    slice o (38 + ids.length) pad = zeros pad ∧
    beAt o (38 + ids.length + pad) 2 = v.length ∧ slice o (38 + ids.length + pad + 2) v.length = v ∧
    ifAccess o = some [dataView "streamIds" 38 ids.length, dataView "vendorData" (38 + ids.length + pad + 2) v.length] ∧
    (byteAt b 29 ≤ 2 → ifValid o = true ∧ create tyIf o = ⟨tyIf, o⟩) := by
  have ho := ifSetData_eq b ids v hb
  dsimp only
  generalize ifSetData b ids v = o at ho ⊢
  have hP : (b.take 36).length = 36 := take_length_of_le b 36 hb
  have hZ : (zeros (ids.length % 2)).length = ids.length % 2 := List.length_replicate ..
  -- piece by piece: count, stream ids, pad, vendor length, vendor data; each step says where the next piece starts
  obtain ⟨-, ho2, hP2⟩ := piece_at ho hP
  rw [beEnc_length] at hP2
  obtain ⟨hids, ho3, hP3⟩ := piece_at ho2 hP2
  obtain ⟨hpad, ho4, hP4⟩ := piece_at ho3 hP3
  rw [hZ] at hpad hP4
  obtain ⟨-, ho5, hP5⟩ := piece_at ho4 hP4
  rw [beEnc_length] at hP5
  have hlen : o.length = 36 + 2 + ids.length + ids.length % 2 + 2 + v.length := by rw [ho5, List.length_append, hP5]
  have htake : o.take 36 = b.take 36 := by rw [ho]; exact List.take_left' hP
  have hc : beAt o 36 2 = ids.length := by rw [ho]; exact beAt2_at _ _ 36 _ hP hi
  have hvl : beAt o (38 + ids.length + ids.length % 2) 2 = v.length := by rw [ho4]; exact beAt2_at _ _ _ _ hP4 hv
  have hvd : slice o (38 + ids.length + ids.length % 2 + 2) v.length = v := by
    have := slice_at _ v [] _ _ hP5 rfl
    rwa [List.append_nil, ← ho5] at this
  refine ⟨htake, hlen, hc, hids, hpad, hvl, hvd, ?_, ?_⟩ <;>
    -- what is left is arithmetic on the two length fields; `omega` is slow with the bracketings in the context
    clear ho ho2 ho3 ho4 ho5 hP hP2 hP3 hP4 hP5 hZ hvd hids hpad
  · rw [C03.ifAccess_eq o _ hc (by rw [hlen]; omega), ← Nat.add_assoc, hvl]
  · intro h29
    have hvalid : ifValid o = true := by
      rw [ifValid_spec, hc, ← Nat.add_assoc 38, hvl, hlen]
      exact ⟨by omega, byteAt_of_take o b 36 29 htake (by omega) ▸ h29, by omega, by omega⟩
    exact ⟨hvalid, create_of_valid _ _ _ rfl hvalid⟩

theorem if_setData_canonical (b₁ b₂ ids v : Bytes) (h1 : 36 ≤ b₁.length) (h2 : 36 ≤ b₂.length)
    (hh : b₁.take 36 = b₂.take 36) : ifSetData b₁ ids v = ifSetData b₂ ids v := by
  rw [ifSetData_eq b₁ ids v h1, ifSetData_eq b₂ ids v h2, hh]

/-- default-constructed objects are valid payloads of their class -/
theorem defaults_valid : canValid canDefault = true ∧ linValid linDefault = true ∧ ethValid ethDefault = true ∧
    analogValid analogDefault = true ∧ cmValid cmDefault = true ∧ ifValid ifDefault = true := by
  decide +kernel

/-- non-vacuity: three stream ids on an object that held four: the pad byte is zero -/
example : slice (ifSetData (ifSetData ifDefault [1,2,3,4] []) [1,2,3] []) 36 8 = [0,3,1,2,3,0,0,0] := by decide +kernel

end AsamCmp.C13
