/-
  C07, the statements that a reading of `P_C07` / `P_C08` against the property's text asks for beyond Props/C07.lean
  (DESIGN.md, section J.4 "unobserved bytes"): the tiler skips the 8 frame-header bytes and 11 of the 16 message-header bytes,
  `frame_length` speaks of an arbitrary `EFrame`, `P_C07` does not see packet boundaries, and nothing was said of the
  translated source from an arbitrary object.

  Every theorem is about the encoder models (`Enc`, `EncLL`), the tiler (`tileFrame`, `P_C07`, `P_C08`) and the translated
  source (`Encoder_encode_range_obj`, …).  The definitions of this file are OBSERVATION functions on bytes (`tileFrameH`: the
  same walker as `tileFrame`, but it keeps the raw 8 / 16 header bytes it steps over — proved to be the same walker by
  `tileFrameH_forget`) and decidable checkers used in the examples.

  §1–§3  the header bytes on the wire: `C07_wire_headers`
  §4     no header-only message, packet boundaries, the lengths of the ENCODER's frames: `C07_per_packet`, `C07_strong_bytes`,
         `C07_frame_lengths`
  §5     the translated source end to end, from ANY encoder object: `C07_src_end_to_end`, `C07_src_single`, `C07_src_empty`,
         `encodeLL_state_indep`, `src_stale_state_irrelevant` (no theorem here needs `seqc < 65536`, `Reg s` or `p.mt < 256`)
  §6     examples computed by the kernel, positive and negative
-/
import AsamCmp.Props.C07
import AsamCmp.Props.C07b
import AsamCmp.Props.C09
import AsamCmp.Props.C10
import AsamCmp.Props.SrcEncoderE2E
namespace AsamCmp.C07S
open AsamCmp AsamCmp.Src AsamCmp.SrcGen

/-! ## §1  the tiler that keeps the header bytes -/

/-- a message as found on the wire: its 16 raw header bytes and its body -/
structure HMsg where
  hdr : Bytes
  body : Bytes
deriving Repr, DecidableEq, Inhabited

/-- a frame as found on the wire: its 8 raw header bytes, the messages, the number of zero bytes behind the last message, the
    total length -/
structure HFrame where
  hdr : Bytes
  msgs : List HMsg
  pad : Nat
  len : Nat
deriving Repr, DecidableEq, Inhabited

/-- `tileMsgs` (Tile.lean) with the same control flow, keeping the 16 header bytes of every message -/
def tileMsgsH : Nat → Bytes → Option (List HMsg × Nat)
  | 0, _ => none
  | fuel+1, r =>
    if allZero r then some ([], r.length)
    else if r.length < 16 then none
    else
      let len := beAt r 14 2
      if r.length < 16 + len then none
      else
        match tileMsgsH fuel (r.drop (16 + len)) with
        | none => none
        | some (ms, pad) => some (⟨r.take 16, slice r 16 len⟩ :: ms, pad)

/-- `tileFrame` keeping the 8 header bytes -/
def tileFrameH (b : Bytes) : Option HFrame :=
  if b.length < 8 then none
  else
    match tileMsgsH (b.length + 1) (b.drop 8) with
    | none => none
    | some (ms, pad) => some ⟨b.take 8, ms, pad, b.length⟩

def tileFramesH : List Bytes → Option (List HFrame)
  | [] => some []
  | b :: bs =>
    match tileFrameH b, tileFramesH bs with
    | some f, some fs => some (f :: fs)
    | _, _ => none

/-- what `tileMsgs` keeps of a message: bits 2–3 of byte 12, and the body -/
def HMsg.forget (m : HMsg) : SMsg := ⟨byteAt m.hdr 12 &&& 0x0C, m.body⟩
/-- what `tileFrame` keeps of a frame: byte 4 -/
def HFrame.forget (f : HFrame) : SFrame := ⟨byteAt f.hdr 4, f.msgs.map HMsg.forget, f.pad, f.len⟩

theorem byteAt_take (r : Bytes) (n i : Nat) (h : i < n) : byteAt (r.take n) i = byteAt r i :=
  byteAt_take_of_lt r n i h

theorem tileMsgsH_eq_walkMsgs : ∀ (fuel : Nat) (r : Bytes),
    tileMsgsH fuel r = walkMsgs (fun r len => ⟨r.take 16, slice r 16 len⟩) fuel r := by
  intro fuel
  induction fuel with
  | zero => intro r; rfl
  | succ fuel ih =>
    intro r
    simp only [tileMsgsH, walkMsgs, ih]
    cases walkMsgs _ fuel (r.drop (16 + beAt r 14 2)) <;> rfl

/-- the header-keeping walker IS the registered walker: on EVERY byte string, forgetting the kept header bytes gives exactly what
    `tileMsgs` returns (and it fails exactly when `tileMsgs` fails) -/
theorem tileMsgsH_forget (fuel : Nat) (r : Bytes) :
    (tileMsgsH fuel r).map (fun x => (x.1.map HMsg.forget, x.2)) = tileMsgs fuel r := by
  rw [tileMsgsH_eq_walkMsgs, tileMsgs_eq_walkMsgs, walkMsgs_map]
  simp only [HMsg.forget, byteAt_take _ 16 12 (by decide)]

theorem tileFrameH_forget (b : Bytes) : (tileFrameH b).map HFrame.forget = tileFrame b := by
  unfold tileFrameH tileFrame
  by_cases h8 : b.length < 8
  · simp [h8]
  · simp only [h8, if_false]
    rw [← tileMsgsH_forget]
    cases tileMsgsH (b.length + 1) (b.drop 8) with
    | none => rfl
    | some x =>
      obtain ⟨ms, pad⟩ := x
      simp [HFrame.forget, byteAt_take_of_lt b 8 4 (by decide)]

theorem tileFramesH_forget (bs : List Bytes) :
    (tileFramesH bs).map (fun fs => fs.map HFrame.forget) = tileFrames bs := by
  induction bs with
  | nil => rfl
  | cons b bs ih =>
    unfold tileFramesH tileFrames
    rw [← ih, ← tileFrameH_forget]
    cases tileFrameH b <;> cases tileFramesH bs <;> rfl

/-- in particular: whenever the header-keeping walker succeeds, the registered walker succeeds with the forgetful image -/
theorem tileFrames_of_H {bs : List Bytes} {hfs : List HFrame} (h : tileFramesH bs = some hfs) :
    tileFrames bs = some (hfs.map HFrame.forget) := by
  rw [← tileFramesH_forget, h]; rfl

/-! ## §2  the header-keeping tiler on the frames the encoder model serialises -/

/-- a message of the model as the header-keeping walker must find it -/
def toH (m : EMsg) : HMsg := ⟨msgHeader m.pkt m.seg m.body.length, m.body⟩

/-- a structured frame of the model as the header-keeping walker must find it -/
def shapeH (min : Nat) (f : EFrame) : HFrame :=
  ⟨frameHeader f.ver f.dev f.mt f.stream f.seq, f.msgs.map toH, min - (8 + f.used), max (8 + f.used) min⟩

/-- what the header-keeping walker keeps of a serialised message -/
theorem toH_kept (m : EMsg) (rest : Bytes) (hlen : m.body.length < 65536)
    (hs : m.seg = 0 ∨ m.seg = 4 ∨ m.seg = 8 ∨ m.seg = 12) :
    (⟨(m.bytes ++ rest).take 16, slice (m.bytes ++ rest) 16 m.body.length⟩ : HMsg) = toH m := by
  rw [msg_take16, (msg_fields m rest hlen hs).2.2.1]
  rfl

theorem tileMsgsH_bytes (msgs : List EMsg) (k : Nat)
    (hmsgs : ∀ m ∈ msgs, 1 ≤ m.body.length ∧ m.body.length < 65536 ∧
      (m.seg = 0 ∨ m.seg = 4 ∨ m.seg = 8 ∨ m.seg = 12)) :
    ∀ fuel, msgs.length < fuel →
      tileMsgsH fuel (msgs.flatMap EMsg.bytes ++ zeros k) = some (msgs.map toH, k) := by
  intro fuel hf
  rw [tileMsgsH_eq_walkMsgs]
  exact walkMsgs_bytes _ toH msgs k hmsgs (fun m hm rest => toH_kept m rest (hmsgs m hm).2.1 (hmsgs m hm).2.2) fuel hf

theorem tileFrameH_bytes (min : Nat) (f : EFrame)
    (hmsgs : ∀ m ∈ f.msgs, 1 ≤ m.body.length ∧ m.body.length < 65536 ∧ (m.seg = 0 ∨ m.seg = 4 ∨ m.seg = 8 ∨ m.seg = 12)) :
    tileFrameH (EFrame.bytes min f) = some (shapeH min f) := by
  have hl := EFrame.bytes_length min f
  unfold tileFrameH
  rw [if_neg (by omega), tileMsgsH_eq_walkMsgs,
    walkMsgs_frame _ toH min f hmsgs fun m hm rest => toH_kept m rest (hmsgs m hm).2.1 (hmsgs m hm).2.2]
  simp only [hl, shapeH, C09_header_bytes]

theorem tileFramesH_bytes (min : Nat) (fs : List EFrame)
    (hmsgs : ∀ f ∈ fs, ∀ m ∈ f.msgs,
      1 ≤ m.body.length ∧ m.body.length < 65536 ∧ (m.seg = 0 ∨ m.seg = 4 ∨ m.seg = 8 ∨ m.seg = 12)) :
    tileFramesH (fs.map (EFrame.bytes min)) = some (fs.map (shapeH min)) := by
  induction fs with
  | nil => rfl
  | cons f fs ih =>
    simp only [List.map_cons, tileFramesH]
    rw [tileFrameH_bytes min f (hmsgs f (by simp)), ih (fun g hg => hmsgs g (by simp [hg]))]

/-- bits 2–3 of byte 12 of a message header are the segment flag it was built with -/
theorem msgHeader_seg (p : Packet) (seg len : Nat) (hs : seg = 0 ∨ seg = 4 ∨ seg = 8 ∨ seg = 12) :
    byteAt (msgHeader p seg len) 12 &&& 0x0C = seg := by
  have := msgHeader_segBits p len [] hs
  rwa [List.append_nil] at this

/-- bytes 14–15 of a message header are the length it was built with -/
theorem msgHeader_len (p : Packet) (seg len : Nat) (hl : len < 65536) :
    beAt (msgHeader p seg len) 14 2 = len := by
  have := msgHeader_lenField p seg len []
  rwa [List.append_nil, Nat.mod_eq_of_lt hl] at this

theorem forget_toH (m : EMsg) (hs : m.seg = 0 ∨ m.seg = 4 ∨ m.seg = 8 ∨ m.seg = 12) :
    (toH m).forget = ⟨m.seg, m.body⟩ := by
  simp only [toH, HMsg.forget, msgHeader_seg _ _ _ hs]

/-! ## §3  the 8-byte capture-module header and the 16-byte message headers, on bytes -/

/-- the header fields of the structured frames of ONE `encode` call, for EVERY encoder state (no `Idle`, no bound on the counter):
    counter `(seqc + i + 1) mod 2^16`, the encoder's ids, the version of a packet of the batch, the message type of its messages -/
theorem frames_fields (e : Enc) (batch : List Packet) (c : Ctx) :
    ∀ i (h : i < (e.encode batch c).2.length),
      (e.encode batch c).2[i].seq = (e.seqc + i + 1) % 65536 ∧
      (e.encode batch c).2[i].dev = e.dev ∧ (e.encode batch c).2[i].stream = e.stream ∧
      (∃ p ∈ batch, (e.encode batch c).2[i].ver = p.version % 256) ∧
      (∀ m ∈ (e.encode batch c).2[i].msgs, m.pkt.mt = (e.encode batch c).2[i].mt) := by
  intro i h
  have hn := (Open.encode_numbered e batch c).1 i h
  obtain ⟨hne, hok⟩ := C09S.encode_closedOk e batch c _ (List.getElem_mem h)
  refine ⟨hn.1, hn.2.1, hn.2.2, ?_, fun m hm => (hok m hm).hmt⟩
  obtain ⟨m, hm⟩ := List.exists_mem_of_ne_nil _ hne
  obtain ⟨q, hq, hver⟩ := (hok m hm).hver
  exact ⟨q, List.mem_of_getElem? hq, hver⟩

theorem encode_msgs_pkt (e : Enc) (batch : List Packet) (c : Ctx) (hc : c.ok = true) :
    ∀ f ∈ (e.encode batch c).2, ∀ m ∈ f.msgs, m.pkt ∈ batch := by
  intro f hf m hm
  have hcap := (Ctx.ok_cap hc).1
  obtain ⟨i, p, hp, hip⟩ := encode_msg_piece e batch c hcap f hf m hm
  rw [(pieces_mem c hcap _ _ m hip).1]
  exact hp

/-- the messages one packet puts on the wire, header bytes included -/
theorem pieces_hdrs (c : Ctx) (hcap : 17 ≤ c.cap) (i : Nat) (p : Packet) (hp : p.data.length < 65536) :
    ((pieces c i p).map toH).map (·.hdr) =
      (pieceShape c.cap p.data.length).map (fun sl => msgHeader p sl.1 sl.2) := by
  rw [← pieces_shape c hcap i p hp, List.map_map, List.map_map]
  apply List.map_congr_left
  intro m hm
  simp only [toH, Function.comp, (pieces_mem c hcap i p m hm).1]

theorem pieces_ne_nil (c : Ctx) (hcap : 17 ≤ c.cap) (i : Nat) (p : Packet) (hp : p.data.length < 65536)
    (h1 : 1 ≤ p.data.length) : pieces c i p ≠ [] := by
  intro h0
  have h := congrArg List.length (pieces_shape c hcap i p hp)
  rw [h0, pieceShape, if_neg (by omega)] at h
  split at h <;> simp at h

theorem shapeH_flatMap {β : Type} (min : Nat) (g : HMsg → β) (fs : List EFrame) :
    (fs.map (shapeH min)).flatMap (fun f => f.msgs.map g) = (fs.flatMap (·.msgs)).map (fun m => g (toH m)) := by
  induction fs with
  | nil => rfl
  | cons f fs ih =>
    simp only [List.map_cons, List.flatMap_cons, List.map_append, ih]
    simp [shapeH]

/-- the frames of an `encode` call, re-parsed by the header-keeping walker: forgetting the headers gives the `EFrame.shape`s that
    `P_C07` / `P_C08` are proved of -/
theorem shapeH_forget (min : Nat) (f : EFrame)
    (hmsgs : ∀ m ∈ f.msgs, (m.seg = 0 ∨ m.seg = 4 ∨ m.seg = 8 ∨ m.seg = 12)) :
    (shapeH min f).forget = EFrame.shape min f := by
  have h4 : byteAt (frameHeader f.ver f.dev f.mt f.stream f.seq) 4 = f.mt % 256 := by
    have := (C01.parse_fields f.ver f.dev f.mt f.stream f.seq []).2.2.2.1
    rwa [List.append_nil] at this
  simp only [shapeH, HFrame.forget, EFrame.shape, h4, List.map_map]
  congr 1
  apply List.map_congr_left
  intro m hm
  exact forget_toH m (hmsgs m hm)

/-- For every encoder state `e` (any history), every batch of packets with a payload of 1..65535
    bytes and every configuration with 25 ≤ max, min ≤ max (the property's quantifier; no other hypothesis):

    the frames `encode` returns, walked by the header-keeping tiler (the SAME walker as `tileFrames`: second conjunct), satisfy
    `P_C07` and `P_C08` and moreover
    * the 8 header bytes of frame `i` are EXACTLY the capture-module header `frameHeader` (Packet.lean: version, reserved 0,
      device id big-endian, message type, stream id, sequence counter big-endian) of the version of a packet of the batch, the
      ENCODER's device id and stream id, the message type `mt`, and the counter `(seqc + i + 1) mod 2^16`;
    * frame `i` holds at least one message, and every message of it has as its 16 header bytes EXACTLY `msgHeader q seg len`
      (timestamp, interface id / vendor id, flags with the segment bits replaced, payload type, length) of a packet `q` of the
      batch whose message type is the frame's `mt`, with `len` the length of the message's body and a legal segment flag;
    * the message headers of all frames, in wire order, are for every packet of the batch, in batch order, the packet's own
      `msgHeader` with the (segment flag, length) pairs the protocol rules prescribe (`pieceShape`). -/
theorem C07_wire_headers (e : Enc) (batch : List Packet) (c : Ctx) (hc : c.ok = true)
    (hb : ∀ p ∈ batch, p.Enc ∧ 1 ≤ p.data.length) :
    ∃ hfs, tileFramesH ((e.encode batch c).2.map (EFrame.bytes c.min)) = some hfs ∧
      tileFrames ((e.encode batch c).2.map (EFrame.bytes c.min)) = some (hfs.map HFrame.forget) ∧
      P_C07 c (batch.map Packet.data) (hfs.map HFrame.forget) = true ∧
      P_C08 c (batch.map fun p => (p.mt, p.data.length)) (hfs.map HFrame.forget) = true ∧
      (∀ i (h : i < hfs.length), ∃ p ∈ batch, ∃ mt,
        hfs[i].hdr = frameHeader (p.version % 256) e.dev mt e.stream ((e.seqc + i + 1) % 65536) ∧
        hfs[i].msgs ≠ [] ∧
        ∀ hm ∈ hfs[i].msgs, ∃ q ∈ batch, q.mt = mt ∧ ∃ seg, (seg = 0 ∨ seg = 4 ∨ seg = 8 ∨ seg = 12) ∧
          hm.hdr = msgHeader q seg hm.body.length ∧ 1 ≤ hm.body.length ∧ hm.body.length < 65536) ∧
      hfs.flatMap (fun f => f.msgs.map (·.hdr)) =
        batch.flatMap (fun p => (pieceShape c.cap p.data.length).map fun sl => msgHeader p sl.1 sl.2) := by
  obtain ⟨hcap, _, _⟩ := Ctx.ok_cap hc
  have hm := encode_msgs_ok e batch c hc
  have hpk := encode_msgs_pkt e batch c hc
  obtain ⟨hok, hall, _⟩ := encode_spec e batch c hcap
  have hff := frames_fields e batch c
  have hH := tileFramesH_bytes c.min (e.encode batch c).2 hm
  have hfg : ((e.encode batch c).2.map (shapeH c.min)).map HFrame.forget = (e.encode batch c).2.map (EFrame.shape c.min) := by
    rw [List.map_map]
    apply List.map_congr_left
    intro f hf
    exact shapeH_forget c.min f (fun m hmm => (hm f hf m hmm).2.2)
  refine ⟨_, hH, tileFrames_of_H hH, ?_, ?_, ?_, ?_⟩
  · rw [hfg]; exact C07_frames_wf e batch c hc (fun p hp => (hb p hp).1)
  · rw [hfg]; exact C08_seg_rules e batch c hc hb
  · intro i h
    have hi : i < (e.encode batch c).2.length := by simpa using h
    obtain ⟨hq, hd, hs, ⟨p, hp, hv⟩, hmt⟩ := hff i hi
    have hmem := List.getElem_mem hi
    refine ⟨p, hp, (e.encode batch c).2[i].mt, ?_, ?_, ?_⟩
    · rw [List.getElem_map]
      simp only [shapeH, hq, hd, hs, hv]
    · rw [List.getElem_map]
      simp only [shapeH, ne_eq, List.map_eq_nil_iff]
      exact (hok _ hmem).2
    · intro x hx
      rw [List.getElem_map] at hx
      simp only [shapeH, List.mem_map] at hx
      obtain ⟨m, hmm, rfl⟩ := hx
      have := hm _ hmem m hmm
      exact ⟨m.pkt, hpk _ hmem m hmm, hmt m hmm, m.seg, this.2.2, rfl, this.1, this.2.1⟩
  · rw [shapeH_flatMap c.min (·.hdr), hall, List.map_flatMap]
    refine zip_flatMap batch _ _ fun i p hp => ?_
    rw [← pieces_hdrs c hcap i p (hb p hp).1.2, List.map_map]
    rfl

/-! ## §4  no header-only message, packet boundaries; `frame_length` about the ENCODER's frames -/

/-- the wire messages of the batch, grouped per packet -/
def groupsOf (c : Ctx) (ib : List (Nat × Packet)) : List (List HMsg) := ib.map (fun ip => (pieces c ip.1 ip.2).map toH)

theorem groupsOf_flatten (c : Ctx) (ib : List (Nat × Packet)) :
    (groupsOf c ib).flatten = (ib.flatMap (fun ip => pieces c ip.1 ip.2)).map toH := by
  rw [groupsOf, ← List.flatMap_def, List.map_flatMap]

/-- Same quantifier as the property.  The messages found on the wire (all frames, wire order) split into
    consecutive groups, ONE PER PACKET of the batch in batch order, such that for the group of packet `p`
    * the bodies, concatenated, are exactly `p`'s payload bytes (so no message mixes bytes of two packets, every payload byte
      appears exactly once and in order, per packet and not only in the flattened stream);
    * the (segment flag, length) pairs are exactly `pieceShape` (one unsegmented message, or first / intermediary* / last);
    * the 16 header bytes of every message are `p`'s own message header (also for segments 2..n);
    * the group is not empty and NO message is header-only (every body has at least one byte). -/
theorem C07_per_packet (e : Enc) (batch : List Packet) (c : Ctx) (hc : c.ok = true)
    (hb : ∀ p ∈ batch, p.Enc ∧ 1 ≤ p.data.length) :
    ∃ (hfs : List HFrame) (groups : List (List HMsg)),
      tileFramesH ((e.encode batch c).2.map (EFrame.bytes c.min)) = some hfs ∧
      groups.flatten = hfs.flatMap (·.msgs) ∧
      groups.map (fun g => (g.map (·.body)).flatten) = batch.map Packet.data ∧
      groups.map (fun g => g.map fun m => (m.forget.seg, m.body.length)) =
        batch.map (fun p => pieceShape c.cap p.data.length) ∧
      groups.map (fun g => g.map (·.hdr)) =
        batch.map (fun p => (pieceShape c.cap p.data.length).map fun sl => msgHeader p sl.1 sl.2) ∧
      (∀ g ∈ groups, g ≠ []) ∧
      (∀ f ∈ hfs, ∀ m ∈ f.msgs, 1 ≤ m.body.length) := by
  obtain ⟨hcap, _, _⟩ := Ctx.ok_cap hc
  have hm := encode_msgs_ok e batch c hc
  obtain ⟨_, hall, _⟩ := encode_spec e batch c hcap
  have hH := tileFramesH_bytes c.min (e.encode batch c).2 hm
  refine ⟨_, groupsOf c ((List.range batch.length).zip batch), hH, ?_, ?_, ?_, ?_, ?_, ?_⟩
  · rw [groupsOf_flatten, ← hall]
    have := shapeH_flatMap c.min id (e.encode batch c).2
    simp only [List.map_id, id_eq] at this
    exact this.symm
  · rw [groupsOf, List.map_map]
    refine zip_map batch _ _ fun i p hp => ?_
    simp only [Function.comp, List.map_map]
    exact pieces_body c hcap i p (hb p hp).1.2
  · rw [groupsOf, List.map_map]
    refine zip_map batch _ _ fun i p hp => ?_
    simp only [Function.comp, List.map_map]
    rw [← pieces_shape c hcap i p (hb p hp).1.2]
    apply List.map_congr_left
    intro m hmm
    have hs := (pieces_mem c hcap _ _ m hmm).2.2.2.2.1
    simp only [Function.comp, toH, HMsg.forget, msgHeader_seg _ _ _ hs]
  · rw [groupsOf, List.map_map]
    exact zip_map batch _ _ fun i p hp => pieces_hdrs c hcap i p (hb p hp).1.2
  · intro g hg
    unfold groupsOf at hg
    obtain ⟨ip, hip, rfl⟩ := List.mem_map.mp hg
    have hp := hb _ (List.of_mem_zip hip).2
    rw [ne_eq, List.map_eq_nil_iff]
    exact pieces_ne_nil c hcap ip.1 ip.2 hp.1.2 hp.2
  · intro f hf m hmm
    simp only [List.mem_map] at hf
    obtain ⟨g, hg, rfl⟩ := hf
    simp only [shapeH, List.mem_map] at hmm
    obtain ⟨x, hx, rfl⟩ := hmm
    exact (hm g hg x hx).1

/-! ### the same as a decidable predicate on what `tileFrames` returns (so that it can be run, and its negation exhibited) -/

/-- consume from `ms` the messages whose bodies, all non-empty, are consecutive pieces of `rem`; what is left of `ms` -/
def eat : List SMsg → Bytes → Option (List SMsg)
  | [], rem => if rem.isEmpty then some [] else none
  | m :: ms, rem =>
    if rem.isEmpty then some (m :: ms)
    else if m.body.isEmpty then none
    else if rem.take m.body.length = m.body then eat ms (rem.drop m.body.length) else none

/-- the message list splits into consecutive groups, one per payload (in order), each a cut of that payload into non-empty
    bodies -/
def splitOk : List Bytes → List SMsg → Bool
  | [], ms => ms.isEmpty
  | p :: ps, ms =>
    if p.isEmpty then false
    else match eat ms p with
      | none => false
      | some rest => splitOk ps rest

/-- `P_C07` and, in addition: no header-only message; the messages split per packet -/
def P_C07S (c : Ctx) (payloads : List Bytes) (fs : List SFrame) : Bool :=
  P_C07 c payloads fs &&
  fs.all (fun f => f.msgs.all (fun m => decide (1 ≤ m.body.length))) &&
  splitOk payloads (fs.flatMap (·.msgs))

theorem eat_group (g rest : List SMsg) (hg : ∀ m ∈ g, m.body ≠ []) :
    eat (g ++ rest) ((g.map (·.body)).flatten) = some rest := by
  induction g with
  | nil => cases rest <;> simp [eat]
  | cons m g ih =>
    have hm := hg m (by simp)
    have hne : (m.body ++ (g.map (·.body)).flatten) ≠ [] := by simp [hm]
    simp only [List.cons_append, List.map_cons, List.flatten_cons, eat]
    rw [if_neg (by simpa using hne), if_neg (by simpa using hm), if_pos (List.take_left' rfl), List.drop_left' rfl]
    exact ih (fun x hx => hg x (by simp [hx]))

theorem splitOk_of_groups (groups : List (List SMsg)) (h1 : ∀ g ∈ groups, g ≠ []) (h2 : ∀ g ∈ groups, ∀ m ∈ g, m.body ≠ []) :
    splitOk (groups.map (fun g => (g.map (·.body)).flatten)) groups.flatten = true := by
  induction groups with
  | nil => rfl
  | cons g gs ih =>
    simp only [List.map_cons, List.flatten_cons, splitOk]
    have hne : ((g.map (·.body)).flatten) ≠ [] := by
      have hg := h1 g (by simp)
      cases g with
      | nil => exact absurd rfl hg
      | cons m g' =>
        have := h2 (m :: g') (by simp) m (by simp)
        simp [this]
    rw [if_neg (by simpa using hne), eat_group g gs.flatten (h2 g (by simp))]
    exact ih (fun x hx => h1 x (by simp [hx])) (fun x hx => h2 x (by simp [hx]))

/-- the per-packet split as a verdict on bytes: the registered tiler, run on the frames `encode` returns, succeeds and the STRENGTHENED
    predicate holds (same quantifier as the property) -/
theorem C07_strong_bytes (e : Enc) (batch : List Packet) (c : Ctx) (hc : c.ok = true)
    (hb : ∀ p ∈ batch, p.Enc ∧ 1 ≤ p.data.length) :
    ∃ fs, tileFrames ((e.encode batch c).2.map (EFrame.bytes c.min)) = some fs ∧
      P_C07S c (batch.map Packet.data) fs = true ∧
      P_C08 c (batch.map fun p => (p.mt, p.data.length)) fs = true := by
  obtain ⟨hcap, _, _⟩ := Ctx.ok_cap hc
  have hm := encode_msgs_ok e batch c hc
  refine ⟨_, tileFrames_bytes c.min _ hm, ?_, C08_seg_rules e batch c hc hb⟩
  unfold P_C07S
  rw [C07_frames_wf e batch c hc (fun p hp => (hb p hp).1), Bool.true_and, Bool.and_eq_true]
  constructor
  · rw [List.all_eq_true]
    intro g hg
    obtain ⟨f, hf, rfl⟩ := List.mem_map.mp hg
    rw [List.all_eq_true]
    intro x hx
    obtain ⟨m, hmm, rfl⟩ := List.mem_map.mp hx
    exact decide_eq_true (hm f hf m hmm).1
  · -- the group of a packet: its pieces as the tiler finds them
    have hsh := shape_flatMap c.min id (e.encode batch c).2
    simp only [List.map_id, id_eq] at hsh
    have e1 : ((e.encode batch c).2.map (EFrame.shape c.min)).flatMap (·.msgs) =
        (((List.range batch.length).zip batch).map
          fun ip => (pieces c ip.1 ip.2).map fun m => (⟨m.seg, m.body⟩ : SMsg)).flatten := by
      rw [hsh, (encode_spec e batch c hcap).2.1, List.map_flatMap, List.flatMap_def]
    have e2 : batch.map Packet.data =
        (((List.range batch.length).zip batch).map
          fun ip => (pieces c ip.1 ip.2).map fun m => (⟨m.seg, m.body⟩ : SMsg)).map
            (fun g => (g.map (·.body)).flatten) := by
      rw [List.map_map]
      refine (zip_map batch _ _ fun i p hp => ?_).symm
      simp only [Function.comp, List.map_map]
      exact pieces_body c hcap i p (hb p hp).1.2
    rw [e1, e2]
    apply splitOk_of_groups
    · intro g hg
      obtain ⟨ip, hip, rfl⟩ := List.mem_map.mp hg
      have hp := hb _ (List.of_mem_zip hip).2
      rw [ne_eq, List.map_eq_nil_iff]
      exact pieces_ne_nil c hcap ip.1 ip.2 hp.1.2 hp.2
    · intro g hg x hx
      obtain ⟨ip, hip, rfl⟩ := List.mem_map.mp hg
      obtain ⟨m, hmm, rfl⟩ := List.mem_map.mp hx
      have := (pieces_mem c hcap _ _ m hmm).2.1
      exact fun h0 => by rw [show m.body = [] from h0] at this; simp at this

/-- `frame_length` about the frames the ENCODER returns, not about an arbitrary `EFrame`: frame `i` returned
    by `encode` has exactly `max (8 + Σ (16 + declared length of message k), min)` bytes, where the messages are those the
    independent tiler finds in it; that is at least `min`, at most `max`, and at least 25 (a header, one message header, one
    payload byte).  (Holds for every batch whatsoever: a packet without payload or with an empty
    payload contributes no message, a payload of 2^16 bytes or more is cut to its length mod 2^16 by `getPayloadLength()`.) -/
theorem C07_frame_lengths (e : Enc) (batch : List Packet) (c : Ctx) (hc : c.ok = true) :
    ∃ fs, tileFrames ((e.encode batch c).2.map (EFrame.bytes c.min)) = some fs ∧
      ((e.encode batch c).2.map (EFrame.bytes c.min)).map List.length = fs.map (fun f => max (8 + f.used) c.min) ∧
      ∀ b ∈ (e.encode batch c).2.map (EFrame.bytes c.min), c.min ≤ b.length ∧ b.length ≤ c.max ∧ 25 ≤ b.length := by
  obtain ⟨hcap, hmax, hmin⟩ := Ctx.ok_cap hc
  obtain ⟨hok, _, _⟩ := encode_spec e batch c hcap
  have hm := encode_msgs_ok e batch c hc
  refine ⟨_, tileFrames_bytes c.min _ hm, ?_, ?_⟩
  · rw [List.map_map, List.map_map]
    apply List.map_congr_left
    intro f _
    simp only [Function.comp, EFrame.bytes_length, shape_used]
  · intro b hb'
    obtain ⟨f, hf, rfl⟩ := List.mem_map.mp hb'
    rw [EFrame.bytes_length]
    have hu := (hok f hf).1.used
    have hne := (hok f hf).2
    have h17 : 17 ≤ f.used := by
      cases hms : f.msgs with
      | nil => exact absurd hms hne
      | cons m ms =>
        have := (hm f hf m (by simp [hms])).1
        simp only [EFrame.used, hms, List.map_cons, List.sum_cons, EMsg.size]
        omega
    omega

/-! ## §5  one end-to-end statement for the TRANSLATED SOURCE, from ANY encoder object -/

open AsamCmp.SrcEnc

/-- the structured encoder an arbitrary record of data members stands for between calls: ids, counter, message type.  The scratch
    members (`cmpFrames`, `cmpFrameTemplate`, `bytesLeft`, `min/maxBytesPerMessage`) do not enter. -/
def encOf (s : Encoder_St) : Enc :=
  { dev := s.f_deviceId, stream := s.f_streamId, seqc := s.f_sequenceCounter, curMt := s.f_messageType }

/-- `EncLL.encode` depends on the state it is called on only through dev / stream / seqc / mt —
    whatever an earlier (even aborted) call left in `frames`, `tmpl`, `bytesLeft`, `min`, `max` is erased by `init`.  For EVERY
    low-level state `l`, batch and configuration (no hypothesis at all). -/
theorem encodeLL_state_indep (l : EncLL) (batch : List Packet) (c : Ctx) :
    l.encode batch c =
      (Enc.toLL { dev := l.dev, stream := l.stream, seqc := l.seqc, curMt := l.mt }).encode batch c := rfl

theorem toLL_encode_eq (s : Encoder_St) (batch : List Packet) (c : Ctx) :
    (toLL s).encode batch c = (encOf s).toLL.encode batch c := rfl

/-- the translated `encode` overloads, from ANY record of data members `s` (stale frames, template, `bytesLeft` included; no
    `Reg s`, no bound on the counter): defined, and the frames are the serialised frames of the structured model started from
    `encOf s`; the scratch members are clean afterwards -/
theorem src_encode_any (s : Encoder_St) (batch : List Packet) (c : Ctx) (fuel : Nat)
    (hc : c.ok = true) (hmax : c.max < 2 ^ 32) (hb : ∀ p ∈ batch, p.Enc) (hf : 65536 ≤ fuel) :
    ∃ s', Encoder_encode_range_obj fuel s (batch.map pktIn) c.min c.max
            = some (s', ((encOf s).encode batch c).2.map (EFrame.bytes c.min)) ∧
      Encoder_encode_ptrRange_obj fuel s (batch.map pktIn) c.min c.max
            = some (s', ((encOf s).encode batch c).2.map (EFrame.bytes c.min)) ∧
      s'.f_sequenceCounter = ((encOf s).encode batch c).1.seqc ∧
      s'.f_messageType = ((encOf s).encode batch c).1.curMt ∧
      s'.f_deviceId = s.f_deviceId ∧ s'.f_streamId = s.f_streamId ∧
      s'.f_cmpFrames = [] ∧ s'.f_cmpFrameTemplate = [] ∧ s'.f_bytesLeft = 0 := by
  obtain ⟨h1, h2⟩ := encodeRange_src s batch c fuel hc hmax hf
  obtain ⟨r1, r2, r3, r4, r5, r6, r7⟩ := C07b.encode_R (encOf s) batch c hc hb
  rw [toLL_encode_eq] at h1 h2
  refine ⟨ofLL ((encOf s).toLL.encode batch c).1, ?_, ?_, r2, r3, r4, r5, r6, r7, rfl⟩
  · rw [h1, r1]
  · rw [h2, r1]

/-- THE end-to-end sentence of C07 for the translated source.

    For every record of data members `s` of an `Encoder` object (ANY: whatever earlier calls, complete or aborted, left behind),
    every batch of packets with a payload of 1..65535 bytes ("payload length 1..65535"), every configuration with
    25 ≤ max and min ≤ max ("25 <= maximum and minimum <= maximum"; `max < 2^32` is implied by the property's
    "max <= 65535+24" and is the width of the C++ field; `fuel` is the translation's bound on loop iterations):

    both iterator-range overloads of `Encoder::encode`, as translated from the C++, are defined, return the same byte vectors
    `frames`, and for these
    * the independent tiler succeeds and `P_C07S` (= `P_C07` + no header-only message + per-packet split) and `P_C08` hold;
    * the header-keeping tiler finds in frame `i` exactly the capture-module header with the OBJECT's device id, stream id and
      counter `(sequenceCounter + i + 1) mod 2^16`, the version of a packet of the batch, and the message type of the packets
      whose (exact) message headers follow;
    * frame `i` has exactly `max (8 + used, min)` bytes, between `min` and `max`;
    * nothing stale is returned or kept: `cmpFrames`, `cmpFrameTemplate` empty afterwards. -/
theorem C07_src_end_to_end (s : Encoder_St) (batch : List Packet) (c : Ctx) (fuel : Nat)
    (hc : c.ok = true) (hmax : c.max < 2 ^ 32) (hb : ∀ p ∈ batch, p.Enc ∧ 1 ≤ p.data.length) (hf : 65536 ≤ fuel) :
    ∃ (s' : Encoder_St) (frames : List Bytes) (hfs : List HFrame),
      Encoder_encode_range_obj fuel s (batch.map pktIn) c.min c.max = some (s', frames) ∧
      Encoder_encode_ptrRange_obj fuel s (batch.map pktIn) c.min c.max = some (s', frames) ∧
      tileFramesH frames = some hfs ∧
      tileFrames frames = some (hfs.map HFrame.forget) ∧
      P_C07 c (batch.map Packet.data) (hfs.map HFrame.forget) = true ∧
      P_C07S c (batch.map Packet.data) (hfs.map HFrame.forget) = true ∧
      P_C08 c (batch.map fun p => (p.mt, p.data.length)) (hfs.map HFrame.forget) = true ∧
      (∀ i (h : i < hfs.length), ∃ p ∈ batch, ∃ mt,
        hfs[i].hdr = frameHeader (p.version % 256) s.f_deviceId mt s.f_streamId ((s.f_sequenceCounter + i + 1) % 65536) ∧
        hfs[i].msgs ≠ [] ∧
        ∀ hm ∈ hfs[i].msgs, ∃ q ∈ batch, q.mt = mt ∧ ∃ seg, (seg = 0 ∨ seg = 4 ∨ seg = 8 ∨ seg = 12) ∧
          hm.hdr = msgHeader q seg hm.body.length ∧ 1 ≤ hm.body.length ∧ hm.body.length < 65536) ∧
      hfs.flatMap (fun f => f.msgs.map (·.hdr)) =
        batch.flatMap (fun p => (pieceShape c.cap p.data.length).map fun sl => msgHeader p sl.1 sl.2) ∧
      frames.map List.length = hfs.map (fun f => max (8 + f.forget.used) c.min) ∧
      (∀ b ∈ frames, c.min ≤ b.length ∧ b.length ≤ c.max ∧ 25 ≤ b.length) ∧
      s'.f_cmpFrames = [] ∧ s'.f_cmpFrameTemplate = [] ∧
      s'.f_deviceId = s.f_deviceId ∧ s'.f_streamId = s.f_streamId := by
  obtain ⟨s', e1, e2, _, _, e5, e6, e7, e8, _⟩ := src_encode_any s batch c fuel hc hmax (fun p hp => (hb p hp).1) hf
  obtain ⟨hfs, w1, w2, w3, w4, w5, w6⟩ := C07_wire_headers (encOf s) batch c hc hb
  obtain ⟨fs, t1, t2, _⟩ := C07_strong_bytes (encOf s) batch c hc hb
  obtain ⟨fs', l1, l2, l3⟩ := C07_frame_lengths (encOf s) batch c hc
  rw [w2] at t1 l1
  cases Option.some.inj t1
  cases Option.some.inj l1
  have l2' : (((encOf s).encode batch c).2.map (EFrame.bytes c.min)).map List.length =
      hfs.map (fun f => max (8 + f.forget.used) c.min) := by
    rw [l2, List.map_map]; rfl
  exact ⟨s', _, hfs, e1, e2, w1, w2, w3, t2, w4, w5, w6, l2', l3, e7, e8, e5, e6⟩

/-- the single-packet overload `encode(const Packet&, const DataContext&)`, from ANY encoder object -/
theorem C07_src_single (s : Encoder_St) (p : Packet) (c : Ctx) (fuel : Nat)
    (hc : c.ok = true) (hmax : c.max < 2 ^ 32) (hp : p.Enc ∧ 1 ≤ p.data.length) (hf : 65536 ≤ fuel) :
    ∃ (s' : Encoder_St) (frames : List Bytes) (fs : List SFrame),
      Encoder_encode_obj fuel s (pktIn p) c.min c.max = some (s', frames) ∧
      tileFrames frames = some fs ∧
      P_C07S c [p.data] fs = true ∧ P_C08 c [(p.mt, p.data.length)] fs = true ∧
      (∀ b ∈ frames, c.min ≤ b.length ∧ b.length ≤ c.max ∧ 25 ≤ b.length) ∧
      s'.f_cmpFrames = [] ∧ s'.f_cmpFrameTemplate = [] := by
  have h := encode1_src_gen s p c fuel hc hmax hf
  have hb : ∀ q ∈ [p], q.Enc ∧ 1 ≤ q.data.length := by
    intro q hq; rw [List.mem_singleton.mp hq]; exact hp
  obtain ⟨r1, _, _, _, _, r6, r7⟩ := C07b.encode_R (encOf s) [p] c hc (fun q hq => (hb q hq).1)
  obtain ⟨fs, t1, t2, t3⟩ := C07_strong_bytes (encOf s) [p] c hc hb
  obtain ⟨fs', _, _, l3⟩ := C07_frame_lengths (encOf s) [p] c hc
  rw [toLL_encode_eq, r1] at h
  exact ⟨_, _, fs, h, t1, t2, t3, l3, r6, r7⟩

/-- C07 / C08 for the LOW-LEVEL model started from ANY low-level state `l` (not only from `e.toLL`), without `seqc < 65536` -/
theorem C07_lowlevel_any (l : EncLL) (batch : List Packet) (c : Ctx) (hc : c.ok = true)
    (hb : ∀ p ∈ batch, p.Enc ∧ 1 ≤ p.data.length) :
    ∃ fs, tileFrames (l.encode batch c).2 = some fs ∧
      P_C07S c (batch.map Packet.data) fs = true ∧
      P_C08 c (batch.map fun p => (p.mt, p.data.length)) fs = true ∧
      (l.encode batch c).1.frames = [] ∧ (l.encode batch c).1.tmpl = [] ∧
      (l.encode batch c).1.dev = l.dev ∧ (l.encode batch c).1.stream = l.stream := by
  rw [encodeLL_state_indep]
  obtain ⟨r1, _, _, r4, r5, r6, r7⟩ :=
    C07b.encode_R { dev := l.dev, stream := l.stream, seqc := l.seqc, curMt := l.mt } batch c hc (fun p hp => (hb p hp).1)
  obtain ⟨fs, t1, t2, t3⟩ :=
    C07_strong_bytes { dev := l.dev, stream := l.stream, seqc := l.seqc, curMt := l.mt } batch c hc hb
  rw [r1]
  exact ⟨fs, t1, t2, t3, r6, r7, r4, r5⟩

/-- clause (8) on the translated source: an empty range produces no frames and leaves ids and counter alone — from ANY object -/
theorem C07_src_empty (s : Encoder_St) (c : Ctx) (fuel : Nat)
    (hc : c.ok = true) (hmax : c.max < 2 ^ 32) (hf : 65536 ≤ fuel) :
    ∃ s', Encoder_encode_range_obj fuel s [] c.min c.max = some (s', []) ∧
      Encoder_encode_ptrRange_obj fuel s [] c.min c.max = some (s', []) ∧
      s'.f_sequenceCounter = s.f_sequenceCounter ∧ s'.f_deviceId = s.f_deviceId ∧ s'.f_streamId = s.f_streamId ∧
      s'.f_messageType = s.f_messageType ∧ s'.f_cmpFrames = [] ∧ s'.f_cmpFrameTemplate = [] := by
  obtain ⟨h1, h2⟩ := encodeRange_src s [] c fuel hc hmax hf
  exact ⟨_, h1, h2, rfl, rfl, rfl, rfl, rfl, rfl⟩

/-- two encoder objects that agree on device id, stream id, sequence counter and
    message type return the same frames for the same batch and configuration, whatever else (stale frames of an aborted call,
    an old template, `bytesLeft`, the previous `min` / `max`) they hold -/
theorem src_stale_state_irrelevant (s t : Encoder_St) (batch : List Packet) (c : Ctx) (fuel : Nat)
    (hc : c.ok = true) (hmax : c.max < 2 ^ 32) (hf : 65536 ≤ fuel)
    (hd : s.f_deviceId = t.f_deviceId) (hs : s.f_streamId = t.f_streamId)
    (hq : s.f_sequenceCounter = t.f_sequenceCounter) (hm : s.f_messageType = t.f_messageType) :
    Encoder_encode_range_obj fuel s (batch.map pktIn) c.min c.max =
      Encoder_encode_range_obj fuel t (batch.map pktIn) c.min c.max := by
  rw [(encodeRange_src s batch c fuel hc hmax hf).1, (encodeRange_src t batch c fuel hc hmax hf).1,
    toLL_encode_eq, toLL_encode_eq]
  simp only [encOf, hd, hs, hq, hm]

/-! ## §6  non-vacuity — everything below is COMPUTED by the kernel on literal inputs

  One batch that exercises every interesting branch at once, on an encoder with history (`seqc = 65534`, last message type 3):
  a 1-byte payload (frame padded from 25 to min = 64), a 200-byte payload (segmented over THREE frames: first / intermediary /
  last; the last one is 72 bytes: longer than min, so no padding; the empty frame opened behind the last segment is dropped and
  its counter given back), a change of message type (new frame), two small packets aggregated in one frame (padding 19), and
  the 16-bit counter wrapping 65535 → 0. -/
namespace Ex

def pk (mt ts : Nat) (d : Bytes) : Packet :=
  { payload := some ⟨mt * 256 + 1, d⟩, ts := ts, ifId := 0x0A0B0C0D, vendorId := 0x1234, flags := 0xFF, version := 2,
    deviceId := 99, streamId := 98 }
def ramp (n : Nat) : Bytes := (List.range n).map UInt8.ofNat
def e0 : Enc := { dev := 5, stream := 7, seqc := 65534, curMt := 3 }
def b0 : List Packet := [pk 1 0x0102030405060708 [9], pk 1 1 (ramp 200), pk 3 2 [1, 2, 3], pk 3 3 [4, 5]]
def c0 : Ctx := ⟨64, 100⟩

instance (p : Packet) : Decidable p.Enc := by unfold Packet.Enc; exact inferInstance

/-- the hypotheses of the theorems of this file (and of `C07_C08_bytes`) hold of the example -/
theorem c0_ok : c0.ok = true := by decide
theorem b0_ok : ∀ p ∈ b0, p.Enc ∧ 1 ≤ p.data.length := by decide +kernel

/-- the five frames, written out: header bytes literally, payload bytes as slices of the ramp -/
def frames0 : List Bytes :=
  [ [2, 0, 0, 5, 1, 7, 255, 255,   1, 2, 3, 4, 5, 6, 7, 8, 10, 11, 12, 13, 0xF3, 1, 0, 1,   9] ++ zeros 39,
    [2, 0, 0, 5, 1, 7, 0, 0,       0, 0, 0, 0, 0, 0, 0, 1, 10, 11, 12, 13, 0xF7, 1, 0, 76] ++ (ramp 200).take 76,
    [2, 0, 0, 5, 1, 7, 0, 1,       0, 0, 0, 0, 0, 0, 0, 1, 10, 11, 12, 13, 0xFB, 1, 0, 76] ++ ((ramp 200).drop 76).take 76,
    [2, 0, 0, 5, 1, 7, 0, 2,       0, 0, 0, 0, 0, 0, 0, 1, 10, 11, 12, 13, 0xFF, 1, 0, 48] ++ (ramp 200).drop 152,
    [2, 0, 0, 5, 3, 7, 0, 3,       0, 0, 0, 0, 0, 0, 0, 2, 0, 0, 0x12, 0x34, 0xF3, 1, 0, 3,   1, 2, 3,
                                   0, 0, 0, 0, 0, 0, 0, 3, 0, 0, 0x12, 0x34, 0xF3, 1, 0, 2,   4, 5] ++ zeros 19 ]

/-- one evaluation of the structured model on the example: the serialised frames and the state afterwards -/
theorem run0 : (e0.encode b0 c0).2.map (EFrame.bytes c0.min) = frames0 ∧
    (e0.encode b0 c0).1.seqc = 3 ∧ (e0.encode b0 c0).1.curMt = 3 := by decide +kernel
/-- one evaluation of the low-level model -/
theorem runLL0 : (e0.toLL.encode b0 c0).2 = frames0 := by decide +kernel

/-- the structured model (`Enc.encode`, serialised) and the low-level model (`EncLL.encode`) both compute exactly these bytes -/
example : (e0.encode b0 c0).2.map (EFrame.bytes c0.min) = frames0 := run0.1
example : (e0.toLL.encode b0 c0).2 = frames0 := runLL0
example : frames0.map List.length = [64, 100, 100, 72, 64] := by decide +kernel
/-- … and leave the counter at 3 = (65534 + 5) mod 2^16, message type 3 -/
example : (e0.encode b0 c0).1.seqc = 3 ∧ (e0.encode b0 c0).1.curMt = 3 := run0.2
/-- a stale low-level state (frames, template, bytesLeft, other min/max left behind) changes nothing (`encodeLL_state_indep`) -/
example : (({ e0.toLL with frames := [[1, 2, 3], []], tmpl := [7], bytesLeft := 11, min := 3, max := 9 } : EncLL).encode b0 c0).2
    = frames0 := by
  rw [encodeLL_state_indep]
  exact runLL0

/-- the five frames as the registered tiler finds them -/
def tiled0 : List SFrame :=
  [ ⟨1, [⟨0, [9]⟩], 39, 64⟩,
    ⟨1, [⟨4, (ramp 200).take 76⟩], 0, 100⟩,
    ⟨1, [⟨8, ((ramp 200).drop 76).take 76⟩], 0, 100⟩,
    ⟨1, [⟨12, (ramp 200).drop 152⟩], 0, 72⟩,
    ⟨3, [⟨0, [1, 2, 3]⟩, ⟨0, [4, 5]⟩], 19, 64⟩ ]
theorem tile0 : tileFrames frames0 = some tiled0 := by decide +kernel

/-- what the registered tiler finds -/
example : tileFrames frames0 = some
    [ ⟨1, [⟨0, [9]⟩], 39, 64⟩,
      ⟨1, [⟨4, (ramp 200).take 76⟩], 0, 100⟩,
      ⟨1, [⟨8, ((ramp 200).drop 76).take 76⟩], 0, 100⟩,
      ⟨1, [⟨12, (ramp 200).drop 152⟩], 0, 72⟩,
      ⟨3, [⟨0, [1, 2, 3]⟩, ⟨0, [4, 5]⟩], 19, 64⟩ ] := tile0

/-- what the header-keeping tiler finds: the header bytes are the encoder's ids 5 / 7 (NOT the packets' 99 / 98), version 2,
    counters 65535, 0, 1, 2, 3, and each packet's own timestamp / interface id (type 1) or vendor id (type 3) / flags -/
example : tileFramesH frames0 = some
    [ ⟨[2, 0, 0, 5, 1, 7, 255, 255], [⟨[1, 2, 3, 4, 5, 6, 7, 8, 10, 11, 12, 13, 0xF3, 1, 0, 1], [9]⟩], 39, 64⟩,
      ⟨[2, 0, 0, 5, 1, 7, 0, 0], [⟨[0, 0, 0, 0, 0, 0, 0, 1, 10, 11, 12, 13, 0xF7, 1, 0, 76], (ramp 200).take 76⟩], 0, 100⟩,
      ⟨[2, 0, 0, 5, 1, 7, 0, 1], [⟨[0, 0, 0, 0, 0, 0, 0, 1, 10, 11, 12, 13, 0xFB, 1, 0, 76], ((ramp 200).drop 76).take 76⟩], 0, 100⟩,
      ⟨[2, 0, 0, 5, 1, 7, 0, 2], [⟨[0, 0, 0, 0, 0, 0, 0, 1, 10, 11, 12, 13, 0xFF, 1, 0, 48], (ramp 200).drop 152⟩], 0, 72⟩,
      ⟨[2, 0, 0, 5, 3, 7, 0, 3], [⟨[0, 0, 0, 0, 0, 0, 0, 2, 0, 0, 0x12, 0x34, 0xF3, 1, 0, 3], [1, 2, 3]⟩,
                                  ⟨[0, 0, 0, 0, 0, 0, 0, 3, 0, 0, 0x12, 0x34, 0xF3, 1, 0, 2], [4, 5]⟩], 19, 64⟩ ] := by
  decide +kernel

/-- the header the theorem predicts for frame 0, as a literal -/
example : frameHeader (2 % 256) e0.dev 1 e0.stream ((e0.seqc + 0 + 1) % 65536) = [2, 0, 0, 5, 1, 7, 255, 255] := by decide
example : frameHeader (2 % 256) e0.dev 3 e0.stream ((e0.seqc + 4 + 1) % 65536) = [2, 0, 0, 5, 3, 7, 0, 3] := by decide
/-- the message headers the theorem predicts, as literals -/
example : b0.flatMap (fun p => (pieceShape c0.cap p.data.length).map fun sl => msgHeader p sl.1 sl.2) =
    [ [1, 2, 3, 4, 5, 6, 7, 8, 10, 11, 12, 13, 0xF3, 1, 0, 1],
      [0, 0, 0, 0, 0, 0, 0, 1, 10, 11, 12, 13, 0xF7, 1, 0, 76],
      [0, 0, 0, 0, 0, 0, 0, 1, 10, 11, 12, 13, 0xFB, 1, 0, 76],
      [0, 0, 0, 0, 0, 0, 0, 1, 10, 11, 12, 13, 0xFF, 1, 0, 48],
      [0, 0, 0, 0, 0, 0, 0, 2, 0, 0, 0x12, 0x34, 0xF3, 1, 0, 3],
      [0, 0, 0, 0, 0, 0, 0, 3, 0, 0, 0x12, 0x34, 0xF3, 1, 0, 2] ] := by decide +kernel
example : b0.map (fun p => pieceShape c0.cap p.data.length) =
    [[(0, 1)], [(4, 76), (8, 76), (12, 48)], [(0, 3)], [(0, 2)]] := by decide +kernel

/-- the predicates evaluate to `true` on the tiler's output … -/
example : (tileFrames frames0).map (P_C07 c0 (b0.map Packet.data)) = some true := by rw [tile0]; decide +kernel
example : (tileFrames frames0).map (P_C07S c0 (b0.map Packet.data)) = some true := by rw [tile0]; decide +kernel
example : (tileFrames frames0).map (P_C08 c0 (b0.map fun p => (p.mt, p.data.length))) = some true := by
  rw [tile0]; decide +kernel

/-- … and the theorems of this file apply to the example -/
example := C07_wire_headers e0 b0 c0 c0_ok b0_ok
example := C07_per_packet e0 b0 c0 c0_ok b0_ok
example := C07_strong_bytes e0 b0 c0 c0_ok b0_ok
example := C07_frame_lengths e0 b0 c0 c0_ok

/-- an `Encoder` object with garbage in every scratch member (as an aborted call could leave it) -/
def s0 : Encoder_St :=
  ofLL { min := 3, max := 9, dev := 5, stream := 7, tmpl := [7, 7], bytesLeft := 11, seqc := 65534, mt := 3,
         frames := [[1, 2, 3], []] }
example := C07_src_end_to_end s0 b0 c0 65536 c0_ok (by decide) b0_ok (by decide)
example := C07_src_single s0 (pk 1 1 (ramp 200)) c0 65536 c0_ok (by decide) (by decide +kernel) (by decide)
example := C07_src_empty s0 c0 65536 c0_ok (by decide) (by decide)
example : encOf s0 = e0 := rfl
example := C07_lowlevel_any (toLL s0) b0 c0 c0_ok b0_ok

/-- one evaluation of the translated iterator-range overload on that object and batch: the frames and the members afterwards -/
theorem src0 : (Encoder_encode_range_obj 65536 s0 (b0.map pktIn) 64 100).map (·.2) = some frames0 ∧
    (Encoder_encode_range_obj 65536 s0 (b0.map pktIn) 64 100).map
      (fun r => (r.1.f_cmpFrames, r.1.f_cmpFrameTemplate, r.1.f_bytesLeft, r.1.f_sequenceCounter, r.1.f_deviceId, r.1.f_streamId))
    = some ([], [], 0, 3, 5, 7) := by decide +kernel

/-- and the TRANSLATED SOURCE itself, run by the kernel on that object and batch, returns exactly the five frames written out
    above (both range overloads), with clean scratch members, counter 3, ids kept -/
example : (Encoder_encode_range_obj 65536 s0 (b0.map pktIn) 64 100).map (·.2) = some frames0 := src0.1
example : (Encoder_encode_ptrRange_obj 65536 s0 (b0.map pktIn) 64 100).map (·.2) = some frames0 := by decide +kernel
example : (Encoder_encode_range_obj 65536 s0 (b0.map pktIn) 64 100).map
      (fun r => (r.1.f_cmpFrames, r.1.f_cmpFrameTemplate, r.1.f_bytesLeft, r.1.f_sequenceCounter, r.1.f_deviceId, r.1.f_streamId))
    = some ([], [], 0, 3, 5, 7) := src0.2
/-- the single-packet overload on the 200-byte packet: three frames (counters 65535, 0, 1) -/
example : (Encoder_encode_obj 65536 s0 (pktIn (pk 1 1 (ramp 200))) 64 100).map (fun r => r.2.map List.length)
    = some [100, 100, 72] := by decide +kernel
/-- the empty range -/
example : (Encoder_encode_range_obj 65536 s0 [] 64 100).map (·.2) = some [] := by decide +kernel

/-! ### the predicates discriminate: corrupted frames are rejected -/

/-- one padding byte of frame 0 set to 1: the tiler fails -/
example : tileFrames [writeAt (frames0.getD 0 []) 63 [1]] = none := by decide +kernel
/-- padding byte 40 set to 1: the tiler reads it as the length field of a further message (body: one zero byte), so it does not
    fail, but the byte-conservation clause of `P_C07` does -/
example : (tileFrames [writeAt (frames0.getD 0 []) 40 [1]]).map (P_C07 c0 [[9]]) = some false := by decide +kernel
/-- frame 0 cut to min - 1 = 63 bytes: tiles (25 bytes + 38 zeros), but `P_C07` is false (shorter than min) -/
example : (tileFrames [(frames0.getD 0 []).take 63]).map (P_C07 c0 [[9]]) = some false := by decide +kernel
/-- frame 0 padded one byte beyond min: `P_C07` is false (padding although longer than min) -/
example : (tileFrames [frames0.getD 0 [] ++ [0]]).map (P_C07 c0 [[9]]) = some false := by decide +kernel
/-- frame 0 alone does satisfy it (so the three verdicts above are due to the corruption) -/
example : (tileFrames [frames0.getD 0 []]).map (P_C07 c0 [[9]]) = some true := by decide +kernel
/-- a frame of max + 1 bytes is rejected -/
example : (tileFrames [[2, 0, 0, 5, 1, 7, 0, 0,  0, 0, 0, 0, 0, 0, 0, 1, 10, 11, 12, 13, 0xF3, 1, 0, 77] ++ ramp 77]).map
    (P_C07 c0 [ramp 77]) = some false := by decide +kernel
/-- a lost payload byte (declared 76, only 75 present, nothing behind): the tiler fails -/
example : tileFrame ((frames0.getD 1 []).take 99) = none := by decide +kernel
/-- two payload bytes swapped: `P_C07` is false -/
example : (tileFrames (frames0.take 4 |>.map fun b => if b.length = 72 then writeAt b 24 [153, 152] else b)).map
    (P_C07 c0 ((b0.take 2).map Packet.data)) = some false := by decide +kernel
example : (tileFrames (frames0.take 4)).map (P_C07 c0 ((b0.take 2).map Packet.data)) = some true := by decide +kernel

/-! ### what `P_C07` / `P_C08` on their own do not see, and the statements of this file do -/

/-- header bytes: overwrite device id, stream id, counter, reserved byte and version of frame 0 and the timestamp of its
    message — the registered tiler returns the very same `SFrame`, so `P_C07` and `P_C08` cannot notice … -/
def frame0_bad : Bytes := writeAt (writeAt (frames0.getD 0 []) 0 [9, 9, 9, 9]) 5 [9, 9, 9, 9, 9, 9]
theorem P_C07_blind_to_headers : tileFrame frame0_bad = tileFrame (frames0.getD 0 []) ∧ frame0_bad ≠ frames0.getD 0 [] := by
  decide +kernel
/-- … while the header-keeping tiler sees it, and `C07_wire_headers` excludes it (the header must be `frameHeader …`) -/
example : (tileFrameH frame0_bad).map (·.hdr) = some [9, 9, 9, 9, 1, 9, 9, 9] := by decide +kernel
example : (tileFrameH (frames0.getD 0 [])).map (·.hdr) = some [2, 0, 0, 5, 1, 7, 255, 255] := by decide +kernel

/-- packet boundaries (a): a frame whose only message is header-only (length 0), the payload following in the next frame:
    `P_C07` ALONE says true; `P_C07S` says false -/
def hdrOnly : List Bytes :=
  [ [2, 0, 0, 5, 1, 7, 0, 1,  0, 0, 0, 0, 0, 0, 0, 1, 0, 0, 0, 0, 0, 1, 0, 0] ++ zeros 40,
    [2, 0, 0, 5, 1, 7, 0, 2,  0, 0, 0, 0, 0, 0, 0, 1, 0, 0, 0, 0, 0, 1, 0, 1,  9] ++ zeros 39 ]
theorem P_C07_alone_accepts_header_only :
    (tileFrames hdrOnly).map (P_C07 c0 [[9]]) = some true ∧ (tileFrames hdrOnly).map (P_C07S c0 [[9]]) = some false := by
  decide +kernel

/-- packet boundaries (a'); it is NOT so that non-zero padding makes `tileFrames = none` or `P_C07 = false`: set the
    FIRST padding byte of frame 0 to 1.  The tiler reads the 16 bytes as a header-only message, the rest
    as padding, and `P_C07` ALONE says true — non-zero "padding" accepted.  `P_C07S` (and `P_C08`) say false. -/
theorem P_C07_alone_accepts_nonzero_padding :
    (tileFrames [writeAt (frames0.getD 0 []) 25 [1]]).map (P_C07 c0 [[9]]) = some true ∧
    (tileFrames [writeAt (frames0.getD 0 []) 25 [1]]).map (P_C07S c0 [[9]]) = some false ∧
    (tileFrames [writeAt (frames0.getD 0 []) 25 [1]]).map (P_C08 c0 [(1, 1)]) = some false := by
  decide +kernel

/-- packet boundaries (b): a message holding the tail of packet 1 and the head of packet 2: `P_C07` ALONE says true;
    `P_C07S` says false -/
def mixed : List Bytes :=
  [ [2, 0, 0, 5, 1, 7, 0, 1,  0, 0, 0, 0, 0, 0, 0, 1, 0, 0, 0, 0, 0, 1, 0, 1,  1,
                              0, 0, 0, 0, 0, 0, 0, 1, 0, 0, 0, 0, 0, 1, 0, 2,  2, 3,
                              0, 0, 0, 0, 0, 0, 0, 2, 0, 0, 0, 0, 0, 1, 0, 1,  4] ++ zeros 4 ]
theorem P_C07_alone_accepts_mixed_message :
    (tileFrames mixed).map (P_C07 c0 [[1, 2], [3, 4]]) = some true ∧
    (tileFrames mixed).map (P_C07S c0 [[1, 2], [3, 4]]) = some false := by
  decide +kernel
/-- the correct cut of the same payloads is accepted by both -/
example :
    (tileFrames [[2, 0, 0, 5, 1, 7, 0, 1,  0, 0, 0, 0, 0, 0, 0, 1, 0, 0, 0, 0, 0, 1, 0, 2,  1, 2,
                                           0, 0, 0, 0, 0, 0, 0, 2, 0, 0, 0, 0, 0, 1, 0, 2,  3, 4] ++ zeros 20]).map
      (P_C07S c0 [[1, 2], [3, 4]]) = some true := by decide +kernel

end Ex

end AsamCmp.C07S
