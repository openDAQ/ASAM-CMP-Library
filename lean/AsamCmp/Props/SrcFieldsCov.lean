/-
  Coverage of the protocol tables by the translated accessors, for all fourteen wire classes at once: `coverage_strong` (every
  field has a getter and a value setter or both constant instances), and from it the tag-based `coverageOk` of Src/FieldCheck.lean
  (`coverageOk_of_strong`, `coverage_at`).  Props/SrcFieldsA–D import this file and state `coverageOk` class by class.
  `GetRuns` / `IsGetter` (what a getter entry does; used in Props/C11S.lean §D) stand beside `hasGet`, which tells getters the same way.
-/
import AsamCmp.GeneratedSrcFields
import AsamCmp.Src.FieldCheck
namespace AsamCmp.C11S
open AsamCmp AsamCmp.Src.Bit AsamCmp.SrcGen

def classEntries : List (ClassLayout × List Entry) :=
  [(Layout.c_cmphdr, entries_cmphdr), (Layout.c_msghdr, entries_msghdr), (Layout.c_can, entries_can),
   (Layout.c_canfd, entries_canfd), (Layout.c_lin, entries_lin), (Layout.c_eth, entries_eth),
   (Layout.c_analog, entries_analog), (Layout.c_cm, entries_cm), (Layout.c_if, entries_if),
   (Layout.c_tecmphdr, entries_tecmphdr), (Layout.c_tecmpcan, entries_tecmpcan), (Layout.c_tecmplin, entries_tecmplin),
   (Layout.c_tecmpif, entries_tecmpif), (Layout.c_tecmpcm, entries_tecmpcm)]

/-- the getter entry `a`, run on memory `M` for the object at `this`, is defined, leaves the memory as it is and reports the field
    value `r` (`.get`: returns `r`, shifted as the API does; `.getNe0`: returns `r != 0`) -/
def GetRuns (a : Acc) (this : Nat) (M : Bytes) (r : Nat) : Prop :=
  match a with
  | .get p sh => ∃ st, Src.Bit.run this [] ⟨M, []⟩ p.1 = some st ∧ st.m = M ∧ st.val p.2 = r * 2 ^ sh
  | .getNe0 p => ∃ st, Src.Bit.run this [] ⟨M, []⟩ p.1 = some st ∧ st.m = M ∧ (st.val p.2 ≠ 0 ↔ r ≠ 0)
  | _ => False

def IsGetter (a : Acc) : Prop :=
  match a with
  | .get _ _ => True
  | .getNe0 _ => True
  | _ => False

def hasGet (es : List Entry) (n : String) : Bool :=
  es.any fun e => e.field == n && (match e.acc with | .get _ _ => true | .getNe0 _ => true | _ => false)
def hasSet (es : List Entry) (n : String) : Bool :=
  es.any fun e => e.field == n && (match e.acc with | .set _ _ _ => true | _ => false)
def hasConst (es : List Entry) (n : String) (c : Nat) : Bool :=
  es.any fun e => e.field == n && (match e.acc with | .setConst _ c' => c' == c | _ => false)

def coverageStrong (c : ClassLayout) (es : List Entry) : Bool :=
  c.fields.all fun f =>
    hasGet es f.name && hasConstOrSet f
where hasConstOrSet (f : Field) : Bool :=
    (hasSet es f.name && (f.name != "segMask")) ||
    (f.bits == 1 && hasConst es f.name 1 && hasConst es f.name 0) ||
    (f.name == "segMask" && hasConst es f.name (2 ^ f.bits - 1) && hasConst es f.name 0)

/-- every field of every one of the 14 classes is covered in the strong sense -/
theorem coverage_strong : classEntries.all (fun ce => coverageStrong ce.1 ce.2) = true := by decide +kernel

/-- the `what` tag of every entry says what its accessor is (the registered `coverageOk` looks at the tag only) -/
theorem entries_tags_ok :
    classEntries.all (fun ce => ce.2.all fun e =>
      match e.acc with
      | .get _ _ => e.what == "get" | .getNe0 _ => e.what == "get"
      | .set _ _ _ => e.what == "set" | .setConst _ _ => e.what == "set") = true := by decide +kernel

theorem any_entry_sound {es : List Entry} {n : String} {p : Entry → Bool}
    (h : (es.any fun e => e.field == n && p e) = true) : ∃ e ∈ es, e.field = n ∧ p e = true := by
  rw [List.any_eq_true] at h
  obtain ⟨e, he, h⟩ := h
  rw [Bool.and_eq_true, beq_iff_eq] at h
  exact ⟨e, he, h⟩


/-- the tag an accessor of each kind carries (the predicate of `entries_tags_ok`) -/
def tagOk (e : Entry) : Bool :=
  match e.acc with
  | .get _ _ => e.what == "get" | .getNe0 _ => e.what == "get"
  | .set _ _ _ => e.what == "set" | .setConst _ _ => e.what == "set"

/-- with true tags, an entry of a kind under a name is an entry with that kind's tag under the name -/
theorem any_tag {es : List Entry} (ht : es.all tagOk = true) {n w : String} {p : Entry → Bool}
    (hp : ∀ e, tagOk e = true → p e = true → (e.what == w) = true)
    (h : (es.any fun e => e.field == n && p e) = true) : (es.any fun e => e.field == n && e.what == w) = true := by
  obtain ⟨e, he, hn, hpe⟩ := any_entry_sound h
  refine List.any_eq_true.mpr ⟨e, he, ?_⟩
  rw [hn, beq_self_eq_true, hp e (List.all_eq_true.mp ht e he) hpe, Bool.and_self]

/-- the tag-based coverage of Src/FieldCheck.lean (a "get" and a "set" entry per field, no exemptions) is the weaker reading of
    `coverageStrong`: a getter is tagged "get"; a value setter and either constant instance are tagged "set" -/
theorem coverageOk_of_strong {c : ClassLayout} {es : List Entry} (hs : coverageStrong c es = true)
    (ht : es.all tagOk = true) : coverageOk c es [] = true := by
  refine List.all_eq_true.mpr fun f hf => ?_
  have h := List.all_eq_true.mp hs f hf
  rw [Bool.and_eq_true] at h
  have hget : (es.any fun e => e.field == f.name && e.what == "get") = true :=
    any_tag ht (fun e he hp => by unfold tagOk at he; cases ha : e.acc <;> rw [ha] at he hp <;> first | exact he | exact absurd hp Bool.false_ne_true) h.1
  have hset : (es.any fun e => e.field == f.name && e.what == "set") = true := by
    have h2 := h.2
    unfold coverageStrong.hasConstOrSet at h2
    simp only [Bool.or_eq_true, Bool.and_eq_true] at h2
    rcases h2 with (⟨h1, _⟩ | ⟨⟨_, h1⟩, _⟩) | ⟨⟨_, h1⟩, _⟩ <;>
      exact any_tag ht (fun e he hp => by unfold tagOk at he; cases ha : e.acc <;> rw [ha] at he hp <;> first | exact he | exact absurd hp Bool.false_ne_true) h1
  simp only [List.all_cons, List.all_nil, hget, hset, Bool.true_or, Bool.and_self]

/-- the class at position `i` of `classEntries` is covered in the sense of `coverageOk` -/
theorem coverage_at {c : ClassLayout} {es : List Entry} (i : Nat) (h : classEntries[i]? = some (c, es)) :
    coverageOk c es [] = true :=
  have hm := List.mem_of_getElem? h
  coverageOk_of_strong (List.all_eq_true.mp coverage_strong _ hm) (List.all_eq_true.mp entries_tags_ok _ hm)

end AsamCmp.C11S
