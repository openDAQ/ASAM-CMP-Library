/-
  C11  Setting a field changes that field and nothing else.
  C12  Headers and payload fields use the ASAM CMP / TECMP wire layout.

  The model of every header / payload class is a byte string plus the protocol layout table
  (`Layout.lean`); `getField` / `setField` (Fields.lean) are generic.  The generic theorems below
  are instantiated for every class by the kernel-checked table facts `tables_wf` / `tables_words_ok`.
-/
import AsamCmp.Layout
import AsamCmp.Lemmas.FieldArith
import AsamCmp.Lemmas.AsciiPrefix
namespace AsamCmp.C11
open AsamCmp

/-- the field lies inside its word and the word inside the buffer -/
def FitsIn (f : Field) (b : Bytes) : Prop := f.shift + f.bits ≤ 8 * f.w ∧ f.off + f.w ≤ b.length

/-- two fields use the same word or words that share no byte -/
def WordsOk (f g : Field) : Prop := (f.off = g.off ∧ f.w = g.w) ∨ f.off + f.w ≤ g.off ∨ g.off + g.w ≤ f.off

theorem setField_length (f : Field) (v : Nat) (b : Bytes) (h : FitsIn f b) :
    (setField f v b).length = b.length := by
  exact length_setField v h.2

/-- writing an in-range value and reading it back returns that value, from any prior state -/
theorem get_set_same (f : Field) (v : Nat) (b : Bytes) (h : FitsIn f b) (hv : v < 2 ^ f.bits) :
    getField f (setField f v b) = v := by
  exact getField_setField_same h.1 h.2 hv

/-- no other field changes: any bit range `g` disjoint from `f` (a table field, a flag, or a
    reserved range — `g` need not be in any table) reads the same before and after -/
theorem get_set_other (f g : Field) (v : Nat) (b : Bytes) (hf : FitsIn f b) (hg : FitsIn g b)
    (hv : v < 2 ^ f.bits) (hd : f.disjoint g = true) (hw : WordsOk f g) :
    getField g (setField f v b) = getField g b := by
  exact getField_setField_other hf.1 hf.2 hg.1 hv hd hw

/-- no data byte changes: bytes outside the field's word are untouched -/
theorem set_frame (f : Field) (v : Nat) (b : Bytes) (hf : FitsIn f b) (i : Nat)
    (hi : i < f.off ∨ f.off + f.w ≤ i) : (setField f v b)[i]? = b[i]? := by
  exact getElem?_setField_out v hf.2 hi

/-- writes to disjoint fields commute (flags can be set and cleared in any order) -/
theorem set_set_comm (f g : Field) (u v : Nat) (b : Bytes) (hf : FitsIn f b) (hg : FitsIn g b)
    (hu : u < 2 ^ g.bits) (hv : v < 2 ^ f.bits) (hd : f.disjoint g = true) (hw : WordsOk f g) :
    setField f v (setField g u b) = setField g u (setField f v b) := by
  have lenc (h : Field) (x : Nat) : (beEnc h.w x).length = h.w := beEnc_length h.w x
  rw [setField_eq f v (setField g u b), setField_eq g u (setField f v b)]
  rcases hw with ⟨ho, hw⟩ | hw
  · -- one word: both writes update it, and updates of disjoint bit ranges commute
    have hsd := shifts_disjoint hf.1 hg.1 ho hw hd
    have key1 : beAt (setField g u b) f.off f.w = upd g.shift g.bits u (beAt b f.off f.w) := by
      have := beAt_setField_same hg.1 hg.2 hu
      rwa [← ho, ← hw] at this
    have key2 : beAt (setField f v b) g.off g.w = upd f.shift f.bits v (beAt b g.off g.w) := by
      have := beAt_setField_same hf.1 hf.2 hv
      rwa [ho, hw] at this
    rw [key1, key2, setField_eq g u b, setField_eq f v b, ← ho, ← hw, upd_upd_comm _ hv hu hsd,
      writeAt_writeAt_of_length_eq _ _ _ _ (by have := hf.2; omega) (by rw [lenc, lenc]),
      writeAt_writeAt_of_length_eq _ _ _ _ (by have := hf.2; omega) (by rw [lenc, lenc])]
  · -- byte-disjoint words: each write leaves the other's word alone, and the two stores commute
    rw [beAt_setField_other hg.2 (by omega), beAt_setField_other hf.2 (by omega), setField_eq g u b, setField_eq f v b]
    exact writeAt_comm (by rw [lenc]; exact hf.2) (by rw [lenc]; exact hg.2) (by rw [lenc, lenc]; omega)

/-- the last write wins -/
theorem set_set_same (f : Field) (u v : Nat) (b : Bytes) (hf : FitsIn f b) (hu : u < 2 ^ f.bits) (hv : v < 2 ^ f.bits) :
    setField f v (setField f u b) = setField f v b := by
  rw [setField_eq f v (setField f u b), beAt_setField_same hf.1 hf.2 hu, upd_upd_same _ hu hv, setField_eq f u b, setField_eq f v b]
  exact writeAt_writeAt_of_length_eq _ _ _ _ (by have := hf.2; omega) (by rw [beEnc_length, beEnc_length])

/-- writing back what is there changes nothing -/
theorem set_get_id (f : Field) (b : Bytes) (hf : FitsIn f b) : setField f (getField f b) b = b := by
  rw [setField_eq, getField_eq, upd_ext_id]
  have := beEnc_beDec (slice b f.off f.w)
  rw [slice_length_of_le _ _ _ hf.2] at this
  unfold beAt
  rw [this]
  exact writeAt_slice_self hf.2

/-- C12: a full-width field written through the model appears big-endian at its offset -/
theorem set_is_be (f : Field) (v : Nat) (b : Bytes) (hf : FitsIn f b) (hfull : f.shift = 0 ∧ f.bits = 8 * f.w)
    (hv : v < 2 ^ f.bits) : slice (setField f v b) f.off f.w = beEnc f.w v := by
  rw [setField_eq, hfull.1, hfull.2, upd_full (beAt_lt_two_pow _ _ _) (hfull.2 ▸ hv)]
  have := slice_writeAt_of_le b f.off (beEnc f.w v) (by have := hf.2; omega)
  rwa [beEnc_length] at this

/-- C12: reading is the big-endian value of the word at the table's offset, shifted and masked -/
theorem get_is_be (f : Field) (b : Bytes) :
    getField f b = beDec (slice b f.off f.w) / 2 ^ f.shift % 2 ^ f.bits := rfl

/-- two fields of a class either use the same word or byte-disjoint words, unless they are aliases
    or one contains the other -/
def ClassLayout.wordsOk (c : ClassLayout) : Bool :=
  c.fields.all fun f => c.fields.all fun g =>
    (f.off == g.off && f.w == g.w) || decide (f.off + f.w ≤ g.off) || decide (g.off + g.w ≤ f.off) ||
    (f.alias != "" && f.alias == g.alias)

/-- kernel-checked facts about every table: fields fit into the header, overlap only as aliases or
    by containment, and share words properly -/
theorem tables_wf : Layout.all.all ClassLayout.wf = true := by
  -- the exemption `wf` grants to two fields of one name is never needed (a field contains itself), so the 2808 string
  -- comparisons are left out of the evaluation
  have h : Layout.all.all (fun c => c.fields.all (fun f => f.fits c.size) &&
      c.fields.all fun f => c.fields.all fun g =>
        f.disjoint g || (f.alias != "" && f.alias == g.alias) ||
        (f.lo ≤ g.lo && g.hi ≤ f.hi) || (g.lo ≤ f.lo && f.hi ≤ g.hi)) = true := by decide +kernel
  refine List.all_eq_true.mpr fun c hc => ?_
  have hc := List.all_eq_true.mp h c hc
  rw [Bool.and_eq_true] at hc
  unfold ClassLayout.wf
  rw [Bool.and_eq_true]
  refine ⟨hc.1, List.all_eq_true.mpr fun f hf => List.all_eq_true.mpr fun g hg => ?_⟩
  have hfg := List.all_eq_true.mp (List.all_eq_true.mp hc.2 f hf) g hg
  simp only [Bool.or_assoc] at hfg ⊢
  rw [hfg, Bool.or_true]
theorem tables_words_ok : Layout.all.all ClassLayout.wordsOk = true := by decide +kernel

/-- extra table fact: the members of one alias group overlap (so a pair of disjoint table fields is
    never excused by the alias disjunct of `wordsOk`) -/
theorem tables_alias_overlap :
    Layout.all.all (fun c => c.fields.all fun f => c.fields.all fun g =>
      !(f.alias != "" && f.alias == g.alias) || !(f.disjoint g)) = true := by decide +kernel

theorem table_field_fits {c : ClassLayout} (hc : c ∈ Layout.all) {f : Field} (hf : f ∈ c.fields) :
    f.shift + f.bits ≤ 8 * f.w ∧ f.off + f.w ≤ c.size ∧ 0 < f.w := by
  have hwf := List.all_eq_true.mp tables_wf c hc
  unfold ClassLayout.wf at hwf
  rw [Bool.and_eq_true] at hwf
  have := List.all_eq_true.mp hwf.1 f hf
  simp only [Field.fits, Bool.and_eq_true, decide_eq_true_eq] at this
  exact ⟨this.1.1, this.1.2, this.2⟩

theorem table_field_fitsIn {c : ClassLayout} (hc : c ∈ Layout.all) {f : Field} (hf : f ∈ c.fields) {b : Bytes}
    (hb : c.size ≤ b.length) : FitsIn f b :=
  ⟨(table_field_fits hc hf).1, Nat.le_trans (table_field_fits hc hf).2.1 hb⟩

/-- two table fields of one class with disjoint bit ranges use the same word or byte-disjoint words -/
theorem table_fields_wordsOk {c : ClassLayout} (hc : c ∈ Layout.all) {f g : Field} (hf : f ∈ c.fields) (hg : g ∈ c.fields)
    (hd : f.disjoint g = true) : WordsOk f g := by
  have hwo := List.all_eq_true.mp tables_words_ok c hc
  have hal := List.all_eq_true.mp tables_alias_overlap c hc
  unfold ClassLayout.wordsOk at hwo
  have h1 := List.all_eq_true.mp (List.all_eq_true.mp hwo f hf) g hg
  have h2 := List.all_eq_true.mp (List.all_eq_true.mp hal f hf) g hg
  -- the alias disjunct of `wordsOk` cannot be the one that holds: aliases overlap
  rw [hd] at h2
  generalize (f.alias != "" && f.alias == g.alias) = a at h1 h2
  cases a with
  | true => simp at h2
  | false =>
    simp only [Bool.or_false, Bool.or_eq_true, Bool.and_eq_true, beq_iff_eq, decide_eq_true_eq] at h1
    unfold WordsOk
    omega

/-- C11 for every class of the library: for every table field `f`, every in-range value, every
    prior object state `b` (header + any data bytes): `f` reads the value, every other table field
    that does not overlap `f` is unchanged, the length and every byte behind the header are unchanged -/
theorem C11_all_classes (c : ClassLayout) (hc : c ∈ Layout.all) (f : Field) (hf : f ∈ c.fields)
    (b : Bytes) (hb : c.size ≤ b.length) (v : Nat) (hv : v < 2 ^ f.bits) :
    getField f (setField f v b) = v ∧
    (∀ g ∈ c.fields, f.disjoint g = true → getField g (setField f v b) = getField g b) ∧
    (setField f v b).length = b.length ∧
    (∀ i, c.size ≤ i → (setField f v b)[i]? = b[i]?) := by
  have hF := table_field_fitsIn hc hf hb
  have hsize := (table_field_fits hc hf).2.1
  exact ⟨get_set_same f v b hF hv,
    fun g hg hd => get_set_other f g v b hF (table_field_fitsIn hc hg hb) hv hd (table_fields_wordsOk hc hf hg hd),
    setField_length f v b hF, fun i hi => set_frame f v b hF i (Or.inr (by omega))⟩

/-- the `dflt` column parsed, in the order of `Layout.all` (`dflt_parsed`).  The statements about default objects
    (`defaults_ok`, Props/C12S.lean §3) are evaluated on these lists; each would otherwise parse the sixteen hex strings again. -/
def dfltTable : List Bytes :=
  [1 :: zeros 7, zeros 16, zeros 16, zeros 16, zeros 8, zeros 6, zeros 16, zeros 36, zeros 40,
   zeros 5 ++ [0xff, 0xff] ++ zeros 21, zeros 5, zeros 2, zeros 28, zeros 36, 1 :: zeros 21, zeros 4]

theorem dflt_parsed : Layout.all.map (fun c => ofHexChars c.dflt.toList) = dfltTable.map some := by
  -- `String.toList` of a literal decodes UTF-8 by well-founded recursion, which the kernel evaluates slowly;
  -- the strings are ASCII, so their characters are their bytes
  have h : Layout.all.all (fun c => c.dflt.toByteArray.data.toList.all (· < 128)) = true ∧
      Layout.all.map (fun c => ofHexChars (c.dflt.toByteArray.data.toList.map fun b => Char.ofNat b.toNat)) =
        dfltTable.map some := by decide +kernel
  rw [← h.2]
  exact List.map_congr_left fun c hc => by rw [Ascii.toList_of_ascii _ (List.all_eq_true.mp h.1 c hc)]

/-- a Boolean statement about every element and its image under `g`, checked on a table of the images -/
theorem all_of_map_eq {l : List α} {g : α → β} {t : List β} (h : l.map g = t) (P : α → β → Bool) :
    l.all (fun a => P a (g a)) = (l.zip t).all fun p => P p.1 p.2 := by
  subst h
  induction l with
  | nil => rfl
  | cons a l ih => simp only [List.all_cons, List.map_cons, List.zip_cons_cons, ih]

theorem flatMap_of_map_eq {l : List α} {g : α → β} {t : List β} (h : l.map g = t) (F : α → β → List γ) :
    l.flatMap (fun a => F a (g a)) = (l.zip t).flatMap fun p => F p.1 p.2 := by
  subst h
  induction l with
  | nil => rfl
  | cons a l ih => simp only [List.flatMap_cons, List.map_cons, List.zip_cons_cons, ih]

/-- default-constructed objects: all-zero apart from the protocol's defaults (CMP version 1; TECMP
    message type 0xFF and data type bytes FF 00), so every reserved byte and bit is zero -/
theorem defaults_ok :
    Layout.all.all (fun c =>
      match ofHexChars c.dflt.toList with
      | none => false
      | some d =>
        decide (c.size ≤ d.length) &&
        (if c.name == "cmphdr" then d == [1,0,0,0,0,0,0,0]
         else if c.name == "packet" then d == 1 :: zeros 21
         else if c.name == "tecmphdr" then d == [0,0,0,0,0,0xFF,0xFF,0] ++ zeros 20
         else d == zeros d.length)) = true :=
  (all_of_map_eq dflt_parsed fun c o =>
    match o with
    | none => false
    | some d =>
      decide (c.size ≤ d.length) &&
      (if c.name == "cmphdr" then d == [1,0,0,0,0,0,0,0]
       else if c.name == "packet" then d == 1 :: zeros 21
       else if c.name == "tecmphdr" then d == [0,0,0,0,0,0xFF,0xFF,0] ++ zeros 20
       else d == zeros d.length)).trans (by decide +kernel)

/-- non-vacuity: the CAN identifier on an all-ones header -/
example : getField ⟨"id", 4, 4, 0, 29, ""⟩ (setField ⟨"id", 4, 4, 0, 29, ""⟩ 0x123 (List.replicate 16 0xFF)) = 0x123 := by decide

end AsamCmp.C11
