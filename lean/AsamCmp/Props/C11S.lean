/-
  C11 ("setting a field changes that field and nothing else") at full strength: every bit range, any number of writes in any
  order, the translated setters and getters composed, coverage of every field, the bulk writers, the owning objects, and a prior
  state from which the property fails.  The few `def`s below are predicates / lists used in statements.
-/
import AsamCmp.Props.C11
import AsamCmp.Props.SrcFieldsAll
import AsamCmp.Props.SrcLeftovers
import AsamCmp.Props.SrcBuilders
import AsamCmp.Props.SrcPacketValue
set_option linter.unusedVariables false
set_option linter.unusedSimpArgs false
namespace AsamCmp.C11S
open AsamCmp AsamCmp.C11

/-! ## A. the layout tables: extra kernel-checked facts -/

/-- within one class a name denotes ONE field (so `ClassLayout.find`, which returns the first field of a name, returns THE field) -/
theorem tables_names_unique :
    Layout.all.all (fun c => c.fields.all fun f => c.fields.all fun g => !(f.name == g.name) || f == g) = true := by
  decide +kernel

/-- no table field is empty: `0 < bits` (so "in range" `v < 2 ^ bits` is never the trivial `v < 1`) and `0 < w` -/
theorem tables_bits_pos :
    Layout.all.all (fun c => c.fields.all fun f => decide (0 < f.bits) && decide (0 < f.w)) = true := by decide +kernel

theorem find_mem {c : ClassLayout} {n : String} {f : Field} (h : c.find n = some f) : f ∈ c.fields ∧ f.name = n := by
  unfold ClassLayout.find at h
  refine ⟨List.mem_of_find?_eq_some h, ?_⟩
  have := List.find?_some h
  simpa using this

/-- `find` is exact on every table: the field found under a field's name is that field -/
theorem find_of_mem {c : ClassLayout} (hc : c ∈ Layout.all) {f : Field} (hf : f ∈ c.fields) : c.find f.name = some f := by
  have hu := List.all_eq_true.mp tables_names_unique c hc
  cases h : c.find f.name with
  | none =>
    unfold ClassLayout.find at h
    rw [List.find?_eq_none] at h
    exact absurd (h f hf) (by simp)
  | some g =>
    obtain ⟨hg, hn⟩ := find_mem h
    have := List.all_eq_true.mp (List.all_eq_true.mp hu g hg) f hf
    simp only [hn, beq_self_eq_true, Bool.not_true, Bool.false_or, beq_iff_eq] at this
    rw [this]

theorem find_inj {c : ClassLayout} (hc : c ∈ Layout.all) {n n' : String} {f : Field}
    (h : c.find n = some f) (h' : c.find n' = some f) : n = n' := by
  rw [← (find_mem h).2, ← (find_mem h').2]

/-- `C11.table_field_fits`, and no table field is empty -/
theorem table_fits {c : ClassLayout} (hc : c ∈ Layout.all) {f : Field} (hf : f ∈ c.fields) :
    f.shift + f.bits ≤ 8 * f.w ∧ f.off + f.w ≤ c.size ∧ 0 < f.w ∧ 0 < f.bits := by
  have hp := List.all_eq_true.mp (List.all_eq_true.mp tables_bits_pos c hc) f hf
  simp only [Bool.and_eq_true, decide_eq_true_eq] at hp
  exact ⟨(C11.table_field_fits hc hf).1, (C11.table_field_fits hc hf).2.1, hp.2, hp.1⟩

theorem table_fitsIn {c : ClassLayout} (hc : c ∈ Layout.all) {f : Field} (hf : f ∈ c.fields) {b : Bytes}
    (hb : c.size ≤ b.length) : FitsIn f b := C11.table_field_fitsIn hc hf hb

theorem table_wordsOk {c : ClassLayout} (hc : c ∈ Layout.all) {f g : Field} (hf : f ∈ c.fields) (hg : g ∈ c.fields)
    (hd : f.disjoint g = true) : WordsOk f g := C11.table_fields_wordsOk hc hf hg hd

theorem disjoint_symm (f g : Field) : f.disjoint g = g.disjoint f := by
  unfold Field.disjoint; exact Bool.or_comm _ _

theorem wordsOk_symm {f g : Field} (h : WordsOk f g) : WordsOk g f := by
  unfold WordsOk at *; omega

/-! ## B. the headline theorem at full strength

  For every class of the library, every table field `f`, every in-range `v`, every prior state `b` that owns the header:
  `f` reads `v`; every OTHER table field reads what it read; every bit range `g` whatsoever that is disjoint from `f` — reserved bytes,
  unnamed bits of a shared word, data bytes — reads what it read; every BYTE outside `f`'s word (inside the header or behind it) is
  unchanged; the length is unchanged; writing back the old value / overwriting is idempotent. -/
theorem C11_all_classes_strong (c : ClassLayout) (hc : c ∈ Layout.all) (f : Field) (hf : f ∈ c.fields)
    (b : Bytes) (hb : c.size ≤ b.length) (v : Nat) (hv : v < 2 ^ f.bits) :
    getField f (setField f v b) = v ∧
    (∀ g ∈ c.fields, f.disjoint g = true → getField g (setField f v b) = getField g b) ∧
    (∀ g : Field, FitsIn g b → f.disjoint g = true → WordsOk f g → getField g (setField f v b) = getField g b) ∧
    (setField f v b).length = b.length ∧
    (∀ i, i < f.off ∨ f.off + f.w ≤ i → (setField f v b)[i]? = b[i]?) ∧
    setField f (getField f b) b = b ∧
    (∀ u, u < 2 ^ f.bits → setField f v (setField f u b) = setField f v b) := by
  have hF := table_fitsIn hc hf hb
  refine ⟨get_set_same f v b hF hv, (C11_all_classes c hc f hf b hb v hv).2.1,
    fun g hg hd hw => get_set_other f g v b hF hg hv hd hw, setField_length f v b hF,
    fun i hi => set_frame f v b hF i hi, set_get_id f b hF, fun u hu => set_set_same f u v b hF hu hv⟩

/-- the table field's in-range values are a non-trivial set: at least 0 and 1 -/
theorem in_range_nontrivial (c : ClassLayout) (hc : c ∈ Layout.all) (f : Field) (hf : f ∈ c.fields) : 1 < 2 ^ f.bits :=
  Nat.one_lt_two_pow (by have := (table_fits hc hf).2.2.2; omega)

/-! ## C. any number of writes, in any order (P5 "in any order", beyond two writes) -/

def applyAll (ws : List (Field × Nat)) (b : Bytes) : Bytes := ws.foldl (fun b w => setField w.1 w.2 b) b

/-- two writes that do not interfere: disjoint bit ranges, same word or byte-disjoint words -/
def Indep (x y : Field × Nat) : Prop := x.1.disjoint y.1 = true ∧ WordsOk x.1 y.1

theorem Indep.symm {x y : Field × Nat} (h : Indep x y) : Indep y x :=
  ⟨by rw [disjoint_symm]; exact h.1, wordsOk_symm h.2⟩

/-- a write that fits an object of `n` bytes, with an in-range value -/
def WOk (n : Nat) (w : Field × Nat) : Prop := w.1.shift + w.1.bits ≤ 8 * w.1.w ∧ w.1.off + w.1.w ≤ n ∧ w.2 < 2 ^ w.1.bits

theorem applyAll_cons (w : Field × Nat) (ws : List (Field × Nat)) (b : Bytes) :
    applyAll (w :: ws) b = applyAll ws (setField w.1 w.2 b) := rfl

theorem WOk.cons {x : Field × Nat} {l : List (Field × Nat)} {b : Bytes} (h : ∀ w ∈ x :: l, WOk b.length w) :
    WOk b.length x ∧ ∀ w ∈ l, WOk (setField x.1 x.2 b).length w := by
  have hx := h x (List.mem_cons_self ..)
  rw [length_setField x.2 hx.2.1]
  exact ⟨hx, fun w hw => h w (List.mem_cons_of_mem _ hw)⟩

theorem applyAll_length (ws : List (Field × Nat)) (b : Bytes) (h : ∀ w ∈ ws, WOk b.length w) :
    (applyAll ws b).length = b.length := by
  induction ws generalizing b with
  | nil => rfl
  | cons x l ih =>
    obtain ⟨hx, hl⟩ := WOk.cons h
    rw [applyAll_cons, ih _ hl, length_setField x.2 hx.2.1]

theorem applyAll_perm {ws ws' : List (Field × Nat)} (hp : ws.Perm ws') (b : Bytes)
    (hok : ∀ w ∈ ws, WOk b.length w) (hpw : ws.Pairwise Indep) : applyAll ws b = applyAll ws' b := by
  induction hp generalizing b with
  | nil => rfl
  | cons x _ ih =>
    rw [applyAll_cons, applyAll_cons]
    exact ih _ (WOk.cons hok).2 (List.Pairwise.of_cons hpw)
  | swap x y l =>
    have hy := hok y (List.mem_cons_self ..)
    have hx := hok x (List.mem_cons_of_mem _ (List.mem_cons_self ..))
    have hi : Indep y x := List.rel_of_pairwise_cons hpw (List.mem_cons_self ..)
    rw [applyAll_cons, applyAll_cons, applyAll_cons, applyAll_cons]
    congr 1
    exact (set_set_comm y.1 x.1 x.2 y.2 b ⟨hy.1, hy.2.1⟩ ⟨hx.1, hx.2.1⟩ hx.2.2 hy.2.2 hi.1 hi.2).symm
  | trans h1 h2 ih1 ih2 =>
    rw [ih1 b hok hpw]
    exact ih2 b (fun w hw => hok w (h1.mem_iff.mpr hw)) ((h1.pairwise_iff Indep.symm).mp hpw)

theorem applyAll_get_other (ws : List (Field × Nat)) (b : Bytes) (g : Field) (hok : ∀ w ∈ ws, WOk b.length w)
    (hg : g.shift + g.bits ≤ 8 * g.w) (hi : ∀ w ∈ ws, w.1.disjoint g = true ∧ WordsOk w.1 g) :
    getField g (applyAll ws b) = getField g b := by
  induction ws generalizing b with
  | nil => rfl
  | cons x l ih =>
    obtain ⟨hx, hl⟩ := WOk.cons hok
    have hxi := hi x (List.mem_cons_self ..)
    rw [applyAll_cons, ih _ hl (fun w hw => hi w (List.mem_cons_of_mem _ hw))]
    exact getField_setField_other hx.1 hx.2.1 hg hx.2.2 hxi.1 hxi.2

theorem applyAll_frame (ws : List (Field × Nat)) (b : Bytes) (i : Nat) (hok : ∀ w ∈ ws, WOk b.length w)
    (hi : ∀ w ∈ ws, i < w.1.off ∨ w.1.off + w.1.w ≤ i) : (applyAll ws b)[i]? = b[i]? := by
  induction ws generalizing b with
  | nil => rfl
  | cons x l ih =>
    obtain ⟨hx, hl⟩ := WOk.cons hok
    rw [applyAll_cons, ih _ hl (fun w hw => hi w (List.mem_cons_of_mem _ hw))]
    exact getElem?_setField_out x.2 hx.2.1 (hi x (List.mem_cons_self ..))

theorem applyAll_get_written (ws : List (Field × Nat)) (b : Bytes) (hok : ∀ w ∈ ws, WOk b.length w)
    (hpw : ws.Pairwise Indep) : ∀ w ∈ ws, getField w.1 (applyAll ws b) = w.2 := by
  induction ws generalizing b with
  | nil => intro w hw; cases hw
  | cons x l ih =>
    obtain ⟨hx, hokl⟩ := WOk.cons hok
    intro w hw
    rw [applyAll_cons]
    rcases List.mem_cons.mp hw with rfl | hw
    · rw [applyAll_get_other l _ w.1 hokl hx.1
        (fun y hy => (List.rel_of_pairwise_cons hpw hy).symm)]
      exact getField_setField_same hx.1 hx.2.1 hx.2.2
    · exact ih _ hokl (List.Pairwise.of_cons hpw) w hw

/-- the class-level reading: ANY list of writes to pairwise disjoint table fields of one class, with in-range values, on any
    object that owns the header: every order gives the same object, each written field reads its value, every other disjoint
    table field and every byte outside the written words is unchanged -/
theorem C11_any_order (c : ClassLayout) (hc : c ∈ Layout.all) (ws ws' : List (Field × Nat)) (hp : ws.Perm ws')
    (b : Bytes) (hb : c.size ≤ b.length) (hin : ∀ w ∈ ws, w.1 ∈ c.fields ∧ w.2 < 2 ^ w.1.bits)
    (hdis : ws.Pairwise fun x y => x.1.disjoint y.1 = true) :
    applyAll ws b = applyAll ws' b ∧
    (∀ w ∈ ws, getField w.1 (applyAll ws b) = w.2) ∧
    (∀ g ∈ c.fields, (∀ w ∈ ws, w.1.disjoint g = true) → getField g (applyAll ws b) = getField g b) ∧
    (applyAll ws b).length = b.length ∧
    (∀ i, (∀ w ∈ ws, i < w.1.off ∨ w.1.off + w.1.w ≤ i) → (applyAll ws b)[i]? = b[i]?) := by
  have hok : ∀ w ∈ ws, WOk b.length w := fun w hw =>
    ⟨(table_fits hc (hin w hw).1).1, Nat.le_trans (table_fits hc (hin w hw).1).2.1 hb, (hin w hw).2⟩
  have hpw : ws.Pairwise Indep := by
    rw [List.pairwise_iff_forall_sublist] at hdis ⊢
    intro x y hs
    have hx : x ∈ ws := hs.subset (List.mem_cons_self ..)
    have hy : y ∈ ws := hs.subset (List.mem_cons_of_mem _ (List.mem_cons_self ..))
    exact ⟨hdis hs, table_wordsOk hc (hin x hx).1 (hin y hy).1 (hdis hs)⟩
  refine ⟨applyAll_perm hp b hok hpw, applyAll_get_written ws b hok hpw, fun g hg hd => ?_, applyAll_length ws b hok,
    fun i hi => applyAll_frame ws b i hok hi⟩
  exact applyAll_get_other ws b g hok (table_fits hc hg).1
    (fun w hw => ⟨hd w hw, table_wordsOk hc (hin w hw).1 hg (hd w hw)⟩)


/-! ## D. source level, composed: run the translated SETTER, then run a translated GETTER on the memory it leaves
      (P1–P4 end to end, for every class that has accessor entries)

  `classEntries` (Props/SrcFieldsCov.lean): the 14 wire-record classes with the entry lists generated from the C++ on every run.
  `all_src` (Props/SrcFieldsAll.lean) collects the 14 `*_src` theorems. -/
open AsamCmp.Src.Bit AsamCmp.SrcGen AsamCmp.SrcFields

/-- (`GetRuns`, `IsGetter`: Props/SrcFieldsCov.lean.)  The setter entry `a`, run on memory `M` for the object at `this` with the value `v`, is defined and leaves memory `M'`.
    `.set p k sh`: `v` is passed pre-shifted as argument `k` (all earlier arguments 0); `.setConst p c`: the flag setter instantiated
    with its constants, `v` is the constant -/
def SetRuns (a : Acc) (this : Nat) (M : Bytes) (v : Nat) (M' : Bytes) : Prop :=
  match a with
  | .set p k sh => ∃ st, Src.Bit.run this (List.replicate k 0 ++ [v * 2 ^ sh]) ⟨M, []⟩ p.1 = some st ∧ st.m = M'
  | .setConst p c => v = c ∧ ∃ st, Src.Bit.run this [] ⟨M, []⟩ p.1 = some st ∧ st.m = M'
  | _ => False

/-- the values a setter entry can be asked to write: any (in-range) value for `.set`, the constant for `.setConst` -/
def Writes (a : Acc) (v : Nat) : Prop :=
  match a with
  | .set _ _ _ => True
  | .setConst _ c => v = c
  | _ => False

theorem getD_replicate_snoc (k x : Nat) : (List.replicate k 0 ++ [x]).getD k 0 = x := by
  simp [List.getD_eq_getElem?_getD, List.getElem?_append_right]

theorem getD_replicate_snoc_ne (k x k' : Nat) (h : k' ≠ k) : (List.replicate k 0 ++ [x]).getD k' 0 = 0 := by
  rw [List.getD_eq_getElem?_getD]
  by_cases hk : k' < k
  · rw [List.getElem?_append_left (by simpa using hk)]
    simp [hk]
  · rw [List.getElem?_eq_none (by simp; omega)]
    rfl

theorem holds_setRuns {size : Nat} {f : Field} {a : Acc} (h : a.Holds size f) {M : Bytes} {this v : Nat}
    (hM : this + size ≤ M.length) (hv : v < 2 ^ f.bits) (hw : Writes a v) :
    SetRuns a this M v (writeAt M this (setField f v (slice M this size))) := by
  cases a with
  | get p sh => exact hw.elim
  | getNe0 p => exact hw.elim
  | set p k sh =>
    obtain ⟨st, h1, h2⟩ := h M this hM (List.replicate k 0 ++ [v * 2 ^ sh]) v hv (getD_replicate_snoc k _)
      (fun k' hk' => getD_replicate_snoc_ne k _ k' hk')
    exact ⟨st, h1, h2⟩
  | setConst p c =>
    have hc : v = c := hw
    subst hc
    obtain ⟨st, h1, h2⟩ := h M this hM
    exact ⟨rfl, st, h1, h2⟩

theorem holds_getRuns {size : Nat} {f : Field} {a : Acc} (h : a.Holds size f) {M : Bytes} {this : Nat}
    (hM : this + size ≤ M.length) (hg : IsGetter a) : GetRuns a this M (getField f (slice M this size)) := by
  cases a with
  | get p sh => exact h M this hM
  | getNe0 p => exact h M this hM
  | set p k sh => exact hg.elim
  | setConst p c => exact hg.elim

theorem setRuns_header {size : Nat} {f : Field} {a : Acc} (h : a.Holds size f) (hf : f.off + f.w ≤ size) {M hd : Bytes}
    {this x : Nat} (hM : this + size ≤ M.length) (hl : hd.length = size) (hx : x < 2 ^ f.bits) (hw : Writes a x) :
    SetRuns a this (writeAt M this hd) x (writeAt M this (setField f x hd)) := by
  have := holds_setRuns h (M := writeAt M this hd) (this := this) (v := x) (by rw [(header_mem hM hl).1]; exact hM) hx hw
  rwa [(header_mem hM hl).2, writeAt_writeAt_of_length_eq _ _ _ _ (by omega) (by rw [length_setField x (by omega), hl])] at this

/-- bytes of the memory after the header at `this` was replaced by `setField f v` of itself: only `f`'s word can differ -/
theorem writeAt_setField_frame {M : Bytes} {this size : Nat} {f : Field} (v : Nat) (hM : this + size ≤ M.length)
    (hf : f.off + f.w ≤ size) (i : Nat) (hi : i < this + f.off ∨ this + f.off + f.w ≤ i) :
    (writeAt M this (setField f v (slice M this size)))[i]? = M[i]? := by
  have hsl : (slice M this size).length = size := slice_length_of_le _ _ _ hM
  have hl := length_setField_slice v hM hf
  rw [getElem?_writeAt (by omega), hl]
  by_cases h1 : i < this
  · simp only [h1, if_true]
  · by_cases h2 : i < this + size
    · simp only [h1, h2, if_true, if_false]
      rw [getElem?_setField_out v (by omega) (by omega), getElem?_slice, if_pos (by omega)]
      congr 1; omega
    · simp only [h1, h2, if_false]

/-- **P1–P4 end to end on the translated code**, for every class with accessor entries, every setter entry `eS` and getter entry
    `eG` of the class (the functions the API glue names for the fields), every memory `M`, every object position `this` whose header
    lies inside the memory ("any prior state"), every in-range value `v` the setter can be given:
    the translated setter is defined (no undefined behaviour) and leaves the memory `M'` with
    * `M'` = `M` with the header replaced by `setField` of the table field (the model C11 is proved about),
    * same size, and every byte outside the field's word unchanged — other header fields, reserved bytes, the data bytes behind the
      header, and every other object in memory (the owning `Payload`'s `type` member, the vector's bookkeeping, …),
    * the translated getter of the SAME field, run on `M'`, is defined, does not write, and reports `v`,
    * the translated getter of any table field with a DISJOINT bit range, run on `M'`, reports exactly what it reports on `M`. -/
theorem set_then_get_src (ce : ClassLayout × List Entry) (hce : ce ∈ classEntries) (eS eG : Entry) (hS : eS ∈ ce.2)
    (hG : eG ∈ ce.2) (fS fG : Field) (hfS : ce.1.find eS.field = some fS) (hfG : ce.1.find eG.field = some fG)
    (M : Bytes) (this : Nat) (hM : this + ce.1.size ≤ M.length) (v : Nat) (hv : v < 2 ^ fS.bits)
    (hw : Writes eS.acc v) (hg : IsGetter eG.acc) :
    ∃ M', SetRuns eS.acc this M v M' ∧
      M' = writeAt M this (setField fS v (slice M this ce.1.size)) ∧
      M'.length = M.length ∧
      (∀ i, i < this + fS.off ∨ this + fS.off + fS.w ≤ i → M'[i]? = M[i]?) ∧
      (eG.field = eS.field → GetRuns eG.acc this M' v) ∧
      (fS.disjoint fG = true →
        GetRuns eG.acc this M (getField fG (slice M this ce.1.size)) ∧
        GetRuns eG.acc this M' (getField fG (slice M this ce.1.size))) := by
  have hc := classEntries_in_tables ce hce
  obtain ⟨hmS, hHS⟩ := entry_holds hce hS hfS
  obtain ⟨hmG, hHG⟩ := entry_holds hce hG hfG
  have hsl : (slice M this ce.1.size).length = ce.1.size := slice_length_of_le _ _ _ hM
  have hfit := table_fits hc hmS
  have hl := length_setField_slice v hM hfit.2.1
  have hstrong := C11_all_classes_strong ce.1 hc fS hmS (slice M this ce.1.size) (by omega) v hv
  have hG' := holds_getRuns hHG (M := writeAt M this (setField fS v (slice M this ce.1.size))) (this := this)
    (by rw [(header_mem hM hl).1]; exact hM) hg
  rw [(header_mem hM hl).2] at hG'
  refine ⟨_, holds_setRuns hHS hM hv hw, rfl, (header_mem hM hl).1, fun i hi => writeAt_setField_frame v hM hfit.2.1 i hi, ?_, ?_⟩
  · intro hname
    obtain rfl : fG = fS := by rw [hname, hfS] at hfG; cases hfG; rfl
    rwa [hstrong.1] at hG'
  · intro hd
    rw [hstrong.2.1 fG hmG hd] at hG'
    exact ⟨holds_getRuns hHG hM hg, hG'⟩


/-- **P5 on the translated code: two setters in either order.**  For two setter entries of one class whose table fields have
    disjoint bit ranges (two flags of one word, a flag and a value field, …), every memory, every object position, in-range values:
    running A then B is defined and leaves exactly the memory that running B then A leaves — the header with both fields written
    (`setField` twice), everything else untouched.  With `b = 0` this is "clear a flag after / before setting its neighbour". -/
theorem two_setters_any_order_src (ce : ClassLayout × List Entry) (hce : ce ∈ classEntries) (eA eB : Entry) (hA : eA ∈ ce.2)
    (hB : eB ∈ ce.2) (fA fB : Field) (hfA : ce.1.find eA.field = some fA) (hfB : ce.1.find eB.field = some fB)
    (hd : fA.disjoint fB = true) (M : Bytes) (this : Nat) (hM : this + ce.1.size ≤ M.length) (a b : Nat)
    (ha : a < 2 ^ fA.bits) (hb : b < 2 ^ fB.bits) (hwa : Writes eA.acc a) (hwb : Writes eB.acc b) :
    ∃ M1 M12 M2 M21, SetRuns eA.acc this M a M1 ∧ SetRuns eB.acc this M1 b M12 ∧
      SetRuns eB.acc this M b M2 ∧ SetRuns eA.acc this M2 a M21 ∧ M12 = M21 ∧
      M12 = writeAt M this (setField fB b (setField fA a (slice M this ce.1.size))) := by
  have hc := classEntries_in_tables ce hce
  obtain ⟨hmA, hHA⟩ := entry_holds hce hA hfA
  obtain ⟨hmB, hHB⟩ := entry_holds hce hB hfB
  have hsl : (slice M this ce.1.size).length = ce.1.size := slice_length_of_le _ _ _ hM
  have hFA : FitsIn fA (slice M this ce.1.size) := table_fitsIn hc hmA (by omega)
  have hFB : FitsIn fB (slice M this ce.1.size) := table_fitsIn hc hmB (by omega)
  have hself : writeAt M this (slice M this ce.1.size) = M := writeAt_slice_self hM
  have fitA := (table_fits hc hmA).2.1
  have fitB := (table_fits hc hmB).2.1
  have lA := length_setField_slice a hM fitA
  have lB := length_setField_slice b hM fitB
  have sA := setRuns_header hHA fitA hM hsl ha hwa
  have sB := setRuns_header hHB fitB hM hsl hb hwb
  rw [hself] at sA sB
  refine ⟨_, _, _, _, sA, setRuns_header hHB fitB hM lA hb hwb, sB, setRuns_header hHA fitA hM lB ha hwa, ?_, rfl⟩
  rw [set_set_comm fA fB b a _ hFA hFB hb ha hd (table_wordsOk hc hmA hmB hd)]

/-! ## E. coverage, strong form ("every field", "both set and cleared")

  `coverageOk` (Src/FieldCheck.lean; `SrcFields.<class>_coverage`) asks for one "get" and one "set" entry per field.  `coverageStrong`
  (Props/SrcFieldsCov.lean, with `coverage_strong`, from which the former follows) asks, per table field, for a
  getter entry AND for setter entries that can write EVERY in-range value: a value setter (`.set`), or — for a one-bit flag — both
  constant instances (`setFlag(mask, true)` AND `setFlag(mask, false)`); the two-bit mask view `segMask` of the message header
  (same bits as `segmentType`, which has a value setter) needs its all-ones and its zero instance.  A generator run that drops the
  clearing branch of a flag setter, or leaves a class without entries, makes `coverage_strong` false. -/

/-- `segMask` is the mask view of `segmentType`: the same bits of the same byte -/
example : Layout.c_msghdr.find "segMask" = some ⟨"segMask", 12, 1, 2, 2, ""⟩ ∧
    Layout.c_msghdr.find "segmentType" = some ⟨"segmentType", 12, 1, 2, 2, ""⟩ := by decide

theorem hasGet_sound {es : List Entry} {n : String} (h : hasGet es n = true) : ∃ e ∈ es, e.field = n ∧ IsGetter e.acc := by
  unfold hasGet at h
  obtain ⟨e, he, hn, hp⟩ := any_entry_sound h
  refine ⟨e, he, hn, ?_⟩
  cases ha : e.acc <;> simp [ha, IsGetter] at hp ⊢

theorem hasSet_sound {es : List Entry} {n : String} (h : hasSet es n = true) (v : Nat) :
    ∃ e ∈ es, e.field = n ∧ Writes e.acc v := by
  unfold hasSet at h
  obtain ⟨e, he, hn, hp⟩ := any_entry_sound h
  refine ⟨e, he, hn, ?_⟩
  cases ha : e.acc <;> simp [ha, Writes] at hp ⊢

theorem hasConst_sound {es : List Entry} {n : String} {c : Nat} (h : hasConst es n c = true) :
    ∃ e ∈ es, e.field = n ∧ Writes e.acc c := by
  unfold hasConst at h
  obtain ⟨e, he, hn, hp⟩ := any_entry_sound h
  refine ⟨e, he, hn, ?_⟩
  cases ha : e.acc <;> simp [ha, Writes] at hp ⊢
  exact hp.symm

/-- **every field can be written with every in-range value and read back, on the translated code** ("for every class and every
    field … boolean flags can be both set and cleared"): for every class, every table field `f`, every in-range `v`, every memory and
    object position there ARE a setter entry and a getter entry of that field in the generated list such that the translated setter
    is defined and yields the memory with the header `setField f v`-ed, and the translated getter run on that memory reports `v`.
    Hypothesis `hseg`: the name `segMask` has only the two mask instances `setCommonFlag(segmentMask, true / false)`, i.e. the
    values 3 and 0; every value of those two bits is covered under the name `segmentType`. -/
theorem every_field_roundtrip_src (ce : ClassLayout × List Entry) (hce : ce ∈ classEntries) (f : Field) (hf : f ∈ ce.1.fields)
    (v : Nat) (hv : v < 2 ^ f.bits) (hseg : f.name = "segMask" → v = 0 ∨ v = 2 ^ f.bits - 1)
    (M : Bytes) (this : Nat) (hM : this + ce.1.size ≤ M.length) :
    ∃ eS ∈ ce.2, ∃ eG ∈ ce.2, eS.field = f.name ∧ eG.field = f.name ∧
      ∃ M', SetRuns eS.acc this M v M' ∧ M' = writeAt M this (setField f v (slice M this ce.1.size)) ∧
        GetRuns eG.acc this M' v := by
  have hc := classEntries_in_tables ce hce
  have hcov := List.all_eq_true.mp (List.all_eq_true.mp coverage_strong ce hce) f hf
  rw [Bool.and_eq_true] at hcov
  obtain ⟨eG, hG, hGn, hGg⟩ := hasGet_sound hcov.1
  have hfind := find_of_mem hc hf
  have hw : ∃ eS ∈ ce.2, eS.field = f.name ∧ Writes eS.acc v := by
    have h2 := hcov.2
    unfold coverageStrong.hasConstOrSet at h2
    simp only [Bool.or_eq_true, Bool.and_eq_true, beq_iff_eq, bne_iff_ne, ne_eq] at h2
    rcases h2 with (⟨hs, _⟩ | ⟨⟨hb, h1⟩, h0⟩) | ⟨⟨hn, h1⟩, h0⟩
    · exact hasSet_sound hs v
    · rw [hb] at hv
      have : v = 0 ∨ v = 1 := by omega
      rcases this with rfl | rfl
      · exact hasConst_sound h0
      · exact hasConst_sound h1
    · rcases hseg hn with rfl | rfl
      · exact hasConst_sound h0
      · exact hasConst_sound h1
  obtain ⟨eS, hS, hSn, hSw⟩ := hw
  obtain ⟨M', h1, h2, _, _, h5, _⟩ := set_then_get_src ce hce eS eG hS hG f f (by rw [hSn]; exact hfind)
    (by rw [hGn]; exact hfind) M this hM v hv hSw hGg
  exact ⟨eS, hS, eG, hG, hSn, hGn, M', h1, h2, h5 (by rw [hGn, hSn])⟩


/-! ## F. the bulk writers `setData` keep the header

  `setData` is the only public writer of `dlc` / `dataLength`, of the data bytes and of the variable blocks.  Its exact byte
  transformer is proved at source level in Props/SrcBuilders.lean (registered for C13); here: it changes NO other header field —
  the header prefix in front of the length fields is byte-identical, hence every table field (and every reserved bit range) in it
  reads the same.  `hb`: the prior object owns a header (as in `C11_all_classes`). -/

theorem getField_of_take_eq {g : Field} {b b' : Bytes} {n : Nat} (h : b'.take n = b.take n) (hg : g.off + g.w ≤ n) :
    getField g b' = getField g b := by
  rw [getField_eq, getField_eq, C13.beAt_of_take b' b n g.off g.w h hg]

theorem take_writeAt {X x : Bytes} {off n : Nat} (hn : n ≤ off) (h : off + x.length ≤ X.length) :
    (writeAt X off x).take n = X.take n := by
  apply List.ext_getElem?
  intro i
  rw [List.getElem?_take, List.getElem?_take]
  by_cases hi : i < n
  · simp only [hi, if_true]
    exact getElem?_writeAt_out h (Or.inl (by omega))
  · simp only [hi, if_false]

theorem take_setTail {b d : Bytes} {hdr n : Nat} (hn : n ≤ hdr) (hb : hdr ≤ b.length) : (setTail hdr b d).take n = b.take n := by
  unfold setTail resize
  rw [if_pos hb, List.take_take, Nat.min_self, List.take_append_of_le_length (by rw [List.length_take]; omega),
    List.take_take, Nat.min_eq_left hn]

theorem setTail_length {b d : Bytes} {hdr : Nat} : (setTail hdr b d).length = hdr + d.length :=
  SrcTie.setTail_length hdr b d

theorem setTail_drop {b d : Bytes} {hdr : Nat} : (setTail hdr b d).drop hdr = d := by
  unfold setTail
  rw [List.drop_append_of_le_length (by rw [List.length_take, resize_length]; omega)]
  rw [List.drop_of_length_le (by rw [List.length_take, resize_length]; omega), List.nil_append]

/-- the builders in the form `b.take n ++ …` (`C13.canSetData_eq` …): the first `n` bytes are those of `b` -/
theorem take_take_append (b x : Bytes) {n : Nat} (h : n ≤ b.length) : (b.take n ++ x).take n = b.take n :=
  List.take_left' (List.length_take_of_le h)

theorem setData_header_prefix (b d : Bytes) :
    (16 ≤ b.length → (canSetData b d).take 14 = b.take 14) ∧
    (8 ≤ b.length → (linSetData b d).take 7 = b.take 7) ∧
    (6 ≤ b.length → (ethSetData b d).take 4 = b.take 4) ∧
    (16 ≤ b.length → (analogSetData b d).take 16 = b.take 16) :=
  ⟨fun h => C13.canSetData_eq b d h ▸ take_take_append b _ (by omega), fun h => C13.linSetData_eq b d h ▸ take_take_append b _ (by omega),
    fun h => C13.ethSetData_eq b d h ▸ take_take_append b _ (by omega), fun h => C13.analogSetData_eq b d h ▸ take_take_append b _ h⟩

theorem cmSetData_prefix (b desc serial hw sw vendor : Bytes) (h : 26 ≤ b.length) :
    (cmSetData b desc serial hw sw vendor).take 26 = b.take 26 :=
  C13.cmSetData_eq b desc serial hw sw vendor h ▸ take_take_append b _ h

theorem ifSetData_prefix (b ids vendor : Bytes) (h : 36 ≤ b.length) : (ifSetData b ids vendor).take 36 = b.take 36 :=
  C13.ifSetData_eq b ids vendor h ▸ take_take_append b _ h

/-- the table fields in front of the length fields (kernel-checked): all fields of the class except the ones `setData` is
    there to write -/
theorem tables_setData_prefix :
    (Layout.c_can.fields.all fun g => g.name == "dlc" || g.name == "dataLength" || decide (g.off + g.w ≤ 14)) = true ∧
    (Layout.c_canfd.fields.all fun g => g.name == "dlc" || g.name == "dataLength" || decide (g.off + g.w ≤ 14)) = true ∧
    (Layout.c_lin.fields.all fun g => g.name == "dataLength" || decide (g.off + g.w ≤ 7)) = true ∧
    (Layout.c_eth.fields.all fun g => g.name == "dataLength" || decide (g.off + g.w ≤ 4)) = true ∧
    (Layout.c_analog.fields.all fun g => decide (g.off + g.w ≤ 16)) = true ∧
    (Layout.c_cm.fields.all fun g => decide (g.off + g.w ≤ 26)) = true ∧
    (Layout.c_if.fields.all fun g => decide (g.off + g.w ≤ 36)) = true := by decide +kernel

/-- **`setData` changes no header field other than `dlc` / `dataLength`** (model of every payload class; `b` = the object's bytes
    before, any data `d`): every other table field reads the same afterwards.  CAN and CAN-FD share `canSetData`. -/
theorem setData_keeps_fields (b d : Bytes) :
    (16 ≤ b.length → ∀ g, (g ∈ Layout.c_can.fields ∨ g ∈ Layout.c_canfd.fields) → g.name ≠ "dlc" → g.name ≠ "dataLength" →
        getField g (canSetData b d) = getField g b) ∧
    (8 ≤ b.length → ∀ g ∈ Layout.c_lin.fields, g.name ≠ "dataLength" → getField g (linSetData b d) = getField g b) ∧
    (6 ≤ b.length → ∀ g ∈ Layout.c_eth.fields, g.name ≠ "dataLength" → getField g (ethSetData b d) = getField g b) ∧
    (16 ≤ b.length → ∀ g ∈ Layout.c_analog.fields, getField g (analogSetData b d) = getField g b) := by
  obtain ⟨t1, t2, t3, t4, t5, _, _⟩ := tables_setData_prefix
  obtain ⟨p1, p2, p3, p4⟩ := setData_header_prefix b d
  refine ⟨fun h g hg n1 n2 => ?_, fun h g hg n1 => ?_, fun h g hg n1 => ?_, fun h g hg => ?_⟩
  · apply getField_of_take_eq (p1 h)
    rcases hg with hg | hg
    · have := List.all_eq_true.mp t1 g hg
      simpa only [Bool.or_eq_true, beq_iff_eq, decide_eq_true_eq, n1, n2, false_or] using this
    · have := List.all_eq_true.mp t2 g hg
      simpa only [Bool.or_eq_true, beq_iff_eq, decide_eq_true_eq, n1, n2, false_or] using this
  · apply getField_of_take_eq (p2 h)
    have := List.all_eq_true.mp t3 g hg
    simpa only [Bool.or_eq_true, beq_iff_eq, decide_eq_true_eq, n1, false_or] using this
  · apply getField_of_take_eq (p3 h)
    have := List.all_eq_true.mp t4 g hg
    simpa only [Bool.or_eq_true, beq_iff_eq, decide_eq_true_eq, n1, false_or] using this
  · apply getField_of_take_eq (p4 h)
    have := List.all_eq_true.mp t5 g hg
    simpa using this

/-- capture-module and interface `setData` keep EVERY table field (they write behind the fixed header only) -/
theorem setData_keeps_fields_cm_if (b : Bytes) :
    (26 ≤ b.length → ∀ desc serial hw sw vendor, ∀ g ∈ Layout.c_cm.fields,
        getField g (cmSetData b desc serial hw sw vendor) = getField g b) ∧
    (36 ≤ b.length → ∀ ids vendor, ∀ g ∈ Layout.c_if.fields, getField g (ifSetData b ids vendor) = getField g b) := by
  obtain ⟨_, _, _, _, _, t6, t7⟩ := tables_setData_prefix
  refine ⟨fun h desc serial hw sw vendor g hg => ?_, fun h ids vendor g hg => ?_⟩
  · apply getField_of_take_eq (cmSetData_prefix b desc serial hw sw vendor h)
    have := List.all_eq_true.mp t6 g hg
    simpa using this
  · apply getField_of_take_eq (ifSetData_prefix b ids vendor h)
    have := List.all_eq_true.mp t7 g hg
    simpa using this

/-- … and on the translated C++ (`SrcTie.*_setData_src` composed): the translated `CanPayloadBase::setData` on an object that owns a
    header is defined and every table field other than `dlc` / `dataLength` reads the same in the object it leaves; likewise LIN,
    Ethernet.  `hn`, `h8` / `h16`: the caller's buffer holds the `n` bytes and `n` fits the length parameter's C++ type. -/
theorem setData_keeps_fields_src (m x : Bytes) (this n : Nat) (hn : n ≤ x.length) :
    (n < 256 → 16 ≤ m.length → ∃ m', SrcGen.CanPayloadBase_setData m this x n = some m' ∧
        ∀ g, (g ∈ Layout.c_can.fields ∨ g ∈ Layout.c_canfd.fields) → g.name ≠ "dlc" → g.name ≠ "dataLength" →
          getField g m' = getField g m) ∧
    (n < 256 → 8 ≤ m.length → ∃ m', SrcGen.LinPayload_setData m this x n = some m' ∧
        ∀ g ∈ Layout.c_lin.fields, g.name ≠ "dataLength" → getField g m' = getField g m) ∧
    (n < 65536 → 6 ≤ m.length → ∃ m', SrcGen.EthernetPayload_setData m this x n = some m' ∧
        ∀ g ∈ Layout.c_eth.fields, g.name ≠ "dataLength" → getField g m' = getField g m) := by
  obtain ⟨k1, k2, k3, _⟩ := setData_keeps_fields m (x.take n)
  exact ⟨fun h8 h => ⟨_, SrcTie.can_setData_src m x this n hn h8, k1 h⟩,
    fun h8 h => ⟨_, SrcTie.lin_setData_src m x this n hn h8, k2 h⟩,
    fun h16 h => ⟨_, SrcTie.eth_setData_src m x this n hn h16, k3 h⟩⟩


/-! ## G. the owning objects: header setters versus the `PayloadType` member, and back

  The bit programs know the header only.  Because the memory they leave is `writeAt M this (setField …)`, everything else in memory
  — in particular the owning `Payload` object's `PayloadType type` member and the vector's size, wherever they live — is untouched:
  every scalar read outside the field's word, and the three translated `PayloadType` getters at any such address, give what they
  gave before.  Conversely the translated `Payload::setMessageType` / `setRawPayloadType` change 4 bytes of the `Payload` object, so
  every translated header getter of every class, for a header that does not overlap these 4 bytes, reports what it reported. -/
open AsamCmp.SrcLeft

theorem sameOutside_slice {m m' : Bytes} {a w : Nat} (h : SameOutside m m' a w) (b k : Nat) (hd : b + k ≤ a ∨ a + w ≤ b) :
    slice m' b k = slice m b k := h.slice b k hd

theorem header_setter_keeps_other_objects (ce : ClassLayout × List Entry) (hce : ce ∈ classEntries) (eS : Entry) (hS : eS ∈ ce.2)
    (fS : Field) (hfS : ce.1.find eS.field = some fS) (M : Bytes) (this : Nat) (hM : this + ce.1.size ≤ M.length)
    (v : Nat) (hv : v < 2 ^ fS.bits) (hw : Writes eS.acc v) :
    ∃ M', SetRuns eS.acc this M v M' ∧ SameOutside M M' (this + fS.off) fS.w ∧
      (∀ a k, a + k ≤ this + fS.off ∨ this + fS.off + fS.w ≤ a → Src.rd M' a k = Src.rd M a k) ∧
      (∀ a, a + 4 ≤ this + fS.off ∨ this + fS.off + fS.w ≤ a →
        SrcGen.PayloadType_getType M' a = SrcGen.PayloadType_getType M a ∧
        SrcGen.PayloadType_getMessageType M' a = SrcGen.PayloadType_getMessageType M a ∧
        SrcGen.PayloadType_getRawPayloadType M' a = SrcGen.PayloadType_getRawPayloadType M a ∧
        SrcGen.TECMP_PayloadType_getType M' a = SrcGen.TECMP_PayloadType_getType M a ∧
        SrcGen.TECMP_PayloadType_getMessageType M' a = SrcGen.TECMP_PayloadType_getMessageType M a ∧
        SrcGen.TECMP_PayloadType_getRawPayloadType M' a = SrcGen.TECMP_PayloadType_getRawPayloadType M a) := by
  have hc := classEntries_in_tables ce hce
  obtain ⟨hmS, hHS⟩ := entry_holds hce hS hfS
  have hfit := table_fits hc hmS
  have hso : SameOutside M (writeAt M this (setField fS v (slice M this ce.1.size))) (this + fS.off) fS.w := by
    refine ⟨writeAt_length_of_le _ _ _ (by rw [length_setField_slice v hM hfit.2.1]; exact hM), fun i hi => ?_⟩
    exact writeAt_setField_frame v hM hfit.2.1 i hi
  refine ⟨_, holds_setRuns hHS hM hv hw, hso, fun a k hd => hso.rd a k hd, fun a hd => ?_⟩
  have hr := hso.rd a 4 hd
  unfold SrcGen.PayloadType_getType SrcGen.PayloadType_getMessageType SrcGen.PayloadType_getRawPayloadType
    SrcGen.TECMP_PayloadType_getType SrcGen.TECMP_PayloadType_getMessageType SrcGen.TECMP_PayloadType_getRawPayloadType
  rw [hr]
  exact ⟨rfl, rfl, rfl, rfl, rfl, rfl⟩

/-- the `Payload` object at `p` (its `PayloadType` member: the 4 bytes at `p + 32`), a header of class `ce` at `this` that does not
    overlap that member (it lives in the vector's heap block), `t` a `uint8_t`: both type setters are defined, and every getter entry of
    the class reports on the new memory exactly the field value of the OLD memory -/
theorem type_setters_keep_header_getters (ce : ClassLayout × List Entry) (hce : ce ∈ classEntries) (eG : Entry) (hG : eG ∈ ce.2)
    (fG : Field) (hfG : ce.1.find eG.field = some fG) (hg : IsGetter eG.acc) (M : Bytes) (this p t : Nat)
    (hM : this + ce.1.size ≤ M.length) (hp : p + 32 + 4 ≤ M.length) (ht : t < 256)
    (hsep : this + ce.1.size ≤ p + 32 ∨ p + 32 + 4 ≤ this) :
    (∃ M', SrcGen.Payload_setMessageType M p t = some M' ∧ M'.length = M.length ∧
        slice M' this ce.1.size = slice M this ce.1.size ∧
        GetRuns eG.acc this M' (getField fG (slice M this ce.1.size))) ∧
    (∃ M', SrcGen.Payload_setRawPayloadType M p t = some M' ∧ M'.length = M.length ∧
        slice M' this ce.1.size = slice M this ce.1.size ∧
        GetRuns eG.acc this M' (getField fG (slice M this ce.1.size))) := by
  obtain ⟨_, hHG⟩ := entry_holds hce hG hfG
  obtain ⟨⟨m1, a1, a2, _, _⟩, ⟨m2, b1, b2, _, _⟩⟩ := Payload_src_laws M p t hp ht
  refine ⟨⟨m1, a1, a2.1, a2.slice _ _ (by omega), ?_⟩, ⟨m2, b1, b2.1, b2.slice _ _ (by omega), ?_⟩⟩
  · have := holds_getRuns hHG (M := m1) (this := this) (by rw [a2.1]; exact hM) hg
    rwa [a2.slice _ _ (by omega)] at this
  · have := holds_getRuns hHG (M := m2) (this := this) (by rw [b2.1]; exact hM) hg
    rwa [b2.slice _ _ (by omega)] at this

/-- the hop from the payload object to its header, for EVERY payload class: both `getHeader()` overloads (the `const` one used by the
    getters, the non-`const` one used by the setters) and `getRawPayload()` return the same address, the start of the owned bytes
    (`pd`), whatever the size `sz` — so the header the setters write is the one the getters read and `getRawPayload()` exposes -/
theorem getHeader_is_getRawPayload (pd sz this : Nat) :
    SrcGen.Payload_getRawPayload pd sz this = some pd ∧
    SrcGen.CanPayloadBase_getHeader_v pd sz this = some pd ∧ SrcGen.CanPayloadBase_getHeader_v2 pd sz this = some pd ∧
    SrcGen.LinPayload_getHeader_v pd sz this = some pd ∧ SrcGen.LinPayload_getHeader_v2 pd sz this = some pd ∧
    SrcGen.EthernetPayload_getHeader_v pd sz this = some pd ∧ SrcGen.EthernetPayload_getHeader_v2 pd sz this = some pd ∧
    SrcGen.AnalogPayload_getHeader_v pd sz this = some pd ∧ SrcGen.AnalogPayload_getHeader_v2 pd sz this = some pd ∧
    SrcGen.CaptureModulePayload_getHeader_v pd sz this = some pd ∧ SrcGen.CaptureModulePayload_getHeader_v2 pd sz this = some pd ∧
    SrcGen.InterfacePayload_getHeader_v pd sz this = some pd ∧ SrcGen.InterfacePayload_getHeader_v2 pd sz this = some pd ∧
    SrcGen.TECMP_Payload_getRawPayload pd sz this = some pd ∧
    SrcGen.TECMP_CanPayload_getHeader_v pd sz this = some pd ∧ SrcGen.TECMP_CanPayload_getHeader_v2 pd sz this = some pd ∧
    SrcGen.TECMP_LinPayload_getHeader_v pd sz this = some pd ∧ SrcGen.TECMP_LinPayload_getHeader_v2 pd sz this = some pd ∧
    SrcGen.TECMP_InterfacePayload_getHeader_v pd sz this = some pd ∧ SrcGen.TECMP_InterfacePayload_getHeader_v2 pd sz this = some pd ∧
    SrcGen.TECMP_CaptureModulePayload_getHeader_v pd sz this = some pd ∧
    SrcGen.TECMP_CaptureModulePayload_getHeader_v2 pd sz this = some pd :=
  ⟨rfl, rfl, rfl, rfl, rfl, rfl, rfl, rfl, rfl, rfl, rfl, rfl, rfl, rfl, rfl, rfl, rfl, rfl, rfl, rfl, rfl, rfl⟩

/-- a public payload-level wrapper is its `Header::` twin run at `getHeader()` = `getRawPayload()` (shown for the CAN identifier and the
    LIN checksum: the wrappers are generated in this shape for every field) -/
theorem wrapper_is_header_twin (m : Bytes) (pd sz this v : Nat) :
    SrcGen.CanPayloadBase_setId m pd sz this v = SrcGen.CanPayloadBase_Header_setId m pd v ∧
    SrcGen.CanPayloadBase_getId m pd sz this = SrcGen.CanPayloadBase_Header_getId m pd ∧
    SrcGen.LinPayload_setChecksum m pd sz this v = SrcGen.LinPayload_Header_setChecksum m pd v ∧
    SrcGen.LinPayload_getChecksum m pd sz this = SrcGen.LinPayload_Header_getChecksum m pd := by
  refine ⟨?_, ?_, ?_, ?_⟩
  · unfold SrcGen.CanPayloadBase_setId SrcGen.CanPayloadBase_getHeader_v2
    simp only [bind, pure, SrcTie.some_bind]
  · unfold SrcGen.CanPayloadBase_getId SrcGen.CanPayloadBase_getHeader_v
    simp only [bind, pure, SrcTie.some_bind]
  · unfold SrcGen.LinPayload_setChecksum SrcGen.LinPayload_getHeader_v2
    simp only [bind, pure, SrcTie.some_bind]
  · unfold SrcGen.LinPayload_getChecksum SrcGen.LinPayload_getHeader_v
    simp only [bind, pure, SrcTie.some_bind]


/-! ## H. `PayloadType` and `Packet::setCommonFlag`: the table rows describe the real words; any order (P5)

  The source theorems for these classes are in Props/SrcLeftovers.lean and Props/SrcPacketValue.lean.  Here:
  (1) the table `Layout.c_ptype` — "big-endian 4-byte word" — IS the image of the C++ `uint32_t type` under the word functions the
  translated setters compute (`SrcLeft.setMT` / `setRaw`), so the `c_ptype` instance of `C11_all_classes` speaks about the code;
  (2) a flag mask `2^k` acts on the flags byte as the table's one-bit field at shift `k`, the segment mask `0x0C` as the two-bit
  field; (3) two flag writes with disjoint masks / the two `PayloadType` setters commute, the last write to a mask wins. -/

def fType : Field := ⟨"type", 0, 4, 0, 32, ""⟩
def fMsgType : Field := ⟨"messageType", 0, 4, 8, 8, ""⟩
def fRawType : Field := ⟨"rawPayloadType", 0, 4, 0, 8, ""⟩

theorem ptype_fields_in_table : Layout.c_ptype.fields = [fType, fMsgType, fRawType] := by decide

theorem beAt_beEnc4 (s : Nat) (hs : s < 2 ^ 32) : beAt (beEnc 4 s) 0 4 = s := by
  unfold beAt slice
  rw [List.drop_zero, List.take_of_length_le (by rw [beEnc_length]; exact Nat.le_refl _), beDec_beEnc]
  exact Nat.mod_eq_of_lt hs

theorem writeAt_whole (b x : Bytes) (h : x.length = b.length) : writeAt b 0 x = x := by
  unfold writeAt
  rw [List.take_zero, List.nil_append, List.drop_of_length_le (by omega), List.append_nil]

/-- the `c_ptype` rows on the big-endian image `beEnc 4 s` of the C++ word `s`: reading is `getMT` / `getRaw` / the word, writing is
    the image of `setMT` / `setRaw` / the new word — for ALL 2^32 prior words (bits 16..31 included) and every `uint8_t` value -/
theorem ptype_table_is_word (s t : Nat) (hs : s < 2 ^ 32) (ht : t < 256) :
    getField fMsgType (beEnc 4 s) = getMT s ∧ getField fRawType (beEnc 4 s) = getRaw s ∧ getField fType (beEnc 4 s) = s ∧
    setField fMsgType t (beEnc 4 s) = beEnc 4 (setMT s t) ∧
    setField fRawType t (beEnc 4 s) = beEnc 4 (setRaw s t) ∧
    (∀ v, v < 2 ^ 32 → setField fType v (beEnc 4 s) = beEnc 4 v) := by
  have hb := beAt_beEnc4 s hs
  -- a field of the whole 4-byte word at offset 0: reading is `ext` of `s`, writing stores the image of `upd … s`
  have G (sh k : Nat) (n : String) : getField ⟨n, 0, 4, sh, k, ""⟩ (beEnc 4 s) = ext sh k s := by
    rw [getField_eq]; show ext sh k (beAt (beEnc 4 s) 0 4) = _; rw [hb]
  have S (sh k x : Nat) (n : String) : setField ⟨n, 0, 4, sh, k, ""⟩ x (beEnc 4 s) = beEnc 4 (upd sh k x s) := by
    rw [setField_eq]; show writeAt (beEnc 4 s) 0 (beEnc 4 (upd sh k x (beAt (beEnc 4 s) 0 4))) = _
    rw [hb, writeAt_whole _ _ (by rw [beEnc_length, beEnc_length])]
  refine ⟨?_, ?_, ?_, ?_, ?_, fun v hv => ?_⟩
  · rw [getMT_eq_ext]; exact G 8 8 _
  · rw [getRaw_eq_ext]; exact G 0 8 _
  · rw [fType, G 0 32]; unfold ext; rw [Nat.pow_zero, Nat.div_one]; exact Nat.mod_eq_of_lt hs
  · rw [setMT_eq_upd s t hs ht]; exact S 8 8 t _
  · rw [setRaw_eq_upd s t hs ht]; exact S 0 8 t _
  · rw [fType, S 0 32, upd_full hs hv]

/-- the two `PayloadType` setters commute, and each is idempotent / last-write-wins -/
theorem ptype_setters_any_order (s t r : Nat) (hs : s < 2 ^ 32) (ht : t < 256) (hr : r < 256) :
    setMT (setRaw s r) t = setRaw (setMT s t) r ∧
    (∀ t', t' < 256 → setMT (setMT s t') t = setMT s t) ∧
    (∀ r', r' < 256 → setRaw (setRaw s r') r = setRaw s r) := by
  -- the setters replace the bit ranges [8, 16) and [0, 8) of the word
  refine ⟨?_, fun t' ht' => ?_, fun r' hr' => ?_⟩
  · rw [setMT_eq_upd _ t (setRaw_lt s r hs hr) ht, setRaw_eq_upd _ r (setMT_lt s t hs ht) hr, setRaw_eq_upd s r hs hr,
      setMT_eq_upd s t hs ht]
    exact upd_upd_comm s ht hr (Or.inl (by decide))
  · rw [setMT_eq_upd _ t (setMT_lt s t' hs ht') ht, setMT_eq_upd s t' hs ht', setMT_eq_upd s t hs ht]
    exact upd_upd_same s ht' ht
  · rw [setRaw_eq_upd _ r (setRaw_lt s r' hs hr') hr, setRaw_eq_upd s r' hs hr', setRaw_eq_upd s r hs hr]
    exact upd_upd_same s hr' hr

/-- on the translated object code: `setMessageType` then `setRawPayloadType` = the other order, for every prior `Payload` object
    (data vector and all 32 bits of the type word arbitrary) -/
theorem Payload_type_setters_commute_pv (p : SrcGen.Payload_St) (t r : Nat) (hs : p.f_type < 2 ^ 32) (ht : t < 256) (hr : r < 256) :
    (do let (p1, _) ← SrcGen.Payload_setMessageType_pv p t
        SrcGen.Payload_setRawPayloadType_pv p1 r) =
    (do let (p1, _) ← SrcGen.Payload_setRawPayloadType_pv p r
        SrcGen.Payload_setMessageType_pv p1 t) ∧
    (do let (p1, _) ← SrcGen.Payload_setMessageType_pv p t
        SrcGen.Payload_setRawPayloadType_pv p1 r) =
      some ({ p with f_type := setRaw (setMT p.f_type t) r }, ()) := by
  rw [Payload_setMessageType_pv_u8 p t ht, Payload_setRawPayloadType_pv_src p r]
  simp only [bind, SrcTie.some_bind]
  rw [Payload_setRawPayloadType_pv_src, Payload_setMessageType_pv_u8 _ t ht]
  simp only [(ptype_setters_any_order p.f_type t r hs ht hr).1, and_self]

/-- flag masks of the flags byte as table fields: `setCommonFlag(2^k, v)` is the one-bit field at shift `k`;
    `setCommonFlag(0x0C, v)` is the two-bit field at shift 2 set to 3 / 0 -/
theorem setFlag_is_field (f : Nat) (hf : f < 256) (v : Bool) :
    (∀ k, k < 8 → setFlag f (2 ^ k) v = upd k 1 (if v then 1 else 0) f) ∧
    setFlag f 12 v = upd 2 2 (if v then 3 else 0) f := by
  refine ⟨fun k hk => ?_, setFlag_mask_eq_upd f 2 2 hf (by decide) v⟩
  have h := setFlag_mask_eq_upd f k 1 hf (by omega) v
  rwa [show (2 ^ 1 - 1 : Nat) = 1 from rfl, Nat.one_shiftLeft] at h

/-- flags can be set and cleared in any order: writes with disjoint masks commute, and the last write to a mask wins
    (every prior flags byte, every pair of masks of the `uint8_t` flags) -/
theorem setFlag_any_order (f m1 m2 : Nat) (v1 v2 : Bool) (h1 : m1 < 256) (h2 : m2 < 256) :
    (m1 &&& m2 = 0 → setFlag (setFlag f m1 v1) m2 v2 = setFlag (setFlag f m2 v2) m1 v1) ∧
    setFlag (setFlag f m1 v1) m1 v2 = setFlag f m1 v2 := by
  constructor
  · intro hd
    apply Nat.eq_of_testBit_eq; intro j
    rw [setFlag_testBit _ m2 v2 j (by omega), setFlag_testBit f m1 v1 j (by omega),
      setFlag_testBit _ m1 v1 j (by omega), setFlag_testBit f m2 v2 j (by omega)]
    have hx : ¬ (m1.testBit j = true ∧ m2.testBit j = true) := by
      intro hh
      have := congrArg (fun n => Nat.testBit n j) hd
      simp only [Nat.testBit_and, hh.1, hh.2, Bool.and_self, Nat.zero_testBit] at this
      exact Bool.noConfusion this
    cases hb1 : m1.testBit j <;> cases hb2 : m2.testBit j <;> simp [hb1, hb2] at hx ⊢
  · apply Nat.eq_of_testBit_eq; intro j
    rw [setFlag_testBit _ m1 v2 j (by omega), setFlag_testBit f m1 v1 j (by omega), setFlag_testBit f m1 v2 j (by omega)]
    cases hb1 : m1.testBit j <;> simp [hb1]

/-- on the translated `Packet` (value translation, payload member included): two `setCommonFlag` calls with disjoint masks give
    the same packet in either order, and nothing but the flags byte differs from the prior packet -/
theorem Packet_setCommonFlag_any_order_pv (s : SrcGen.PacketV_St) (m1 m2 : Nat) (v1 v2 : Bool) (h1 : m1 < 256) (h2 : m2 < 256)
    (hd : m1 &&& m2 = 0) :
    (do let (s1, _) ← SrcGen.Packet_setCommonFlag_pv s m1 v1
        SrcGen.Packet_setCommonFlag_pv s1 m2 v2) =
    (do let (s1, _) ← SrcGen.Packet_setCommonFlag_pv s m2 v2
        SrcGen.Packet_setCommonFlag_pv s1 m1 v1) ∧
    (do let (s1, _) ← SrcGen.Packet_setCommonFlag_pv s m1 v1
        SrcGen.Packet_setCommonFlag_pv s1 m2 v2) =
      some ({ s with f_commonFlags := setFlag (setFlag s.f_commonFlags m1 v1) m2 v2 }, ()) := by
  simp only [Packet_setCommonFlag_pv_src, bind, SrcTie.some_bind]
  rw [(setFlag_any_order s.f_commonFlags m1 m2 v1 v2 h1 h2).1 hd]
  exact ⟨rfl, trivial⟩


/-! ## I. non-vacuity: the hypotheses on concrete, non-trivial inputs; conclusions computed to literal values -/
section examples

theorem can_in_all : Layout.c_can ∈ Layout.all := by simp [Layout.all]
theorem can_in_classEntries : (Layout.c_can, entries_can) ∈ classEntries :=
  List.mem_cons_of_mem _ (List.mem_cons_of_mem _ (List.mem_cons_self ..))

/-- an all-ones CAN header followed by three data bytes -/
def exOnes : Bytes := List.replicate 16 0xFF ++ [1, 2, 3]
def fAckErr : Field := ⟨"ackErr", 0, 2, 1, 1, ""⟩
def fBrs : Field := ⟨"brs", 0, 2, 12, 1, ""⟩
def fId : Field := ⟨"id", 4, 4, 0, 29, ""⟩
def fCrcErr : Field := ⟨"crcErr", 0, 2, 0, 1, ""⟩

-- B: a flag CLEARED next to set neighbours, on a non-zero background: only bit 1 of the flags word changes
example : setField fAckErr 0 exOnes = [0xFF, 0xFD] ++ List.replicate 14 0xFF ++ [1, 2, 3] := by decide +kernel
example : getField fAckErr (setField fAckErr 0 exOnes) = 0 ∧ getField fCrcErr (setField fAckErr 0 exOnes) = 1 ∧
    getField fBrs (setField fAckErr 0 exOnes) = 1 ∧ getField fId (setField fAckErr 0 exOnes) = 0x1FFFFFFF := by decide +kernel
example := C11_all_classes_strong Layout.c_can can_in_all fAckErr (by decide +kernel) exOnes (by decide +kernel) 0 (by decide +kernel)
-- a reserved bit range that is in no table (CAN flags bits 14..15) is covered by the third conjunct
example : getField ⟨"reserved", 0, 2, 14, 2, ""⟩ (setField fAckErr 0 exOnes) = 3 :=
  ((C11_all_classes_strong Layout.c_can can_in_all fAckErr (by decide +kernel) exOnes (by decide +kernel) 0 (by decide +kernel)).2.2.1
    ⟨"reserved", 0, 2, 14, 2, ""⟩ ⟨by decide +kernel, by decide +kernel⟩ (by decide +kernel) (Or.inl ⟨rfl, rfl⟩)).trans (by decide +kernel)

-- C: three writes (two flags cleared, the identifier set), two orders, one result
def exWrites : List (Field × Nat) := [(fAckErr, 0), (fId, 0x123), (fBrs, 0)]
example : applyAll exWrites exOnes = [0xEF, 0xFD, 0xFF, 0xFF, 0xE0, 0, 1, 0x23] ++ List.replicate 8 0xFF ++ [1, 2, 3] := by decide +kernel
example : applyAll exWrites.reverse exOnes = applyAll exWrites exOnes := by decide +kernel
example := C11_any_order Layout.c_can can_in_all exWrites exWrites.reverse (List.reverse_perm _).symm exOnes (by decide +kernel)
  (by intro w hw; simp only [exWrites, List.mem_cons, List.not_mem_nil, or_false] at hw
      rcases hw with rfl | rfl | rfl <;> exact ⟨by decide +kernel, by decide +kernel⟩)
  (by decide +kernel)

-- D: the translated `CanPayloadBase::setId` / `getId` (entries 45 / 44 of the generated list) on a 21-byte memory with the header at
--    address 2, all-ones background
def exMem : Bytes := [0xAA, 0x55] ++ exOnes
example : (entries_can[45]'(by decide)).field = "id" ∧ (entries_can[44]'(by decide)).field = "id" := by decide +kernel
example : (Src.Bit.run 2 [0x123] ⟨exMem, []⟩ (CanPayloadBase_setId_prog (.arg 0)).1).map (·.m) =
    some ([0xAA, 0x55, 0xFF, 0xFF, 0xFF, 0xFF, 0xE0, 0, 1, 0x23] ++ List.replicate 8 0xFF ++ [1, 2, 3]) := by decide +kernel
example : ((Src.Bit.run 2 [0x123] ⟨exMem, []⟩ (CanPayloadBase_setId_prog (.arg 0)).1).bind fun st =>
    (Src.Bit.run 2 [] ⟨st.m, []⟩ CanPayloadBase_getId_prog.1).map fun s => s.val CanPayloadBase_getId_prog.2) = some 0x123 := by
  decide +kernel
example := set_then_get_src (Layout.c_can, entries_can) can_in_classEntries (entries_can[45]'(by decide +kernel))
  (entries_can[44]'(by decide +kernel)) (List.getElem_mem _) (List.getElem_mem _) fId fId (by decide +kernel) (by decide +kernel) exMem 2 (by decide +kernel)
  0x123 (by decide +kernel) trivial trivial
-- … a flag-clearing entry (`setFlag(ackErr, false)`, entry 7) followed by the getter of a neighbour flag (`crcErr`, entry 2)
example := set_then_get_src (Layout.c_can, entries_can) can_in_classEntries (entries_can[7]'(by decide +kernel))
  (entries_can[2]'(by decide +kernel)) (List.getElem_mem _) (List.getElem_mem _) fAckErr fCrcErr (by decide +kernel) (by decide +kernel) exMem 2
  (by decide +kernel) 0 (by decide +kernel) rfl trivial

-- … clearing `ackErr` (entry 7) and setting the identifier (entry 45), in either order
example := two_setters_any_order_src (Layout.c_can, entries_can) can_in_classEntries (entries_can[7]'(by decide +kernel))
  (entries_can[45]'(by decide +kernel)) (List.getElem_mem _) (List.getElem_mem _) fAckErr fId (by decide +kernel) (by decide +kernel) (by decide +kernel) exMem 2
  (by decide +kernel) 0 0x123 (by decide +kernel) (by decide +kernel) rfl trivial

-- E: the strong coverage check has teeth: without the clearing entry of one LIN flag it fails, while the old check still passes
example : (entries_lin[4]'(by decide)).field = "checksumErr" := by decide +kernel
example : coverageStrong Layout.c_lin (entries_lin.eraseIdx 4) = false := by decide +kernel
example : coverageOk Layout.c_lin (entries_lin.eraseIdx 4) [] = true := by decide +kernel
example : coverageStrong Layout.c_packet entries_packet = false := by decide +kernel
example := every_field_roundtrip_src (Layout.c_msghdr, entries_msghdr) (by simp [classEntries]) ⟨"overflow", 12, 1, 5, 1, ""⟩
  (by decide +kernel) 0 (by decide +kernel) (by decide +kernel) (List.replicate 20 0xFF) 3 (by decide +kernel)

-- F: `setData` on a CAN object with a non-zero header: bytes 0..13 stay, dlc / dataLength and the data are written
example : canSetData [0x12, 0x34, 9, 9, 0xDE, 0xAD, 0xBE, 0xEF, 1, 2, 3, 4, 5, 6, 0x77, 0x88, 0xEE, 0xEE] [0xA, 0xB, 0xC] =
    [0x12, 0x34, 9, 9, 0xDE, 0xAD, 0xBE, 0xEF, 1, 2, 3, 4, 5, 6, 3, 3, 0xA, 0xB, 0xC] := by decide +kernel
example := (setData_keeps_fields exOnes [0xA, 0xB, 0xC]).1 (by decide +kernel) fId (Or.inl (by decide +kernel)) (by decide +kernel) (by decide +kernel)
example := (setData_keeps_fields_src exOnes [0xA, 0xB, 0xC] 0 3 (by decide +kernel)).1 (by decide +kernel) (by decide +kernel)

-- G: a `Payload` object at address 0 (type member at 32..35) and a CAN header at address 40 of a 60-byte all-ones memory
example := header_setter_keeps_other_objects (Layout.c_can, entries_can) can_in_classEntries (entries_can[45]'(by decide +kernel))
  (List.getElem_mem _) fId (by decide +kernel) (List.replicate 60 0xFF) 40 (by decide +kernel) 0x123 (by decide +kernel) trivial
example := type_setters_keep_header_getters (Layout.c_can, entries_can) can_in_classEntries (entries_can[44]'(by decide +kernel))
  (List.getElem_mem _) fId (by decide +kernel) trivial (List.replicate 60 0xFF) 40 0 0x77 (by decide +kernel) (by decide +kernel) (by decide +kernel)
  (Or.inr (by decide +kernel))

-- H: the packed type word, upper half non-zero: only the addressed byte changes
example : setMT 0xABCD1234 0x77 = 0xABCD7734 ∧ setRaw 0xABCD1234 0x77 = 0xABCD1277 := by decide +kernel
example : setField fMsgType 0x77 [0xAB, 0xCD, 0x12, 0x34] = [0xAB, 0xCD, 0x77, 0x34] := by decide +kernel
example := ptype_table_is_word 0xABCD1234 0x77 (by decide +kernel) (by decide +kernel)
-- a flag cleared on an all-ones flags byte: the neighbours stay set; two clears in either order
example : setFlag 0xFF 2 false = 0xFD ∧ setFlag (setFlag 0xFF 2 false) 0x40 false = 0xBD ∧
    setFlag (setFlag 0xFF 0x40 false) 2 false = 0xBD ∧ setFlag (setFlag 0xFF 2 false) 2 true = 0xFF := by decide +kernel
example := (setFlag_any_order 0xFF 2 0x40 false false (by decide +kernel) (by decide +kernel)).1 (by decide +kernel)

end examples



/-! ## J. `Packet`: every scalar setter on EVERY state (not only on `repr p`), the flags and the owned payload as observers

  `SrcPv.scalar_accessors_src` states the nine scalar setters on represented values; here on the raw generated record, with the two
  observers that matter: `getCommonFlag(mask)` after a non-flag setter (a `setSegmentType` that also wrote `commonFlags` would
  break this) and the owned payload after every setter. -/
theorem Packet_scalar_setters_pv (s : SrcGen.PacketV_St) (v : Nat) :
    SrcGen.Packet_setVersion_pv s v = some ({ s with f_version := v }, ()) ∧
    SrcGen.Packet_setDeviceId_pv s v = some ({ s with f_deviceId := v }, ()) ∧
    SrcGen.Packet_setStreamId_pv s v = some ({ s with f_streamId := v }, ()) ∧
    SrcGen.Packet_setSequenceCounter_pv s v = some ({ s with f_sequenceCounter := v }, ()) ∧
    SrcGen.Packet_setTimestamp_pv s v = some ({ s with f_timestamp := v }, ()) ∧
    SrcGen.Packet_setInterfaceId_pv s v = some ({ s with f_interfaceId := v }, ()) ∧
    SrcGen.Packet_setVendorId_pv s v = some ({ s with f_vendorId := v }, ()) ∧
    SrcGen.Packet_setCommonFlags_pv s v = some ({ s with f_commonFlags := v }, ()) ∧
    SrcGen.Packet_setSegmentType_pv s v = some ({ s with f_segmentType := v }, ()) :=
  ⟨rfl, rfl, rfl, rfl, rfl, rfl, rfl, rfl, rfl⟩

def packetNonFlagSetters : List (SrcGen.PacketV_St → Nat → Option (SrcGen.PacketV_St × Unit)) :=
  [SrcGen.Packet_setVersion_pv, SrcGen.Packet_setDeviceId_pv, SrcGen.Packet_setStreamId_pv, SrcGen.Packet_setSequenceCounter_pv,
   SrcGen.Packet_setTimestamp_pv, SrcGen.Packet_setInterfaceId_pv, SrcGen.Packet_setVendorId_pv, SrcGen.Packet_setSegmentType_pv]

theorem Packet_nonflag_setters_keep_flags_and_payload (s : SrcGen.PacketV_St) (v : Nat) :
    ∀ set ∈ packetNonFlagSetters, ∃ s', set s v = some (s', ()) ∧ s'.f_payload = s.f_payload ∧
      s'.f_commonFlags = s.f_commonFlags ∧
      (∀ mask, SrcGen.Packet_getCommonFlag_pv s' mask = some (s', (s.f_commonFlags &&& mask) != 0)) := by
  intro set h
  simp only [packetNonFlagSetters, List.mem_cons, List.not_mem_nil, or_false] at h
  rcases h with h | h | h | h | h | h | h | h <;> subst h <;> exact ⟨_, rfl, rfl, rfl, fun _ => rfl⟩

/-! ## K. a prior state from which the property FAILS in the C++: an object shorter than its header

  "From any prior state of the object": the public constructors `XPayload(const uint8_t* data, size_t size)` accept ANY size (the
  base constructor just copies `size` bytes; only `Packet::create` validates first).  An object built from fewer bytes than the
  class's header is a reachable state in which every setter writes behind the vector's buffer: undefined behaviour in the C++, `none`
  in the translation.  All theorems above therefore carry `size ≤ b.length` / `this + size ≤ M.length`, and this is necessary. -/

/-- on ANY LIN payload object that owns fewer than 7 bytes the translated `LinPayload::setChecksum` is undefined (it stores to
    `payloadData.data() + 6`) -/
theorem lin_setChecksum_short_undefined (m : Bytes) (v : Nat) (h : m.length < 7) :
    SrcGen.LinPayload_setChecksum m 0 m.length 0 v = none := by
  unfold SrcGen.LinPayload_setChecksum SrcGen.LinPayload_getHeader_v2 SrcGen.LinPayload_Header_setChecksum
  simp only [bind, pure, SrcTie.some_bind]
  rw [wr_def, if_neg (by omega)]

/-- the witness: the translated public constructor `LinPayload(data, 3)` is defined and yields an object of 3 bytes; `setChecksum(1)`
    on it is undefined (shallow translation and bit program agree); the same for `CanPayload(data, 4)` and `setId` -/
theorem short_object_violation :
    (∃ s, SrcGen.LinPayload_ctor_ptr_u64_pv [1, 2, 3] 0 3 = some s ∧ s.f_payloadData = [1, 2, 3] ∧
      SrcGen.LinPayload_setChecksum s.f_payloadData 0 s.f_payloadData.length 0 1 = none ∧
      Src.Bit.run 0 [1] ⟨s.f_payloadData, []⟩ (SrcGen.LinPayload_setChecksum_prog (.arg 0)).1 = none) ∧
    (∃ s, SrcGen.CanPayload_ctor_ptr_u64_pv [1, 2, 3, 4] 0 4 = some s ∧ s.f_payloadData = [1, 2, 3, 4] ∧
      SrcGen.CanPayloadBase_setId s.f_payloadData 0 s.f_payloadData.length 0 0x123 = none ∧
      Src.Bit.run 0 [0x123] ⟨s.f_payloadData, []⟩ (SrcGen.CanPayloadBase_setId_prog (.arg 0)).1 = none) := by
  refine ⟨⟨⟨[1, 2, 3], 259⟩, by decide +kernel, rfl, by decide +kernel, by decide +kernel⟩,
    ⟨⟨[1, 2, 3, 4], 257⟩, by decide +kernel, rfl, by decide +kernel, by decide +kernel⟩⟩

end AsamCmp.C11S
