/-
  Source-level tie, decoder part: the message-header and frame-header readers `Decoder::decode` uses and
  `SegmentedPacket::isValidSegmentType`, translated from /repo's source on every run (GeneratedSrc.lean), equal the model's
  `segTypeOf`, `beAt · 14 2`, the fields of `parseFrame`, and `validNext` — for every memory content and position.
-/
import AsamCmp.Props.SrcTie
set_option linter.unusedSimpArgs false
namespace AsamCmp.SrcTie
open AsamCmp AsamCmp.Src AsamCmp.SrcGen
attribute [local congr] bind_head_congr bind_head_congr'

/-! ### the readers, for a message / frame `b` at any address `a` of any memory `m` (`At m a b`) -/

section readers
variable {m b : Bytes} {a : Nat} (hA : At m a b)
include hA

/-- `MessageHeader::getSegmentType` (its `to_underlying` call is resolved by unification, whatever its generated name) -/
theorem segType_at (h : 13 ≤ b.length) : MessageHeader_getSegmentType m a = some (byteAt b 12 &&& 0x0C) := by
  unfold MessageHeader_getSegmentType
  simp (disch := omega) only [hA.rd, leAt_one, bind, some_bind]
  refine bind_of_eq (a := 12) rfl ?_
  src_norm

theorem isSegmented_at (sz : Nat) (h : 13 ≤ b.length) :
    Decoder_isSegmentedPacket m a sz = some ((byteAt b 12 &&& 0x0C) != 0) := by
  unfold Decoder_isSegmentedPacket
  rw [segType_at hA h]; rfl

theorem isFirstSegment_at (sz : Nat) (h : 13 ≤ b.length) :
    Decoder_isFirstSegment m a sz = some ((byteAt b 12 &&& 0x0C) == 4) := by
  unfold Decoder_isFirstSegment
  rw [segType_at hA h]; rfl

theorem payloadLength_at (h : 16 ≤ b.length) : MessageHeader_getPayloadLength m a = some (beAt b 14 2) := by
  unfold MessageHeader_getPayloadLength
  simp (disch := omega) only [hA.rd, swap16_leAt, bind, some_bind, pure]

/-- the message-header readers of the `Packet` constructor -/
theorem msg_header_at (h : 16 ≤ b.length) :
    MessageHeader_getTimestamp m a = some (beAt b 0 8) ∧
    MessageHeader_getInterfaceId m a = some (beAt b 8 4) ∧
    MessageHeader_getVendorId m a = some (beAt b 10 2) ∧
    MessageHeader_getCommonFlags m a = some (byteAt b 12) ∧
    MessageHeader_getPayloadType m a = some (byteAt b 13) := by
  unfold MessageHeader_getTimestamp MessageHeader_getInterfaceId MessageHeader_getVendorId MessageHeader_getCommonFlags
    MessageHeader_getPayloadType
  simp (disch := omega) only [Nat.add_assoc, Nat.reduceAdd, hA.rd, hA.rd0, leAt_one, swap16_leAt, swap32_leAt, swap64_leAt, bind,
    some_bind, pure, and_self]

/-- the five frame-header readers that `Decoder::decode` uses -/
theorem frame_header_at (h : 8 ≤ b.length) :
    CmpHeader_getVersion m a = some (byteAt b 0) ∧
    CmpHeader_getDeviceId m a = some (beAt b 2 2) ∧
    CmpHeader_getStreamId m a = some (byteAt b 5) ∧
    CmpHeader_getMessageType m a = some (byteAt b 4) ∧
    CmpHeader_getSequenceCounter m a = some (beAt b 6 2) := by
  unfold CmpHeader_getVersion CmpHeader_getDeviceId CmpHeader_getStreamId CmpHeader_getMessageType
    CmpHeader_getSequenceCounter
  simp (disch := omega) only [hA.rd, hA.rd0, leAt_one, swap16_leAt, bind, some_bind, pure, and_self]

end readers

/-! ### the same for the rest of the memory from `p` on, and for a frame that is the whole memory -/

theorem segType_src (m : Bytes) (p : Nat) (h : p + 16 ≤ m.length) :
    MessageHeader_getSegmentType m p = some (segTypeOf (m.drop p)) :=
  segType_at (at_drop m p (by omega)) (by rw [List.length_drop]; omega)

theorem isSegmented_src (m : Bytes) (p sz : Nat) (h : p + 16 ≤ m.length) :
    Decoder_isSegmentedPacket m p sz = some (segTypeOf (m.drop p) != 0) :=
  isSegmented_at (at_drop m p (by omega)) sz (by rw [List.length_drop]; omega)

theorem isFirstSegment_src (m : Bytes) (p sz : Nat) (h : p + 16 ≤ m.length) :
    Decoder_isFirstSegment m p sz = some (segTypeOf (m.drop p) == 4) :=
  isFirstSegment_at (at_drop m p (by omega)) sz (by rw [List.length_drop]; omega)

theorem payloadLength_src (m : Bytes) (p : Nat) (h : p + 16 ≤ m.length) :
    MessageHeader_getPayloadLength m p = some (beAt (m.drop p) 14 2) :=
  payloadLength_at (at_drop m p (by omega)) (by rw [List.length_drop]; omega)

/-- the five frame-header readers that `Decoder::decode` uses are the fields of the model's `parseFrame` -/
theorem frame_header_src (b : Bytes) (h : 8 ≤ b.length) :
    CmpHeader_getVersion b 0 = some (parseFrame b).ver ∧
    CmpHeader_getDeviceId b 0 = some (parseFrame b).ep.1 ∧
    CmpHeader_getStreamId b 0 = some (parseFrame b).ep.2 ∧
    CmpHeader_getMessageType b 0 = some (parseFrame b).mt ∧
    CmpHeader_getSequenceCounter b 0 = some (parseFrame b).seq :=
  frame_header_at (at_whole b) h

/-- `SegmentedPacket::isValidSegmentType` on an object whose `segmentType` member holds one of the four enumerators -/
theorem validNext_src (m : Bytes) (this cur t : Nat)
    (h : this + off_Decoder_SegmentedPacket_segmentType + 1 ≤ m.length)
    (hc : byteAt m (this + off_Decoder_SegmentedPacket_segmentType) = cur)
    (hcur : cur = 0 ∨ cur = 4 ∨ cur = 8 ∨ cur = 12) :
    Decoder_SegmentedPacket_isValidSegmentType m this t = some (validNext cur t) := by
  unfold off_Decoder_SegmentedPacket_segmentType at h hc
  unfold Decoder_SegmentedPacket_isValidSegmentType validNext
  simp (disch := omega) only [rd_eq, leAt_one, hc]
  src_norm
  rcases hcur with rfl | rfl | rfl | rfl
  all_goals
    simp only [Nat.reduceEqDiff, or_self, or_true, true_or, or_false, false_or, not_true_eq_false, not_false_eq_true,
      ↓reduceIte]
    bool_omega

end AsamCmp.SrcTie
