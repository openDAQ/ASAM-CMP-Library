/-
  C15S  strengthening of C15 (TECMP messages convert to equivalent ASAM CMP packets).

  Additional theorems about the EXISTING definitions (`tecmpDecode`, `decode`, `decodeAll`, `THdr`,
  `Accepts`, `BusEntry`): nothing in the model is changed.  They close the findings of the statement
  review of C15 (DESIGN.md, section J.4):

   1. LIN with ANY number of bytes behind the data (none, the checksum, checksum + padding); the
      whole ASAM LIN payload is written out byte by byte; "packet ∪ misfit" is exhaustive.
   2. the declared vendor-data length (capture-module status, bus status).  The review found that the
      decoder did not look at it (two genuine defects); the library was repaired, and the theorems here
      describe the repaired behaviour: a bus-status entry is 12 + v bytes, one packet per complete entry for EVERY
      v (C15S_bus_vendor_entries, C15S_bus_vendor_entry_count, C15S_bus_vendor_data_witness,
      C15S_bus_generic_only_vendor_length, C15S_bus_empty_iff); a capture-module status message whose
      declared vendor data does not fit yields no packet (C15S_cm_vendor_misfit_rejected,
      C15S_cm_empty_iff, C15S_cm_vendor_length_only_gates).
   3. the declared TECMP payload length is only a gate: named theorem + witnesses.
   4. CAN / CAN-FD kind follows the data length, not the header's data type: named theorems.
   5. the complete 16-byte ASAM CAN header (id word incl. bits 29..31, CRC word, all reserved bytes).
   6. invalid header (`mt = 0xFF`, data type `0xFF00`) for ALL message types; exact characterisation
      of "yields a packet" over the whole header space.
   7. the statements are lifted from `tecmpDecode` to the entry point `decode` and to arbitrary
      interleaved traffic (`decodeAll`).
   8. non-vacuity: literal instances of every positive theorem, conclusions computed by evaluation.
-/
import AsamCmp.Props.C15
import AsamCmp.Lemmas.LayerB
namespace AsamCmp.C15S
open AsamCmp AsamCmp.C15

/-! ## helpers -/

instance (h : THdr) : Decidable h.WF := by unfold THdr.WF; infer_instance
instance (h : THdr) (p : Bytes) : Decidable (Accepts h p) := by unfold Accepts; infer_instance
instance (e : BusEntry) : Decidable e.WF := by unfold BusEntry.WF; infer_instance

theorem byteAt_append_right (a b : Bytes) (i : Nat) : byteAt (a ++ b) (a.length + i) = byteAt b i := by
  rw [← byteAt_drop_add, List.drop_left' rfl]

theorem hfOf (h : THdr) (hwf : h.WF) : HeaderReadBack h.bytes h.dev h.mt h.dt h.ifId h.ts h.plen := by
  have := C15.headerReadBack_of_wf h hwf []
  rwa [List.append_nil] at this

theorem busEntries_congr (b b' p : Bytes) (v : Nat) (hp : tecmpPacket b = tecmpPacket b') :
    ∀ fuel off, tecmpBusEntries b p v fuel off = tecmpBusEntries b' p v fuel off := by
  intro fuel off
  simp only [tecmpBusEntries_eq_map, busPkt, hp]

/-- the converters use the buffer `b` only through device id, timestamp and interface id -/
theorem kind_congr (b b' p : Bytes) (hp : tecmpPacket b = tecmpPacket b') (h3 : beAt b 12 4 = beAt b' 12 4) :
    tecmpCm b p = tecmpCm b' p ∧ tecmpCan b p = tecmpCan b' p ∧ tecmpLin b p = tecmpLin b' p ∧
    tecmpBus b p = tecmpBus b' p := by
  refine ⟨?_, ?_, ?_, ?_⟩
  · unfold tecmpCm; rw [hp, h3]
  · unfold tecmpCan; rw [hp, h3]
  · unfold tecmpLin; rw [hp, h3]
  · unfold tecmpBus; rw [busEntries_congr b b' p _ hp]

/-! when does a converter return a packet at all -/

theorem cm_ne_nil (b p : Bytes) : tecmpCm b p ≠ [] ↔ 18 ≤ p.length ∧ beAt p 4 2 ≤ p.length - 12 := by
  rw [Ne, tecmpCm_nil_iff]; omega

theorem can_ne_nil (b p : Bytes) : tecmpCan b p ≠ [] ↔ 5 ≤ p.length ∧ byteAt p 4 ≤ p.length - 5 := by
  rw [Ne, tecmpCan_nil_iff]; omega

theorem lin_ne_nil (b p : Bytes) : tecmpLin b p ≠ [] ↔ 2 ≤ p.length ∧ byteAt p 1 ≤ p.length - 2 := by
  rw [Ne, tecmpLin_nil_iff]; omega

theorem bus_ne_nil (b p : Bytes) : tecmpBus b p ≠ [] ↔ 24 + beAt p 4 2 ≤ p.length := by
  rw [Ne, tecmpBus_nil_iff]; omega

/-! ## finding 5 (and 3, 4): CAN / CAN-FD, the complete packet -/

/-- the CRC word of the ASAM payload as a function of the bytes behind the data: the first three
    bytes little-endian (0 when fewer than three are present); truncated to 16 bits for classic CAN
    (`static_cast<uint16_t>` in `ConvertCanPayload`) -/
def crcWord (crc : Bytes) (n : Nat) : Nat :=
  if n > 8 then (if crc.length < 3 then 0 else byteAt crc 0 + 256 * byteAt crc 1 + 65536 * byteAt crc 2)
  else (if crc.length < 3 then 0 else byteAt crc 0 + 256 * byteAt crc 1 + 65536 * byteAt crc 2) % 65536

theorem canCrc_wire (arb : Nat) (data crc : Bytes) :
    tecmpCanCrc (beEnc 4 arb ++ [UInt8.ofNat data.length] ++ data ++ crc) data.length =
      if crc.length < 3 then 0 else byteAt crc 0 + 256 * byteAt crc 1 + 65536 * byteAt crc 2 := by
  have hpre : (beEnc 4 arb ++ [UInt8.ofNat data.length] ++ data).length = 5 + data.length := by
    simp only [List.length_append, List.length_cons, List.length_nil, beEnc_length]
  unfold tecmpCanCrc
  have hlen : (beEnc 4 arb ++ [UInt8.ofNat data.length] ++ data ++ crc).length = 5 + data.length + crc.length := by
    rw [List.length_append, hpre]
  have e0 := byteAt_append_right (beEnc 4 arb ++ [UInt8.ofNat data.length] ++ data) crc 0
  have e1 := byteAt_append_right (beEnc 4 arb ++ [UInt8.ofNat data.length] ++ data) crc 1
  have e2 := byteAt_append_right (beEnc 4 arb ++ [UInt8.ofNat data.length] ++ data) crc 2
  rw [hpre] at e0 e1 e2
  rw [hlen]
  by_cases h3 : crc.length < 3
  · rw [if_pos (by omega), if_pos h3]
  · rw [if_neg (by omega), if_neg h3, show 5 + data.length = 5 + data.length + 0 from rfl, e0, e1, e2]

theorem crcWord_wire (arb : Nat) (data crc : Bytes) :
    canCrcWord (beEnc 4 arb ++ [UInt8.ofNat data.length] ++ data ++ crc) data.length = crcWord crc data.length := by
  unfold canCrcWord crcWord
  rw [canCrc_wire]

/-- CAN / CAN-FD: the ONE packet, all ten packet fields and ALL payload bytes written out.
    Hypotheses (all named by the property): the header is well-formed and accepted, the message is
    a data message of data type CAN or CAN-FD, arbitration id a 32-bit wire field, data length a
    one-byte wire field.  `crc` is whatever follows the data (any length, also empty).
    Pins, beyond `C15_can`: the complete id word (bits 29..31 — the extended-id flag of the TECMP
    arbitration id — included), the CRC word, flags / reserved / error-position bytes = 0, and the
    payload length `16 + data.length`. -/
theorem C15S_can (h : THdr) (arb : Nat) (data crc : Bytes) (hdt : h.dt = 2 ∨ h.dt = 3) (hmt : h.mt = 3)
    (harb : arb < 2 ^ 32) (hn : data.length < 256)
    (hacc : Accepts h (beEnc 4 arb ++ [UInt8.ofNat data.length] ++ data ++ crc)) :
    tecmpDecode (h.bytes ++ (beEnc 4 arb ++ [UInt8.ofNat data.length] ++ data ++ crc)) =
      [{ payload := some ⟨if data.length > 8 then tyCanFd else tyCan,
            [0, 0, 0, 0] ++ beEnc 4 arb ++ beEnc 4 (crcWord crc data.length) ++
            [0, 0, UInt8.ofNat (dlcOf data.length), UInt8.ofNat data.length] ++ data⟩,
         version := 1, deviceId := h.dev, ts := h.ts, ifId := h.ifId }] := by
  rw [decode_can h arb data crc hdt hmt harb hn hacc, canObj_bytes _ _ _ hn, crcWord_wire]

/-- the fields the property names, read back from the packet of `C15S_can` at their ASAM offsets:
    the WHOLE id word equals the arbitration id (no masking), the CRC word, data length, DLC code,
    data bytes, payload size -/
theorem C15S_can_fields (h : THdr) (arb : Nat) (data crc : Bytes) (hdt : h.dt = 2 ∨ h.dt = 3) (hmt : h.mt = 3)
    (harb : arb < 2 ^ 32) (hn : data.length < 256)
    (hacc : Accepts h (beEnc 4 arb ++ [UInt8.ofNat data.length] ++ data ++ crc)) :
    ∃ p pl, tecmpDecode (h.bytes ++ (beEnc 4 arb ++ [UInt8.ofNat data.length] ++ data ++ crc)) = [p] ∧
      FromHdr h p ∧ p.ifId = h.ifId ∧ p.payload = some pl ∧
      pl.data.length = 16 + data.length ∧ beAt pl.data 0 4 = 0 ∧ beAt pl.data 4 4 = arb ∧
      beAt pl.data 8 4 = crcWord crc data.length % 2 ^ 32 ∧ beAt pl.data 12 2 = 0 ∧
      byteAt pl.data 14 = dlcOf data.length ∧ byteAt pl.data 15 = data.length ∧ pl.data.drop 16 = data := by
  obtain ⟨hlen, hid, hcrc, h15, h14, hdrop, _, h12, _⟩ :=
    canObj_facts arb (canCrcWord (beEnc 4 arb ++ [UInt8.ofNat data.length] ++ data ++ crc) data.length) data hn
  refine ⟨_, _, decode_can h arb data crc hdt hmt harb hn hacc, fromHdr_mk h _ _, rfl, rfl,
    hlen, ?_, hid.trans (Nat.mod_eq_of_lt harb), hcrc.trans (by rw [crcWord_wire]), h12, h14, h15, hdrop⟩
  show beAt (canObj arb _ data) 0 4 = 0
  rw [canObj_bytes _ _ _ hn]
  rfl

/-! ## finding 1: LIN with ANY bytes behind the data -/

/-- LIN: the ONE packet, all packet fields and ALL eight header bytes of the ASAM LIN payload.
    `tail` is whatever follows the data in the buffer: nothing, the checksum byte, or the checksum
    followed by padding / a further TECMP message.  The checksum reported is the FIRST byte behind
    the data (`tail.headD 0`: 0 when there is none) — not the last byte of the buffer.
    flags (bytes 0-1), reserved (2-3), byte 5 are 0: no error flag is ever set.
    Hypotheses (property's words): header well-formed and accepted, data message of data type LIN,
    pid and data length one-byte wire fields. -/
theorem C15S_lin (h : THdr) (pid : Nat) (data tail : Bytes) (hdt : h.dt = 4) (hmt : h.mt = 3)
    (hpid : pid < 256) (hn : data.length < 256)
    (hacc : Accepts h ([UInt8.ofNat pid, UInt8.ofNat data.length] ++ data ++ tail)) :
    tecmpDecode (h.bytes ++ ([UInt8.ofNat pid, UInt8.ofNat data.length] ++ data ++ tail)) =
      [{ payload := some ⟨tyLin,
            [0, 0, 0, 0, UInt8.ofNat (pid % 64), 0, tail.headD 0, UInt8.ofNat data.length] ++ data⟩,
         version := 1, deviceId := h.dev, ts := h.ts, ifId := h.ifId }] := by
  rw [decode_lin h pid data tail hdt hmt hpid hn hacc, linObj_bytes]

/-- the property's fields read back at their ASAM offsets (strengthens `C15_lin` to any tail) -/
theorem C15S_lin_fields (h : THdr) (pid : Nat) (data tail : Bytes) (hdt : h.dt = 4) (hmt : h.mt = 3)
    (hpid : pid < 256) (hn : data.length < 256)
    (hacc : Accepts h ([UInt8.ofNat pid, UInt8.ofNat data.length] ++ data ++ tail)) :
    ∃ p pl, tecmpDecode (h.bytes ++ ([UInt8.ofNat pid, UInt8.ofNat data.length] ++ data ++ tail)) = [p] ∧
      FromHdr h p ∧ p.ifId = h.ifId ∧ p.payload = some pl ∧ pl.ty = tyLin ∧
      beAt pl.data 0 4 = 0 ∧ byteAt pl.data 4 = pid % 64 ∧ byteAt pl.data 5 = 0 ∧
      byteAt pl.data 6 = (tail.head?.map UInt8.toNat).getD 0 ∧
      byteAt pl.data 7 = data.length ∧ pl.data.drop 8 = data ∧ pl.data.length = 8 + data.length := by
  obtain ⟨hlen, h4, h6, h7, hdrop, _⟩ := linObj_facts (UInt8.ofNat (pid % 64)) (tail.headD 0) data hn
  have hb := linObj_bytes (UInt8.ofNat (pid % 64)) (tail.headD 0) data
  refine ⟨_, _, decode_lin h pid data tail hdt hmt hpid hn hacc, fromHdr_mk h _ _, rfl, rfl, rfl,
    by rw [hb]; rfl, h4.trans (UInt8.toNat_ofNat_of_lt' (show pid % 64 < 256 by omega)), by rw [hb]; rfl, h6.trans ?_, h7, hdrop, hlen⟩
  cases tail <;> rfl

/-- every payload that passes the LIN length checks IS of the shape of `C15S_lin` (so the positive
    theorem and the misfit theorem together cover all buffers) -/
theorem lin_shape (pay : Bytes) (h2 : 2 ≤ pay.length) (hn : byteAt pay 1 ≤ pay.length - 2) :
    ∃ (pid : Nat) (data tail : Bytes), pid < 256 ∧ data.length < 256 ∧
      pay = [UInt8.ofNat pid, UInt8.ofNat data.length] ++ data ++ tail := by
  match pay, h2, hn with
  | a :: l :: rest, _, hn =>
    have hl : byteAt (a :: l :: rest) 1 = l.toNat := rfl
    rw [hl] at hn
    have hr : l.toNat ≤ rest.length := by simpa using hn
    refine ⟨a.toNat, rest.take l.toNat, rest.drop l.toNat, a.toNat_lt, ?_, ?_⟩
    · rw [List.length_take]; have := l.toNat_lt; omega
    · rw [List.length_take, Nat.min_eq_left hr]
      simp

/-- LIN, exact: an accepted LIN message yields NO packet iff the data length byte does not fit
    the bytes behind it (otherwise exactly the packet of `C15S_lin`, by `lin_shape`) -/
theorem C15S_lin_empty_iff (h : THdr) (pay : Bytes) (hdt : h.dt = 4) (hmt : h.mt = 3) (hacc : Accepts h pay) :
    tecmpDecode (h.bytes ++ pay) = [] ↔ (pay.length < 2 ∨ pay.length - 2 < byteAt pay 1) := by
  rw [accepted_lin h pay hmt hdt hacc]
  exact tecmpLin_nil_iff _ _

/-- LIN, exhaustive: EVERY accepted LIN message is either a misfit (no packet) or has the wire
    shape `[pid, len] ++ data ++ tail` of `C15S_lin` and yields its packet -/
theorem C15S_lin_exhaustive (h : THdr) (pay : Bytes) (hdt : h.dt = 4) (hmt : h.mt = 3) (hacc : Accepts h pay) :
    ((pay.length < 2 ∨ pay.length - 2 < byteAt pay 1) ∧ tecmpDecode (h.bytes ++ pay) = []) ∨
    (∃ (pid : Nat) (data tail : Bytes), pid < 256 ∧ data.length < 256 ∧
      pay = [UInt8.ofNat pid, UInt8.ofNat data.length] ++ data ++ tail ∧
      tecmpDecode (h.bytes ++ pay) =
        [{ payload := some ⟨tyLin,
            [0, 0, 0, 0, UInt8.ofNat (pid % 64), 0, tail.headD 0, UInt8.ofNat data.length] ++ data⟩,
           version := 1, deviceId := h.dev, ts := h.ts, ifId := h.ifId }]) := by
  by_cases hm : pay.length < 2 ∨ pay.length - 2 < byteAt pay 1
  · exact Or.inl ⟨hm, (C15S_lin_empty_iff h pay hdt hmt hacc).mpr hm⟩
  · obtain ⟨pid, data, tail, hpid, hn, rfl⟩ := lin_shape pay (by omega) (by omega)
    exact Or.inr ⟨pid, data, tail, hpid, hn, rfl, C15S_lin h pid data tail hdt hmt hpid hn hacc⟩

/-! ## finding 2: the declared vendor-data length (repaired behaviour) -/

/-- capture-module status, as an equation (the packet of `C15_cm`, all fields).  `hvd`: the vendor data the generic part
    declares (u16 @4) lies inside the payload, behind the 12 generic bytes -/
theorem C15S_cm (h : THdr) (pay : Bytes) (hmt : h.mt = 1) (hlen : 18 ≤ pay.length)
    (hvd : beAt pay 4 2 ≤ pay.length - 12) (hacc : Accepts h pay) :
    tecmpDecode (h.bytes ++ pay) =
      [{ payload := some ⟨tyCm, cmSetData cmDefault []
            (decimal (beAt pay 8 4))
            ([chr 'v'] ++ decimal (byteAt pay 16) ++ [chr '.'] ++ decimal (byteAt pay 17))
            ([chr 'v'] ++ decimal (byteAt pay 13) ++ [chr '.'] ++ decimal (byteAt pay 14) ++ [chr '.'] ++
              decimal (byteAt pay 15))
            []⟩,
         version := 1, deviceId := h.dev, ts := h.ts, ifId := h.ifId }] :=
  decode_cm h pay hmt hlen hvd hacc

/-- capture-module status, exact: an accepted message yields NO packet iff it is shorter than the fields read from it (18
    bytes) or its declared vendor data (u16 @4) does not fit the bytes behind the 12 generic bytes; otherwise exactly the
    packet of `C15S_cm` -/
theorem C15S_cm_empty_iff (h : THdr) (pay : Bytes) (hmt : h.mt = 1) (hacc : Accepts h pay) :
    tecmpDecode (h.bytes ++ pay) = [] ↔ (pay.length < 18 ∨ pay.length - 12 < beAt pay 4 2) := by
  rw [accepted_cm h pay hmt hacc]
  exact tecmpCm_nil_iff _ _

theorem vendor_overwrite (h : THdr) (pay : Bytes) (v : Nat) (hlen : 18 ≤ pay.length) (hv : v < 65536) (hacc : Accepts h pay) :
    (writeAt pay 4 (beEnc 2 v)).length = pay.length ∧ Accepts h (writeAt pay 4 (beEnc 2 v)) ∧
    beAt (writeAt pay 4 (beEnc 2 v)) 4 2 = v := by
  have hl : (writeAt pay 4 (beEnc 2 v)).length = pay.length := writeAt_length_of_le _ _ _ (by simp; omega)
  refine ⟨hl, ⟨hacc.1, hacc.2.1, hacc.2.2.1, hacc.2.2.2.1, by rw [hl]; exact hacc.2.2.2.2⟩, ?_⟩
  rw [beAt_writeAt_enc v (by omega)]
  exact Nat.mod_eq_of_lt hv

/-- the declared vendor-data length of a capture-module status message takes part
    in the length check and in NOTHING else: overwriting it with ANY value `v` that fits the payload (`v ≤ size − 12`) does
    not change the packet — the converter does not copy vendor data -/
theorem C15S_cm_vendor_length_only_gates (h : THdr) (pay : Bytes) (v : Nat) (hmt : h.mt = 1)
    (hlen : 18 ≤ pay.length) (hvd : beAt pay 4 2 ≤ pay.length - 12) (hv : v ≤ pay.length - 12) (hv16 : v < 65536)
    (hacc : Accepts h pay) :
    tecmpDecode (h.bytes ++ writeAt pay 4 (beEnc 2 v)) = tecmpDecode (h.bytes ++ pay) := by
  have hw : 4 + (beEnc 2 v).length ≤ pay.length := by simp; omega
  obtain ⟨hl, hacc', hv'⟩ := vendor_overwrite h pay v hlen hv16 hacc
  rw [C15S_cm h _ hmt (by omega) (by rw [hv', hl]; exact hv) hacc', C15S_cm h pay hmt hlen hvd hacc,
    beAt_writeAt_other hw (Or.inr (by simp)),
    byteAt_writeAt_other hw (Or.inr (by simp)), byteAt_writeAt_other hw (Or.inr (by simp)),
    byteAt_writeAt_other hw (Or.inr (by simp)), byteAt_writeAt_other hw (Or.inr (by simp)),
    byteAt_writeAt_other hw (Or.inr (by simp))]

/-- the property's last clause for `vendorDataLength`: for EVERY accepted
    capture-module status message of at least 18 payload bytes and EVERY declared vendor-data length `v` that exceeds the
    bytes behind the 12 generic bytes, NO packet is returned -/
theorem C15S_cm_vendor_misfit_rejected (h : THdr) (pay : Bytes) (v : Nat) (hmt : h.mt = 1)
    (hlen : 18 ≤ pay.length) (hacc : Accepts h pay) (hv : v < 65536) (hmis : pay.length - 12 < v) :
    beAt (writeAt pay 4 (beEnc 2 v)) 4 2 = v ∧
    tecmpDecode (h.bytes ++ writeAt pay 4 (beEnc 2 v)) = [] := by
  obtain ⟨hl, hacc', hv'⟩ := vendor_overwrite h pay v hlen hv hacc
  exact ⟨hv', (C15S_cm_empty_iff h _ hmt hacc').mpr (Or.inr (by rw [hv', hl]; exact hmis))⟩

/-- bus status without vendor data: the generic part declares vendor-data length 0, so an entry is 12 bytes;
    fewer than 12 trailing bytes are ignored -/
theorem C15S_bus_plain (h : THdr) (generic : Bytes) (es : List BusEntry) (trail : Bytes) (hmt : h.mt = 2)
    (hg : generic.length = 12) (hv : beAt generic 4 2 = 0) (hes : ∀ e ∈ es, e.WF) (ht : trail.length < 12)
    (hacc : Accepts h (generic ++ es.flatMap BusEntry.bytes ++ trail)) :
    tecmpDecode (h.bytes ++ (generic ++ es.flatMap BusEntry.bytes ++ trail)) = es.map (busPacket h) := by
  have hfm : es.flatMap BusEntry.bytes =
      (es.map fun e => (e, ([] : Bytes))).flatMap (fun e => vendorEntry e.1 e.2) := by
    rw [List.flatMap_map]
    simp [vendorEntry]
  have := C15_bus h generic 0 (es.map fun e => (e, ([] : Bytes))) trail hmt hg hv
    (by intro e he
        simp only [List.mem_map] at he
        obtain ⟨a, ha, rfl⟩ := he
        exact ⟨hes a ha, rfl⟩)
    (by simpa using ht) (by rw [← hfm]; exact hacc)
  rw [← hfm, List.map_map] at this
  rw [this]
  rfl

/-- the case "vendor-data length 0, no trailing bytes": one packet per 12-byte entry -/
theorem C15S_bus_no_vendor_data (h : THdr) (generic : Bytes) (es : List BusEntry) (hmt : h.mt = 2)
    (hg : generic.length = 12) (hv : beAt generic 4 2 = 0) (hes : ∀ e ∈ es, e.WF)
    (hacc : Accepts h (generic ++ es.flatMap BusEntry.bytes)) :
    tecmpDecode (h.bytes ++ (generic ++ es.flatMap BusEntry.bytes)) = es.map (busPacket h) ∧
    (tecmpDecode (h.bytes ++ (generic ++ es.flatMap BusEntry.bytes))).length = es.length := by
  have := C15S_bus_plain h generic es [] hmt hg hv hes (by decide) (by simpa using hacc)
  rw [List.append_nil] at this
  rw [this]
  exact ⟨rfl, List.length_map _⟩

/-- of the 12 generic bytes the bus-status converter uses the declared
    `vendorDataLength` (u16 @4) — it fixes the entry size — and NOTHING else: any two generic parts that declare the same
    length give the same packets -/
theorem C15S_bus_generic_only_vendor_length (h : THdr) (generic generic' : Bytes) (v : Nat) (es : List (BusEntry × Bytes))
    (trail : Bytes) (hmt : h.mt = 2) (hg : generic.length = 12) (hg' : generic'.length = 12)
    (hv : beAt generic 4 2 = v) (hv' : beAt generic' 4 2 = v) (hes : ∀ e ∈ es, e.1.WF ∧ e.2.length = v)
    (ht : trail.length < 12 + v) (hacc : Accepts h (generic ++ es.flatMap (fun e => vendorEntry e.1 e.2) ++ trail)) :
    tecmpDecode (h.bytes ++ (generic' ++ es.flatMap (fun e => vendorEntry e.1 e.2) ++ trail)) =
      tecmpDecode (h.bytes ++ (generic ++ es.flatMap (fun e => vendorEntry e.1 e.2) ++ trail)) := by
  have hacc' : Accepts h (generic' ++ es.flatMap (fun e => vendorEntry e.1 e.2) ++ trail) := by
    obtain ⟨a, b, c, d, e⟩ := hacc
    refine ⟨a, b, c, d, ?_⟩
    simp only [List.length_append, hg, hg'] at e ⊢
    exact e
  rw [C15_bus h generic v es trail hmt hg hv hes ht hacc, C15_bus h generic' v es trail hmt hg' hv' hes ht hacc']

theorem busEntries_length (b p : Bytes) (v : Nat) : ∀ fuel off, (p.length - off) / (12 + v) ≤ fuel →
    (tecmpBusEntries b p v fuel off).length = (p.length - off) / (12 + v) := by
  intro fuel off h
  rw [tecmpBusEntries_eq_map, List.length_map, List.length_range, Nat.min_eq_right h]

/-- the NUMBER of interface-status packets of ANY accepted bus-status message (no hypothesis on its content): the number of
    complete entries of `12 + v` bytes behind the 12 generic bytes, `v` the vendor-data length the generic part declares -/
theorem C15S_bus_count (h : THdr) (pay : Bytes) (hmt : h.mt = 2) (hacc : Accepts h pay) :
    (tecmpDecode (h.bytes ++ pay)).length = (pay.length - 12) / (12 + beAt pay 4 2) := by
  rw [accepted_bus h pay hmt hacc, tecmpBus_eq_map, List.length_map, List.length_range]

/-- bus status, exact: an accepted message yields NO packet iff not even one complete entry (12 + declared vendor-data
    length bytes) follows the 12 generic bytes — in particular whenever the declared length exceeds what is there -/
theorem C15S_bus_empty_iff (h : THdr) (pay : Bytes) (hmt : h.mt = 2) (hacc : Accepts h pay) :
    tecmpDecode (h.bytes ++ pay) = [] ↔ pay.length < 24 + beAt pay 4 2 := by
  rw [accepted_bus h pay hmt hacc]
  exact tecmpBus_nil_iff _ _

theorem vendorEntries_length (v : Nat) (ves : List (BusEntry × Bytes)) (hv : ∀ e ∈ ves, e.2.length = v) :
    (ves.flatMap fun e => vendorEntry e.1 e.2).length = ves.length * (12 + v) := by
  rw [C15.vendorEntries_length v ves hv, Nat.mul_comm]

/-- count only (no hypothesis on the entries' content): a bus-status message with `n`
    entries of `12 + v` bytes each, the generic part declaring `vendorDataLength = v`, yields exactly `n` packets -/
theorem C15S_bus_vendor_entry_count (h : THdr) (generic : Bytes) (v : Nat) (ves : List (BusEntry × Bytes))
    (hmt : h.mt = 2) (hg : generic.length = 12) (hvd : beAt generic 4 2 = v) (hv : ∀ e ∈ ves, e.2.length = v)
    (hacc : Accepts h (generic ++ ves.flatMap fun e => vendorEntry e.1 e.2)) :
    (tecmpDecode (h.bytes ++ (generic ++ ves.flatMap fun e => vendorEntry e.1 e.2))).length = ves.length := by
  rw [C15S_bus_count h _ hmt hacc, List.length_append, hg, vendorEntries_length v ves hv,
    beAt_append_of_le _ _ _ _ (by omega), hvd, Nat.add_sub_cancel_left, Nat.mul_div_cancel _ (by omega)]

/-- "one interface-status packet per bus-status entry", on the TECMP wire format
    with per-entry vendor data, for EVERY vendor-data length `v`: `n` entries of `12 + v` bytes → exactly `n` packets, the
    i-th packet built from the i-th entry's first 12 bytes (interface id, counters), whatever the vendor bytes are -/
theorem C15S_bus_vendor_entries (h : THdr) (generic : Bytes) (v : Nat) (ves : List (BusEntry × Bytes))
    (hmt : h.mt = 2) (hg : generic.length = 12) (hvd : beAt generic 4 2 = v)
    (hv : ∀ e ∈ ves, e.1.WF ∧ e.2.length = v)
    (hacc : Accepts h (generic ++ ves.flatMap fun e => vendorEntry e.1 e.2)) :
    tecmpDecode (h.bytes ++ (generic ++ ves.flatMap fun e => vendorEntry e.1 e.2)) = ves.map (fun e => busPacket h e.1) ∧
    (tecmpDecode (h.bytes ++ (generic ++ ves.flatMap fun e => vendorEntry e.1 e.2))).length = ves.length ∧
    (tecmpDecode (h.bytes ++ (generic ++ ves.flatMap fun e => vendorEntry e.1 e.2))).map (·.ifId) =
      ves.map (·.1.ifId) := by
  have := C15_bus h generic v ves [] hmt hg hvd hv (by simp; omega) (by simpa using hacc)
  rw [List.append_nil] at this
  rw [this]
  refine ⟨rfl, List.length_map _, ?_⟩
  rw [List.map_map]
  rfl

/-- the witness frame: device 7, bus status, generic part declaring 4 vendor bytes per entry
    (link status, link quality, link-up time — the library's own `InterfacePayload::Header::VendorData`),
    three entries for interfaces 0x0A, 0x0B, 0x0C -/
def exVendorHdr : THdr :=
  { dev := 7, counter := 1, version := 3, mt := 2, dt := 0, reserved := 0, devFlags := 0, ifId := 0,
    ts := 0x0102030405060708, plen := 60, dataFlags := 0 }
def exVendorGeneric : Bytes := [0x0C, 1, 2, 0, 0, 4, 0, 7, 0, 0, 0, 99]
def exVendorEntries : List (BusEntry × Bytes) :=
  [(⟨0x0A, 100, 1⟩, [1, 200, 0, 5]), (⟨0x0B, 200, 2⟩, [1, 201, 0, 6]), (⟨0x0C, 300, 3⟩, [1, 202, 0, 7])]

/-- "one interface-status packet per bus-status entry" and
    "per-interface counters equal the wire fields" on the TECMP wire format with per-entry vendor data: a well-formed,
    accepted bus-status message that declares 4 vendor bytes per entry and carries THREE entries (interfaces 0x0A, 0x0B,
    0x0C; 3 · 16 = 48 bytes) yields exactly THREE packets, each with its entry's interface id and counters (before the
    repair: four packets, three of them 12-byte windows cut across entry boundaries) -/
theorem C15S_bus_vendor_data_witness :
    exVendorHdr.WF ∧ exVendorHdr.mt = 2 ∧ exVendorGeneric.length = 12 ∧ beAt exVendorGeneric 4 2 = 4 ∧
    (∀ e ∈ exVendorEntries, e.1.WF ∧ e.2.length = 4) ∧ exVendorEntries.length = 3 ∧
    Accepts exVendorHdr (exVendorGeneric ++ exVendorEntries.flatMap fun e => vendorEntry e.1 e.2) ∧
    (tecmpDecode (exVendorHdr.bytes ++ (exVendorGeneric ++ exVendorEntries.flatMap fun e => vendorEntry e.1 e.2))).map
        (fun p => (p.ifId, p.payload.map fun pl => (beAt pl.data 0 4, beAt pl.data 4 4, beAt pl.data 20 4))) =
      [(0x0A, some (0x0A, 100, 1)),
       (0x0B, some (0x0B, 200, 2)),
       (0x0C, some (0x0C, 300, 3))] := by
  refine ⟨by decide, rfl, rfl, by decide, by decide, rfl, by decide, by decide +kernel⟩

/-! ## finding 3: the declared TECMP payload length only gates -/

/-- DEVIATION (named on purpose): the header's declared payload length takes part in the header
    check (non-zero, not beyond the buffer) and in NOTHING else: two accepted headers that differ
    only in `plen` give the same packets for the same bytes behind the header — the converters read
    "everything behind the header" (`size - sizeof(header)`), not `plen` bytes. -/
theorem C15S_plen_only_gates (h : THdr) (q : Nat) (pay : Bytes) (hacc : Accepts h pay)
    (hq1 : 1 ≤ q) (hq2 : q ≤ pay.length) (hq : q < 65536) :
    tecmpDecode (({ h with plen := q } : THdr).bytes ++ pay) = tecmpDecode (h.bytes ++ pay) := by
  obtain ⟨hwf, hmt255, hdt', hp1, hp2⟩ := hacc
  have hacc' : Accepts ({ h with plen := q } : THdr) pay := by
    obtain ⟨a1, a2, a3, a4, a5, a6, a7, a8, a9, _, a11⟩ := hwf
    exact ⟨⟨a1, a2, a3, a4, a5, a6, a7, a8, a9, hq, a11⟩, hmt255, hdt', hq1, hq2⟩
  have hP : ∀ i pl, tecmpPacket (({ h with plen := q } : THdr).bytes ++ pay) i pl = tecmpPacket (h.bytes ++ pay) i pl := by
    intro i pl
    rw [packet_of_hdr _ _ hacc'.1, packet_of_hdr h _ hwf]
  have hI : beAt (({ h with plen := q } : THdr).bytes ++ pay) 12 4 = beAt (h.bytes ++ pay) 12 4 := by
    rw [ifId_of_hdr _ _ hacc'.1, ifId_of_hdr h _ hwf]
  obtain ⟨c1, c2, c3, c4⟩ := kind_congr _ _ pay (funext fun i => funext fun pl => hP i pl) hI
  rw [decode_accepted _ _ hacc', decode_accepted h _ ⟨hwf, hmt255, hdt', hp1, hp2⟩, c1, c2, c3, c4]

/-- … so a CAN message whose declared payload ends INSIDE (or before) its data bytes still delivers
    all `data.length` data bytes: bytes outside the declared payload are reported as data.
    (Instance of `C15S_can`; stated separately so that the over-read is a visible design decision:
    "fits the buffer" means "fits everything behind the header".) -/
theorem C15S_can_reads_past_declared_payload (h : THdr) (arb : Nat) (data crc : Bytes)
    (hdt : h.dt = 2 ∨ h.dt = 3) (hmt : h.mt = 3) (harb : arb < 2 ^ 32) (hn : data.length < 256)
    (hacc : Accepts h (beEnc 4 arb ++ [UInt8.ofNat data.length] ++ data ++ crc))
    (_hshort : h.plen < 5 + data.length) :
    ∃ p pl, tecmpDecode (h.bytes ++ (beEnc 4 arb ++ [UInt8.ofNat data.length] ++ data ++ crc)) = [p] ∧
      p.payload = some pl ∧ byteAt pl.data 15 = data.length ∧ pl.data.drop 16 = data := by
  obtain ⟨p, pl, hd, _, _, hpl, _, _, _, _, _, _, h15, hdrop⟩ :=
    C15S_can_fields h arb data crc hdt hmt harb hn hacc
  exact ⟨p, pl, hd, hpl, h15, hdrop⟩

/-- the consistent case, for comparison: declared payload length = the bytes behind the header -/
theorem C15S_can_consistent (h : THdr) (arb : Nat) (data crc : Bytes) (hdt : h.dt = 2 ∨ h.dt = 3) (hmt : h.mt = 3)
    (harb : arb < 2 ^ 32) (hn : data.length < 256) (hwf : h.WF) (hv : h.mt ≠ 0xFF ∧ h.dt ≠ 0xFF00)
    (hpl : h.plen = 5 + data.length + crc.length) :
    tecmpDecode (h.bytes ++ (beEnc 4 arb ++ [UInt8.ofNat data.length] ++ data ++ crc)) =
      [{ payload := some ⟨if data.length > 8 then tyCanFd else tyCan,
            [0, 0, 0, 0] ++ beEnc 4 arb ++ beEnc 4 (crcWord crc data.length) ++
            [0, 0, UInt8.ofNat (dlcOf data.length), UInt8.ofNat data.length] ++ data⟩,
         version := 1, deviceId := h.dev, ts := h.ts, ifId := h.ifId }] := by
  apply C15S_can h arb data crc hdt hmt harb hn
  refine ⟨hwf, hv.1, hv.2, by omega, ?_⟩
  simp; omega

/-! ## finding 4: CAN vs CAN-FD follows the data length, not the header's data type -/

/-- DEVIATION (named on purpose): the header's data type (2 = CAN, 3 = CAN-FD) has NO influence on
    the packet: switching it leaves the result unchanged -/
theorem C15S_can_kind_ignores_dt (h : THdr) (arb : Nat) (data crc : Bytes) (hdt : h.dt = 2) (hmt : h.mt = 3)
    (harb : arb < 2 ^ 32) (hn : data.length < 256)
    (hacc : Accepts h (beEnc 4 arb ++ [UInt8.ofNat data.length] ++ data ++ crc)) :
    tecmpDecode (({ h with dt := 3 } : THdr).bytes ++ (beEnc 4 arb ++ [UInt8.ofNat data.length] ++ data ++ crc)) =
      tecmpDecode (h.bytes ++ (beEnc 4 arb ++ [UInt8.ofNat data.length] ++ data ++ crc)) := by
  have hacc' : Accepts ({ h with dt := 3 } : THdr) (beEnc 4 arb ++ [UInt8.ofNat data.length] ++ data ++ crc) := by
    obtain ⟨⟨a1, a2, a3, a4, _, a6, a7, a8, a9, a10, a11⟩, b, _, d, e⟩ := hacc
    exact ⟨⟨a1, a2, a3, a4, (by show (3 : Nat) < 65536; decide), a6, a7, a8, a9, a10, a11⟩, b,
      (by show (3 : Nat) ≠ 0xFF00; decide), d, e⟩
  rw [C15S_can h arb data crc (Or.inl hdt) hmt harb hn hacc,
    C15S_can ({ h with dt := 3 } : THdr) arb data crc (Or.inr rfl) hmt harb hn hacc']

/-- a CAN-FD message (data type 3) with at most 8 data bytes becomes a CLASSIC CAN payload
    (and its CRC is truncated to 16 bits) -/
theorem C15S_canfd_short_becomes_can (h : THdr) (arb : Nat) (data crc : Bytes) (hdt : h.dt = 3) (hmt : h.mt = 3)
    (harb : arb < 2 ^ 32) (h8 : data.length ≤ 8)
    (hacc : Accepts h (beEnc 4 arb ++ [UInt8.ofNat data.length] ++ data ++ crc)) :
    ∃ p pl, tecmpDecode (h.bytes ++ (beEnc 4 arb ++ [UInt8.ofNat data.length] ++ data ++ crc)) = [p] ∧
      p.payload = some pl ∧ pl.ty = tyCan := by
  refine ⟨_, _, C15S_can h arb data crc (Or.inr hdt) hmt harb (by omega) hacc, rfl, ?_⟩
  show (if data.length > 8 then tyCanFd else tyCan) = tyCan
  rw [if_neg (by omega)]

/-- a classic CAN message (data type 2) that declares more than 8 data bytes becomes a CAN-FD payload -/
theorem C15S_can_long_becomes_canfd (h : THdr) (arb : Nat) (data crc : Bytes) (hdt : h.dt = 2) (hmt : h.mt = 3)
    (harb : arb < 2 ^ 32) (h8 : 8 < data.length) (hn : data.length < 256)
    (hacc : Accepts h (beEnc 4 arb ++ [UInt8.ofNat data.length] ++ data ++ crc)) :
    ∃ p pl, tecmpDecode (h.bytes ++ (beEnc 4 arb ++ [UInt8.ofNat data.length] ++ data ++ crc)) = [p] ∧
      p.payload = some pl ∧ pl.ty = tyCanFd := by
  refine ⟨_, _, C15S_can h arb data crc (Or.inl hdt) hmt harb hn hacc, rfl, ?_⟩
  show (if data.length > 8 then tyCanFd else tyCan) = tyCanFd
  rw [if_pos h8]

/-! ## finding 6: invalid headers, and the exact set of messages that yield a packet -/

/-- message type 0xFF or data type 0xFF00 (wire bytes `FF 00`): no packet, for EVERY message type
    (closes the gap between `Accepts` and `C15_unsupported` for `mt ∈ {1, 2}`) -/
theorem C15S_invalid_header (h : THdr) (pay : Bytes) (hwf : h.WF) (hinv : h.mt = 0xFF ∨ h.dt = 0xFF00) :
    tecmpDecode (h.bytes ++ pay) = [] := by
  have h5 := (C15.headerReadBack_of_wf h hwf pay).mt
  have h6 : byteAt (h.bytes ++ pay) 6 * 256 + byteAt (h.bytes ++ pay) 7 = h.dt := by
    rw [← beAt_two_eq_byteAt _ 6 (by rw [length_hdr_append]; omega)]; exact (C15.headerReadBack_of_wf h hwf pay).dt
  have l6 := byteAt_lt_256 (h.bytes ++ pay) 6
  have l7 := byteAt_lt_256 (h.bytes ++ pay) 7
  apply tecmpDecode_invalid
  omega

/-- the library's validity test compares the RAW (little-endian read) data-type word with 0xFF: the
    TECMP "invalid" data type 0x00FF is NOT rejected (e.g. a capture-module status message with it
    yields its packet), while 0xFF00 is -/
theorem C15S_dt_00FF_not_rejected (h : THdr) (pay : Bytes) (hwf : h.WF) (hdt : h.dt = 0x00FF) (hmt : h.mt = 1)
    (hp : 1 ≤ h.plen ∧ h.plen ≤ pay.length) (hlen : 18 ≤ pay.length) (hvd : beAt pay 4 2 ≤ pay.length - 12) :
    (tecmpDecode (h.bytes ++ pay)).length = 1 := by
  rw [C15S_cm h pay hmt hlen hvd ⟨hwf, by omega, by omega, hp.1, hp.2⟩]
  rfl

/-- "inner lengths fit the buffer", per supported kind (what the decoder actually tests): capture-module status — the fields
    read (18 bytes) and the declared vendor data behind the 12 generic bytes; bus status — the generic part and at least one
    complete entry of 12 + declared vendor data length bytes; CAN / LIN — header and declared data bytes -/
def Fits (h : THdr) (pay : Bytes) : Prop :=
  (h.mt = 1 ∧ 18 ≤ pay.length ∧ beAt pay 4 2 ≤ pay.length - 12) ∨ (h.mt = 2 ∧ 24 + beAt pay 4 2 ≤ pay.length) ∨
  (h.mt = 3 ∧ (h.dt = 2 ∨ h.dt = 3) ∧ 5 ≤ pay.length ∧ byteAt pay 4 ≤ pay.length - 5) ∨
  (h.mt = 3 ∧ h.dt = 4 ∧ 2 ≤ pay.length ∧ byteAt pay 1 ≤ pay.length - 2)

/-- EXACT characterisation over the whole space of well-formed headers (all 256 message types, all
    65536 data types, any declared length) and all payloads: a packet comes out IFF the header is
    accepted, the kind is supported and its inner lengths fit the bytes behind the header.
    (Both directions: `C15_unsupported` / `C15_misfit_*` / `C15S_invalid_header` are the "only if" half.) -/
theorem C15S_packet_iff (h : THdr) (pay : Bytes) (hwf : h.WF) :
    tecmpDecode (h.bytes ++ pay) ≠ [] ↔ Accepts h pay ∧ Fits h pay := by
  by_cases hacc : Accepts h pay
  · have k1 := cm_ne_nil (h.bytes ++ pay) pay
    have k2 := can_ne_nil (h.bytes ++ pay) pay
    have k3 := lin_ne_nil (h.bytes ++ pay) pay
    have k4 := bus_ne_nil (h.bytes ++ pay) pay
    rw [decode_accepted h pay hacc]
    simp only [Fits, hacc, true_and]
    by_cases m1 : h.mt = 1
    · rw [if_pos m1, k1]
      simp only [m1, Nat.reduceEqDiff, true_and, false_and, or_false]
    · rw [if_neg m1]
      by_cases m3 : h.mt = 3
      · rw [if_pos m3]
        simp only [m3, Nat.reduceEqDiff, true_and, false_and, false_or]
        by_cases d23 : h.dt = 2 ∨ h.dt = 3
        · rw [if_pos d23, k2]
          simp only [d23, true_and, show ¬ h.dt = 4 by omega, false_and, or_false]
        · rw [if_neg d23]
          simp only [d23, false_and, false_or]
          by_cases d4 : h.dt = 4
          · rw [if_pos d4, k3]
            simp only [d4, true_and]
          · rw [if_neg d4]
            simp only [d4, false_and]
            exact ⟨fun x => x rfl, False.elim⟩
      · rw [if_neg m3]
        simp only [m1, m3, false_and, false_or, or_false]
        by_cases m2 : h.mt = 2
        · rw [if_pos m2, k4]
          simp only [m2, true_and]
        · rw [if_neg m2]
          simp only [m2, false_and]
          exact ⟨fun x => x rfl, False.elim⟩
  · have hnil : tecmpDecode (h.bytes ++ pay) = [] := by
      by_cases hv : h.mt = 0xFF ∨ h.dt = 0xFF00
      · exact C15S_invalid_header h pay hwf hv
      · apply C15_misfit_header
        have hpl := (C15.headerReadBack_of_wf h hwf pay).plen
        have hl := length_hdr_append h pay
        have : ¬ (1 ≤ h.plen ∧ h.plen ≤ pay.length) := fun hp => hacc ⟨hwf, by omega, by omega, hp.1, hp.2⟩
        rw [hpl, hl]
        omega
    rw [hnil]
    exact ⟨fun x => absurd rfl x, fun x => absurd x.1 hacc⟩

/-! ## finding 7: the entry point `decode`, and arbitrary interleaved traffic -/

/-- the routing anchor on the property side: a buffer that starts with a `THdr` (first byte 0x00,
    28 ≥ 8 bytes) is handed to the TECMP path by `Decoder::decode`, and the reassembly state of the
    CMP path is untouched.  No hypothesis at all. -/
theorem C15S_decode_routes (s : DecState) (h : THdr) (pay : Bytes) :
    decode s (some (h.bytes ++ pay)) = (s, tecmpDecode (h.bytes ++ pay)) := by
  have hl := length_hdr_append h pay
  have h0 : byteAt (h.bytes ++ pay) 0 = 0 := by simp [THdr.bytes, byteAt]
  unfold decode decodeWith
  dsimp only
  rw [hl, h0, if_neg (by omega), if_pos rfl]

/-- conversely: a buffer whose first byte is not 0 (in particular a TECMP message whose 16-bit device
    id has a non-zero high byte) never reaches the TECMP converter -/
theorem C15S_nonzero_first_byte_not_tecmp (s : DecState) (b : Bytes) (h0 : byteAt b 0 ≠ 0) :
    decode s (some b) = if b.length < 8 then (s, []) else step s (parseFrame b) := by
  unfold decode decodeWith
  simp only [h0, if_false]

/-- every packet of the TECMP path, on EVERY buffer, carries byte 1 of the buffer as device id
    (so always < 256), the 8 bytes @16 as timestamp, version 1, and zero in all other header fields -/
theorem C15S_all_from_header (b : Bytes) :
    ∀ p ∈ tecmpDecode b, p.deviceId = byteAt b 1 ∧ p.deviceId < 256 ∧ p.ts = beAt b 16 8 ∧ p.version = 1 ∧
      p.streamId = 0 ∧ p.seq = 0 ∧ p.vendorId = 0 ∧ p.flags = 0 ∧ p.segType = 0 := by
  intro p hp
  obtain ⟨i, pl, rfl⟩ := tecmpDecode_packets b p hp
  exact ⟨rfl, byteAt_lt_256 b 1, rfl, rfl, rfl, rfl, rfl, rfl, rfl⟩

theorem decodeAll_append (t : Bytes → List Packet) (xs ys : List (Option Bytes)) : ∀ (s : DecState),
    decodeAll t s (xs ++ ys) =
      ((decodeAll t (decodeAll t s xs).1 ys).1, (decodeAll t s xs).2 ++ (decodeAll t (decodeAll t s xs).1 ys).2) :=
  fun s => decodeAll_append_eq t s xs ys

/-- interleaved traffic: a TECMP message placed ANYWHERE in an arbitrary history of buffers (CMP
    frames of any endpoints with reassemblies in progress, null pointers, short buffers, other TECMP
    messages) contributes exactly `tecmpDecode` of itself at its position; the packets of the
    buffers before and after it and the final reassembly state are those of the history without it.
    Together with the theorems above (which describe `tecmpDecode (h.bytes ++ pay)`) every C15
    statement holds at `Decoder::decode` under arbitrary interleaving. -/
theorem C15S_interleaved (s : DecState) (pre post : List (Option Bytes)) (h : THdr) (pay : Bytes) :
    decodeAll tecmpDecode s (pre ++ some (h.bytes ++ pay) :: post) =
      ((decodeAll tecmpDecode s (pre ++ post)).1,
       (decodeAll tecmpDecode s pre).2 ++ tecmpDecode (h.bytes ++ pay) ++
         (decodeAll tecmpDecode (decodeAll tecmpDecode s pre).1 post).2) ∧
    (decodeAll tecmpDecode s (pre ++ post)).2 =
       (decodeAll tecmpDecode s pre).2 ++ (decodeAll tecmpDecode (decodeAll tecmpDecode s pre).1 post).2 := by
  have hr := C15S_decode_routes
  unfold decode at hr
  constructor
  · rw [decodeAll_append, decodeAll_append]
    simp only [decodeAll, hr, List.append_assoc]
  · rw [decodeAll_append]

/-! ## finding 8: non-vacuity — literal instances; conclusions computed by `decide` -/

def exHdr : THdr :=
  { dev := 7, counter := 9, version := 3, mt := 3, dt := 2, reserved := 0, devFlags := 0, ifId := 0x11223344,
    ts := 0x0102030405060708, plen := 12, dataFlags := 0 }

/-- classic CAN, extended-id flag (bit 31) set, 4 data bytes, 3 CRC bytes: consistent lengths -/
def exCanPay : Bytes := beEnc 4 0x80000321 ++ [UInt8.ofNat 4] ++ [0xDE, 0xAD, 0xBE, 0xEF] ++ [0x11, 0x22, 0x33]
example : Accepts exHdr exCanPay := by decide +kernel
example : tecmpDecode (exHdr.bytes ++ exCanPay) =
    [{ payload := some ⟨0x0101, [0, 0, 0, 0, 0x80, 0, 3, 0x21, 0, 0, 0x22, 0x11, 0, 0, 4, 4, 0xDE, 0xAD, 0xBE, 0xEF]⟩,
       version := 1, deviceId := 7, ts := 0x0102030405060708, ifId := 0x11223344 }] := by decide +kernel
/-- … and this literal is what `C15S_can` says (id word 80 00 03 21 unmasked, CRC word 0x2211 =
    little-endian 0x332211 truncated to 16 bits) -/
example : tecmpDecode (exHdr.bytes ++ exCanPay) =
    [{ payload := some ⟨tyCan, [0, 0, 0, 0] ++ beEnc 4 0x80000321 ++ beEnc 4 0x2211 ++ [0, 0, 4, 4] ++ [0xDE, 0xAD, 0xBE, 0xEF]⟩,
       version := 1, deviceId := 7, ts := 0x0102030405060708, ifId := 0x11223344 }] :=
  C15S_can exHdr 0x80000321 [0xDE, 0xAD, 0xBE, 0xEF] [0x11, 0x22, 0x33] (Or.inl rfl) rfl (by decide) (by decide) (by decide)
example : crcWord [0x11, 0x22, 0x33] 4 = 0x2211 := by decide +kernel
example : crcWord [0x11, 0x22, 0x33, 0x44] 12 = 0x332211 := by decide +kernel
example : crcWord [0x11, 0x22] 12 = 0 := by decide +kernel

/-- CAN-FD, 12 data bytes, declared payload length ONE byte (finding 3): still a 12-byte CAN-FD packet -/
def exFdHdr : THdr := { exHdr with dt := 3, plen := 1 }
def exFdPay : Bytes := beEnc 4 0x1ABCDEF0 ++ [UInt8.ofNat 12] ++ [1, 2, 3, 4, 5, 6, 7, 8, 9, 10, 11, 12] ++ [0x11, 0x22, 0x33, 0x44]
example : Accepts exFdHdr exFdPay ∧ exFdHdr.plen < 5 + 12 := by decide +kernel
example : tecmpDecode (exFdHdr.bytes ++ exFdPay) =
    [{ payload := some ⟨0x0102, [0, 0, 0, 0, 0x1A, 0xBC, 0xDE, 0xF0, 0, 0x33, 0x22, 0x11, 0, 0, 9, 12,
                                 1, 2, 3, 4, 5, 6, 7, 8, 9, 10, 11, 12]⟩,
       version := 1, deviceId := 7, ts := 0x0102030405060708, ifId := 0x11223344 }] := by decide +kernel
example : ∃ p pl, tecmpDecode (exFdHdr.bytes ++ exFdPay) = [p] ∧ p.payload = some pl ∧ byteAt pl.data 15 = 12 ∧
    pl.data.drop 16 = [1, 2, 3, 4, 5, 6, 7, 8, 9, 10, 11, 12] :=
  C15S_can_reads_past_declared_payload exFdHdr 0x1ABCDEF0 [1, 2, 3, 4, 5, 6, 7, 8, 9, 10, 11, 12] [0x11, 0x22, 0x33, 0x44]
    (Or.inr rfl) rfl (by decide) (by decide) (by decide) (by decide)
example : tecmpDecode (({ exFdHdr with plen := 21 } : THdr).bytes ++ exFdPay) = tecmpDecode (exFdHdr.bytes ++ exFdPay) :=
  C15S_plen_only_gates exFdHdr 21 exFdPay (by decide) (by decide) (by decide) (by decide)

/-- finding 3, the two-message frame: a CAN message with consistent declared length 7 (id, length,
    2 data bytes, no CRC) followed in the same buffer by a second TECMP message.  The CRC word of
    the first message's packet is 0x0700: bytes 0..2 (`00 07 00` — routing byte, device id, counter)
    of the NEXT message's header. -/
def exTwoHdr : THdr := { exHdr with plen := 7 }
example : Accepts exTwoHdr (beEnc 4 0x123 ++ [UInt8.ofNat 2] ++ [0xAA, 0xBB] ++ (exHdr.bytes ++ exCanPay)) := by decide +kernel
example : (tecmpDecode (exTwoHdr.bytes ++ (beEnc 4 0x123 ++ [UInt8.ofNat 2] ++ [0xAA, 0xBB] ++ (exHdr.bytes ++ exCanPay)))).map
      (fun p => p.payload.map fun pl => (pl.ty, beAt pl.data 4 4, beAt pl.data 8 4, pl.data.drop 16)) =
    [some (0x0101, 0x123, 0x0700, [0xAA, 0xBB])] := by decide +kernel

/-- finding 4: data type CAN-FD with 4 data bytes → classic CAN payload; data type CAN with 12 → CAN-FD -/
example : ∃ p pl, tecmpDecode (({ exHdr with dt := 3 } : THdr).bytes ++ exCanPay) = [p] ∧ p.payload = some pl ∧ pl.ty = tyCan :=
  C15S_canfd_short_becomes_can { exHdr with dt := 3 } 0x80000321 [0xDE, 0xAD, 0xBE, 0xEF] [0x11, 0x22, 0x33] rfl rfl
    (by decide) (by decide) (by decide)
example : ∃ p pl, tecmpDecode (({ exFdHdr with dt := 2 } : THdr).bytes ++ exFdPay) = [p] ∧ p.payload = some pl ∧ pl.ty = tyCanFd :=
  C15S_can_long_becomes_canfd { exFdHdr with dt := 2 } 0x1ABCDEF0 [1, 2, 3, 4, 5, 6, 7, 8, 9, 10, 11, 12] [0x11, 0x22, 0x33, 0x44]
    rfl rfl (by decide) (by decide) (by decide) (by decide)

/-- LIN (there was no LIN instance anywhere): pid 0xC1 (parity bits set; id 1), 3 data bytes,
    checksum 0x5A followed by two padding bytes 0xEE — the checksum is 0x5A, not the last byte -/
def exLinHdr : THdr := { exHdr with dt := 4, plen := 5 }
example : Accepts exLinHdr ([UInt8.ofNat 0xC1, UInt8.ofNat 3] ++ [1, 2, 3] ++ [0x5A, 0xEE, 0xEE]) := by decide +kernel
example : tecmpDecode (exLinHdr.bytes ++ ([UInt8.ofNat 0xC1, UInt8.ofNat 3] ++ [1, 2, 3] ++ [0x5A, 0xEE, 0xEE])) =
    [{ payload := some ⟨0x0103, [0, 0, 0, 0, 1, 0, 0x5A, 3, 1, 2, 3]⟩,
       version := 1, deviceId := 7, ts := 0x0102030405060708, ifId := 0x11223344 }] := by decide +kernel
example : tecmpDecode (exLinHdr.bytes ++ ([UInt8.ofNat 0xC1, UInt8.ofNat 3] ++ [1, 2, 3] ++ [0x5A, 0xEE, 0xEE])) =
    [{ payload := some ⟨tyLin, [0, 0, 0, 0, UInt8.ofNat (0xC1 % 64), 0, [0x5A, 0xEE, 0xEE].headD 0, UInt8.ofNat 3] ++ [1, 2, 3]⟩,
       version := 1, deviceId := 7, ts := 0x0102030405060708, ifId := 0x11223344 }] :=
  C15S_lin exLinHdr 0xC1 [1, 2, 3] [0x5A, 0xEE, 0xEE] rfl rfl (by decide) (by decide) (by decide)
/-- LIN with NO byte behind the data: checksum 0 -/
example : Accepts exLinHdr ([UInt8.ofNat 0xC1, UInt8.ofNat 3] ++ [1, 2, 3] ++ []) := by decide +kernel
example : tecmpDecode (exLinHdr.bytes ++ ([UInt8.ofNat 0xC1, UInt8.ofNat 3] ++ [1, 2, 3] ++ [])) =
    [{ payload := some ⟨0x0103, [0, 0, 0, 0, 1, 0, 0, 3, 1, 2, 3]⟩,
       version := 1, deviceId := 7, ts := 0x0102030405060708, ifId := 0x11223344 }] := by decide +kernel
/-- LIN misfit: declares 4 data bytes, 3 present -/
example : tecmpDecode (exLinHdr.bytes ++ [0xC1, 4, 1, 2, 3]) = [] :=
  (C15S_lin_empty_iff exLinHdr [0xC1, 4, 1, 2, 3] rfl rfl (by decide)).mpr (by decide)

/-- capture-module status: 18 payload bytes declaring 6 vendor bytes (18 − 12: exactly what is there) — one packet:
    serial "12345678", hardware "v4.5", software "v1.2.3" -/
def exCmHdr : THdr := { exHdr with mt := 1, dt := 0, plen := 18 }
def exCmPay : Bytes := [0x0C, 1, 2, 0, 0, 6, 0, 7, 0x00, 0xBC, 0x61, 0x4E, 0, 1, 2, 3, 4, 5]
example : Accepts exCmHdr exCmPay ∧ beAt exCmPay 4 2 = 6 ∧ beAt exCmPay 4 2 ≤ exCmPay.length - 12 := by decide +kernel
example : tecmpDecode (exCmHdr.bytes ++ exCmPay) =
    [{ payload := some ⟨0x0301,
         [0, 0, 0, 0, 0, 0, 0, 0, 0, 0, 0, 0, 0, 0, 0, 0, 0, 0, 0, 0, 0, 0, 0, 0, 0, 0,
          0, 2, 0, 0,                                               -- description ""
          0, 10, 0x31, 0x32, 0x33, 0x34, 0x35, 0x36, 0x37, 0x38, 0, 0,    -- serial number "12345678"
          0, 6, 0x76, 0x34, 0x2E, 0x35, 0, 0,                             -- hardware version "v4.5"
          0, 8, 0x76, 0x31, 0x2E, 0x32, 0x2E, 0x33, 0, 0,                 -- software version "v1.2.3"
          0, 0]⟩,                                                          -- vendor data length 0
       version := 1, deviceId := 7, ts := 0x0102030405060708, ifId := 0x11223344 }] := by decide +kernel
example : (tecmpDecode (exCmHdr.bytes ++ exCmPay)).length = 1 := by
  rw [C15S_cm exCmHdr exCmPay rfl (by decide) (by decide) (by decide)]; rfl
/-- the same 18 bytes DECLARING 7 vendor bytes (one more than there is), or 65535: no packet (finding 2, repaired) -/
example : tecmpDecode (exCmHdr.bytes ++ writeAt exCmPay 4 (beEnc 2 7)) = [] := by decide +kernel
example : tecmpDecode (exCmHdr.bytes ++ [0x0C, 1, 2, 0, 0xFF, 0xFF, 0, 7, 0x00, 0xBC, 0x61, 0x4E, 0, 1, 2, 3, 4, 5]) = [] := by decide +kernel
example : beAt (writeAt exCmPay 4 (beEnc 2 65535)) 4 2 = 65535 ∧
    tecmpDecode (exCmHdr.bytes ++ writeAt exCmPay 4 (beEnc 2 65535)) = [] :=
  C15S_cm_vendor_misfit_rejected exCmHdr exCmPay 65535 rfl (by decide) (by decide) (by decide) (by decide)
/-- … while declaring 0 ("no vendor data") leaves the packet as it is -/
example : tecmpDecode (exCmHdr.bytes ++ writeAt exCmPay 4 (beEnc 2 0)) = tecmpDecode (exCmHdr.bytes ++ exCmPay) :=
  C15S_cm_vendor_length_only_gates exCmHdr exCmPay 0 rfl (by decide) (by decide) (by decide) (by decide) (by decide)
example : (tecmpDecode (exCmHdr.bytes ++ writeAt exCmPay 4 (beEnc 2 0))).length = 1 := by decide +kernel
/-- invalid data type 0xFF00 on a capture-module status message (the case no C15 theorem covered) -/
example : tecmpDecode (({ exCmHdr with dt := 0xFF00 } : THdr).bytes ++ exCmPay) = [] :=
  C15S_invalid_header _ _ (by decide) (Or.inr rfl)
example : tecmpDecode (({ exCmHdr with dt := 0xFF00 } : THdr).bytes ++ exCmPay) = [] := by decide +kernel
/-- … whereas 0x00FF passes -/
example : (tecmpDecode (({ exCmHdr with dt := 0x00FF } : THdr).bytes ++ exCmPay)).length = 1 :=
  C15S_dt_00FF_not_rejected _ _ (by decide) rfl rfl (by decide) (by decide) (by decide)

/-- bus status, vendor-data length 0, two entries and three stray bytes -/
def exBusHdr : THdr := { exHdr with mt := 2, dt := 0, plen := 39 }
def exBusGeneric : Bytes := [0x0C, 1, 2, 0, 0, 0, 0, 7, 0, 0, 0, 99]
def exBusEntries : List BusEntry := [⟨0x0A, 100, 1⟩, ⟨0x0B, 70000, 2⟩]
example : Accepts exBusHdr (exBusGeneric ++ exBusEntries.flatMap BusEntry.bytes ++ [9, 9, 9]) ∧
    (∀ e ∈ exBusEntries, e.WF) ∧ beAt exBusGeneric 4 2 = 0 := by decide +kernel
example : tecmpDecode (exBusHdr.bytes ++ (exBusGeneric ++ exBusEntries.flatMap BusEntry.bytes ++ [9, 9, 9])) =
    [{ payload := some ⟨0x0302, [0, 0, 0, 0x0A, 0, 0, 0, 100, 0, 0, 0, 0, 0, 0, 0, 0, 0, 0, 0, 0, 0, 0, 0, 1,
                                 0, 0, 0, 0, 0, 0, 0, 0, 0, 0, 0, 0, 0, 0, 0, 0]⟩,
       version := 1, deviceId := 7, ts := 0x0102030405060708, ifId := 0x0A },
     { payload := some ⟨0x0302, [0, 0, 0, 0x0B, 0, 1, 0x11, 0x70, 0, 0, 0, 0, 0, 0, 0, 0, 0, 0, 0, 0, 0, 0, 0, 2,
                                 0, 0, 0, 0, 0, 0, 0, 0, 0, 0, 0, 0, 0, 0, 0, 0]⟩,
       version := 1, deviceId := 7, ts := 0x0102030405060708, ifId := 0x0B }] := by decide +kernel
example : tecmpDecode (exBusHdr.bytes ++ (exBusGeneric ++ exBusEntries.flatMap BusEntry.bytes ++ [9, 9, 9])) =
    exBusEntries.map (busPacket exBusHdr) :=
  C15S_bus_plain exBusHdr exBusGeneric exBusEntries [9, 9, 9] rfl rfl (by decide) (by decide) (by decide) (by decide)
/-- the same 27 bytes behind a generic part that declares 4 vendor bytes per entry are ONE entry of 16 bytes and 11 stray
    bytes: one packet (the declared vendor-data length is what fixes the entry size) -/
example : (tecmpDecode (exBusHdr.bytes ++ (exVendorGeneric ++ exBusEntries.flatMap BusEntry.bytes ++ [9, 9, 9]))).map (·.ifId) =
    [0x0A] := by decide +kernel

/-- bus status with v = 4 vendor bytes per entry and THREE entries: exactly three packets, interface ids 0x0A, 0x0B, 0x0C
    and counters (100, 1), (200, 2), (300 = 0x012C, 3) written out — all payload bytes -/
example : tecmpDecode (exVendorHdr.bytes ++ (exVendorGeneric ++ exVendorEntries.flatMap fun e => vendorEntry e.1 e.2)) =
    [{ payload := some ⟨0x0302, [0, 0, 0, 0x0A, 0, 0, 0, 100, 0, 0, 0, 0, 0, 0, 0, 0, 0, 0, 0, 0, 0, 0, 0, 1,
                                 0, 0, 0, 0, 0, 0, 0, 0, 0, 0, 0, 0, 0, 0, 0, 0]⟩,
       version := 1, deviceId := 7, ts := 0x0102030405060708, ifId := 0x0A },
     { payload := some ⟨0x0302, [0, 0, 0, 0x0B, 0, 0, 0, 200, 0, 0, 0, 0, 0, 0, 0, 0, 0, 0, 0, 0, 0, 0, 0, 2,
                                 0, 0, 0, 0, 0, 0, 0, 0, 0, 0, 0, 0, 0, 0, 0, 0]⟩,
       version := 1, deviceId := 7, ts := 0x0102030405060708, ifId := 0x0B },
     { payload := some ⟨0x0302, [0, 0, 0, 0x0C, 0, 0, 0x01, 0x2C, 0, 0, 0, 0, 0, 0, 0, 0, 0, 0, 0, 0, 0, 0, 0, 3,
                                 0, 0, 0, 0, 0, 0, 0, 0, 0, 0, 0, 0, 0, 0, 0, 0]⟩,
       version := 1, deviceId := 7, ts := 0x0102030405060708, ifId := 0x0C }] := by decide +kernel
/-- … which is what the general theorems say -/
example : tecmpDecode (exVendorHdr.bytes ++ (exVendorGeneric ++ exVendorEntries.flatMap fun e => vendorEntry e.1 e.2)) =
    exVendorEntries.map (fun e => busPacket exVendorHdr e.1) :=
  (C15S_bus_vendor_entries exVendorHdr exVendorGeneric 4 exVendorEntries rfl rfl (by decide) (by decide) (by decide)).1
example : (tecmpDecode (exVendorHdr.bytes ++ (exVendorGeneric ++ exVendorEntries.flatMap fun e => vendorEntry e.1 e.2))).length = 3 :=
  C15S_bus_vendor_entry_count exVendorHdr exVendorGeneric 4 exVendorEntries rfl rfl (by decide) (by decide) (by decide)
/-- the three entries followed by the first 15 bytes of a fourth (truncated last entry): still three packets -/
example : tecmpDecode (exVendorHdr.bytes ++ (exVendorGeneric ++ (exVendorEntries.flatMap fun e => vendorEntry e.1 e.2) ++
      [0, 0, 0, 0x0D, 0, 0, 0, 9, 0, 0, 0, 4, 1, 203, 0])) = exVendorEntries.map (fun e => busPacket exVendorHdr e.1) :=
  C15_bus exVendorHdr exVendorGeneric 4 exVendorEntries [0, 0, 0, 0x0D, 0, 0, 0, 9, 0, 0, 0, 4, 1, 203, 0] rfl rfl (by decide)
    (by decide) (by decide) (by decide)
/-- the same 48 entry bytes behind a generic part that declares 100 vendor bytes per entry (more than what is there): no
    packet -/
example : tecmpDecode (exVendorHdr.bytes ++ ([0x0C, 1, 2, 0, 0, 100, 0, 7, 0, 0, 0, 99] ++
      exVendorEntries.flatMap fun e => vendorEntry e.1 e.2)) = [] :=
  (C15S_bus_empty_iff exVendorHdr _ rfl (by decide)).mpr (by decide)

/-- `C15S_packet_iff` on literals: accepted + fits ↔ packet -/
example : Accepts exLinHdr [0xC1, 3, 1, 2, 3] ∧ Fits exLinHdr [0xC1, 3, 1, 2, 3] :=
  ⟨by decide, Or.inr (Or.inr (Or.inr (by decide)))⟩
example : ¬ Fits exLinHdr [0xC1, 4, 1, 2, 3] := by unfold Fits; decide
example : tecmpDecode (exLinHdr.bytes ++ [0xC1, 3, 1, 2, 3]) ≠ [] :=
  (C15S_packet_iff exLinHdr _ (by decide)).mpr ⟨by decide, Or.inr (Or.inr (Or.inr (by decide)))⟩

/-- the entry point, and a TECMP message between two halves of a segmented CMP message -/
example (s : DecState) : decode s (some (exLinHdr.bytes ++ [0xC1, 3, 1, 2, 3])) =
    (s, [{ payload := some ⟨0x0103, [0, 0, 0, 0, 1, 0, 0, 3, 1, 2, 3]⟩,
           version := 1, deviceId := 7, ts := 0x0102030405060708, ifId := 0x11223344 }]) := by
  rw [C15S_decode_routes]
  exact congrArg (Prod.mk s) (by decide)

end AsamCmp.C15S
