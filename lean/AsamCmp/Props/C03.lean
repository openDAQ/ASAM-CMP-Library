/-
  C03  Payloads accepted by validation expose only in-bounds data.

  If a payload class's validity check accepts a buffer, then every accessor of a payload built from
  that buffer reads only inside it, and every variable-length view it reports lies entirely within
  the payload's own bytes.  The same holds for every packet a decoder returns as valid, and a buffer
  accepted by the message-level validity check can be turned into a packet without reading past its end.
-/
import AsamCmp.Access
import AsamCmp.Decoder
import AsamCmp.Lemmas.Access
namespace AsamCmp.C03
open AsamCmp

/-- C03 per class: the validator accepting `b` implies that no accessor reads outside `b` (the
    checked-read model returns `some`) and that every reported view lies inside `b` -/
theorem accessors_inbounds (k : String) (v : Bytes → Bool) (a : Bytes → Option (List View))
    (hk : kindValid k = some v) (ha : kindAccess k = some a) (b : Bytes) (hv : v b = true) :
    ∃ vs, a b = some vs ∧ ∀ x ∈ vs, x.inBounds b.length = true := by
  obtain ⟨ty, a', r⟩ := row_of_kindValid hk
  have e := r.kindAccess_eq
  rw [ha] at e; cases e
  exact r.inBounds b hv

/-- the seven classes are all covered -/
theorem kinds_total (k : String) : (kindValid k).isSome = (kindAccess k).isSome := by
  rcases row_or_none_of_name k with ⟨ty, v, a, r⟩ | ⟨_, hv, ha⟩
  · rw [r.kindValid_eq, r.kindAccess_eq]; rfl
  · rw [hv, ha]; rfl

/-- message level: a buffer accepted by `Packet::isValidPacket` holds its 16 header bytes and the
    declared payload, which is exactly what the packet constructor reads -/
theorem msgValid_inbounds (r : Bytes) (h : msgValid r = true) :
    16 + beAt r 14 2 ≤ r.length ∧ (slice r 16 (beAt r 14 2)).length = beAt r 14 2 := by
  simp only [msgValid, Bool.and_eq_true, decide_eq_true_eq] at h
  obtain ⟨⟨⟨h16, hlen⟩, _⟩, _⟩ := h
  refine ⟨by omega, ?_⟩
  simp only [slice, List.length_take, List.length_drop]
  omega

/-- `Packet::create` marks a typed payload valid only if its validator accepted exactly the bytes
    the payload holds -/
theorem create_valid (ty : Nat) (d : Bytes) (h : (create ty d).isValid = true) :
    (create ty d).data = d ∧ (create ty d).ty = ty ∧ ∀ v, validatorOf ty = some v → v d = true := by
  rcases create_cases ty d with ⟨e, hv⟩ | e
  · rw [e]; exact ⟨rfl, rfl, hv⟩
  · rw [e] at h; cases h

/-- the validator `Packet::create` uses for a payload type is the validator of that type's class -/
theorem validator_kind (ty : Nat) (k : String) (hk : kindOfTy ty = some k) :
    ∃ v, validatorOf ty = some v ∧ kindValid k = some v := by
  rcases row_or_none_of_ty ty with ⟨k', v, a, r⟩ | ⟨hn, _⟩
  · cases hk.symm.trans r.kindOfTy_eq
    exact ⟨v, r.validatorOf_eq, r.kindValid_eq⟩
  · cases hk.symm.trans hn

theorem walk_payload (ep : Ep) (ver mt : Nat) (r : Bytes) :
    ∀ p ∈ (walk ep ver mt r).1, ∃ ty d, p.payload = some (create ty d) := by
  intro p hp
  obtain ⟨_, _, _, h⟩ := C03S.walk_source ep ver mt r p hp
  exact h ▸ ⟨_, _, rfl⟩

/-- every packet a step of the decoder delivers, unsegmented or reassembled, carries a payload that came out of
    `Packet::create`, provided the frame's unsegmented packets do (those of a parsed frame: `walk_payload`) -/
theorem step_payload (s : DecState) (f : PFrame) (hu : ∀ p ∈ f.unseg, ∃ ty d, p.payload = some (create ty d)) :
    ∀ p ∈ (step s f).2, ∃ ty d, p.payload = some (create ty d) := by
  intro p hp
  rcases C03S.localStep_source _ _ p hp with h | ⟨_, _, _, _, h⟩
  · exact hu p h
  · exact h ▸ ⟨_, _, rfl⟩

/-- every packet the decoder returns for a capture-module frame, if marked valid and typed, exposes
    only in-bounds data through its class's accessors (any decoder state, any buffer) -/
theorem decoded_accessors_inbounds (s : DecState) (buf : Bytes) :
    ∀ p ∈ (step s (parseFrame buf)).2, ∀ pl, p.payload = some pl → pl.isValid = true →
      ∀ k a, kindOfTy pl.ty = some k → kindAccess k = some a →
        ∃ vs, a pl.data = some vs ∧ ∀ x ∈ vs, x.inBounds pl.data.length = true := by
  intro p hp pl hpl hvalid k a hk ha
  obtain ⟨ty, d, hpd⟩ := step_payload s _ (walk_payload _ _ _ _) p hp
  rw [hpl] at hpd
  have hpl' : pl = create ty d := Option.some.inj hpd
  subst hpl'
  obtain ⟨hdata, hty, hval⟩ := create_valid ty d hvalid
  rw [hty] at hk
  obtain ⟨v, hv1, hv2⟩ := validator_kind ty k hk
  rw [hdata]
  exact accessors_inbounds k v a hv2 ha d (hval v hv1)

/-- non-vacuity: a 20-byte CAN payload with 4 data bytes is valid and its data view is (16, 4) -/
example : canValid (zeros 15 ++ [4] ++ [1,2,3,4]) = true ∧
    canAccess (zeros 15 ++ [4] ++ [1,2,3,4]) = some [⟨"data", some 16, 4⟩] := by decide +kernel

/-- the repaired validators reject the header-only buffers the unrepaired ones accepted -/
example : cmValid (zeros 26) = false ∧ ifValid (zeros 36) = false ∧ linValid (zeros 7 ++ [200]) = false := by decide +kernel

end AsamCmp.C03
