/-
  C17  Decoder keeps reassembly state only for messages still in progress.

  After any history of frames the decoder holds pending reassembly data for exactly those
  endpoints whose most recent frame opened or continued a still-incomplete segmented message;
  completing, aborting or superseding a message releases its buffer.  What is pending for an endpoint
  is the 16 header bytes plus the segment bytes received for its open message (`pending_bytes_eq`;
  `C17_pending_bytes` states the bound), so traffic without open messages leaves the decoder's memory
  at its baseline however long it runs.
-/
import AsamCmp.Decoder
import AsamCmp.Props.C18
import AsamCmp.Lemmas.LayerB
namespace AsamCmp

/-- a segment terminator carries at least a message header (true of everything `parseFrame` yields) -/
def PFrame.WF (f : PFrame) : Prop :=
  match f.term with
  | .seg m => 16 ≤ m.length
  | _ => True

theorem parseFrame_WF (b : Bytes) : (parseFrame b).WF := by
  unfold PFrame.WF
  split
  · rename_i m hm
    exact walk_seg_length _ _ _ _ m hm
  · trivial

/-- Specification automaton, independent of buffers: the descriptor of the message in progress on
    one endpoint — (version, message type, counter of its latest segment) — or `none`.
    A first segment opens; an intermediary segment that arrives alone in its frame with the same
    version and type and the successor counter continues; everything else (unsegmented or invalid
    message, last segment, mismatch, header-only frame) closes. -/
def openSpec (o : Option (Nat × Nat × Nat)) (f : PFrame) : Option (Nat × Nat × Nat) :=
  match f.term with
  | .seg m =>
    if segTypeOf m = 4 then some (f.ver, f.mt, f.seq)
    else if segTypeOf m = 8 ∧ f.unseg.isEmpty then
      match o with
      | some (v, t, q) => if v = f.ver ∧ t = f.mt ∧ f.seq = (q + 1) % 65536 then some (v, t, f.seq) else none
      | none => none
    else none
  | _ => none

def openAfter (fs : List PFrame) : Option (Nat × Nat × Nat) := fs.foldl openSpec none

/-- bytes of the message in progress: segment bytes received since its first segment -/
def openBytesStep (acc : Nat) (f : PFrame) : Nat :=
  match f.term with
  | .seg m => if segTypeOf m = 4 then m.length - 16 else acc + (m.length - 16)
  | _ => 0

def openBytes (fs : List PFrame) : Nat := fs.foldl openBytesStep 0

def Pending.descr (p : Pending) : Nat × Nat × Nat := (p.ver, p.mt, p.seq)

/-- stored reassemblies always come from a first or an intermediary segment -/
def PendingOk (p : Option Pending) : Prop :=
  match p with
  | none => True
  | some q => (q.last = 4 ∨ q.last = 8) ∧ 16 ≤ q.buf.length

/-! ### the specification automaton, case by case -/

theorem openSpec_noseg (o : Option (Nat × Nat × Nat)) (f : PFrame) (h : ∀ m, f.term ≠ .seg m) :
    openSpec o f = none := by
  unfold openSpec
  split
  · rename_i m hm
    exact absurd hm (h m)
  · rfl

theorem openSpec_first (o : Option (Nat × Nat × Nat)) (f : PFrame) (m : Bytes) (h : f.term = .seg m)
    (h4 : segTypeOf m = 4) : openSpec o f = some (f.ver, f.mt, f.seq) := by
  unfold openSpec
  simp only [h, h4, if_true]

theorem openSpec_cont (v t q : Nat) (f : PFrame) (m : Bytes) (h : f.term = .seg m) (h8 : segTypeOf m = 8)
    (hu : f.unseg = []) (hc : v = f.ver ∧ t = f.mt ∧ f.seq = (q + 1) % 65536) :
    openSpec (some (v, t, q)) f = some (v, t, f.seq) := by
  unfold openSpec
  simp only [h, h8, hu, List.isEmpty_nil, and_self, if_true]
  rw [if_neg (by decide), if_pos hc]

theorem openSpec_close (o : Option (Nat × Nat × Nat)) (f : PFrame) (m : Bytes) (h : f.term = .seg m)
    (h4 : segTypeOf m ≠ 4)
    (hn : segTypeOf m = 8 → f.unseg = [] → ∀ v t q, o = some (v, t, q) →
      ¬ (v = f.ver ∧ t = f.mt ∧ f.seq = (q + 1) % 65536)) :
    openSpec o f = none := by
  unfold openSpec
  simp only [h, h4, if_false]
  split
  · rename_i h8
    split
    · rename_i v t q
      rw [if_neg (hn h8.1 (List.isEmpty_iff.mp h8.2) v t q rfl)]
    · rfl
  · rfl

/-- one step refines the specification automaton -/
theorem localStep_refines (p : Option Pending) (f : PFrame) (hp : PendingOk p) (hf : f.WF) :
    (localStep p f).1.map Pending.descr = openSpec (p.map Pending.descr) f ∧ PendingOk (localStep p f).1 := by
  have hs := localStep_spec p f
  generalize localStep p f = r at hs ⊢
  cases hs with
  | noseg h => exact ⟨(openSpec_noseg _ f h).symm, trivial⟩
  | first m h h4 =>
    exact ⟨(openSpec_first _ f m h h4).symm, Or.inl rfl, by simpa only [PFrame.WF, h] using hf⟩
  | abort m h h4 hn =>
    -- released; the specification closes too: a continuation it accepts is one `localStep` accepts
    refine ⟨(openSpec_close _ f m h h4 fun h8 hu v t s ho hc => ?_).symm, trivial⟩
    cases p with
    | none => cases ho
    | some q =>
      cases ho
      exact hn q rfl hu ⟨hc.1, hc.2.1, hc.2.2, (validNext_after_segment _ _ hp.1).mpr (Or.inl h8)⟩
  | cont m q h h4 hq hu hc =>
    subst hq
    rcases (validNext_after_segment _ _ hp.1).mp hc.2.2.2 with h8 | h12
    · rw [h8, if_neg (by decide)]
      refine ⟨?_, Or.inr rfl, ?_⟩
      · show some (q.ver, q.mt, (q.seq + 1) % 65536) = openSpec (some (q.ver, q.mt, q.seq)) f
        rw [openSpec_cont q.ver q.mt q.seq f m h h8 hu ⟨hc.1, hc.2.1, hc.2.2.1⟩, hc.2.2.1]
      · show 16 ≤ (fixLen (q.buf ++ m.drop 16)).length
        rw [fixLen_append_length _ _ hp.2]
        exact Nat.le_add_right_of_le hp.2
    · rw [if_pos h12]
      exact ⟨(openSpec_close _ f m h h4 (fun h8 => by rw [h12] at h8; cases h8)).symm, trivial⟩

/-- the specification automaton says "in progress" exactly after a first segment, or after an
    intermediary segment alone in its frame that continues what was in progress -/
theorem C17S.openSpec_isSome_iff (o : Option (Nat × Nat × Nat)) (f : PFrame) :
    (openSpec o f).isSome = true ↔
      ∃ m, f.term = .seg m ∧ (segTypeOf m = 4 ∨ (segTypeOf m = 8 ∧ f.unseg = [] ∧
        ∃ v t q, o = some (v, t, q) ∧ v = f.ver ∧ t = f.mt ∧ f.seq = (q + 1) % 65536)) := by
  constructor
  · intro hs
    cases ht : f.term with
    | done => rw [openSpec_noseg o f (fun m hm => by rw [ht] at hm; cases hm)] at hs; cases hs
    | invalid => rw [openSpec_noseg o f (fun m hm => by rw [ht] at hm; cases hm)] at hs; cases hs
    | seg m =>
      refine ⟨m, rfl, ?_⟩
      by_cases h4 : segTypeOf m = 4
      · exact Or.inl h4
      · refine Or.inr (Classical.byContradiction fun hn => ?_)
        rw [openSpec_close o f m ht h4 (fun h8 hu v t q ho hc => hn ⟨h8, hu, v, t, q, ho, hc⟩)] at hs
        cases hs
  · rintro ⟨m, hm, h4 | ⟨h8, hu, v, t, q, rfl, hc⟩⟩
    · rw [openSpec_first o f m hm h4]; rfl
    · rw [openSpec_cont v t q f m hm h8 hu hc]; rfl

/-- exactly when an endpoint holds data after a frame: the frame ended in a first segment, or in an
    intermediary segment alone in its frame that continues what was pending -/
theorem localStep_isSome_iff (p : Option Pending) (f : PFrame) (hp : PendingOk p) (hf : f.WF) :
    (localStep p f).1.isSome = true ↔
      ∃ m, f.term = .seg m ∧ (segTypeOf m = 4 ∨ (segTypeOf m = 8 ∧ f.unseg = [] ∧
        ∃ q, p = some q ∧ q.ver = f.ver ∧ q.mt = f.mt ∧ f.seq = (q.seq + 1) % 65536)) := by
  have hd : (∃ v t q, p.map Pending.descr = some (v, t, q) ∧ v = f.ver ∧ t = f.mt ∧ f.seq = (q + 1) % 65536) ↔
      ∃ q, p = some q ∧ q.ver = f.ver ∧ q.mt = f.mt ∧ f.seq = (q.seq + 1) % 65536 := by
    constructor
    · rintro ⟨v, t, q, ho, hc⟩
      cases p with
      | none => cases ho
      | some q' => cases ho; exact ⟨q', rfl, hc⟩
    · rintro ⟨q, rfl, hc⟩
      exact ⟨_, _, _, rfl, hc⟩
  rw [← Option.isSome_map (f := Pending.descr), (localStep_refines p f hp hf).1, C17S.openSpec_isSome_iff]
  simp only [hd]

/-- the single-endpoint automaton refines the specification automaton from any admissible start -/
theorem runLocal_refines : ∀ (fs : List PFrame) (p : Option Pending), (∀ f ∈ fs, f.WF) → PendingOk p →
    (runLocal p fs).1.map Pending.descr = fs.foldl openSpec (p.map Pending.descr) ∧
      PendingOk (runLocal p fs).1 := by
  intro fs
  induction fs with
  | nil => intro p _ hp; exact ⟨rfl, hp⟩
  | cons f fs ih =>
    intro p hwf hp
    obtain ⟨h1, h2⟩ := localStep_refines p f hp (hwf f (List.mem_cons_self ..))
    have := ih (localStep p f).1 (fun g hg => hwf g (List.mem_cons_of_mem _ hg)) h2
    simp only [runLocal, List.foldl_cons] at this ⊢
    rw [← h1]
    exact this

/-- pending bytes are exactly 16 + `acc` -/
def PendingBytes (p : Option Pending) (acc : Nat) : Prop :=
  match p with
  | none => True
  | some q => q.buf.length = 16 + acc

theorem localStep_bytes (p : Option Pending) (f : PFrame) (acc : Nat) (hp : PendingOk p) (hf : f.WF)
    (hb : PendingBytes p acc) : PendingBytes (localStep p f).1 (openBytesStep acc f) := by
  have hs := localStep_spec p f
  generalize localStep p f = r at hs ⊢
  cases hs with
  | noseg _ => trivial
  | abort _ _ _ _ => trivial
  | first m hm h4 =>
    have hm16 : 16 ≤ m.length := by simpa only [PFrame.WF, hm] using hf
    simp only [PendingBytes, openBytesStep, hm, h4, if_true]
    omega
  | cont m q hm h4 hq _ _ =>
    subst hq
    have hm16 : 16 ≤ m.length := by simpa only [PFrame.WF, hm] using hf
    have hq : q.buf.length = 16 + acc := hb
    split
    · trivial
    · simp only [PendingBytes, openBytesStep, hm, h4, if_false]
      rw [fixLen_append_length _ _ (by omega), List.length_drop]
      omega

theorem runLocal_bytes : ∀ (fs : List PFrame) (p : Option Pending) (acc : Nat), (∀ f ∈ fs, f.WF) →
    PendingOk p → PendingBytes p acc → PendingBytes (runLocal p fs).1 (fs.foldl openBytesStep acc) := by
  intro fs
  induction fs with
  | nil => intro p acc _ _ hb; exact hb
  | cons f fs ih =>
    intro p acc hwf hp hb
    have hf := hwf f (List.mem_cons_self ..)
    exact ih (localStep p f).1 _ (fun g hg => hwf g (List.mem_cons_of_mem _ hg))
      (localStep_refines p f hp hf).2 (localStep_bytes p f acc hp hf hb)

/-- after any history from the empty decoder, what endpoint `e` holds is 16 header bytes plus the
    segment bytes received for its open message -/
theorem pending_bytes_eq (fs : List PFrame) (hwf : ∀ f ∈ fs, f.WF) (e : Ep) :
    PendingBytes ((run DecState.empty fs).1 e) (openBytes (fs.filter (fun f => f.ep = e))) := by
  rw [run_fst_eq_runLocal]
  exact runLocal_bytes _ none 0 (fun f hf => hwf f (List.mem_filter.mp hf).1) trivial trivial

/-- C17 (which endpoints hold state): after any history from the empty decoder, endpoint `e` has a
    pending reassembly exactly when the specification automaton, run over `e`'s own frames, says a
    message is in progress — and then with that message's descriptor -/
theorem C17_pending_iff_open (fs : List PFrame) (hwf : ∀ f ∈ fs, f.WF) (e : Ep) :
    ((run DecState.empty fs).1 e).map Pending.descr = openAfter (fs.filter (fun f => f.ep = e)) := by
  rw [run_fst_eq_runLocal]
  exact (runLocal_refines _ none (fun f hf => hwf f (List.mem_filter.mp hf).1) trivial).1

/-- C17 (how much): pending bytes never exceed the 16 header bytes plus the segment bytes received
    for the open message -/
theorem C17_pending_bytes (fs : List PFrame) (hwf : ∀ f ∈ fs, f.WF) (e : Ep) :
    match (run DecState.empty fs).1 e with
    | none => True
    | some q => q.buf.length ≤ 16 + openBytes (fs.filter (fun f => f.ep = e)) := by
  have h := pending_bytes_eq fs hwf e
  cases hq : (run DecState.empty fs).1 e with
  | none => trivial
  | some q => rw [hq] at h; exact Nat.le_of_eq h

/-- C17 (baseline): if no endpoint has a message in progress, the table is empty -/
theorem C17_idle_empty (fs : List PFrame) (hwf : ∀ f ∈ fs, f.WF)
    (hidle : ∀ e, openAfter (fs.filter (fun f => f.ep = e)) = none) :
    ∀ e, (run DecState.empty fs).1 e = none := by
  intro e
  have h := C17_pending_iff_open fs hwf e
  rw [hidle e] at h
  cases hq : (run DecState.empty fs).1 e with
  | none => rfl
  | some q => rw [hq] at h; cases h

/-- endpoints that never sent a frame hold nothing -/
theorem C17_support (fs : List PFrame) (e : Ep) (h : ∀ f ∈ fs, f.ep ≠ e) :
    (run DecState.empty fs).1 e = none :=
  run_fst_other e fs DecState.empty h

/-- a frame whose walk ends without a segment (all messages unsegmented, an invalid message, or no
    message bytes at all) always releases its endpoint's buffer, whatever was pending -/
theorem C17_release (p : Option Pending) (f : PFrame) (h : ∀ m, f.term ≠ .seg m) :
    (localStep p f).1 = none :=
  congrArg Prod.fst (localStep_noseg p f h)

/-- completing a message releases its buffer: a last segment never leaves anything pending -/
theorem C17_last_releases (p : Option Pending) (f : PFrame) (m : Bytes) (h : f.term = .seg m)
    (hl : segTypeOf m = 12) : (localStep p f).1 = none := by
  have hs := localStep_spec p f
  generalize localStep p f = r at hs ⊢
  cases hs with
  | noseg _ => rfl
  | abort _ _ _ _ => rfl
  | first m' hm' h4 => rw [h] at hm'; cases hm'; rw [hl] at h4; cases h4
  | cont m' _ hm' _ _ _ _ => rw [h] at hm'; cases hm'; rw [if_pos hl]

end AsamCmp
