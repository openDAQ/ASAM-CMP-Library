/-
  C17 strengthened: additional theorems about the EXISTING definitions that close weaknesses an
  independent review found in the statements registered for property C17
  ("Decoder keeps reassembly state only for messages still in progress").

  (the statement audit is described in DESIGN.md, section J.4).  In this order:
   * the byte bound measured against the WIRE: declared length fields, equality, trailing bytes
   * one-step release facts (abort / supersede / orphan) and "pending ⇒ last frame was a first or
     intermediary segment"
   * table level: number of entries, byte total, baseline
   * source level: whole histories of the TRANSLATED `Decoder::decode`, buffers of ANY length
     (`huge_frame_released`: a frame of 2^31 + 8 bytes and more releases the endpoint's pending entry like
     any other frame)
   * TECMP / null / short buffers leave the table literally untouched (concrete TECMP decoder)
   * witnesses: literal histories on which something IS pending (evaluated)
-/
import AsamCmp.Props.C17
import AsamCmp.Props.C17b
import AsamCmp.Props.C05b
import AsamCmp.Props.SrcDecoderTotal
import AsamCmp.Lemmas.SrcHistoryDec
namespace AsamCmp.C17S
open AsamCmp AsamCmp.C17b AsamCmp.C05b

/-! ## Pending bytes against the wire -/

/-- a segment terminator is exactly a 16-byte header followed by as many bytes as the header's
    length field (offset 14, 2 bytes, big endian) DECLARES -/
def PFrame.Exact (f : PFrame) : Prop :=
  match f.term with
  | .seg m => m.length = 16 + beAt m 14 2
  | _ => True

theorem beAt_take (r : Bytes) (n off w : Nat) (h : off + w ≤ n) : beAt (r.take n) off w = beAt r off w :=
  beAt_take_of_le r n off w h

theorem beAt_drop (r : Bytes) (a off w : Nat) : beAt (r.drop a) off w = beAt r (a + off) w :=
  beAt_drop_add r a off w

theorem slice_drop (r : Bytes) (a off n : Nat) : slice (r.drop a) off n = slice r (a + off) n :=
  slice_drop_add r a off n

/-- … so it is exactly as long as its own length field declares -/
theorem walk_seg_wire (ep : Ep) (ver mt : Nat) (r : Bytes) :
    ∀ m, (walk ep ver mt r).2 = .seg m →
      ∃ k, m = slice r k (16 + beAt r (k + 14) 2) ∧ k + 16 + beAt r (k + 14) 2 ≤ r.length ∧
        m.length = 16 + beAt m 14 2 ∧ beAt m 14 2 = beAt r (k + 14) 2 := by
  intro m h
  obtain ⟨k, e1, e2⟩ := walk_seg_slice ep ver mt r m h
  have e4 : beAt m 14 2 = beAt r (k + 14) 2 := by
    rw [e1, slice, beAt_take _ _ _ _ (Nat.le_add_right 16 _), beAt_drop]
  have e3 : m.length = 16 + beAt r (k + 14) 2 := by
    rw [e1]
    simp only [slice, List.length_take, List.length_drop]
    omega
  exact ⟨k, e1, e2, e3.trans (by rw [e4]), e4⟩

/-- every frame `parseFrame` yields is exact … -/
theorem parseFrame_exact (b : Bytes) : PFrame.Exact (parseFrame b) := by
  unfold PFrame.Exact
  split
  · rename_i m hm
    obtain ⟨k, _, _, h, _⟩ := walk_seg_wire _ _ _ _ m hm
    exact h
  · trivial

/-- … and its segment is a contiguous piece of the buffer behind the 8-byte frame header: 16 header
    bytes at some offset `pos ≥ 8` and exactly the bytes that header declares.  Bytes that follow in
    the buffer (padding, further messages) are not part of it. -/
theorem parseFrame_seg_wire (b : Bytes) (m : Bytes) (h : (parseFrame b).term = .seg m) :
    ∃ pos, 8 ≤ pos ∧ m = slice b pos (16 + beAt b (pos + 14) 2) ∧
      pos + 16 + beAt b (pos + 14) 2 ≤ b.length ∧ beAt m 14 2 = beAt b (pos + 14) 2 := by
  obtain ⟨k, e1, e2, _, e4⟩ := walk_seg_wire _ _ _ _ m h
  rw [beAt_drop] at e1 e2 e4
  rw [slice_drop] at e1
  rw [List.length_drop] at e2
  refine ⟨8 + k, by omega, ?_, ?_, ?_⟩
  · rw [e1]; congr 2
  · have : 8 + k + 14 = 8 + (k + 14) := by omega
    rw [this]; omega
  · rw [e4]; congr 1

/-- the segment bytes RECEIVED for the message in progress, read off the wire: the DECLARED payload
    length (header bytes 14–15) of its first segment plus those of the segments since -/
def declStep (acc : Nat) (f : PFrame) : Nat :=
  match f.term with
  | .seg m => if segTypeOf m = 4 then beAt m 14 2 else acc + beAt m 14 2
  | _ => 0

def declBytes (fs : List PFrame) : Nat := fs.foldl declStep 0

/-- pending bytes are EXACTLY 16 + `acc` -/
def BytesEq (p : Option Pending) (acc : Nat) : Prop :=
  match p with
  | none => True
  | some q => q.buf.length = 16 + acc

theorem exact_wf (f : PFrame) (h : PFrame.Exact f) : f.WF := by
  unfold PFrame.Exact at h
  unfold PFrame.WF
  split
  · rename_i m hm
    rw [hm] at h
    exact h ▸ Nat.le_add_right 16 _
  · trivial

theorem openBytesStep_eq_declStep (acc : Nat) (f : PFrame) (hf : PFrame.Exact f) :
    openBytesStep acc f = declStep acc f := by
  obtain ⟨ep, ver, mt, seq, unseg, term⟩ := f
  cases term with
  | done => rfl
  | invalid => rfl
  | seg m =>
    simp only [PFrame.Exact] at hf
    simp only [openBytesStep, declStep]
    split <;> omega

theorem localStep_bytes_eq (p : Option Pending) (f : PFrame) (acc : Nat) (hp : PendingOk p)
    (hf : PFrame.Exact f) (hb : BytesEq p acc) : BytesEq (localStep p f).1 (declStep acc f) := by
  rw [← openBytesStep_eq_declStep acc f hf]
  exact localStep_bytes p f acc hp (exact_wf f hf) hb

theorem foldl_openBytesStep_eq (fs : List PFrame) (h : ∀ f ∈ fs, PFrame.Exact f) (acc : Nat) :
    fs.foldl openBytesStep acc = fs.foldl declStep acc := by
  induction fs generalizing acc with
  | nil => rfl
  | cons f fs ih =>
    rw [List.foldl_cons, List.foldl_cons, openBytesStep_eq_declStep acc f (h f (List.mem_cons_self ..))]
    exact ih (fun g hg => h g (List.mem_cons_of_mem _ hg)) _

theorem lrun_bytes_eq (fs : List PFrame) (p : Option Pending) (acc : Nat) (h : ∀ f ∈ fs, PFrame.Exact f)
    (hp : PendingOk p) (hb : BytesEq p acc) : BytesEq (runLocal p fs).1 (fs.foldl declStep acc) := by
  rw [← foldl_openBytesStep_eq fs h acc]
  exact runLocal_bytes fs p acc (fun f hf => exact_wf f (h f hf)) hp hb

theorem framesOf_exact (bufs : List (Option Bytes)) : ∀ f ∈ framesOf bufs, PFrame.Exact f :=
  framesOf_forall _ parseFrame_exact bufs

/-- the existing bound's measure `openBytes` (which counts `m.length - 16`) coincides with the
    wire measure `declBytes` on everything `parseFrame` yields: the registered `≤` is about declared
    bytes too, and it is tight -/
theorem openBytes_eq_declBytes (fs : List PFrame) (h : ∀ f ∈ fs, PFrame.Exact f) :
    openBytes fs = declBytes fs :=
  foldl_openBytesStep_eq fs h 0

/-- **Pending bytes against the wire, as an equality.**  After ANY history of buffers from a fresh decoder, the
    bytes held for endpoint `e` are exactly the 16 header bytes plus the payload lengths DECLARED by
    the segments of `e`'s open message (first segment and the accepted continuations since) — so in
    particular never more than the segment bytes received ("Pending bytes never exceed the segment
    bytes received for the open messages").  No hypotheses. -/
theorem pending_bytes_wire (bufs : List (Option Bytes)) (e : Ep) :
    match (decodeAll tecmpDecode DecState.empty bufs).1 e with
    | none => True
    | some q => q.buf.length = 16 + declBytes ((framesOf bufs).filter (fun f => f.ep = e)) := by
  have h := pending_bytes_eq (framesOf bufs) (framesOf_wf bufs) e
  rw [openBytes_eq_declBytes _ (fun f hf => framesOf_exact bufs f (List.mem_filter.mp hf).1),
    ← decodeAll_state] at h
  exact h

/-- on the wire layout `segFrame` (frame header, segment header declaring `body.length`, the body,
    then ANY trailing bytes) the measure counts the body only: trailing bytes are never "segment
    bytes received".  Hypotheses: the header fields fit their wire widths, the flags byte carries the
    segment type (`SegHdr.WF`), the body fits the 16-bit length field. -/
theorem declStep_segFrame (ver dev mt stream seq : Nat) (h : SegHdr) (seg : Nat) (body trail : Bytes) (acc : Nat)
    (hv : 1 ≤ ver ∧ ver < 256) (hd : dev < 65536) (hm : mt < 256) (hs : stream < 256) (hq : seq < 65536)
    (hseg : seg = 4 ∨ seg = 8 ∨ seg = 12) (hh : h.WF seg) (hb : body.length < 65536) :
    declStep acc (parseFrame (segFrame ver dev mt stream seq h body trail)) =
      if seg = 4 then body.length else acc + body.length := by
  rw [segFrame_parse ver dev mt stream seq h seg body trail hv hd hm hs hq hseg hh hb]
  have hlen : beAt (h.bytes body.length ++ body) 14 2 = body.length := by
    have := segHdr_len h body.length body
    rw [Nat.mod_eq_of_lt hb] at this
    exact this
  have hty : segTypeOf (h.bytes body.length ++ body) = seg := by
    have h16 : (h.bytes body.length).length = 16 := segHdr_length ..
    rw [segTypeOf_append _ _ (by omega)]
    exact segTypeOf_bytes h seg _ hh
  simp only [declStep, hlen, hty]

/-! ## One-step release facts; "pending ⇒ the last frame was a first or intermediary segment" -/

theorem openAfter_snoc (fs : List PFrame) (f : PFrame) : openAfter (fs ++ [f]) = openSpec (openAfter fs) f := by
  simp [openAfter, List.foldl_append]

/-- the specification automaton says "in progress" only right after a first or an intermediary
    segment -/
theorem open_last_frame (fs : List PFrame) (f : PFrame) (h : openAfter (fs ++ [f]) ≠ none) :
    ∃ m, f.term = .seg m ∧ (segTypeOf m = 4 ∨ segTypeOf m = 8) := by
  rw [openAfter_snoc] at h
  obtain ⟨m, hm, h'⟩ := (openSpec_isSome_iff _ f).mp (Option.isSome_iff_ne_none.mpr h)
  exact ⟨m, hm, h'.imp id (·.1)⟩

/-- … so a list of frames after which a message is in progress ends in such a frame -/
theorem open_last (L : List PFrame) (h : openAfter L ≠ none) :
    ∃ earlier f, L = earlier ++ [f] ∧ ∃ m, f.term = .seg m ∧ (segTypeOf m = 4 ∨ segTypeOf m = 8) := by
  have hne : L ≠ [] := fun hnil => h (by rw [hnil]; rfl)
  have hsplit := List.dropLast_concat_getLast hne
  exact ⟨_, _, hsplit.symm, open_last_frame L.dropLast _ (by rw [hsplit]; exact h)⟩

/-- **"Holds state ⇒ opened or continued", in the words of the text.**  After any history of buffers: if the decoder holds data
    for endpoint `e`, then `e` was addressed by at least one frame, and the MOST RECENT frame
    addressed to `e` ended in a first (type 4: "opened") or an intermediary (type 8: "continued")
    segment.  No hypotheses. -/
theorem pending_last_frame (bufs : List (Option Bytes)) (e : Ep)
    (h : (decodeAll tecmpDecode DecState.empty bufs).1 e ≠ none) :
    ∃ earlier f, (framesOf bufs).filter (fun f => f.ep = e) = earlier ++ [f] ∧ f.ep = e ∧
      ∃ m, f.term = .seg m ∧ (segTypeOf m = 4 ∨ segTypeOf m = 8) := by
  have h1 := (C17_bytes bufs e).1
  obtain ⟨earlier, f, hL, hf⟩ := open_last ((framesOf bufs).filter (fun f => f.ep = e)) (fun hn => by
    rw [hn] at h1
    exact h (Option.map_eq_none_iff.mp h1))
  have hmem : f ∈ (framesOf bufs).filter (fun f => f.ep = e) := by rw [hL]; simp
  exact ⟨earlier, f, hL, by simpa using (List.mem_filter.mp hmem).2, hf⟩

/-- **Abort by mismatch, one step.**  Something is pending; the next frame of the endpoint ends
    in a non-first segment whose version, message type or sequence counter does not continue the
    pending message: the buffer is released. -/
theorem abort_mismatch (q : Pending) (f : PFrame) (m : Bytes) (h : f.term = .seg m) (h4 : segTypeOf m ≠ 4)
    (hmis : ¬ (q.ver = f.ver ∧ q.mt = f.mt ∧ f.seq = (q.seq + 1) % 65536)) :
    (localStep (some q) f).1 = none := by
  rw [localStep_abort (some q) f m h h4 (fun q' hq' _ hc => by
    cases hq'; exact hmis ⟨hc.1, hc.2.1, hc.2.2.1⟩)]

/-- **Abort by unsegmented traffic in the same frame, one step.**  A non-first segment that
    arrives behind unsegmented messages in its frame never continues anything. -/
theorem abort_unseg_in_front (p : Option Pending) (f : PFrame) (m : Bytes) (h : f.term = .seg m)
    (h4 : segTypeOf m ≠ 4) (hu : f.unseg ≠ []) : (localStep p f).1 = none := by
  rw [localStep_abort p f m h h4 (fun _ _ hu' _ => hu hu')]

/-- **orphan segments leave nothing behind** (the default entry `operator[]` creates is gone): a
    non-first segment for an endpoint with nothing pending -/
theorem orphan_releases (f : PFrame) (m : Bytes) (h : f.term = .seg m) (h4 : segTypeOf m ≠ 4) :
    (localStep none f).1 = none := by
  rw [localStep_abort none f m h h4 (fun q hq => by cases hq)]

/-- **Supersede, one step.**  A first segment replaces whatever was pending by exactly its own
    bytes: the old buffer is released (no byte of it survives), whatever it was. -/
theorem supersede_releases (p : Option Pending) (f : PFrame) (m : Bytes) (h : f.term = .seg m)
    (h4 : segTypeOf m = 4) : (localStep p f).1 = some ⟨m, 4, f.ver, f.mt, f.seq⟩ := by
  rw [localStep_first p f m h h4]

theorem decodeAll_snoc_state (s : DecState) (bufs : List (Option Bytes)) (x : Option Bytes) :
    (decodeAll tecmpDecode s (bufs ++ [x])).1 = (decodeWith tecmpDecode (decodeAll tecmpDecode s bufs).1 x).1 := by
  rw [decodeAll_append_eq]
  rfl

/-- every state the decoder reaches holds only real reassemblies in progress -/
theorem reachable_ok (bufs : List (Option Bytes)) (e : Ep) :
    PendingOk ((decodeAll tecmpDecode DecState.empty bufs).1 e) := by
  rw [decodeAll_state, run_fst_eq_runLocal]
  exact (runLocal_refines _ none (fun f hf => framesOf_wf bufs f (List.mem_filter.mp hf).1) trivial).2

/-- **Open / continue / complete / abort / supersede as ONE exact step, on bytes.**  After any history `bufs`, feed one more buffer `b`
    that is a capture-module frame ("frame": at least the 8 header bytes, first byte ≠ 0).  Then its
    endpoint holds data afterwards IF AND ONLY IF the frame ended in a first segment ("opened"), or
    in an intermediary segment alone in its frame whose version, message type and counter continue
    what was pending ("continued a still-incomplete message").  In every other case — last segment
    (completed), mismatch / orphan / unsegmented or invalid message / header-only frame (aborted) —
    nothing is held.  Every other endpoint keeps exactly what it had. -/
theorem frame_step_exact (bufs : List (Option Bytes)) (b : Bytes) (h8 : 8 ≤ b.length) (h0 : byteAt b 0 ≠ 0) :
    let s := (decodeAll tecmpDecode DecState.empty bufs).1
    let s' := (decodeAll tecmpDecode DecState.empty (bufs ++ [some b])).1
    let f := parseFrame b
    ((s' f.ep).isSome = true ↔
      ∃ m, f.term = .seg m ∧ (segTypeOf m = 4 ∨ (segTypeOf m = 8 ∧ f.unseg = [] ∧
        ∃ q, s f.ep = some q ∧ q.ver = f.ver ∧ q.mt = f.mt ∧ f.seq = (q.seq + 1) % 65536))) ∧
    ∀ e, e ≠ f.ep → s' e = s e := by
  intro s s' f
  have hs' : s' = (step s f).1 := by
    show (decodeAll tecmpDecode DecState.empty (bufs ++ [some b])).1 = _
    rw [decodeAll_snoc_state]
    have : ¬ b.length < 8 := by omega
    simp only [decodeWith, this, if_false, h0]
    rfl
  refine ⟨?_, fun e he => by rw [hs']; exact step_fst_other s f e (Ne.symm he)⟩
  rw [hs', step_fst_same]
  exact localStep_isSome_iff (s f.ep) f (reachable_ok bufs f.ep) (parseFrame_WF b)

/-! ## Table level: number of entries, byte total, baseline -/

/-- the frames of a history addressed to endpoint `e` -/
def framesAt (bufs : List (Option Bytes)) (e : Ep) : List PFrame :=
  (framesOf bufs).filter (fun f => f.ep = e)

theorem keys_iff_open (bufs : List (Option Bytes)) (e : Ep) :
    e ∈ (runLL [] bufs).1.map (·.1) ↔ (openAfter (framesAt bufs e)).isSome = true := by
  unfold framesAt
  rw [(table_entries bufs e).1, ← (C17_bytes bufs e).1, Option.isSome_map]

/-- **C17 on the real table, in the hook's terms (entry count and byte total), no hypotheses
    on the history.**  After ANY history of buffers from a fresh decoder:
    * COUNT: the table has exactly as many entries as there are endpoints with a message in
      progress (counted over any duplicate-free list `es` that covers the endpoints addressed);
    * KEYS: an endpoint has an entry iff its message is in progress; no endpoint has two;
    * BYTES, per entry: the entry's `payload` is exactly 16 + the DECLARED bytes of its open
      message's segments; hence the same in TOTAL;
    * BASELINE: if no endpoint has a message in progress the table is literally `[]`. -/
theorem table_total (bufs : List (Option Bytes)) :
    (∀ es : List Ep, es.Nodup → (∀ f ∈ framesOf bufs, f.ep ∈ es) →
      (runLL [] bufs).1.length = (es.filter (fun e => (openAfter (framesAt bufs e)).isSome)).length) ∧
    (∀ e, e ∈ (runLL [] bufs).1.map (·.1) ↔ (openAfter (framesAt bufs e)).isSome = true) ∧
    ((runLL [] bufs).1.map (·.1)).Nodup ∧
    (∀ x ∈ (runLL [] bufs).1, x.2.payload.length = 16 + declBytes (framesAt bufs x.1)) ∧
    ((runLL [] bufs).1.map (fun x => x.2.payload.length)).sum =
      ((runLL [] bufs).1.map (fun x => 16 + declBytes (framesAt bufs x.1))).sum ∧
    ((∀ e, openAfter (framesAt bufs e) = none) → (runLL [] bufs).1 = []) := by
  obtain ⟨hok, habs, _⟩ := runLL_refines bufs
  have hbytes : ∀ x ∈ (runLL [] bufs).1, x.2.payload.length = 16 + declBytes (framesAt bufs x.1) := by
    intro x hx
    have hf := mem_find _ hok.1 x hx
    have hw := pending_bytes_wire bufs x.1
    rw [← habs, abs_apply, hf] at hw
    exact hw
  refine ⟨?_, keys_iff_open bufs, hok.1, hbytes, ?_, ?_⟩
  · intro es hnd hcov
    have hp : ((runLL [] bufs).1.map (·.1)).Perm (es.filter (fun e => (openAfter (framesAt bufs e)).isSome)) := by
      rw [List.perm_ext_iff_of_nodup hok.1 (List.Nodup.sublist List.filter_sublist hnd)]
      intro e
      rw [keys_iff_open, List.mem_filter]
      constructor
      · intro h
        obtain ⟨earlier, f, hL, _⟩ := open_last (framesAt bufs e) (Option.isSome_iff_ne_none.mp h)
        obtain ⟨hm1, hm2⟩ := List.mem_filter.mp (show f ∈ framesAt bufs e by rw [hL]; simp)
        exact ⟨by rw [← (show f.ep = e by simpa using hm2)]; exact hcov f hm1, h⟩
      · exact fun h => h.2
    have := hp.length_eq
    rwa [List.length_map] at this
  · exact congrArg List.sum (List.map_congr_left hbytes)
  · intro hidle
    rw [List.eq_nil_iff_forall_not_mem]
    intro x hx
    have : x.1 ∈ (runLL [] bufs).1.map (·.1) := List.mem_map.mpr ⟨x, hx, rfl⟩
    rw [keys_iff_open, hidle x.1] at this
    cases this

/-- **"However long it runs", on the real table.**  A history in which every endpoint's most
    recent frame did NOT end in a first or intermediary segment (so: no open messages) leaves the
    table literally empty — whatever happened before, however long the history. -/
theorem baseline_of_last_frames (bufs : List (Option Bytes))
    (h : ∀ e earlier f, framesAt bufs e = earlier ++ [f] →
      ∀ m, f.term = .seg m → segTypeOf m ≠ 4 ∧ segTypeOf m ≠ 8) :
    (runLL [] bufs).1 = [] := by
  apply (table_total bufs).2.2.2.2.2
  intro e
  cases ho : openAfter (framesAt bufs e) with
  | none => rfl
  | some d =>
    obtain ⟨earlier, f, hL, m, hm, hty⟩ := open_last (framesAt bufs e) (by rw [ho]; simp)
    have := h e earlier f hL m hm
    exact hty.elim (absurd · this.1) (absurd · this.2)

/-! ## Source level: whole histories of the translated `Decoder::decode` -/

section Source
open AsamCmp.Src AsamCmp.SrcGen AsamCmp.SrcDec

/-! ### the regularity invariant of the source-level theorems is preserved -/

/-- entries within their C types, payload at most 16 + `B` bytes -/
def RegB (B : Nat) (t : Table) : Prop := ∀ x ∈ t, x.2.seq < 65536 ∧ x.2.payload.length ≤ 16 + B

theorem mem_find (t : Table) (h : (t.map (·.1)).Nodup) (x : Ep × SegPkt) (hx : x ∈ t) :
    t.find x.1 = some x.2 := C17b.mem_find t h x hx

theorem preg_mono (B B' : Nat) (t : Table) (h : B ≤ B') (hr : RegB B t) : RegB B' t :=
  fun x hx => ⟨(hr x hx).1, Nat.le_trans (hr x hx).2 (Nat.add_le_add_left h 16)⟩

theorem tableOk_pendingOk (t : Table) (h : TableOk t) (e : Ep) : PendingOk (t.abs e) := by
  rw [abs_apply]
  cases hf : t.find e with
  | none => trivial
  | some v => exact h.2 _ (find_mem t e v hf)

theorem localStep_reg (p : Option Pending) (f : PFrame) (N L : Nat)
    (hp : ∀ q, p = some q → q.seq < 65536 ∧ q.buf.length ≤ N) (hseq : f.seq < 65536)
    (hm : ∀ m, f.term = .seg m → 16 ≤ m.length ∧ m.length ≤ L) :
    ∀ q', (localStep p f).1 = some q' → q'.seq < 65536 ∧ q'.buf.length ≤ N + L :=
  _root_.AsamCmp.localStep_pending_bounds p f N L hp hseq hm

/-- `RegB` read through the function view of the table -/
theorem regB_abs (B : Nat) (t : Table) (hnd : (t.map (·.1)).Nodup) :
    RegB B t ↔ ∀ e q, t.abs e = some q → q.seq < 65536 ∧ q.buf.length ≤ 16 + B :=
  SrcHist.bd_iff_abs hnd

/-- one call of the low-level model keeps entries regular; the byte bound grows by at most the size
    of the buffer handed in -/
theorem decodeLL_reg (B : Nat) (t : Table) (buf : Option Bytes) (hok : TableOk t) (hr : RegB B t) :
    RegB (B + (buf.map List.length).getD 0) (decodeLL t buf).1 := by
  have h := SrcHist.decodeLL_bd t buf (16 + B) hok hr
  rwa [Nat.add_assoc] at h

theorem regB_tableReg (B : Nat) (t : Table) (h : RegB B t) (hB : B + 65552 < 2 ^ 64) : TableReg t :=
  SrcHist.bd_tableReg h (by omega)

/-- a buffer handed to `decode` as it sits in memory: the bytes `b` at address `pre.length` of the
    memory `pre ++ b ++ post` (so the pointer is non-null exactly when `pre` is non-empty) -/
structure MemBuf where
  pre : Bytes
  b : Bytes
  post : Bytes

/-- what the machine imposes on one call: non-null pointer, memory within the address space, and
    enough fuel for the translated loops.  No bound on `size` itself: the remaining size is a `std::size_t` -/
def MemBuf.Fits (fuel : Nat) (x : MemBuf) : Prop :=
  0 < x.pre.length ∧ (x.pre ++ x.b ++ x.post).length < 2 ^ 63 ∧ x.b.length ≤ fuel

/-- ONE call of the translated `Decoder::decode` (translated TECMP decoder plugged in) on ANY
    non-null buffer, of any length — short, TECMP or CMP frame: defined, and the member it leaves
    is literally the image of the low-level model's table -/
theorem decode_src_any (t : Table) (x : MemBuf) (fuel : Nat) (hT : TableOk t) (hR : TableReg t) (hx : x.Fits fuel) :
    ∃ outs, Decoder_decode_obj fuel (tblSt t) (x.pre ++ x.b ++ x.post) x.pre.length x.b.length (SrcTec.tecmpExt fuel) =
        some (tblSt (decodeLL t (some x.b)).1, outs) ∧
      outs.map (Sum.elim toPacket SrcTec.tAbs) = (decodeLL t (some x.b)).2 :=
  SrcHist.decode_step_src t x.pre x.b x.post fuel hT hR hx.1 hx.2.1 hx.2.2

/-- a whole history of calls of the translated `Decoder::decode` on one decoder object -/
def runSrc (fuel : Nat) : Decoder_St → List MemBuf → Option (Decoder_St × List (PktOut ⊕ TPacket_St))
  | s, [] => some (s, [])
  | s, x :: xs =>
    match Decoder_decode_obj fuel s (x.pre ++ x.b ++ x.post) x.pre.length x.b.length (SrcTec.tecmpExt fuel) with
    | none => none
    | some (s', o) =>
      match runSrc fuel s' xs with
      | none => none
      | some (s'', o') => some (s'', o ++ o')

def totalBytes (xs : List MemBuf) : Nat := (xs.map (fun x => x.b.length)).sum

theorem runSrc_from (fuel : Nat) : ∀ (xs : List MemBuf) (t : Table) (B : Nat), TableOk t → RegB B t →
    (∀ x ∈ xs, x.Fits fuel) → B + totalBytes xs + 65552 < 2 ^ 64 →
    ∃ outs, runSrc fuel (tblSt t) xs = some (tblSt (runLL t (xs.map fun x => some x.b)).1, outs) ∧
      outs.map (Sum.elim toPacket SrcTec.tAbs) = (runLL t (xs.map fun x => some x.b)).2 := by
  intro xs
  induction xs with
  | nil => intro t B _ _ _ _; exact ⟨[], rfl, rfl⟩
  | cons x xs ih =>
    intro t B hT hR hfit hB
    have htb : totalBytes (x :: xs) = x.b.length + totalBytes xs := by simp [totalBytes]
    obtain ⟨o, h1, h2⟩ := decode_src_any t x fuel hT (regB_tableReg B t hR (by omega)) (hfit x (List.mem_cons_self ..))
    have hT' := (decodeLL_refines t (some x.b) hT).1
    have hR' := decodeLL_reg B t (some x.b) hT hR
    simp only [Option.map_some, Option.getD_some] at hR'
    obtain ⟨o', i1, i2⟩ := ih (decodeLL t (some x.b)).1 (B + x.b.length) hT' hR'
      (fun y hy => hfit y (List.mem_cons_of_mem _ hy)) (by omega)
    refine ⟨o ++ o', ?_, ?_⟩
    · simp only [runSrc, h1, i1, List.map_cons, runLL]
    · simp only [List.map_append, h2, i2, List.map_cons, runLL]

/-- **At the level of the TRANSLATED SOURCE, partial.**  Any history of calls of the
    translated `Decoder::decode` on a fresh decoder object, every buffer non-null, of any length,
    inside the address space: every call is defined, the member `segmentedPackets` after the history
    is literally the image of the low-level model's table `runLL [] …` — about which `table_total`,
    `table_entries`, `C17_bytes` speak — and the packets are the model's.
    PARTIAL because of the last hypothesis: the history's total byte count stays below 2^64 − 65552
    (the translation's vectors have no `max_size`, so an unbounded history could otherwise grow one
    payload past the range in which the `size_t` arithmetic of `addSegment` is exact).  Not a
    condition the property text names; no real history can violate it. -/
theorem runSrc_refines_partial (fuel : Nat) (xs : List MemBuf) (hfit : ∀ x ∈ xs, x.Fits fuel)
    (htot : totalBytes xs + 65552 < 2 ^ 64) :
    ∃ outs, runSrc fuel (tblSt []) xs = some (tblSt (runLL [] (xs.map fun x => some x.b)).1, outs) ∧
      outs.map (Sum.elim toPacket SrcTec.tAbs) = (runLL [] (xs.map fun x => some x.b)).2 :=
  runSrc_from fuel xs [] 0 tableOk_empty (fun x hx => by cases hx) hfit (by omega)


/-- **C17 for the member of the translated source, in the hook's terms — partial** (same extra
    hypothesis as `runSrc_refines_partial`).  After any history of calls (buffers non-null, of any
    length): `segmentedPackets` has an entry for exactly the endpoints whose message is in progress,
    one each; every entry's `payload` holds exactly 16 + the declared bytes of its open message; and
    if no message is open the member is literally empty. -/
theorem runSrc_pending_exact_partial (fuel : Nat) (xs : List MemBuf) (hfit : ∀ x ∈ xs, x.Fits fuel)
    (htot : totalBytes xs + 65552 < 2 ^ 64) :
    ∃ s outs, runSrc fuel (tblSt []) xs = some (s, outs) ∧
      (∀ e, e ∈ s.f_segmentedPackets.map (·.1) ↔
        (openAfter (framesAt (xs.map fun x => some x.b) e)).isSome = true) ∧
      (s.f_segmentedPackets.map (·.1)).Nodup ∧
      (∀ x ∈ s.f_segmentedPackets,
        x.2.f_payload.length = 16 + declBytes (framesAt (xs.map fun x => some x.b) x.1)) ∧
      ((∀ e, openAfter (framesAt (xs.map fun x => some x.b) e) = none) → s.f_segmentedPackets = []) := by
  obtain ⟨outs, h, _⟩ := runSrc_refines_partial fuel xs hfit htot
  obtain ⟨_, hkeys, hnd, hbytes, _, hidle⟩ := table_total (xs.map fun x => some x.b)
  have hk : (tblSt (runLL [] (xs.map fun x => some x.b)).1).f_segmentedPackets.map (·.1) =
      (runLL [] (xs.map fun x => some x.b)).1.map (·.1) := by
    simp only [tblSt, List.map_map]; rfl
  refine ⟨_, outs, h, ?_, ?_, ?_, ?_⟩
  · intro e; rw [hk]; exact hkeys e
  · rw [hk]; exact hnd
  · intro x hx
    simp only [tblSt, List.mem_map] at hx
    obtain ⟨y, hy, rfl⟩ := hx
    exact hbytes y hy
  · intro hi
    simp only [tblSt, hidle hi, List.map_nil]

/-! ## The frames of the witnesses -/

/-- first segment, endpoint (0x0102, 7), version 1, message type 1, counter 5: declares 2 bytes and is
    followed by 3 trailing bytes in its frame -/
def exFirst : Bytes :=
  [1, 0, 1, 2, 1, 7, 0, 5,
   0, 0, 0, 0, 0, 0, 0, 9, 0, 0, 0, 3, 0x04, 0x20, 0, 2, 0xAA, 0xBB, 0xEE, 0xEE, 0xEE]
/-- intermediary segment, same endpoint, counter 6: declares 3 bytes, 1 trailing byte -/
def exMid : Bytes :=
  [1, 0, 1, 2, 1, 7, 0, 6,
   0, 0, 0, 0, 0, 0, 0, 9, 0, 0, 0, 3, 0x08, 0x20, 0, 3, 0xCC, 0xDD, 0xEE, 0x77]
/-- last segment, same endpoint, counter 7: declares 1 byte -/
def exLast : Bytes :=
  [1, 0, 1, 2, 1, 7, 0, 7,
   0, 0, 0, 0, 0, 0, 0, 9, 0, 0, 0, 3, 0x0C, 0x20, 0, 1, 0xFF]
/-- first segment of ANOTHER endpoint (9, 2), counter 0: declares 1 byte -/
def exFirstB : Bytes :=
  [1, 0, 0, 9, 1, 2, 0, 0,
   0, 0, 0, 0, 0, 0, 0, 9, 0, 0, 0, 3, 0x04, 0x20, 0, 1, 0x11]

def exEntry : Ep × SegPkt :=
  ((0x0102, 7), ⟨[0, 0, 0, 0, 0, 0, 0, 9, 0, 0, 0, 3, 0x04, 0x20, 0, 2, 0xAA, 0xBB], 4, 1, 1, 5⟩)

theorem ex_first : decodeLL [] (some exFirst) = ([exEntry], []) := by decide +kernel

/-! ### the huge buffer -/

def hugeHdr : Bytes := [1, 0, 1, 2, 1, 7, 0, 6]
/-- a frame for endpoint (0x0102, 7), counter 6, whose `n` message bytes are all zero (an invalid
    message: payload type 0) -/
def hugeBuf (n : Nat) : Bytes := hugeHdr ++ zeros n

theorem hugeBuf_length (n : Nat) : (hugeBuf n).length = 8 + n := by
  unfold hugeBuf
  rw [List.length_append]
  simp only [zeros, List.length_replicate]
  rfl

theorem hugeBuf_byte (n i : Nat) (h : i < 8) : byteAt (hugeBuf n) i = byteAt hugeHdr i :=
  byteAt_append_left _ _ _ (by simpa [hugeHdr] using h)

theorem hugeBuf_dev (n : Nat) : beAt (hugeBuf n) 2 2 = 0x0102 := by
  unfold hugeBuf
  rw [beAt_append_of_le _ _ _ _ (by decide)]
  decide

/-- the MODEL on that frame: the message bytes are invalid, so the endpoint's entry is erased -/
theorem decodeLL_huge (t : Table) (n : Nat) (hn : 0 < n) :
    decodeLL t (some (hugeBuf n)) = (t.erase (0x0102, 7), []) := by
  have hl : ¬ (hugeBuf n).length < 8 := by rw [hugeBuf_length]; omega
  have h0 : byteAt (hugeBuf n) 0 ≠ 0 := by rw [hugeBuf_byte n 0 (by decide)]; decide
  have hcur : (hugeBuf n).length - 8 = n := by rw [hugeBuf_length]; omega
  have hne : n ≠ 0 := by omega
  have hsl : slice (hugeBuf n) 8 n = zeros n := by
    unfold slice hugeBuf
    rw [List.drop_left' (by decide)]
    simp [zeros]
  have hv : msgValid (zeros n) = false := by
    simp [msgValid, C01.byteAt_zeros]
  unfold decodeLL
  simp only [hl, if_false, h0, hcur, hne, hugeBuf_dev, hugeBuf_byte n 5 (by decide)]
  have hfuel : n / 16 + 2 = (n / 16 + 1) + 1 := by omega
  rw [hfuel, loop_succ _ _ _ _ _ _ _ _ _ _ _ hne, hsl, hv]
  rfl

/-- the two-call history of the witness: a first segment for endpoint (0x0102, 7), then a frame of
    `8 + n` bytes for the same endpoint whose message bytes are invalid -/
def hugeHist (n : Nat) : List MemBuf := [⟨[9], exFirst, []⟩, ⟨[9], hugeBuf n, []⟩]

theorem runSrc_cons (fuel : Nat) (s s' s'' : Decoder_St) (x : MemBuf) (xs : List MemBuf)
    (o o' : List (PktOut ⊕ TPacket_St))
    (h1 : Decoder_decode_obj fuel s (x.pre ++ x.b ++ x.post) x.pre.length x.b.length (SrcTec.tecmpExt fuel) = some (s', o))
    (h2 : runSrc fuel s' xs = some (s'', o')) : runSrc fuel s (x :: xs) = some (s'', o ++ o') := by
  simp only [runSrc, h1, h2]

/-- the TRANSLATED source on that history, for EVERY size `8 + n` of the second frame (`n ≥ 1` message bytes; the memory
    `[9] ++ hugeBuf n` must fit the address space): both calls are defined, nothing is in progress on the endpoint by the
    specification automaton, the model's table is empty, and the member the translated `Decoder::decode` leaves is
    literally EMPTY — the first segment's 18 bytes are released, no packet is delivered -/
theorem huge_frame_released_gen (n : Nat) (hn : 0 < n) (hmem : n + 9 < 2 ^ 63) :
    openAfter (framesAt ((hugeHist n).map fun x => some x.b) (0x0102, 7)) = none ∧
    (runLL [] ((hugeHist n).map fun x => some x.b)).1 = [] ∧
    ∀ fuel, 29 ≤ fuel → 8 + n ≤ fuel → ∃ outs, runSrc fuel (tblSt []) (hugeHist n) = some (tblSt [], outs) ∧
      outs.map (Sum.elim toPacket SrcTec.tAbs) = [] := by
  have hmodel : runLL [] ((hugeHist n).map fun x => some x.b) = ([], []) := by
    show runLL [] [some exFirst, some (hugeBuf n)] = ([], [])
    simp only [runLL, ex_first, decodeLL_huge [exEntry] n hn]
    decide
  refine ⟨?_, by rw [hmodel], ?_⟩
  · -- an open message would have an entry in the (empty) table
    have h := keys_iff_open ((hugeHist n).map fun x => some x.b) (0x0102, 7)
    rw [hmodel] at h
    exact Option.not_isSome_iff_eq_none.mp fun ho => nomatch h.mpr ho
  · intro fuel hf1 hf2
    have hlen : exFirst.length = 29 := rfl
    have hfit : ∀ x ∈ hugeHist n, x.Fits fuel := by
      intro x hx
      simp only [hugeHist, List.mem_cons, List.not_mem_nil, or_false] at hx
      rcases hx with rfl | rfl
      · refine ⟨by decide, by decide, ?_⟩
        show exFirst.length ≤ fuel
        rw [hlen]; exact hf1
      · refine ⟨Nat.zero_lt_one, ?_, ?_⟩
        · show ([9] ++ hugeBuf n ++ []).length < 2 ^ 63
          simp only [List.length_append, List.length_singleton, List.length_nil, hugeBuf_length]
          omega
        · show (hugeBuf n).length ≤ fuel
          rw [hugeBuf_length]; exact hf2
    have htot : totalBytes (hugeHist n) + 65552 < 2 ^ 64 := by
      have : totalBytes (hugeHist n) = 29 + (8 + n) := by
        simp only [totalBytes, hugeHist, List.map_cons, List.map_nil, List.sum_cons, List.sum_nil, hugeBuf_length,
          hlen, Nat.add_zero]
      omega
    obtain ⟨outs, h1, h2⟩ := runSrc_refines_partial fuel (hugeHist n) hfit htot
    rw [hmodel] at h1 h2
    exact ⟨outs, h1, h2⟩

/-- **a frame of 2^31 + 8 bytes releases the endpoint's pending entry (repaired in the source).**
    History: a first segment opens a message on endpoint (0x0102, 7); then a frame of 2^31 + 8 bytes
    for the same endpoint arrives whose message bytes are invalid — a frame that neither opens nor
    continues anything.
    * By the property's text (specification automaton) nothing is in progress on that endpoint any
      more, and the MODEL's table is empty — which is what `C17_bytes` / `table_entries` claim.
    * The TRANSLATED `Decoder::decode` (`std::size_t curSize = size - 8` is 2^31: the loop runs, `isValidPacket`
      rejects the message bytes, the endpoint's entry is erased) is defined on both calls and holds NOTHING afterwards.
    While `curSize` was an `int` (−2^31 here: neither the header-only `erase` nor the loop ran) the translated source
    still held the first segment's 18 bytes.
    The frame is handled like any other: this is `runSrc_refines_partial` on this history (`huge_frame_released_gen`
    for every size), and `decode_src_any` is the one-call statement for every table and every buffer. -/
theorem huge_frame_released :
    openAfter (framesAt ((hugeHist (2 ^ 31)).map fun x => some x.b) (0x0102, 7)) = none ∧
    (runLL [] ((hugeHist (2 ^ 31)).map fun x => some x.b)).1 = [] ∧
    ∀ fuel, 2 ^ 31 + 8 ≤ fuel → ∃ outs, runSrc fuel (tblSt []) (hugeHist (2 ^ 31)) = some (tblSt [], outs) ∧
      outs.map (Sum.elim toPacket SrcTec.tAbs) = [] := by
  obtain ⟨h1, h2, h3⟩ := huge_frame_released_gen (2 ^ 31) (by omega) (by omega)
  exact ⟨h1, h2, fun fuel hf => h3 fuel (by omega) (by omega)⟩

/-! ## Buffers that are not capture-module frames -/


/-! ### Modelling limit — written down, not provable here

  "Memory" in every C17 statement (here and in Props/C17*.lean) means the CONTENTS of the decoder's
  single data member: the list of entries of `segmentedPackets` and the `size()` of each `payload`.
  Outside the observation, by the type of the models: `std::vector` capacity (geometric growth of
  `payload.resize`, up to 2× the `size()` the bounds talk about), the `unordered_map` bucket array
  (allocated by the first default-insert, never shrunk by `erase`), and any state a FUTURE second
  member / static cache might hold — the latter is caught only by the tool chain (the translated
  state `Decoder_St` has the one field `f_segmentedPackets`; a new member changes the generated type
  and breaks `tblSt`), not by a theorem statement.  "Baseline" in the property's text therefore reads "no entries",
  not "no heap".  That the TECMP path cannot touch the table is, at model level, true by the type of
  `decodeWith`; the statement with content is the source-level one (`SrcTec.decode_tecmp_src`,
  used in `decode_src_any`), where the translated `TECMP::Decoder::Decode` is a function of the memory
  and has no access to the decoder's state.
  An exception thrown by `getPacket()` between `addSegment` and `erase` is likewise outside
  the models, which are total functions; the property's quantifier does not mention allocation failure. -/

/-- **TECMP / null / undersized buffers, with the CONCRETE TECMP decoder.**  A buffer that is not a
    capture-module frame (`bufEp = none`: null pointer, fewer than 8 bytes, or first byte 0 = TECMP)
    leaves the low-level table LITERALLY unchanged (not just its function view). -/
theorem non_frame_keeps_table (t : Table) (buf : Option Bytes) (h : bufEp buf = none) :
    (decodeLL t buf).1 = t := by
  rcases decodeWith_cases tecmpDecode buf with ⟨rfl | ⟨b, rfl, h8⟩, _, _⟩ | ⟨b, rfl, h8, h0, _, _⟩ | ⟨b, rfl, _, _, hep, _⟩
  · rfl
  · simp only [decodeLL, h8, if_true]
  · rw [decodeLL_tecmp t b h8 h0]
  · rw [hep] at h; cases h

/-- … so a history made of such buffers only — however long — leaves the table where it was; from a
    fresh decoder: empty (the baseline for TECMP / undersized traffic, on the real table). -/
theorem non_frames_keep_table (t : Table) (bufs : List (Option Bytes)) (h : ∀ b ∈ bufs, bufEp b = none) :
    (runLL t bufs).1 = t := by
  induction bufs generalizing t with
  | nil => rfl
  | cons b bs ih =>
    simp only [runLL]
    rw [non_frame_keeps_table t b (h b (List.mem_cons_self ..))]
    exact ih t (fun x hx => h x (List.mem_cons_of_mem _ hx))



/-! ## Witnesses: literal histories -/

section Witnesses

/-- (a) one first segment: ONE entry, keyed by (device, stream), holding the 16 header bytes + the 2
    DECLARED bytes — not the 3 trailing bytes of the frame -/
example : (runLL [] [some exFirst]).1 = [exEntry] := by decide +kernel
example : ((runLL [] [some exFirst]).1.map fun x => (x.1, x.2.payload.length)) = [((0x0102, 7), 16 + 2)] := by decide +kernel

/-- (b) first + intermediary: same key, grown by the 3 declared bytes (21 = 16 + 2 + 3), length
    field rewritten to 5, counter 6, last accepted type 8 -/
example : (runLL [] [some exFirst, some exMid]).1 =
    [((0x0102, 7), ⟨[0, 0, 0, 0, 0, 0, 0, 9, 0, 0, 0, 3, 0x04, 0x20, 0, 5, 0xAA, 0xBB, 0xCC, 0xDD, 0xEE], 8, 1, 1, 6⟩)] := by
  decide +kernel

/-- (c) first + intermediary + last: delivered (one packet, 6 payload bytes) and the table is empty -/
example : (runLL [] [some exFirst, some exMid, some exLast]).1 = [] := by decide +kernel
example : ((runLL [] [some exFirst, some exMid, some exLast]).2.map fun p => (p.deviceId, p.streamId, p.payload.map (·.data))) =
    [(0x0102, 7, some [0xAA, 0xBB, 0xCC, 0xDD, 0xEE, 0xFF])] := by decide +kernel

/-- (d) an orphan intermediary / an orphan last segment: nothing stays (no default entry) -/
example : (runLL [] [some exMid]).1 = [] := by decide +kernel
example : (runLL [] [some exLast]).1 = [] := by decide +kernel

/-- (e) two endpoints interleaved: two entries, each with its own bytes -/
example : ((runLL [] [some exFirst, some exFirstB, some exMid]).1.map fun x => (x.1, x.2.payload.length, x.2.seq)) =
    [((0x0102, 7), 21, 6), ((9, 2), 17, 0)] := by decide +kernel

/-- (f) abort: a second intermediary with the WRONG counter (6 again) releases the buffer; the other
    endpoint is untouched -/
example : ((runLL [] [some exFirst, some exFirstB, some exMid, some exMid]).1.map fun x => x.1) = [(9, 2)] := by decide +kernel

/-- (g) supersede: a new first segment replaces the old buffer -/
example : (runLL [] [some exFirst, some exMid, some exFirst]).1 = [exEntry] := by decide +kernel

/-- (h) null, undersized and TECMP buffers in between change nothing -/
example : (runLL [] [some exFirst, none, some [1, 2, 3], some SrcTec.exCanFd]).1 = [exEntry] := by decide +kernel

/-- the wire layout of the examples: `exFirst` IS `segFrame` with 2 body bytes and 3 trailing bytes -/
example : exFirst = segFrame 1 0x0102 1 7 5 ⟨9, 3, 4, 0x20⟩ [0xAA, 0xBB] [0xEE, 0xEE, 0xEE] := by decide +kernel
example : exMid = segFrame 1 0x0102 1 7 6 ⟨9, 3, 8, 0x20⟩ [0xCC, 0xDD, 0xEE] [0x77] := by decide +kernel

/-- `declStep_segFrame`: hypotheses satisfiable, conclusion a literal — the first segment counts 2
    (its body), not 5 (body + trailing) -/
example : declStep 1000 (parseFrame exFirst) = 2 := by
  have e : exFirst = segFrame 1 0x0102 1 7 5 ⟨9, 3, 4, 0x20⟩ [0xAA, 0xBB] [0xEE, 0xEE, 0xEE] := by decide +kernel
  rw [e, declStep_segFrame 1 0x0102 1 7 5 ⟨9, 3, 4, 0x20⟩ 4 [0xAA, 0xBB] [0xEE, 0xEE, 0xEE] 1000 (by decide) (by decide)
    (by decide) (by decide) (by decide) (by decide) (by unfold SegHdr.WF; decide) (by decide)]
  rfl
example : declStep 2 (parseFrame exMid) = 5 := by
  have e : exMid = segFrame 1 0x0102 1 7 6 ⟨9, 3, 8, 0x20⟩ [0xCC, 0xDD, 0xEE] [0x77] := by decide +kernel
  rw [e, declStep_segFrame 1 0x0102 1 7 6 ⟨9, 3, 8, 0x20⟩ 8 [0xCC, 0xDD, 0xEE] [0x77] 2 (by decide) (by decide)
    (by decide) (by decide) (by decide) (by decide) (by unfold SegHdr.WF; decide) (by decide)]
  rfl

/-- `table_total` / `pending_bytes_wire` on a literal history: the wire measure of the open message
    is 5 declared bytes (2 + 3), and the entry holds 16 + 5 -/
example : declBytes (framesAt [some exFirst, some exFirstB, some exMid] (0x0102, 7)) = 5 := by
  have ht : (runLL [] [some exFirst, some exFirstB, some exMid]).1 =
      [((0x0102, 7), ⟨[0, 0, 0, 0, 0, 0, 0, 9, 0, 0, 0, 3, 0x04, 0x20, 0, 5, 0xAA, 0xBB, 0xCC, 0xDD, 0xEE], 8, 1, 1, 6⟩),
       ((9, 2), ⟨[0, 0, 0, 0, 0, 0, 0, 9, 0, 0, 0, 3, 0x04, 0x20, 0, 1, 0x11], 4, 1, 1, 0⟩)] := by decide +kernel
  have h := (table_total [some exFirst, some exFirstB, some exMid]).2.2.2.1 _
    (by rw [ht]; exact List.mem_cons_self ..)
  simp only [List.length_cons, List.length_nil] at h
  omega

/-- `table_total`, count: over the covering list [(0x0102,7), (9,2), (1,1)] two endpoints are open -/
example : (runLL [] [some exFirst, some exFirstB, some exMid]).1.length = 2 := by decide +kernel

/-- `frame_step_exact`: its hypotheses on a literal frame -/
example : 8 ≤ exMid.length ∧ byteAt exMid 0 ≠ 0 := by decide +kernel

/-- one-step theorems on literal frames -/
def exSegMsg (flags : UInt8) : Bytes := [0, 0, 0, 0, 0, 0, 0, 9, 0, 0, 0, 3, flags, 0x20, 0, 1, 0x55]
example : (localStep (some ⟨exSegMsg 4, 4, 1, 1, 5⟩) ⟨(1, 2), 1, 1, 9, [], .seg (exSegMsg 8)⟩).1 = none :=
  abort_mismatch _ _ (exSegMsg 8) rfl (by decide) (by decide)
example : (localStep (some ⟨exSegMsg 4, 4, 1, 1, 5⟩) ⟨(1, 2), 1, 1, 6, [default], .seg (exSegMsg 8)⟩).1 = none :=
  abort_unseg_in_front _ _ (exSegMsg 8) rfl (by decide) (by decide)
example : (localStep none ⟨(1, 2), 1, 1, 6, [], .seg (exSegMsg 12)⟩).1 = none :=
  orphan_releases _ (exSegMsg 12) rfl (by decide)
example : (localStep (some ⟨exSegMsg 4 ++ [1, 2, 3], 8, 1, 1, 5⟩) ⟨(1, 2), 2, 1, 77, [], .seg (exSegMsg 4)⟩).1 =
    some ⟨exSegMsg 4, 4, 2, 1, 77⟩ :=
  supersede_releases _ _ (exSegMsg 4) rfl (by decide)

/-- `non_frames_keep_table`: hypothesis satisfiable on a null, an undersized and a TECMP buffer -/
example : ∀ b ∈ [none, some [1, 2, 3], some SrcTec.exCanFd], bufEp b = none := by decide +kernel

/-- `runSrc_refines_partial`: hypotheses satisfiable (two calls, fuel 64), and the member the
    TRANSLATED SOURCE leaves is the literal one-entry table of (b) -/
example : ∃ outs, runSrc 64 (tblSt []) [⟨[9], exFirst, [5]⟩, ⟨[9, 9], exMid, []⟩] =
    some (tblSt [((0x0102, 7), ⟨[0, 0, 0, 0, 0, 0, 0, 9, 0, 0, 0, 3, 0x04, 0x20, 0, 5, 0xAA, 0xBB, 0xCC, 0xDD, 0xEE], 8, 1, 1, 6⟩)], outs) := by
  obtain ⟨outs, h, _⟩ := runSrc_refines_partial 64 [⟨[9], exFirst, [5]⟩, ⟨[9, 9], exMid, []⟩]
    (by
      intro x hx
      simp only [List.mem_cons, List.not_mem_nil, or_false] at hx
      rcases hx with rfl | rfl <;> (unfold MemBuf.Fits; decide))
    (by decide +kernel)
  refine ⟨outs, ?_⟩
  rw [h]
  have : (runLL [] (([⟨[9], exFirst, [5]⟩, ⟨[9, 9], exMid, []⟩] : List MemBuf).map fun x => some x.b)).1 =
      [((0x0102, 7), ⟨[0, 0, 0, 0, 0, 0, 0, 9, 0, 0, 0, 3, 0x04, 0x20, 0, 5, 0xAA, 0xBB, 0xCC, 0xDD, 0xEE], 8, 1, 1, 6⟩)] := by
    decide +kernel
  rw [this]

/-- the translated source evaluated on a small frame of the same shape (`hugeBuf 40`: 40 invalid message bytes) with the
    pending entry: the entry is released.  (The call of `huge_frame_released` itself cannot be evaluated: it reads 2 GiB.) -/
example : (Decoder_decode_obj 48 (tblSt [exEntry]) ([9] ++ hugeBuf 40) 1 48 (SrcTec.tecmpExt 48)).map
      (fun r => (r.1.f_segmentedPackets.map fun e => (e.1, e.2.f_payload.length, e.2.f_segmentType), r.2.length)) =
    some ([], 0) := by decide +kernel

/-- `huge_frame_released_gen`: hypotheses satisfiable at both ends of the range the `int` mishandled -/
example := huge_frame_released_gen (2 ^ 32 - 1) (by omega) (by omega)


/-- `pending_last_frame`: its hypothesis holds on a literal history (evaluated through the table) -/
example : (decodeAll tecmpDecode DecState.empty [some exFirst, some exMid]).1 (0x0102, 7) ≠ none := by
  rw [← (runLL_refines [some exFirst, some exMid]).2.1]
  decide +kernel

theorem exLast_parse : parseFrame exLast =
    { ep := (0x0102, 7), ver := 1, mt := 1, seq := 7, unseg := [],
      term := .seg ((⟨9, 3, 12, 0x20⟩ : SegHdr).bytes 1 ++ [0xFF]) } := by
  have e : exLast = segFrame 1 0x0102 1 7 7 ⟨9, 3, 12, 0x20⟩ [0xFF] [] := by decide +kernel
  rw [e]
  exact segFrame_parse 1 0x0102 1 7 7 ⟨9, 3, 12, 0x20⟩ 12 [0xFF] [] (by decide) (by decide) (by decide) (by decide)
    (by decide) (by decide) (by unfold SegHdr.WF; decide) (by decide)

/-- `baseline_of_last_frames`: its hypothesis holds on a literal history whose only frame ends in a
    last segment (type 12) -/
example : ∀ e earlier f, framesAt [some exLast] e = earlier ++ [f] →
    ∀ m, f.term = .seg m → segTypeOf m ≠ 4 ∧ segTypeOf m ≠ 8 := by
  intro e earlier f hfr m hm
  have h8 : ¬ exLast.length < 8 := by decide +kernel
  have h0 : ¬ byteAt exLast 0 = 0 := by decide +kernel
  have hfo : framesOf [some exLast] = [parseFrame exLast] := by
    simp only [framesOf, bufEp, h8, h0, if_false]
  have hmem : f ∈ framesAt [some exLast] e := by rw [hfr]; simp
  unfold framesAt at hmem
  rw [hfo] at hmem
  have hf : f = parseFrame exLast := by
    have := (List.mem_filter.mp hmem).1
    simpa using this
  rw [hf, exLast_parse] at hm
  simp only [Term.seg.injEq] at hm
  subst hm
  decide

end Witnesses

end Source

end AsamCmp.C17S
