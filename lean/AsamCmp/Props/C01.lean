/-
  C01  Encode then decode returns the original packets.

  For every non-empty batch of packets with non-empty, well-formed payloads and every frame-size
  configuration (maximum >= 25 bytes, minimum <= maximum), decoding the encoder's output frames in
  order yields exactly the original packets in the original order: same payload type and payload
  bytes, message type, timestamp, interface id (data messages) or vendor id (status/vendor
  messages), protocol version and non-segmentation flag bits, tagged with the encoder's device id
  and stream id.  This holds whether packets were aggregated into one frame or segmented over
  many, and for batches that mix message types.

  The theorem takes three hypotheses the text does not spell out: all packets of the batch carry one protocol
  version (a frame has one version byte), and the encoder's ids fit their header fields (`e.dev < 65536`,
  `e.stream < 256`).  Its second conclusion says that nothing stays pending on the encoder's endpoint afterwards.
  `Packet.WF` (the domain) and `P_C01` (the comparison of sent and decoded packets) are defined in
  AsamCmp/RoundTrip.lean, `Ctx.ok` (the frame-size configurations) in AsamCmp/Encoder.lean; the proof is
  `C01.roundtrip` in Lemmas/RoundTrip.lean.
-/
import AsamCmp.RoundTrip
import AsamCmp.Lemmas.RoundTrip
namespace AsamCmp.C01
open AsamCmp

/-- C01, for every encoder state `e` (any history), every decoder state `d` (any history, even a
    stale reassembly on the same endpoint), every batch of the domain and every configuration -/
theorem C01_roundtrip (e : Enc) (d : DecState) (batch : List Packet) (c : Ctx) (v : Nat)
    (hc : c.ok = true) (hne : batch ≠ [])
    (hwf : ∀ p ∈ batch, p.WF) (hver : ∀ p ∈ batch, p.version = v)
    (hdev : e.dev < 65536) (hstream : e.stream < 256) :
    let frames := (e.encode batch c).2.map (EFrame.bytes c.min)
    let r := decodeAll tecmpDecode d (frames.map some)
    P_C01 e.dev e.stream batch r.2 = true ∧ r.1 (e.dev, e.stream) = none := by
  exact roundtrip e d batch c v hc hne hwf hver hdev hstream

end AsamCmp.C01
