/-
  `Decoder::decode` as a whole, source level, with the TRANSLATED TECMP decoder plugged in: ONE theorem for every buffer of at
  least 8 bytes — CMP frame or TECMP message, no hypothesis on the first byte — plus the null-pointer and short-buffer cases.
  The translated `ASAM::CMP::Decoder::decode` (GeneratedSrcObj.lean) takes the TECMP decoder as a parameter; here the parameter
  is `SrcTec.tecmpExt`, i.e. the translation of `TECMP::Decoder::Decode` (GeneratedSrcTecmp.lean), and the result is compared with
  the FULL decoder model `decode = decodeWith tecmpDecode` (Tecmp.lean) that C01, C02, C04–C06, C15, C17, C18 are about.  Nothing
  of the decoding path is a contract except `mkPacket` (the `Packet(type, data, size)` constructor, whose translation is
  related to it in Props/SrcPacketValue.lean).
-/
import AsamCmp.Props.SrcDecoderE2E
import AsamCmp.Props.SrcTecmp
namespace AsamCmp.SrcDec
open AsamCmp AsamCmp.Src AsamCmp.SrcGen

theorem decodeLL_tecmp (t : Table) (b : Bytes) (h8 : 8 ≤ b.length) (h0 : byteAt b 0 = 0) :
    decodeLL t (some b) = (t, tecmpDecode b) := by
  have : ¬ b.length < 8 := by omega
  simp only [decodeLL, this, if_false, h0, if_true]

/-- a null pointer (any size): nothing happens, as in the model -/
theorem decode_total_null_src (t : Table) (m : Bytes) (size fuel : Nat) :
    Decoder_decode_obj fuel (tblSt t) m 0 size (SrcTec.tecmpExt fuel) = some (tblSt t, []) ∧
    decode t.abs none = (t.abs, []) :=
  ⟨(decode_other_src (tblSt t) m 0 size fuel (SrcTec.tecmpExt fuel)).1, rfl⟩

/-- a buffer shorter than the 8-byte frame header at a non-null address: nothing happens (and nothing is read), as in the model -/
theorem decode_total_short_src (t : Table) (m b : Bytes) (data fuel : Nat) (hd : 0 < data) (hs : b.length < 8) :
    Decoder_decode_obj fuel (tblSt t) m data b.length (SrcTec.tecmpExt fuel) = some (tblSt t, []) ∧
    decode t.abs (some b) = (t.abs, []) := by
  refine ⟨(decode_other_src (tblSt t) m data b.length fuel (SrcTec.tecmpExt fuel)).2.1 hd hs, ?_⟩
  show decodeWith tecmpDecode t.abs (some b) = (t.abs, [])
  simp only [decodeWith, hs, if_true]

/-- ONE call on a buffer of ANY length (shorter than the frame header included) at a non-null address, with the table the
    translation leaves named: it is the low-level model's -/
theorem _root_.AsamCmp.SrcHist.decode_step_src (t : Table) (pre b post : Bytes) (fuel : Nat)
    (hT : C17b.TableOk t) (hR : TableReg t) (hpre : 0 < pre.length)
    (hmem : (pre ++ b ++ post).length < 2 ^ 63) (hf : b.length ≤ fuel) :
    ∃ outs, Decoder_decode_obj fuel (tblSt t) (pre ++ b ++ post) pre.length b.length (SrcTec.tecmpExt fuel) =
        some (tblSt (decodeLL t (some b)).1, outs) ∧
      outs.map (Sum.elim toPacket SrcTec.tAbs) = (decodeLL t (some b)).2 := by
  by_cases h8 : b.length < 8
  · have hll : decodeLL t (some b) = (t, []) := by simp only [decodeLL, h8, if_true]
    rw [hll]
    exact ⟨[], (decode_total_short_src t (pre ++ b ++ post) b pre.length fuel hpre h8).1, rfl⟩
  · have h8' : 8 ≤ b.length := by omega
    by_cases h0 : byteAt b 0 = 0
    · obtain ⟨hsrc, hmap⟩ := SrcTec.decode_tecmp_src (tblSt t) pre b post fuel toPacket hpre h8' h0 (by omega) hf
        (fun _ => by
          have := beAt_lt_pow b 32 2
          have hbl : b.length ≤ (pre ++ b ++ post).length := by simp only [List.length_append]; omega
          omega)
      rw [decodeLL_tecmp t b h8' h0]
      exact ⟨_, hsrc, hmap⟩
    · obtain ⟨outs, h1, h2⟩ := decode_src t pre b post fuel (SrcTec.tecmpExt fuel) hT hR hpre h8' h0 hmem hf
      refine ⟨_, h1, ?_⟩
      rw [List.map_map, ← h2]
      rfl

/-- EVERY buffer of at least 8 bytes (the frame header size) at a non-null address: the translated `Decoder::decode`, with the
    translated `TECMP::Decoder::Decode` as its TECMP branch, is defined, leaves exactly the model's pending table and returns
    exactly the model's packets -/
theorem decode_total_src (t : Table) (pre b post : Bytes) (fuel : Nat)
    (hT : C17b.TableOk t) (hR : TableReg t) (hpre : 0 < pre.length) (h8 : 8 ≤ b.length)
    (hmem : (pre ++ b ++ post).length < 2 ^ 63) (hf : b.length ≤ fuel) :
    ∃ t' outs, Decoder_decode_obj fuel (tblSt t) (pre ++ b ++ post) pre.length b.length (SrcTec.tecmpExt fuel) =
        some (tblSt t', outs) ∧
      C17b.TableOk t' ∧ t'.abs = (decode t.abs (some b)).1 ∧
      outs.map (Sum.elim toPacket SrcTec.tAbs) = (decode t.abs (some b)).2 := by
  obtain ⟨outs, h1, h2⟩ := SrcHist.decode_step_src t pre b post fuel hT hR hpre hmem hf
  obtain ⟨k1, k2, k3⟩ := C17b.decodeLL_refines t (some b) hT
  exact ⟨_, outs, h1, k1, k2, by rw [h2, k3]⟩

/-! ### the hypotheses are satisfiable: a TECMP message and a CMP frame, from the empty table -/

theorem tableOk_nil : C17b.TableOk [] := C17b.tableOk_empty
theorem tableReg_nil : TableReg [] := by intro x hx; simp at hx

/-- a CMP data frame (version 1, device 0x0102, message type 1, stream 7, counter 5) holding one unsegmented Ethernet message
    (payload type 8, declared length 8) and a second, truncated one -/
def exFrame : Bytes :=
  [1, 0, 1, 2, 1, 7, 0, 5,
   0, 0, 0, 0, 0, 0, 0, 9, 0, 0, 0, 3, 0, 8, 0, 8, 0, 0, 0, 0, 0, 2, 0xAA, 0xBB,
   0, 0, 0, 0, 0, 0, 0, 9, 0, 0, 0, 3, 0, 8, 0, 8, 0, 0]

example : ∃ t' outs, Decoder_decode_obj 64 (tblSt []) ([9] ++ SrcTec.exCanFd ++ [5, 5]) 1 49 (SrcTec.tecmpExt 64) = some (tblSt t', outs) ∧
    C17b.TableOk t' ∧ t'.abs = (decode (Table.abs []) (some SrcTec.exCanFd)).1 ∧
    outs.map (Sum.elim toPacket SrcTec.tAbs) = (decode (Table.abs []) (some SrcTec.exCanFd)).2 :=
  decode_total_src [] [9] SrcTec.exCanFd [5, 5] 64 tableOk_nil tableReg_nil (by decide) (by decide) (by decide) (by decide)
example : ((decode (Table.abs []) (some SrcTec.exCanFd)).2.map fun p => (p.payload.map (·.ty), p.deviceId)) = [(some tyCanFd, 7)] := by
  decide

example : ∃ t' outs, Decoder_decode_obj 64 (tblSt []) ([9] ++ exFrame ++ []) 1 50 (SrcTec.tecmpExt 64) = some (tblSt t', outs) ∧
    C17b.TableOk t' ∧ t'.abs = (decode (Table.abs []) (some exFrame)).1 ∧
    outs.map (Sum.elim toPacket SrcTec.tAbs) = (decode (Table.abs []) (some exFrame)).2 :=
  decode_total_src [] [9] exFrame [] 64 tableOk_nil tableReg_nil (by decide) (by decide) (by decide) (by decide)
/-- … on which the model delivers one packet and ignores the truncated message (evaluated through the low-level model, which
    `C17b.decodeLL_refines` proves equal to `decode`; `decode` itself recurses on a well-founded measure and does not evaluate
    in the kernel) -/
example : ((decodeLL [] (some exFrame)).2.map fun p => (p.payload.map (·.ty), p.deviceId, p.streamId, p.ifId)) =
    [(some tyEth, 0x0102, 7, 3)] := by decide

end AsamCmp.SrcDec
