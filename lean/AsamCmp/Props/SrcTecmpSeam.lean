/-
  The seam of GeneratedSrcTecmp.lean is a THEOREM about translated source.  The TECMP converter's packets are `TPacket_St` = the
  scalar members of `ASAM::CMP::Packet` (object mode, `Packet_St`) + the owned payload, with three hand-stated operations
  (`TPacket_new`, `TPacket_setPayload`, `TPacket_isValid`) and the scalar setters `Packet_set*_obj`.  The packet value mode of
  GeneratedSrcObj.lean translates the class `Packet` itself — `Packet()`, `setPayload` (with `std::make_unique<Payload>(p)` = the
  translated copy constructor of `Payload`), `isValid`, the setters — over `PacketV_St`.  Under the bijection `toV` / `ofV` the two
  agree, operation by operation; so what GeneratedSrcTecmp.lean calls the contract of `Packet::setPayload` / `isValid` / `Packet()`
  is what the translated bodies of these functions compute.
-/
import AsamCmp.GeneratedSrcTecmp
import AsamCmp.Lemmas.SrcTecmpPrim
namespace AsamCmp.SrcTec
open AsamCmp AsamCmp.Src AsamCmp.SrcGen

/-- the bijection `TPacket_St ≃ PacketV_St` -/
def toV (p : TPacket_St) : PacketV_St :=
  { f_payload := p.payload.map fun x => ⟨x.2, x.1⟩, f_version := p.hdr.f_version, f_deviceId := p.hdr.f_deviceId,
    f_streamId := p.hdr.f_streamId, f_sequenceCounter := p.hdr.f_sequenceCounter, f_timestamp := p.hdr.f_timestamp,
    f_interfaceId := p.hdr.f_interfaceId, f_vendorId := p.hdr.f_vendorId, f_commonFlags := p.hdr.f_commonFlags,
    f_segmentType := p.hdr.f_segmentType }

def ofV (v : PacketV_St) : TPacket_St :=
  { hdr := { f_version := v.f_version, f_deviceId := v.f_deviceId, f_streamId := v.f_streamId,
             f_sequenceCounter := v.f_sequenceCounter, f_timestamp := v.f_timestamp, f_interfaceId := v.f_interfaceId,
             f_vendorId := v.f_vendorId, f_commonFlags := v.f_commonFlags, f_segmentType := v.f_segmentType },
    payload := v.f_payload.map fun x => (x.f_type, x.f_payloadData) }

theorem ofV_toV (p : TPacket_St) : ofV (toV p) = p := by
  obtain ⟨⟨_, _, _, _, _, _, _, _, _⟩, pl⟩ := p
  cases pl <;> rfl

theorem toV_ofV (v : PacketV_St) : toV (ofV v) = v := by
  obtain ⟨pl, _, _, _, _, _, _, _, _, _⟩ := v
  cases pl <;> rfl

/-- the payload objects of the two translations: same members -/
def plV (x : APayload_St) : Payload_St := ⟨x.f_payloadData, x.f_type⟩

/-- `std::make_shared<Packet>()` -/
theorem seam_new : Packet_ctor_default_pv = some (toV TPacket_new) := rfl

/-- `Packet::setPayload` -/
theorem seam_setPayload (p : TPacket_St) (x : APayload_St) :
    Packet_setPayload_pv (toV p) (plV x) = some (toV (TPacket_setPayload p x), ()) := rfl

theorem and_mod32 (s k : Nat) (hk : k < 4294967296) : s % 4294967296 &&& k = s &&& k := by
  have h := Nat.and_mod_two_pow (a := s) (b := k) (n := 32)
  have hle : s &&& k ≤ k := Nat.and_le_right
  rw [Nat.mod_eq_of_lt (by omega : k < 2 ^ 32), Nat.mod_eq_of_lt (by omega : s &&& k < 2 ^ 32)] at h
  exact h.symm

/-- `ASAM::CMP::Payload::isValid`, the two translations -/
theorem seam_payload_isValid (x : APayload_St) :
    Payload_isValid_pv (plV x) = (Payload_isValid_obj x).map fun r => (plV x, r) := by
  have hrd := rd_leEnc4 x.f_type
  simp only [Payload_isValid_pv, PayloadType_isValid_pv, Payload_isValid_obj, PayloadType_isValid, plV, hrd, bind, pure,
    Option.bind_some, Option.map_some, and_mod32 x.f_type 255 (by decide), and_mod32 x.f_type 65280 (by decide)]
  cases (x.f_type &&& 255 != 0) <;> rfl

/-- `Packet::isValid` -/
theorem seam_isValid (p : TPacket_St) :
    Packet_isValid_pv (toV p) = (TPacket_isValid p).map fun r => (toV p, r) := by
  obtain ⟨h, pl⟩ := p
  cases pl with
  | none => rfl
  | some x =>
    obtain ⟨ty, b⟩ := x
    have hv := seam_payload_isValid ⟨b, ty⟩
    simp only [Packet_isValid_pv, TPacket_isValid, toV, Option.map_some, Option.isSome_some, if_true, bind, pure,
      Option.bind_some] at hv ⊢
    rw [show (⟨b, ty⟩ : Payload_St) = plV ⟨b, ty⟩ from rfl, hv]
    cases Payload_isValid_obj ⟨b, ty⟩ <;> rfl

/-- the scalar setters the converter calls (`GetPackageFromTecmpHeader`, `ConvertInterfacePayload`) -/
theorem seam_setters (p : TPacket_St) (v : Nat) :
    Packet_setDeviceId_pv (toV p) v = (Packet_setDeviceId_obj p.hdr v).map (fun r => (toV { p with hdr := r.1 }, r.2)) ∧
    Packet_setTimestamp_pv (toV p) v = (Packet_setTimestamp_obj p.hdr v).map (fun r => (toV { p with hdr := r.1 }, r.2)) ∧
    Packet_setInterfaceId_pv (toV p) v = (Packet_setInterfaceId_obj p.hdr v).map (fun r => (toV { p with hdr := r.1 }, r.2)) :=
  ⟨rfl, rfl, rfl⟩

end AsamCmp.SrcTec
