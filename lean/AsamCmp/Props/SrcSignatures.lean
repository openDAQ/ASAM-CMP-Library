/-
  The declared C types at the API boundary (C11, C12, C13, C16 and every "for all values of the field's width" statement).

  The translated functions take `Nat`s; what a C++ function receives is the caller's value converted to the DECLARED parameter type,
  and what the caller gets is the DECLARED return type.  A narrowed parameter (`removeDeviceById(uint8_t)`), return type or data
  member changes no function body — so no translated body and no theorem about one — yet truncates values at the call.  The
  declared signatures and member types are therefore generated from the clang AST on every run (GeneratedSrcSig.lean: `apiSig`,
  types rendered by width and signedness) and compared here, by the kernel, with this table, written from the headers of the
  pinned commit (the widths are those of the protocol fields in Layout.lean and of the model's value ranges).  Functions and classes
  that are not in the table are not constrained; an entry that is missing from `apiSig` or differs fails.
-/
import AsamCmp.GeneratedSrcSig
namespace AsamCmp.SrcSig
open AsamCmp.SrcGen

def expectedSig : List (String × List (String × String)) := [
  ("ASAM::CMP", [("operator!=", "bool (ASAM::CMP::Packet&, ASAM::CMP::Packet&) ; bool (enum:u32, enum:u32)"), ("operator==", "bool (ASAM::CMP::Packet&, ASAM::CMP::Packet&) ; bool (ASAM::CMP::Payload&, ASAM::CMP::Payload&) ; bool (enum:u32, enum:u32)"), ("swapEndian", "u16 (u16) ; u32 (u32) ; u64 (u64) ; u8 (u8)")]),
  ("ASAM::CMP::AnalogPayload", [("AnalogPayload", "ctor (ptr, u64)"), ("getData", "ptr () const"), ("getFlags", "u16 () const"), ("getHeader", "ptr () ; ptr () const"), ("getSampleDt", "enum:u16 () const"), ("getSamplesCount", "u64 () const"), ("getUnit", "enum:u8 () const"), ("isValidPayload", "bool (ptr, u64)"), ("setData", "void (ptr, u64)"), ("setFlags", "void (u16)"), ("setSampleDt", "void (enum:u16)"), ("setUnit", "void (enum:u8)")]),
  ("ASAM::CMP::AnalogPayload::Header", [("field flags", "u16"), ("field reserved", "u8"), ("field unit", "u8"), ("getFlags", "u16 () const"), ("getSampleDt", "enum:u16 () const"), ("getUnit", "enum:u8 () const"), ("setFlags", "void (u16)"), ("setSampleDt", "void (enum:u16)"), ("setUnit", "void (enum:u8)")]),
  ("ASAM::CMP::CanFdPayload", [("CanFdPayload", "ctor (ptr, u64)"), ("getCrc", "u32 () const"), ("getRrs", "bool () const"), ("getSbc", "u8 () const"), ("getSbcParity", "bool () const"), ("getSbcSupport", "bool () const"), ("setCrc", "void (u32)"), ("setRrs", "void (bool)"), ("setSbc", "void (u8)"), ("setSbcParity", "void (bool)"), ("setSbcSupport", "void (bool)")]),
  ("ASAM::CMP::CanPayload", [("CanPayload", "ctor (ptr, u64)"), ("getCrc", "u16 () const"), ("getRtr", "bool () const"), ("setCrc", "void (u16)"), ("setRtr", "void (bool)")]),
  ("ASAM::CMP::CanPayloadBase", [("CanPayloadBase", "ctor (enum:u32, ptr, u64) ; ctor (enum:u32, u64)"), ("encodeDlc", "u8 (u8)"), ("getCrcSupport", "bool () const"), ("getData", "ptr () const"), ("getDataLength", "u8 () const"), ("getDlc", "u8 () const"), ("getErrorPosition", "u16 () const"), ("getFlag", "bool (enum:u16) const"), ("getFlags", "u16 () const"), ("getHeader", "ptr () ; ptr () const"), ("getId", "u32 () const"), ("getIde", "bool () const"), ("getRsvd", "bool () const"), ("isValidPayload", "bool (ptr, u64)"), ("setCrcSupport", "void (bool)"), ("setData", "void (ptr, u8)"), ("setErrorPosition", "void (u16)"), ("setFlag", "void (enum:u16, bool)"), ("setFlags", "void (u16)"), ("setId", "void (u32)"), ("setIde", "void (bool)"), ("setRsvd", "void (bool)")]),
  ("ASAM::CMP::CanPayloadBase::Header", [("field crc", "u32"), ("field dataLength", "u8"), ("field dlc", "u8"), ("field errorPosition", "u16"), ("field flags", "u16"), ("field id", "u32"), ("field reserved", "u16"), ("getCrc", "u16 () const"), ("getCrcSbc", "u32 () const"), ("getCrcSupport", "bool () const"), ("getDataLength", "u8 () const"), ("getDlc", "u8 () const"), ("getErrorPosition", "u16 () const"), ("getFlag", "bool (enum:u16) const"), ("getFlags", "u16 () const"), ("getId", "u32 () const"), ("getIde", "bool () const"), ("getRsvd", "bool () const"), ("getRtrRrs", "bool () const"), ("getSbc", "u8 () const"), ("getSbcParity", "bool () const"), ("getSbcSupport", "bool () const"), ("hasError", "bool () const"), ("setCrc", "void (u16)"), ("setCrcSbc", "void (u32)"), ("setCrcSupport", "void (bool)"), ("setDataLength", "void (u8)"), ("setDlc", "void (u8)"), ("setErrorPosition", "void (u16)"), ("setFlag", "void (enum:u16, bool)"), ("setFlags", "void (u16)"), ("setId", "void (u32)"), ("setIde", "void (bool)"), ("setRsvd", "void (bool)"), ("setRtrRrs", "void (bool)"), ("setSbc", "void (u8)"), ("setSbcParity", "void (bool)"), ("setSbcSupport", "void (bool)")]),
  ("ASAM::CMP::CaptureModulePayload", [("CaptureModulePayload", "ctor (ptr, u64)"), ("fillWithString", "ptr (ptr, std::basic_string_view<char>)"), ("getCurrentUtcOffset", "u16 () const"), ("getDomainNumber", "u8 () const"), ("getGmClockQuality", "u32 () const"), ("getGmIdentity", "u64 () const"), ("getGptpFlags", "u8 () const"), ("getHeader", "ptr () ; ptr () const"), ("getTimeSource", "u8 () const"), ("getUptime", "u64 () const"), ("getVendorData", "ptr () const"), ("getVendorDataLength", "u16 () const"), ("initStringView", "ptr (ptr, std::string_view&)"), ("isValidPayload", "bool (ptr, u64)"), ("setCurrentUtcOffset", "void (u16)"), ("setDomainNumber", "void (u8)"), ("setGmClockQuality", "void (u32)"), ("setGmIdentity", "void (u64)"), ("setGptpFlags", "void (u8)"), ("setTimeSource", "void (u8)"), ("setUptime", "void (u64)")]),
  ("ASAM::CMP::CaptureModulePayload::Header", [("field currentUtcOffset", "u16"), ("field domainNumber", "u8"), ("field gPtpFlags", "u8"), ("field gmClockQuality", "u32"), ("field gmIdentity", "u64"), ("field reserved", "u8"), ("field timeSource", "u8"), ("field uptime", "u64"), ("getCurrentUtcOffset", "u16 () const"), ("getDomainNumber", "u8 () const"), ("getGmClockQuality", "u32 () const"), ("getGmIdentity", "u64 () const"), ("getGptpFlags", "u8 () const"), ("getTimeSource", "u8 () const"), ("getUptime", "u64 () const"), ("setCurrentUtcOffset", "void (u16)"), ("setDomainNumber", "void (u8)"), ("setGmClockQuality", "void (u32)"), ("setGmIdentity", "void (u64)"), ("setGptpFlags", "void (u8)"), ("setTimeSource", "void (u8)"), ("setUptime", "void (u64)")]),
  ("ASAM::CMP::CmpHeader", [("field deviceId", "u16"), ("field messageType", "u8"), ("field reserved", "u8"), ("field sequenceCounter", "u16"), ("field streamId", "u8"), ("field version", "u8"), ("getDeviceId", "u16 () const"), ("getMessageType", "enum:u8 () const"), ("getSequenceCounter", "u16 () const"), ("getStreamId", "u8 () const"), ("getVersion", "u8 () const"), ("setDeviceId", "void (u16)"), ("setMessageType", "void (enum:u8)"), ("setSequenceCounter", "void (u16)"), ("setStreamId", "void (u8)"), ("setVersion", "void (u8)")]),
  ("ASAM::CMP::DataContext", [("field maxBytesPerMessage", "u64"), ("field minBytesPerMessage", "u64")]),
  ("ASAM::CMP::Decoder", [("decode", "std::vector<std::shared_ptr<Packet>> (ptr, u64)"), ("isFirstSegment", "bool (ptr, u64)"), ("isSegmentedPacket", "bool (ptr, u64)")]),
  ("ASAM::CMP::Decoder::Endpoint", [("field deviceId", "u16"), ("field streamId", "u8"), ("operator==", "bool (ASAM::CMP::Decoder::Endpoint&) const")]),
  ("ASAM::CMP::Decoder::EndpointHash", [("operator()", "u64 (ASAM::CMP::Decoder::Endpoint&) const")]),
  ("ASAM::CMP::Decoder::SegmentedPacket", [("SegmentedPacket", "ctor (ptr, u64, u8, enum:u8, u16)"), ("addSegment", "bool (ptr, u64, u8, enum:u8, u16)"), ("field curMessageType", "enum:u8"), ("field curSegment", "u16"), ("field curVersion", "u8"), ("field segmentType", "enum:u8"), ("getHeader", "ptr ()"), ("getPacket", "std::shared_ptr<Packet> ()"), ("isAssembled", "bool () const"), ("isValidSegmentType", "bool (enum:u8) const")]),
  ("ASAM::CMP::DeviceStatus", [("getIndexByInterfaceId", "u64 (u32) const"), ("getInterfaceStatus", "enum:u8& (u64) ; enum:u8& (u64) const"), ("getInterfaceStatusCount", "u64 () const"), ("removeInterfaceById", "void (u32)")]),
  ("ASAM::CMP::Encoder", [("addNewDataHeader", "void (ASAM::CMP::Packet&, u16, enum:u8)"), ("buildSegmentationFlag", "enum:u8 (bool, i32, u16, u64, u64) const"), ("checkIfSegmented", "bool (ASAM::CMP::Packet&)"), ("clearEncodingMetadata", "void (bool)"), ("field bytesLeft", "u64"), ("field deviceId", "u16"), ("field maxBytesPerMessage", "u64"), ("field messageType", "enum:u8"), ("field minBytesPerMessage", "u64"), ("field sequenceCounter", "u16"), ("field streamId", "u8"), ("getDeviceId", "u16 () const"), ("getSequenceCounter", "u16 () const"), ("getStreamId", "u8 () const"), ("setDeviceId", "void (u16)"), ("setStreamId", "void (u8)")]),
  ("ASAM::CMP::EthernetPayload", [("EthernetPayload", "ctor (ptr, u64)"), ("getData", "ptr () const"), ("getDataLength", "u16 () const"), ("getFlag", "bool (enum:u16) const"), ("getFlags", "u16 () const"), ("getHeader", "ptr () ; ptr () const"), ("isValidPayload", "bool (ptr, u64)"), ("setData", "void (ptr, u16)"), ("setFlag", "void (enum:u16, bool)"), ("setFlags", "void (u16)")]),
  ("ASAM::CMP::EthernetPayload::Header", [("field dataLength", "u16"), ("field flags", "u16"), ("field reserved", "u16"), ("getDataLength", "u16 () const"), ("getFlag", "bool (enum:u16) const"), ("getFlags", "u16 () const"), ("setDataLength", "void (u16)"), ("setFlag", "void (enum:u16, bool)"), ("setFlags", "void (u16)")]),
  ("ASAM::CMP::InterfacePayload", [("InterfacePayload", "ctor (ptr, u64)"), ("getErrorsTotalRx", "u32 () const"), ("getErrorsTotalTx", "u32 () const"), ("getFeatureSupportBitmask", "u32 () const"), ("getHeader", "ptr () ; ptr () const"), ("getInterfaceId", "u32 () const"), ("getInterfaceStatus", "enum:u8 () const"), ("getInterfaceType", "u8 () const"), ("getMsgDroppedRx", "u32 () const"), ("getMsgDroppedTx", "u32 () const"), ("getMsgTotalRx", "u32 () const"), ("getMsgTotalTx", "u32 () const"), ("getStreamIdCountPtr", "ptr () const"), ("getStreamIds", "ptr () const"), ("getStreamIdsCount", "u16 () const"), ("getVendorData", "ptr () const"), ("getVendorDataLength", "u16 () const"), ("getVendorDataLengthPtr", "ptr () const"), ("isValidPayload", "bool (ptr, u64)"), ("setData", "void (ptr, u16, ptr, u16)"), ("setErrorsTotalRx", "void (u32)"), ("setErrorsTotalTx", "void (u32)"), ("setFeatureSupportBitmask", "void (u32)"), ("setInterfaceId", "void (u32)"), ("setInterfaceStatus", "void (enum:u8)"), ("setInterfaceType", "void (u8)"), ("setMsgDroppedRx", "void (u32)"), ("setMsgDroppedTx", "void (u32)"), ("setMsgTotalRx", "void (u32)"), ("setMsgTotalTx", "void (u32)"), ("toUint16", "u16 (ptr) const")]),
  ("ASAM::CMP::InterfacePayload::Header", [("field errorsTotalRx", "u32"), ("field errorsTotalTx", "u32"), ("field featureSupportBitmask", "u32"), ("field interfaceId", "u32"), ("field interfaceStatus", "u8"), ("field interfaceType", "u8"), ("field msgDroppedRx", "u32"), ("field msgDroppedTx", "u32"), ("field msgTotalRx", "u32"), ("field msgTotalTx", "u32"), ("field reserved", "u16"), ("getErrorsTotalRx", "u32 () const"), ("getErrorsTotalTx", "u32 () const"), ("getFeatureSupportBitmask", "u32 () const"), ("getInterfaceId", "u32 () const"), ("getInterfaceStatus", "enum:u8 () const"), ("getInterfaceType", "u8 () const"), ("getMsgDroppedRx", "u32 () const"), ("getMsgDroppedTx", "u32 () const"), ("getMsgTotalRx", "u32 () const"), ("getMsgTotalTx", "u32 () const"), ("setErrorsTotalRx", "void (u32)"), ("setErrorsTotalTx", "void (u32)"), ("setFeatureSupportBitmask", "void (u32)"), ("setInterfaceId", "void (u32)"), ("setInterfaceStatus", "void (enum:u8)"), ("setInterfaceType", "void (u8)"), ("setMsgDroppedRx", "void (u32)"), ("setMsgDroppedTx", "void (u32)"), ("setMsgTotalRx", "void (u32)"), ("setMsgTotalTx", "void (u32)")]),
  ("ASAM::CMP::InterfaceStatus", [("field interfaceId", "u32"), ("getInterfaceId", "u32 () const")]),
  ("ASAM::CMP::LinPayload", [("LinPayload", "ctor (ptr, u64)"), ("getChecksum", "u8 () const"), ("getData", "ptr () const"), ("getDataLength", "u8 () const"), ("getFlag", "bool (enum:u16) const"), ("getFlags", "u16 () const"), ("getHeader", "ptr () ; ptr () const"), ("getLinId", "u8 () const"), ("getParityBits", "u8 () const"), ("isValidPayload", "bool (ptr, u64)"), ("setChecksum", "void (u8)"), ("setData", "void (ptr, u8)"), ("setFlag", "void (enum:u16, bool)"), ("setFlags", "void (u16)"), ("setLinId", "void (u8)"), ("setParityBits", "void (u8)")]),
  ("ASAM::CMP::LinPayload::Header", [("field checksum", "u8"), ("field dataLength", "u8"), ("field flags", "u16"), ("field pid", "u8"), ("field reserved1", "u16"), ("field reserved2", "u8"), ("getChecksum", "u8 () const"), ("getDataLength", "u8 () const"), ("getFlag", "bool (enum:u16) const"), ("getFlags", "u16 () const"), ("getLinId", "u8 () const"), ("getParityBits", "u8 () const"), ("setChecksum", "void (u8)"), ("setDataLength", "void (u8)"), ("setFlag", "void (enum:u16, bool)"), ("setFlags", "void (u16)"), ("setLinId", "void (u8)"), ("setParityBits", "void (u8)")]),
  ("ASAM::CMP::MessageHeader", [("field commonFlags", "u8"), ("field payloadLength", "u16"), ("field payloadType", "u8"), ("field timestamp", "u64"), ("getCommonFlag", "bool (enum:u8) const"), ("getCommonFlags", "u8 () const"), ("getInterfaceId", "u32 () const"), ("getPayloadLength", "u16 () const"), ("getPayloadType", "u8 () const"), ("getSegmentType", "enum:u8 () const"), ("getTimestamp", "u64 () const"), ("getVendorId", "u16 () const"), ("setCommonFlag", "void (enum:u8, bool)"), ("setCommonFlags", "void (u8)"), ("setInterfaceId", "void (u32)"), ("setPayloadLength", "void (u16)"), ("setPayloadType", "void (u8)"), ("setSegmentType", "void (enum:u8)"), ("setTimestamp", "void (u64)"), ("setVendorId", "void (u16)")]),
  ("ASAM::CMP::MessageHeader::Vendor", [("field reserved", "u16"), ("field vendorId", "u16")]),
  ("ASAM::CMP::Packet", [("Packet", "ctor (enum:u8, ptr, u64)"), ("create", "std::unique_ptr<Payload> (enum:u32, ptr, u64)"), ("field commonFlags", "u8"), ("field deviceId", "u16"), ("field interfaceId", "u32"), ("field payload", "std::unique_ptr<ASAM::CMP::Payload>"), ("field segmentType", "enum:u8"), ("field sequenceCounter", "u16"), ("field streamId", "u8"), ("field timestamp", "u64"), ("field vendorId", "u16"), ("field version", "u8"), ("getCommonFlag", "bool (enum:u8) const"), ("getCommonFlags", "u8 () const"), ("getDeviceId", "u16 () const"), ("getInterfaceId", "u32 () const"), ("getMessageType", "enum:u8 () const"), ("getPayloadLength", "u16 () const"), ("getPayloadType", "u8 () const"), ("getRawCmpHeader", "void (ptr) const"), ("getRawMessageHeader", "void (ptr) const"), ("getSegmentType", "enum:u8 () const"), ("getSequenceCounter", "u16 () const"), ("getStreamId", "u8 () const"), ("getTimestamp", "u64 () const"), ("getVendorId", "u16 () const"), ("getVersion", "u8 () const"), ("isValid", "bool () const"), ("isValidPacket", "bool (ptr, u64)"), ("setCommonFlag", "void (enum:u8, bool)"), ("setCommonFlags", "void (u8)"), ("setDeviceId", "void (u16)"), ("setInterfaceId", "void (u32)"), ("setMessageHeader", "void (enum:u8, ASAM::CMP::MessageHeader)"), ("setSegmentType", "void (enum:u8)"), ("setSequenceCounter", "void (u16)"), ("setStreamId", "void (u8)"), ("setTimestamp", "void (u64)"), ("setVendorId", "void (u16)"), ("setVersion", "void (u8)")]),
  ("ASAM::CMP::Payload", [("Payload", "ctor (enum:u32, ptr, u64) ; ctor (enum:u32, u64)"), ("field type", "enum:u32"), ("getLength", "u64 () const"), ("getMessageType", "enum:u8 () const"), ("getRawPayload", "ptr () const"), ("getRawPayloadType", "u8 () const"), ("getType", "enum:u32 () const"), ("isValid", "bool () const"), ("setMessageType", "void (enum:u8)"), ("setRawPayloadType", "void (u8)"), ("setType", "void (enum:u32)")]),
  ("ASAM::CMP::PayloadType", [("PayloadType", "ctor (enum:u8, u8) ; ctor (u32)"), ("field type", "u32"), ("getMessageType", "enum:u8 () const"), ("getRawPayloadType", "u8 () const"), ("getType", "u32 () const"), ("isValid", "bool () const"), ("setMessageType", "void (enum:u8)"), ("setRawPayloadType", "void (u8)"), ("setType", "void (u32)")]),
  ("ASAM::CMP::Status", [("getDeviceStatus", "ASAM::CMP::DeviceStatus& (u64) ; ASAM::CMP::DeviceStatus& (u64) const"), ("getDeviceStatusCount", "u64 () const"), ("getIndexByDeviceId", "u64 (u16) const"), ("removeDeviceById", "void (u16)")]),
  ("TECMP", [("operator!=", "bool (enum:u32, enum:u32)"), ("operator==", "bool (TECMP::Payload&, TECMP::Payload&) ; bool (enum:u32, enum:u32)")]),
  ("TECMP::CanPayload", [("CanPayload", "ctor (ptr, u64)"), ("getArbId", "u32 () const"), ("getCrc", "u32 () const"), ("getData", "ptr () const"), ("getDlc", "u8 () const"), ("getHeader", "ptr () ; ptr () const"), ("setArbId", "void (u32)"), ("setDlc", "void (u8)")]),
  ("TECMP::CanPayload::Header", [("field arbId", "u32"), ("field dlc", "u8"), ("getArbId", "u32 () const"), ("getDlc", "u8 () const"), ("setArbId", "void (u32)"), ("setDlc", "void (u8)")]),
  ("TECMP::CaptureModulePayload", [("CaptureModulePayload", "ctor (ptr, u64)"), ("getBufferFill", "u8 () const"), ("getBufferSize", "u32 () const"), ("getChassisTemp", "u8 () const"), ("getDeviceId", "u16 () const"), ("getDeviceType", "u8 () const"), ("getDeviceVersion", "u8 () const"), ("getHeader", "ptr () ; ptr () const"), ("getHwVersionMajor", "u8 () const"), ("getHwVersionMinor", "u8 () const"), ("getIsBufferOverflow", "u8 () const"), ("getLifecycle", "u64 () const"), ("getSerialNumber", "u32 () const"), ("getSilliconTemp", "u8 () const"), ("getSwVersionMajor", "u8 () const"), ("getSwVersionMinor", "u8 () const"), ("getSwVersionPatch", "u8 () const"), ("getVendorDataLength", "u16 () const"), ("getVendorId", "u8 () const"), ("getVoltageFraction", "u8 () const"), ("getVoltageWhole", "u8 () const"), ("setBufferFill", "void (u8)"), ("setBufferSize", "void (u32)"), ("setChassisTemp", "void (u8)"), ("setDeviceId", "void (u16)"), ("setDeviceType", "void (u8)"), ("setDeviceVersion", "void (u8)"), ("setHwVersionMajor", "void (u8)"), ("setHwVersionMinor", "void (u8)"), ("setIsBufferOverflow", "void (u8)"), ("setLifecycle", "void (u64)"), ("setSerialNumber", "void (u32)"), ("setSilliconTemp", "void (u8)"), ("setSwVersionMajor", "void (u8)"), ("setSwVersionMinor", "void (u8)"), ("setSwVersionPatch", "void (u8)"), ("setVendorDataLength", "void (u16)"), ("setVendorId", "void (u8)"), ("setVoltageFraction", "void (u8)"), ("setVoltageWhole", "void (u8)")]),
  ("TECMP::CaptureModulePayload::Header", [("field deviceId", "u16"), ("field deviceType", "u8"), ("field deviceVersion", "u8"), ("field reserved", "u8"), ("field serialNumber", "u32"), ("field vendorDataLength", "u16"), ("field vendorId", "u8"), ("getBufferFill", "u8 () const"), ("getBufferSize", "u32 () const"), ("getChassisTemp", "u8 () const"), ("getDeviceId", "u16 () const"), ("getDeviceType", "u8 () const"), ("getDeviceVersion", "u8 () const"), ("getHwVersionMajor", "u8 () const"), ("getHwVersionMinor", "u8 () const"), ("getIsBufferOverflow", "u8 () const"), ("getLifecycle", "u64 () const"), ("getSerialNumber", "u32 () const"), ("getSilliconTemp", "u8 () const"), ("getSwVersionMajor", "u8 () const"), ("getSwVersionMinor", "u8 () const"), ("getSwVersionPatch", "u8 () const"), ("getVendorDataLength", "u16 () const"), ("getVendorId", "u8 () const"), ("getVoltageFraction", "u8 () const"), ("getVoltageWhole", "u8 () const"), ("setBufferFill", "void (u8)"), ("setBufferSize", "void (u32)"), ("setChassisTemp", "void (u8)"), ("setDeviceId", "void (u16)"), ("setDeviceType", "void (u8)"), ("setDeviceVersion", "void (u8)"), ("setHwVersionMajor", "void (u8)"), ("setHwVersionMinor", "void (u8)"), ("setIsBufferOverflow", "void (u8)"), ("setLifecycle", "void (u64)"), ("setSerialNumber", "void (u32)"), ("setSilliconTemp", "void (u8)"), ("setSwVersionMajor", "void (u8)"), ("setSwVersionMinor", "void (u8)"), ("setSwVersionPatch", "void (u8)"), ("setVendorDataLength", "void (u16)"), ("setVendorId", "void (u8)"), ("setVoltageFraction", "void (u8)"), ("setVoltageWhole", "void (u8)")]),
  ("TECMP::CaptureModulePayload::Header::VendorData", [("field bufferFill", "u8"), ("field bufferSize", "u32"), ("field chassisTemp", "u8"), ("field isBufferOverflow", "u8"), ("field lifecycle", "u64"), ("field reserved", "u8"), ("field silliconTemp", "u8")]),
  ("TECMP::CaptureModulePayload::Header::VendorData::HwVersion", [("field major", "u8"), ("field minor", "u8")]),
  ("TECMP::CaptureModulePayload::Header::VendorData::SwVersion", [("field major", "u8"), ("field minor", "u8"), ("field patch", "u8")]),
  ("TECMP::CaptureModulePayload::Header::VendorData::Voltage", [("field frac", "u8"), ("field whole", "u8")]),
  ("TECMP::CmpHeader", [("field IsTecmp", "u8"), ("field dataFlags", "u16"), ("field dataType", "u16"), ("field deviceFlags", "u16"), ("field deviceId", "u8"), ("field interfaceId", "u32"), ("field messageType", "u8"), ("field payloadLength", "u16"), ("field reserved", "u16"), ("field sequenceCounter", "u16"), ("field timestamp", "u64"), ("field version", "u8"), ("getDataType", "enum:u16 () const"), ("getDeviceFlags", "u16 () const"), ("getDeviceId", "u8 () const"), ("getInterfaceId", "u32 () const"), ("getMessageType", "enum:u8 () const"), ("getPayloadLength", "u16 () const"), ("getSequenceCounter", "u16 () const"), ("getTimestamp", "u64 () const"), ("getVersion", "u8 () const"), ("isValid", "bool () const"), ("setDataType", "void (enum:u16)"), ("setDeviceFlags", "void (u16)"), ("setDeviceId", "void (u8)"), ("setInterfaceId", "void (u32)"), ("setMessageType", "void (enum:u8)"), ("setPayloadLength", "void (u16)"), ("setSequenceCounter", "void (u16)"), ("setTimestamp", "void (u64)"), ("setVersion", "void (u8)")]),
  ("TECMP::Converter", [("ConvertCanFdPayload", "PacketPtr (ptr, std::shared_ptr<ASAM::CMP::Packet>) ; TECMP::Converter::PacketPtr (ptr, std::shared_ptr<ASAM::CMP::Packet>)")]),
  ("TECMP::Decoder", [("ConvertPacketsToAsam", "std::vector<PacketPtr> (std::vector<std::shared_ptr<TECMP::Payload>>, TECMP::CmpHeader&)"), ("Decode", "std::vector<PacketPtr> (ptr, u64) ; std::vector<std::shared_ptr<ASAM::CMP::Packet>> (ptr, u64)"), ("GetCanPayload", "TECMP::Decoder::TecmpPayloadPtr (ptr, u64) ; TecmpPayloadPtr (ptr, u64)"), ("GetCaptureModulePayload", "TECMP::Decoder::TecmpPayloadPtr (ptr, u64) ; TecmpPayloadPtr (ptr, u64)"), ("GetDataPayload", "TECMP::Decoder::TecmpPayloadPtr (ptr, u64, TECMP::CmpHeader&) ; TecmpPayloadPtr (ptr, u64, TECMP::CmpHeader&)"), ("GetHeader", "TECMP::CmpHeader (ptr, u64, ptr)"), ("GetInterfacePayload", "std::vector<TecmpPayloadPtr> (ptr, u64, TECMP::CmpHeader&)"), ("GetLinPayload", "TECMP::Decoder::TecmpPayloadPtr (ptr, u64) ; TecmpPayloadPtr (ptr, u64)"), ("HandlePayload", "std::vector<TecmpPayloadPtr> (ptr, u64, TECMP::CmpHeader&)")]),
  ("TECMP::InterfacePayload", [("InterfacePayload", "ctor (ptr, u64)"), ("getCmType", "u8 () const"), ("getCmVersion", "u8 () const"), ("getDeviceId", "u16 () const"), ("getErrorsTotal", "u32 () const"), ("getHeader", "ptr () ; ptr () const"), ("getInterfaceId", "u32 () const"), ("getMessagesTotal", "u32 () const"), ("getSerialNumber", "u32 () const"), ("getVendorDataLength", "u16 () const"), ("getVendorDataLinkQuality", "u8 () const"), ("getVendorDataLinkStatus", "u8 () const"), ("getVendorDataLinkupTime", "u16 () const"), ("getVendorId", "u8 () const"), ("setBusData", "void (ptr, u8)"), ("setCmType", "void (u8)"), ("setCmVersion", "void (u8)"), ("setDeviceId", "void (u16)"), ("setErrorsTotal", "void (u32)"), ("setGenericData", "void (ptr)"), ("setInterfaceId", "void (u32)"), ("setMessagesTotal", "void (u32)"), ("setSerialNumber", "void (u32)"), ("setVendorDataLength", "void (u16)"), ("setVendorDataLinkQuality", "void (u8)"), ("setVendorDataLinkStatus", "void (u8)"), ("setVendorDataLinkupTime", "void (u16)"), ("setVendorId", "void (u8)")]),
  ("TECMP::InterfacePayload::Header", [("field cmType", "u8"), ("field cmVersion", "u8"), ("field deviceId", "u16"), ("field reserved", "u8"), ("field serialNumber", "u32"), ("field vendorDataLength", "u16"), ("field vendorId", "u8"), ("getCmType", "u8 () const"), ("getCmVersion", "u8 () const"), ("getDeviceId", "u16 () const"), ("getErrorsTotal", "u32 () const"), ("getInterfaceId", "u32 () const"), ("getMessagesTotal", "u32 () const"), ("getSerialNumber", "u32 () const"), ("getVendorDataLength", "u16 () const"), ("getVendorDataLinkQuality", "u8 () const"), ("getVendorDataLinkStatus", "u8 () const"), ("getVendorDataLinkupTime", "u16 () const"), ("getVendorId", "u8 () const"), ("setCmType", "void (u8)"), ("setCmVersion", "void (u8)"), ("setDeviceId", "void (u16)"), ("setErrorsTotal", "void (u32)"), ("setInterfaceId", "void (u32)"), ("setMessagesTotal", "void (u32)"), ("setSerialNumber", "void (u32)"), ("setVendorDataLength", "void (u16)"), ("setVendorDataLinkQuality", "void (u8)"), ("setVendorDataLinkStatus", "void (u8)"), ("setVendorDataLinkupTime", "void (u16)"), ("setVendorId", "void (u8)")]),
  ("TECMP::InterfacePayload::Header::BusData", [("field errorsTotal", "u32"), ("field interfaceId", "u32"), ("field messagesTotal", "u32")]),
  ("TECMP::InterfacePayload::Header::VendorData", [("field linkQuality", "u8"), ("field linkStatus", "u8"), ("field linkupTime", "u16")]),
  ("TECMP::LinPayload", [("LinPayload", "ctor (ptr, u64)"), ("getCrc", "u8 () const"), ("getData", "ptr () const"), ("getDataLength", "u8 () const"), ("getHeader", "ptr () ; ptr () const"), ("getPid", "u8 () const"), ("setData", "void (ptr, u8)"), ("setDataLength", "void (u8)"), ("setPid", "void (u8)")]),
  ("TECMP::LinPayload::Header", [("field dataLength", "u8"), ("field pid", "u8"), ("getDataLength", "u8 () const"), ("getPid", "u8 () const"), ("setDataLength", "void (u8)"), ("setPid", "void (u8)")]),
  ("TECMP::Payload", [("Payload", "ctor (enum:u32, ptr, u64) ; ctor (enum:u32, u64)"), ("field type", "enum:u32"), ("getLength", "u64 () const"), ("getMessageType", "enum:u8 () const"), ("getRawPayload", "ptr () const"), ("getRawPayloadType", "u8 () const"), ("getType", "enum:u32 () const"), ("isValid", "bool () const"), ("setMessageType", "void (enum:u8)"), ("setRawPayloadType", "void (u8)"), ("setType", "void (enum:u32)")]),
  ("TECMP::PayloadType", [("PayloadType", "ctor (enum:u8, u8) ; ctor (u32)"), ("field type", "u32"), ("getMessageType", "enum:u8 () const"), ("getRawPayloadType", "u8 () const"), ("getType", "u32 () const"), ("isValid", "bool () const"), ("setMessageType", "void (enum:u8)"), ("setRawPayloadType", "void (u8)"), ("setType", "void (u32)")])
]

def sigHolds (cls fn sig : String) : Bool :=
  match apiSig.lookup cls with
  | some fs => fs.lookup fn == some sig
  | none => false

def classOk (e : String × List (String × String)) : Bool := e.2.all fun x => sigHolds e.1 x.1 x.2

/-- every signature / member type of the table is what the current source declares -/
theorem signatures_ok : expectedSig.all classOk = true := by decide +kernel

/-- an entry of the table, given by its position, holds -/
theorem sigHolds_at {cls fn sig : String} (i j : Nat)
    (h : (expectedSig[i]?.bind fun e => e.2[j]?.map fun x => (e.1, x)) = some (cls, fn, sig)) : sigHolds cls fn sig = true := by
  simp only [Option.bind_eq_some_iff, Option.map_eq_some_iff, Prod.mk.injEq] at h
  obtain ⟨e, he, x, hx, rfl, rfl⟩ := h
  exact List.all_eq_true.mp (List.all_eq_true.mp signatures_ok e (List.mem_of_getElem? he)) _ (List.mem_of_getElem? hx)

/-- the table is not empty and names the functions whose widths the models rely on most -/
example : sigHolds "ASAM::CMP::Status" "removeDeviceById" "void (u16)" = true := sigHolds_at 29 3 rfl
example : sigHolds "ASAM::CMP::DeviceStatus" "removeInterfaceById" "void (u32)" = true := sigHolds_at 15 3 rfl
example : sigHolds "ASAM::CMP::Decoder" "decode" "std::vector<std::shared_ptr<Packet>> (ptr, u64)" = true := sigHolds_at 11 0 rfl
example : sigHolds "ASAM::CMP::Packet" "setDeviceId" "void (u8)" = false := by decide +kernel

end AsamCmp.SrcSig
