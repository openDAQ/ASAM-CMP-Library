/-
  C01, strengthened statements (closing the weaknesses an independent review found in the statements registered for C01).

  1. `PayloadOk` / `PacketOk`: the property's domain ("well-formed CAN / CAN-FD / LIN / analog / Ethernet / capture-module
     status / interface status payloads; generic kinds") written from the ASAM CMP layout on byte views, NOT through the
     library's validators; `validator_iff`, `WF_iff_PacketOk`: it is exactly the domain `Packet.WF` of `C01_roundtrip`;
     `validatorOf_none_iff`: the generic kinds are exactly the codes outside the seven typed ones; `create_*`: what
     `Packet::create` returns, unfolded; `C01_roundtrip_spec`: C01 over the spec-level domain.
  2. `P_C01_iff`, `C01_fields`: the conclusion unfolded into the fields the property's text lists.
  3. source level: `encode1_src_struct` (single-packet overload), `decodeSeq_src` (the per-call decoder theorem iterated over any
     sequence of buffers — `TableReg` re-established), `C01_src_roundtrip` / `C01_src_roundtrip_single` (translated encoder, then
     translated decoder on each frame, returns the sent packets) for every configuration with `max < 2^32` (the bound of the
     ENCODER theorems; the decoder half `decode_frames_src` has no bound on `max`), and `C01_src_roundtrip_from_2GiB`: the
     configurations `2^31 + 8 ≤ min ≤ max < 2^32` (e.g. `DataContext{min = max = 2^31 + 8}`), on which a decoder that keeps
     the remaining size in an `int` returns nothing, round-trip like all others.
  4. instances: segmented status packet at max = 25, mixed aggregated batch at max = 1500, negative instances, and the
     witness `can_error_flag_lost` (a CAN message with an error flag does not survive the round trip).
-/
import AsamCmp.Props.C01
import AsamCmp.Props.C07b
import AsamCmp.Props.C17b
import AsamCmp.Props.SrcEncoderE2E
import AsamCmp.Props.SrcDecoderTotal
import AsamCmp.Props.SrcPacketValue
import AsamCmp.Lemmas.EncBytes
namespace AsamCmp.C01S
open AsamCmp

/-! ## 1. The domain, written from the protocol layout -/

/-- byte `i` of a payload (0 beyond its end; every use below is guarded by a length clause) -/
def u8 (b : Bytes) (i : Nat) : Nat := (b[i]?.getD 0).toNat
/-- big-endian 16-bit field at `i` -/
def u16 (b : Bytes) (i : Nat) : Nat := 256 * u8 b i + u8 b (i + 1)

theorem u8_eq (b : Bytes) (i : Nat) : byteAt b i = u8 b i := by
  simp [byteAt, u8, List.getD_eq_getElem?_getD]

theorem u16_eq (b : Bytes) (i : Nat) (h : i + 2 ≤ b.length) : beAt b i 2 = u16 b i := by
  rw [SrcTie.beAt_two b i h, u8_eq, u8_eq]; unfold u16; omega

/-- CAN / CAN-FD data message: 16-byte header (flags 2, reserved 2, id 4, crc 4, error position 2, dlc 1, data length 1), none
    of the ten error flags, no error position, the declared data bytes are there -/
structure CanOk (b : Bytes) : Prop where
  header : 16 ≤ b.length
  noErrorFlag : u16 b 0 &&& 0x03FF = 0
  noErrorPos : u16 b 12 = 0
  dataFits : 16 + u8 b 15 ≤ b.length

/-- LIN data message: 8-byte header whose last byte is the data length; the declared data bytes are there -/
structure LinOk (b : Bytes) : Prop where
  header : 8 ≤ b.length
  dataFits : 8 + u8 b 7 ≤ b.length

/-- Ethernet data message: 6-byte header (flags 2, reserved 2, data length 2), none of the error flags 0x003B, the declared
    data bytes are there -/
structure EthOk (b : Bytes) : Prop where
  header : 6 ≤ b.length
  noErrorFlag : u16 b 0 &&& 0x003B = 0
  dataFits : 6 + u16 b 4 ≤ b.length

/-- analog data message: 16-byte header; sample type (two low bits of the flags' low byte) int16 (0) or int32 (1) -/
structure AnalogOk (b : Bytes) : Prop where
  header : 16 ≤ b.length
  sampleType : u8 b 1 &&& 3 ≤ 1

/-- `n` blocks, each a 16-bit length followed by that many bytes, starting at offset `pos` of `b`, end inside `b` -/
def BlocksAt (b : Bytes) : Nat → Nat → Prop
  | 0, pos => pos ≤ b.length
  | n+1, pos => pos + 2 ≤ b.length ∧ BlocksAt b n (pos + 2 + u16 b pos)

/-- capture-module status: 26-byte header, then device description, serial number, hardware version, software version and vendor
    data, each prefixed by its length, all inside the payload -/
structure CmOk (b : Bytes) : Prop where
  header : 26 ≤ b.length
  blocks : BlocksAt b 5 26

/-- interface status: 38-byte header, status (byte 29) at most 2 (= disabled), the stream-id list (count at 36, padded to an even
    number of bytes) and the length-prefixed vendor data inside the payload -/
structure IfOk (b : Bytes) : Prop where
  header : 40 ≤ b.length
  status : u8 b 29 ≤ 2
  streamIds : 38 + (u16 b 36 + u16 b 36 % 2) + 2 ≤ b.length
  vendorData : 38 + (u16 b 36 + u16 b 36 % 2) + 2 + u16 b (38 + (u16 b 36 + u16 b 36 % 2)) ≤ b.length

/-- a payload of type code `ty` (message type * 256 + payload type byte) is well-formed: the seven typed kinds obey their layout,
    every other code ("generic / unknown") is unconstrained -/
structure PayloadOk (ty : Nat) (d : Bytes) : Prop where
  can : ty = 0x0101 → CanOk d
  canFd : ty = 0x0102 → CanOk d
  lin : ty = 0x0103 → LinOk d
  analog : ty = 0x0107 → AnalogOk d
  eth : ty = 0x0108 → EthOk d
  cm : ty = 0x0301 → CmOk d
  ifs : ty = 0x0302 → IfOk d

/-- proof of `c = c' → _` for two different literal type codes -/
local macro "no" : term => `(fun h => absurd h (by decide))

theorem canValid_iff (b : Bytes) : canValid b = true ↔ CanOk b := by
  rw [canValid_spec]
  constructor
  · rintro ⟨h1, h2, h3, h4⟩
    exact ⟨h1, by rw [← u16_eq b 0 (by omega)]; exact h2, by rw [← u16_eq b 12 (by omega)]; exact h3,
      by rw [← u8_eq]; exact h4⟩
  · rintro ⟨h1, h2, h3, h4⟩
    exact ⟨h1, by rw [u16_eq b 0 (by omega)]; exact h2, by rw [u16_eq b 12 (by omega)]; exact h3, by rw [u8_eq]; exact h4⟩

theorem linValid_iff (b : Bytes) : linValid b = true ↔ LinOk b := by
  rw [linValid_spec, u8_eq]
  exact ⟨fun ⟨h1, h2⟩ => ⟨h1, h2⟩, fun ⟨h1, h2⟩ => ⟨h1, h2⟩⟩

theorem ethValid_iff (b : Bytes) : ethValid b = true ↔ EthOk b := by
  rw [ethValid_spec]
  constructor
  · rintro ⟨h1, h2, h3⟩
    exact ⟨h1, by rw [← u16_eq b 0 (by omega)]; exact h2, by rw [← u16_eq b 4 (by omega)]; exact h3⟩
  · rintro ⟨h1, h2, h3⟩
    exact ⟨h1, by rw [u16_eq b 0 (by omega)]; exact h2, by rw [u16_eq b 4 (by omega)]; exact h3⟩

theorem analogValid_iff (b : Bytes) : analogValid b = true ↔ AnalogOk b := by
  rw [analogValid_spec, u8_eq]
  exact ⟨fun ⟨h1, h2⟩ => ⟨h1, h2⟩, fun ⟨h1, h2⟩ => ⟨h1, h2⟩⟩

theorem BlocksAt.le {b : Bytes} : ∀ {n pos : Nat}, BlocksAt b n pos → pos ≤ b.length
  | 0, _, h => h
  | _ + 1, _, h => Nat.le_trans (Nat.le_add_right _ 2) h.1

theorem blocksOk_iff (b : Bytes) : ∀ (n pos : Nat), pos ≤ b.length →
    (blocksOk n (b.drop pos) = true ↔ BlocksAt b n pos) := by
  intro n
  induction n with
  | zero => intro pos h; exact ⟨fun _ => h, fun _ => rfl⟩
  | succ n ih =>
    intro pos _
    rw [blocksOk_succ_iff]
    unfold BlocksAt
    constructor
    · rintro ⟨h1, h2, h3⟩
      rw [← u16_eq b pos h1]
      exact ⟨h1, (ih _ h2).1 h3⟩
    · rintro ⟨h1, h3⟩
      rw [← u16_eq b pos h1] at h3
      exact ⟨h1, h3.le, (ih _ h3.le).2 h3⟩

theorem cmValid_iff (b : Bytes) : cmValid b = true ↔ CmOk b :=
  (cmValid_spec b).trans
    ⟨fun ⟨h1, h2⟩ => ⟨h1, (blocksOk_iff b 5 26 h1).1 h2⟩, fun ⟨h1, h2⟩ => ⟨h1, (blocksOk_iff b 5 26 h1).2 h2⟩⟩

theorem ifValid_iff (b : Bytes) : ifValid b = true ↔ IfOk b := by
  rw [ifValid_spec]
  constructor
  · rintro ⟨h1, h2, h3, h4⟩
    rw [u16_eq b 36 (by omega)] at h3 h4
    rw [u16_eq b _ (by omega)] at h4
    exact ⟨h1, by rw [← u8_eq]; exact h2, by omega, by omega⟩
  · rintro ⟨h1, h2, h3, h4⟩
    rw [u16_eq b 36 (by omega), u16_eq b _ (by omega), u8_eq]
    exact ⟨h1, h2, by omega, by omega⟩

/-- the check `Packet::create` / `Packet.wf` applies to a payload of type `ty` accepts EXACTLY the payloads that are well-formed
    by the layout: a validator that became stricter (or laxer) than the layout, for any of the seven kinds, breaks this theorem -/
theorem validator_iff (ty : Nat) (d : Bytes) : Accepted ty d ↔ PayloadOk ty d :=
  accepted_iff_by_type (P := fun ty => PayloadOk ty d)
    ((canValid_iff d).trans ⟨fun h => ⟨fun _ => h, no, no, no, no, no, no⟩, fun h => h.can rfl⟩)
    ((canValid_iff d).trans ⟨fun h => ⟨no, fun _ => h, no, no, no, no, no⟩, fun h => h.canFd rfl⟩)
    ((linValid_iff d).trans ⟨fun h => ⟨no, no, fun _ => h, no, no, no, no⟩, fun h => h.lin rfl⟩)
    ((analogValid_iff d).trans ⟨fun h => ⟨no, no, no, fun _ => h, no, no, no⟩, fun h => h.analog rfl⟩)
    ((ethValid_iff d).trans ⟨fun h => ⟨no, no, no, no, fun _ => h, no, no⟩, fun h => h.eth rfl⟩)
    ((cmValid_iff d).trans ⟨fun h => ⟨no, no, no, no, no, fun _ => h, no⟩, fun h => h.cm rfl⟩)
    ((ifValid_iff d).trans ⟨fun h => ⟨no, no, no, no, no, no, fun _ => h⟩, fun h => h.ifs rfl⟩)
    (fun _ ⟨h1, h2, h3, h4, h5, h6, h7⟩ => ⟨fun h => absurd h h1, fun h => absurd h h2, fun h => absurd h h3,
      fun h => absurd h h4, fun h => absurd h h5, fun h => absurd h h6, fun h => absurd h h7⟩) ty

/-- the "generic / unknown" kinds are exactly the type codes other than the seven typed ones: a further `case` in
    `Packet::create` (with whatever validator) breaks this theorem -/
theorem validatorOf_none_iff (ty : Nat) :
    validatorOf ty = none ↔ ty ∉ [0x0101, 0x0102, 0x0103, 0x0107, 0x0108, 0x0301, 0x0302] :=
  (validatorOf_eq_none_iff ty).trans (by simp only [List.mem_cons, List.not_mem_nil, or_false, not_or])

/-- which validator each typed kind gets (CAN-FD shares the CAN header layout) -/
theorem validatorOf_typed :
    validatorOf 0x0101 = some canValid ∧ validatorOf 0x0102 = some canValid ∧ validatorOf 0x0103 = some linValid ∧
    validatorOf 0x0107 = some analogValid ∧ validatorOf 0x0108 = some ethValid ∧ validatorOf 0x0301 = some cmValid ∧
    validatorOf 0x0302 = some ifValid := ⟨rfl, rfl, rfl, rfl, rfl, rfl, rfl⟩

/-! ### `Packet::create`, unfolded -/

/-- a well-formed payload of a non-zero type code — typed or generic — is kept: same type, same bytes -/
theorem create_of_ok (ty : Nat) (d : Bytes) (h0 : ty ≠ 0) (h : PayloadOk ty d) : create ty d = ⟨ty, d⟩ :=
  create_of_accepted h0 ((validator_iff ty d).mpr h)

/-- a payload that violates its kind's layout comes back as an invalid payload (type 0) of the same length holding zeros -/
theorem create_of_not_ok (ty : Nat) (d : Bytes) (h : ¬ PayloadOk ty d) : create ty d = ⟨0, zeros d.length⟩ :=
  create_of_not_accepted (mt (validator_iff ty d).mp h)

theorem create_zero (d : Bytes) : create 0 d = ⟨0, zeros d.length⟩ := rfl

/-- exact characterisation: `create` keeps type and bytes iff the code is non-zero and the payload is well-formed (or the input was
    the invalid all-zero payload already) -/
theorem create_keeps_iff (ty : Nat) (d : Bytes) :
    create ty d = ⟨ty, d⟩ ↔ (ty ≠ 0 ∧ PayloadOk ty d) ∨ (ty = 0 ∧ d = zeros d.length) := by
  constructor
  · intro h
    by_cases h0 : ty = 0
    · subst h0
      rw [create_zero] at h
      exact Or.inr ⟨rfl, (Payload.mk.inj h).2.symm⟩
    · refine Or.inl ⟨h0, ?_⟩
      apply Classical.byContradiction
      intro hn
      rw [create_of_not_ok ty d hn] at h
      exact h0 (Payload.mk.inj h).1.symm
  · rintro (⟨h0, h⟩ | ⟨h0, h⟩)
    · exact create_of_ok ty d h0 h
    · subst h0; rw [create_zero, ← h]

/-! ### the packets of the property's domain -/

/-- the domain of C01, from the property's text: a payload of 1..65535 bytes that is well-formed for its kind, non-zero message
    type and payload type byte (a 16-bit type code), version 1..255, common flags a byte without the error-in-payload bit 0x40,
    timestamp / interface id / vendor id within their wire widths -/
structure PacketOkWith (p : Packet) (pl : Payload) : Prop where
  hasPayload : p.payload = some pl
  nonEmpty : 1 ≤ pl.data.length
  short : pl.data.length ≤ 65535
  msgType : pl.ty / 256 % 256 ≠ 0
  rawType : pl.ty % 256 ≠ 0
  code16 : pl.ty < 65536
  version : 1 ≤ p.version ∧ p.version < 256
  flags : p.flags < 256 ∧ p.flags &&& 0x40 = 0
  ts : p.ts < 2 ^ 64
  ifId : p.ifId < 2 ^ 32
  vendorId : p.vendorId < 2 ^ 16
  wellFormed : PayloadOk pl.ty pl.data

def PacketOk (p : Packet) : Prop := ∃ pl, PacketOkWith p pl

/-- `Packet.WF` (the domain predicate of `C01_roundtrip`, which calls the library's validators) is exactly the spec-level domain -/
theorem WF_iff_PacketOk (p : Packet) : p.WF ↔ PacketOk p := by
  constructor
  · intro h
    obtain ⟨pl, hp, h1, h2, h3, h4, h5, h6, h7, h8, h9, h10, h11, h12, h13⟩ := C01.wf_unpack h
    exact ⟨pl, hp, h1, h2, h3, h4, h5, ⟨h6, h7⟩, ⟨h8, h9⟩, h10, h11, h12, (validator_iff pl.ty pl.data).mp h13⟩
  · rintro ⟨pl, hp, h1, h2, h3, h4, h5, ⟨h6, h7⟩, ⟨h8, h9⟩, h10, h11, h12, h13⟩
    have hv : (match validatorOf pl.ty with | some v => v pl.data | none => true) = true := by
      split
      · rename_i v hval
        exact (validator_iff pl.ty pl.data).mpr h13 v hval
      · rfl
    unfold Packet.WF Packet.wf
    simp only [hp, Bool.and_eq_true, decide_eq_true_eq, Payload.mt, Payload.raw]
    exact ⟨⟨⟨⟨⟨⟨⟨⟨⟨⟨⟨⟨h1, h2⟩, decide_eq_true h3⟩, decide_eq_true h4⟩, h5⟩, h6⟩, h7⟩, h8⟩, h9⟩, h10⟩, h11⟩, h12⟩, hv⟩

/-- C01 over the spec-level domain: no hypothesis refers to the library's validators -/
theorem C01_roundtrip_spec (e : Enc) (d : DecState) (batch : List Packet) (c : Ctx) (v : Nat)
    (hc : c.ok = true) (hne : batch ≠ [])
    (hok : ∀ p ∈ batch, PacketOk p) (hver : ∀ p ∈ batch, p.version = v)
    (hdev : e.dev < 65536) (hstream : e.stream < 256) :
    let frames := (e.encode batch c).2.map (EFrame.bytes c.min)
    let r := decodeAll tecmpDecode d (frames.map some)
    P_C01 e.dev e.stream batch r.2 = true ∧ r.1 (e.dev, e.stream) = none :=
  C01.C01_roundtrip e d batch c v hc hne (fun p hp => (WF_iff_PacketOk p).mpr (hok p hp)) hver hdev hstream

/-! ## 2. The conclusion, unfolded -/

theorem map_eq_map_iff {α β γ : Type} (f : α → γ) (g : β → γ) : ∀ (l₁ : List α) (l₂ : List β),
    l₁.map f = l₂.map g ↔
      l₁.length = l₂.length ∧ ∀ i (h1 : i < l₁.length) (h2 : i < l₂.length), f l₁[i] = g l₂[i] := by
  intro l₁ l₂
  rw [List.ext_getElem_iff]
  simp only [List.length_map, List.getElem_map]

/-- what the property's text says of one decoded packet `q` and the sent packet `p` -/
structure SameAs (dev stream : Nat) (q p : Packet) : Prop where
  payload : q.payload = p.payload
  version : q.version = p.version
  deviceId : q.deviceId = dev
  streamId : q.streamId = stream
  ts : q.ts = p.ts
  ifId : q.ifId = if p.mt = 1 then p.ifId else 0
  vendorId : q.vendorId = if p.mt = 3 ∨ p.mt = 0xFF then p.vendorId else 0
  flags : q.flags &&& 0xF3 = p.flags &&& 0xF3
  seq : q.seq = 0
  segType : q.segType = 0

theorem clearSeg_eq_iff (dev stream : Nat) (q p : Packet) :
    clearSeg q = obsSent dev stream p ↔ SameAs dev stream q p := by
  cases q
  unfold clearSeg obsSent
  simp only [Packet.mk.injEq]
  constructor
  · rintro ⟨h1, h2, h3, h4, h5, h6, h7, h8, h9, h10⟩
    exact ⟨h1, h2, h3, h4, h6, h7, h8, h9, h5, h10⟩
  · rintro ⟨h1, h2, h3, h4, h6, h7, h8, h9, h5, h10⟩
    exact ⟨h1, h2, h3, h4, h5, h6, h7, h8, h9, h10⟩

/-- `P_C01` holds exactly when there are as many decoded packets as sent ones and the i-th decoded packet carries the i-th sent
    packet's payload (type and bytes, hence message type), version, timestamp, interface id (data) / vendor id (status, vendor),
    flag bits other than the two segmentation bits, and the encoder's device and stream id -/
theorem P_C01_iff (dev stream : Nat) (batch decoded : List Packet) :
    P_C01 dev stream batch decoded = true ↔
      decoded.length = batch.length ∧
      ∀ i (h1 : i < decoded.length) (h2 : i < batch.length), SameAs dev stream decoded[i] batch[i] := by
  unfold P_C01
  rw [beq_iff_eq, map_eq_map_iff]
  simp only [clearSeg_eq_iff]

/-- the payload clause alone: same type code (message type and payload type byte) and same bytes -/
theorem SameAs.payload_fields {dev stream : Nat} {q p : Packet} (h : SameAs dev stream q p) :
    q.mt = p.mt ∧ q.rawType = p.rawType ∧ q.data = p.data ∧ q.payloadLength = p.payloadLength ∧ q.isValid = p.isValid := by
  simp only [Packet.mt, Packet.rawType, Packet.data, Packet.payloadLength, Packet.isValid, h.payload, and_self]

/-- C01 with the conclusion unfolded (spec-level domain) -/
theorem C01_fields (e : Enc) (d : DecState) (batch : List Packet) (c : Ctx) (v : Nat)
    (hc : c.ok = true) (hne : batch ≠ [])
    (hok : ∀ p ∈ batch, PacketOk p) (hver : ∀ p ∈ batch, p.version = v)
    (hdev : e.dev < 65536) (hstream : e.stream < 256) :
    let decoded := (decodeAll tecmpDecode d (((e.encode batch c).2.map (EFrame.bytes c.min)).map some)).2
    decoded.length = batch.length ∧
    ∀ i (h1 : i < decoded.length) (h2 : i < batch.length), SameAs e.dev e.stream decoded[i] batch[i] :=
  (P_C01_iff e.dev e.stream batch _).mp (C01_roundtrip_spec e d batch c v hc hne hok hver hdev hstream).1

open AsamCmp.Src AsamCmp.SrcGen AsamCmp.SrcEnc AsamCmp.SrcDec AsamCmp.C17b

/-! ## 3. Source level -/

/-! ### 3a. the single-packet overload -/

theorem encode1_src_struct (e : Enc) (p : Packet) (c : Ctx) (fuel : Nat)
    (hc : c.ok = true) (hmax : c.max < 2 ^ 32) (hp : p.Enc) (hq : e.seqc < 65536) (hf : 65536 ≤ fuel) :
    ∃ s', Encoder_encode_obj fuel (ofLL e.toLL) (pktIn p) c.min c.max
            = some (s', (e.encode [p] c).2.map (EFrame.bytes c.min)) ∧
      s'.f_sequenceCounter = (e.encode [p] c).1.seqc ∧ s'.f_messageType = (e.encode [p] c).1.curMt ∧
      s'.f_deviceId = e.dev ∧ s'.f_streamId = e.stream ∧ s'.f_cmpFrames = [] ∧ s'.f_cmpFrameTemplate = [] := by
  have h := encode1_src_gen (ofLL e.toLL) p c fuel hc hmax hf
  rw [toLL_ofLL] at h
  obtain ⟨r1, r2, r3, r4, r5, r6, r7⟩ := C07b.encodeLL_refines e [p] c hc (by
    intro x hx; rw [List.mem_singleton] at hx; subst hx; exact hp) hq
  refine ⟨ofLL (e.toLL.encode [p] c).1, ?_, r2, r3, r4, r5, r6, r7⟩
  rw [h, r1]

/-! ### 3b. the register bounds of the pending table are an invariant -/

/-- every pending reassembly: sequence counter a `uint16_t`, at most `N` bytes collected -/
def StReg (N : Nat) (d : DecState) : Prop := ∀ e q, d e = some q → q.seq < 65536 ∧ q.buf.length ≤ N
def TblReg (N : Nat) (t : Table) : Prop := ∀ x ∈ t, x.2.seq < 65536 ∧ x.2.payload.length ≤ N

theorem find_of_mem : ∀ (t : Table) (k : Ep) (v : SegPkt), (t.map (·.1)).Nodup → (k, v) ∈ t → t.find k = some v :=
  fun t k v hnd hm => C17b.mem_find t hnd (k, v) hm

theorem tblReg_iff (N : Nat) (t : Table) (h : TableOk t) : TblReg N t ↔ StReg N t.abs := by
  constructor
  · intro hr e q hq
    rw [abs_apply] at hq
    cases hf : t.find e with
    | none => rw [hf] at hq; cases hq
    | some sp =>
      rw [hf] at hq
      have : absP sp = q := Option.some.inj hq
      subst this
      exact hr _ (find_mem t e sp hf)
  · intro hs x hx
    have hf := find_of_mem t x.1 x.2 h.1 hx
    have := hs x.1 (absP x.2) (by rw [abs_apply, hf]; rfl)
    exact this

theorem tblReg_to_TableReg (N : Nat) (t : Table) (h : TblReg N t) (hN : N + 65536 < 2 ^ 64) : TableReg t := by
  intro x hx
  have := h x hx
  exact ⟨this.1, by omega⟩

theorem StReg.mono {N N' : Nat} {d : DecState} (h : StReg N d) (hle : N ≤ N') : StReg N' d := by
  intro e q hq
  have := h e q hq
  exact ⟨this.1, by omega⟩

theorem walk_seg_le (ep : Ep) (ver mt : Nat) (r : Bytes) :
    ∀ m, (walk ep ver mt r).2 = .seg m → m.length ≤ r.length :=
  _root_.AsamCmp.walk_seg_le ep ver mt r

theorem fixLen_length_le (buf : Bytes) : (fixLen buf).length ≤ buf.length + 2 :=
  _root_.AsamCmp.fixLen_length_le buf

theorem localStep_reg (N L : Nat) (P : Option Pending) (f : PFrame)
    (hP : ∀ q0, P = some q0 → q0.seq < 65536 ∧ q0.buf.length ≤ N) (hseq : f.seq < 65536)
    (hm : ∀ m, f.term = .seg m → 16 ≤ m.length ∧ m.length ≤ L) :
    ∀ q, (localStep P f).1 = some q → q.seq < 65536 ∧ q.buf.length ≤ N + L :=
  _root_.AsamCmp.localStep_pending_bounds P f N L hP hseq hm

/-- one `decode` call on a buffer of `b.length` bytes lets a pending reassembly grow by at most that many bytes -/
theorem decode_stReg (N : Nat) (d : DecState) (b : Bytes) (h : StReg N d) :
    StReg (N + b.length) (decode d (some b)).1 :=
  decodeWith_pending_bounds tecmpDecode d (some b) N h

/-- `decode_total_src` with the register bound of the table re-established in the conclusion (it is a precondition there): so
    the per-call theorem can be iterated from the registered statements alone -/
theorem decode_total_src_reg (t : Table) (pre b post : Bytes) (fuel N : Nat)
    (hT : TableOk t) (hR : TblReg N t) (hN : N + 65536 < 2 ^ 64) (hpre : 0 < pre.length) (h8 : 8 ≤ b.length)
    (hmem : (pre ++ b ++ post).length < 2 ^ 63) (hf : b.length ≤ fuel) :
    ∃ t' outs, Decoder_decode_obj fuel (tblSt t) (pre ++ b ++ post) pre.length b.length (SrcTec.tecmpExt fuel) =
        some (tblSt t', outs) ∧
      TableOk t' ∧ TblReg (N + b.length) t' ∧ t'.abs = (decode t.abs (some b)).1 ∧
      outs.map (Sum.elim toPacket SrcTec.tAbs) = (decode t.abs (some b)).2 := by
  obtain ⟨t1, o1, h1, hT1, habs1, ho1⟩ := decode_total_src t pre b post fuel hT (tblReg_to_TableReg N t hR hN) hpre h8
    hmem hf
  refine ⟨t1, o1, h1, hT1, ?_, habs1, ho1⟩
  rw [tblReg_iff _ _ hT1, habs1]
  exact decode_stReg N _ b ((tblReg_iff N t hT).mp hR)

/-! ### 3c. the translated `Decoder::decode`, called on a sequence of buffers lying one after the other in memory -/

/-- `decode(M + a, n₁)`, `decode(M + a + n₁, n₂)`, … on one decoder object, results concatenated -/
def srcDecodeSeq {F : Type} (fuel : Nat) (ext : Bytes → Nat → Nat → List F) (M : Bytes) :
    Decoder_St → Nat → List Nat → Option (Decoder_St × List (PktOut ⊕ F))
  | s, _, [] => some (s, [])
  | s, a, n :: ns =>
    match Decoder_decode_obj fuel s M a n ext with
    | none => none
    | some (s1, o1) =>
      match srcDecodeSeq fuel ext M s1 (a + n) ns with
      | none => none
      | some (s2, o2) => some (s2, o1 ++ o2)

/-- `decode_total_src` iterated: ANY sequence of buffers (CMP frames, TECMP messages, garbage) of 8 bytes or more each, from any
    table satisfying the invariants: the translated decoder is defined on every one of them and delivers, in total, exactly what
    the decoder model delivers; table invariant and register bounds hold again afterwards (so the theorem composes) -/
theorem decodeSeq_src (fuel : Nat) : ∀ (bs : List Bytes) (t : Table) (pre post : Bytes) (N : Nat),
    TableOk t → TblReg N t → 0 < pre.length → (∀ b ∈ bs, 8 ≤ b.length ∧ b.length ≤ fuel) →
    (pre ++ bs.flatten ++ post).length < 2 ^ 63 → N + bs.flatten.length + 65536 < 2 ^ 64 →
    ∃ t' outs, srcDecodeSeq fuel (SrcTec.tecmpExt fuel) (pre ++ bs.flatten ++ post) (tblSt t) pre.length (bs.map List.length)
        = some (tblSt t', outs) ∧
      TableOk t' ∧ TblReg (N + bs.flatten.length) t' ∧
      t'.abs = (decodeAll tecmpDecode t.abs (bs.map some)).1 ∧
      outs.map (Sum.elim toPacket SrcTec.tAbs) = (decodeAll tecmpDecode t.abs (bs.map some)).2 := by
  intro bs
  induction bs with
  | nil =>
    intro t pre post N hT hR _ _ _ _
    exact ⟨t, [], rfl, hT, by simpa using hR, rfl, rfl⟩
  | cons b bs ih =>
    intro t pre post N hT hR hpre hb hmem hN
    have e1 : pre ++ (b :: bs).flatten ++ post = pre ++ b ++ (bs.flatten ++ post) := by
      simp only [List.flatten_cons, List.append_assoc]
    have e2 : pre ++ (b :: bs).flatten ++ post = (pre ++ b) ++ bs.flatten ++ post := by
      simp only [List.flatten_cons, List.append_assoc]
    have hfl : (b :: bs).flatten.length = b.length + bs.flatten.length := by
      simp only [List.flatten_cons, List.length_append]
    obtain ⟨hb8, hbf⟩ := hb b (by simp)
    obtain ⟨t1, o1, h1, hT1, hR1, habs1, ho1⟩ := decode_total_src_reg t pre b (bs.flatten ++ post) fuel N hT hR
      (by omega) hpre hb8 (by rw [← e1]; exact hmem) hbf
    obtain ⟨t2, o2, h2, hT2, hR2, habs2, ho2⟩ := ih t1 (pre ++ b) post (N + b.length) hT1 hR1
      (by rw [List.length_append]; omega) (fun x hx => hb x (by simp [hx])) (by rw [← e2]; exact hmem)
      (by rw [hfl] at hN; omega)
    refine ⟨t2, o1 ++ o2, ?_, hT2, ?_, ?_, ?_⟩
    · rw [List.map_cons, srcDecodeSeq, e1, h1]
      dsimp only
      rw [← e1, e2]
      rw [List.length_append] at h2
      rw [h2]
    · rw [hfl, ← Nat.add_assoc]; exact hR2
    · rw [List.map_cons]
      show _ = (decodeAll tecmpDecode (decode t.abs (some b)).1 (bs.map some)).1
      rw [← habs1]; exact habs2
    · rw [List.map_cons, List.map_append, ho1, ho2, habs1]
      rfl

/-! ### 3d. translated encoder, then translated decoder: the sent packets come back -/

theorem PacketOk.enc {p : Packet} (h : PacketOk p) : p.Enc := by
  obtain ⟨pl, h⟩ := h
  refine ⟨by rw [h.hasPayload]; rfl, ?_⟩
  have := h.short
  simp only [Packet.data, h.hasPayload]
  omega

/-- size of every frame of an `encode` call: at least the 8 header bytes and `min`, at most `max` -/
theorem frame_sizes (e : Enc) (batch : List Packet) (c : Ctx) (hc : c.ok = true) :
    ∀ b ∈ (e.encode batch c).2.map (EFrame.bytes c.min), 8 ≤ b.length ∧ c.min ≤ b.length ∧ b.length ≤ c.max := by
  intro b hb
  obtain ⟨f, hf, rfl⟩ := List.mem_map.mp hb
  obtain ⟨hcap, h2, h3⟩ := Ctx.ok_cap hc
  have hu := ((encode_spec e batch c hcap).1 f hf).1.used
  rw [EFrame.bytes_length]
  omega

/-- the decoding half, for the frames of the encoder MODEL laid out in memory: EVERY configuration (no bound on `max`), the
    fuel of the translated loops covering one frame -/
theorem decode_frames_src (e : Enc) (t : Table) (batch : List Packet) (c : Ctx) (v fuel N : Nat) (pre post : Bytes)
    (hc : c.ok = true) (hne : batch ≠ [])
    (hok : ∀ p ∈ batch, PacketOk p) (hver : ∀ p ∈ batch, p.version = v)
    (hdev : e.dev < 65536) (hstream : e.stream < 256)
    (hT : TableOk t) (hR : TblReg N t) (hpre : 0 < pre.length) (hf : c.max ≤ fuel)
    (frames : List Bytes) (hfr : frames = (e.encode batch c).2.map (EFrame.bytes c.min))
    (hmem : (pre ++ frames.flatten ++ post).length < 2 ^ 63) (hN : N + frames.flatten.length + 65536 < 2 ^ 64) :
    ∃ t' outs, srcDecodeSeq fuel (SrcTec.tecmpExt fuel) (pre ++ frames.flatten ++ post) (tblSt t) pre.length
          (frames.map List.length) = some (tblSt t', outs) ∧
      TableOk t' ∧ TblReg (N + frames.flatten.length) t' ∧ t'.find (e.dev, e.stream) = none ∧
      P_C01 e.dev e.stream batch (outs.map (Sum.elim toPacket SrcTec.tAbs)) = true := by
  have hsz := frame_sizes e batch c hc
  rw [← hfr] at hsz
  obtain ⟨t', outs, h1, hT', hR', habs, houts⟩ := decodeSeq_src fuel frames t pre post N hT hR hpre
    (fun b hb => by have := hsz b hb; omega) hmem hN
  obtain ⟨r1, r2⟩ := C01_roundtrip_spec e t.abs batch c v hc hne hok hver hdev hstream
  rw [← hfr, ← houts] at r1
  rw [← hfr, ← habs, abs_apply] at r2
  refine ⟨t', outs, h1, hT', hR', ?_, r1⟩
  cases hfd : t'.find (e.dev, e.stream) with
  | none => rfl
  | some sp => rw [hfd] at r2; cases r2

/-- a non-empty batch of the domain gives at least one frame: its packets come back from the frames -/
theorem encode_frames_ne_nil (e : Enc) (batch : List Packet) (c : Ctx) (v : Nat) (hc : c.ok = true) (hne : batch ≠ [])
    (hok : ∀ p ∈ batch, PacketOk p) (hver : ∀ p ∈ batch, p.version = v) (hdev : e.dev < 65536) (hstream : e.stream < 256) :
    (e.encode batch c).2.map (EFrame.bytes c.min) ≠ [] := by
  intro hnil
  have r1 := (C01_roundtrip_spec e DecState.empty batch c v hc hne hok hver hdev hstream).1
  rw [hnil] at r1
  have := ((P_C01_iff _ _ _ _).mp r1).1
  simp only [List.map_nil, decodeAll, List.length_nil] at this
  exact hne (List.length_eq_zero_iff.mp this.symm)

/-- C01 END TO END ON THE TRANSLATED SOURCE, iterator-range overloads of `Encoder::encode` (range of `Packet`, range of
    `shared_ptr<Packet>`): for every encoder object (ids and counter within their C types), every non-empty batch of the property's
    domain with one version, every configuration `25 ≤ max`, `min ≤ max` with `max < 2^32` (the bound of the translated
    ENCODER's theorem `encodeRange_src_struct`; the decoder half needs none since `Decoder::decode` keeps the remaining size in
    a `std::size_t`), fuel for the encoder's loops (2^16) and for one frame (`max`), every decoder table satisfying the
    invariants (any history), the frames lying anywhere in an address space that holds them (non-null: `pre` non-empty):
    the translated encoder is defined and returns frames on which the translated decoder, called frame by frame, is defined and
    returns packets that are the sent ones (`P_C01`); nothing stays pending on the encoder's endpoint; the decoder's invariants
    hold again -/
theorem C01_src_roundtrip (e : Enc) (t : Table) (batch : List Packet) (c : Ctx) (v fuel N : Nat) (pre post : Bytes)
    (hc : c.ok = true) (hmax : c.max < 2 ^ 32) (hne : batch ≠ [])
    (hok : ∀ p ∈ batch, PacketOk p) (hver : ∀ p ∈ batch, p.version = v)
    (hdev : e.dev < 65536) (hstream : e.stream < 256) (hq : e.seqc < 65536)
    (hT : TableOk t) (hR : TblReg N t) (hpre : 0 < pre.length) (hf : 65536 ≤ fuel) (hfm : c.max ≤ fuel) :
    ∃ s' frames,
      Encoder_encode_range_obj fuel (ofLL e.toLL) (batch.map pktIn) c.min c.max = some (s', frames) ∧
      Encoder_encode_ptrRange_obj fuel (ofLL e.toLL) (batch.map pktIn) c.min c.max = some (s', frames) ∧
      frames ≠ [] ∧
      ((pre ++ frames.flatten ++ post).length < 2 ^ 63 → N + frames.flatten.length + 65536 < 2 ^ 64 →
        ∃ t' outs, srcDecodeSeq fuel (SrcTec.tecmpExt fuel) (pre ++ frames.flatten ++ post) (tblSt t) pre.length
              (frames.map List.length) = some (tblSt t', outs) ∧
          TableOk t' ∧ TblReg (N + frames.flatten.length) t' ∧ t'.find (e.dev, e.stream) = none ∧
          P_C01 e.dev e.stream batch (outs.map (Sum.elim toPacket SrcTec.tAbs)) = true) := by
  obtain ⟨s', h1, h2, _⟩ := encodeRange_src_struct e batch c fuel hc hmax (fun p hp => (hok p hp).enc) hq hf
  exact ⟨s', _, h1, h2, encode_frames_ne_nil e batch c v hc hne hok hver hdev hstream, fun hmem hN =>
    decode_frames_src e t batch c v fuel N pre post hc hne hok hver hdev hstream hT hR hpre hfm _ rfl hmem hN⟩

/-- the same through the single-packet overload `Encoder::encode(const Packet&, const DataContext&)` (batches of one packet) -/
theorem C01_src_roundtrip_single (e : Enc) (t : Table) (p : Packet) (c : Ctx) (fuel N : Nat) (pre post : Bytes)
    (hc : c.ok = true) (hmax : c.max < 2 ^ 32) (hok : PacketOk p)
    (hdev : e.dev < 65536) (hstream : e.stream < 256) (hq : e.seqc < 65536)
    (hT : TableOk t) (hR : TblReg N t) (hpre : 0 < pre.length) (hf : 65536 ≤ fuel) (hfm : c.max ≤ fuel) :
    ∃ s' frames,
      Encoder_encode_obj fuel (ofLL e.toLL) (pktIn p) c.min c.max = some (s', frames) ∧
      ((pre ++ frames.flatten ++ post).length < 2 ^ 63 → N + frames.flatten.length + 65536 < 2 ^ 64 →
        ∃ t' outs, srcDecodeSeq fuel (SrcTec.tecmpExt fuel) (pre ++ frames.flatten ++ post) (tblSt t) pre.length
              (frames.map List.length) = some (tblSt t', outs) ∧
          TableOk t' ∧ TblReg (N + frames.flatten.length) t' ∧ t'.find (e.dev, e.stream) = none ∧
          P_C01 e.dev e.stream [p] (outs.map (Sum.elim toPacket SrcTec.tAbs)) = true) := by
  obtain ⟨s', h1, _⟩ := encode1_src_struct e p c fuel hc hmax hok.enc hq hf
  have hok' : ∀ x ∈ [p], PacketOk x := by intro x hx; rw [List.mem_singleton] at hx; subst hx; exact hok
  have hver : ∀ x ∈ [p], x.version = p.version := by intro x hx; rw [List.mem_singleton] at hx; subst hx; rfl
  exact ⟨s', _, h1, fun hmem hN =>
    decode_frames_src e t [p] c p.version fuel N pre post hc (by simp) hok' hver hdev hstream hT hR hpre hfm _ rfl hmem hN⟩

/-- a fresh decoder, the frames alone in memory behind one byte: only the address-space bound remains -/
theorem C01_src_roundtrip_fresh (e : Enc) (batch : List Packet) (c : Ctx) (v fuel : Nat)
    (hc : c.ok = true) (hmax : c.max < 2 ^ 32) (hne : batch ≠ [])
    (hok : ∀ p ∈ batch, PacketOk p) (hver : ∀ p ∈ batch, p.version = v)
    (hdev : e.dev < 65536) (hstream : e.stream < 256) (hq : e.seqc < 65536) (hf : 65536 ≤ fuel) (hfm : c.max ≤ fuel) :
    ∃ s' frames,
      Encoder_encode_range_obj fuel (ofLL e.toLL) (batch.map pktIn) c.min c.max = some (s', frames) ∧
      (frames.flatten.length + 1 < 2 ^ 63 →
        ∃ t' outs, srcDecodeSeq fuel (SrcTec.tecmpExt fuel) ([0] ++ frames.flatten ++ []) Decoder_default 1
              (frames.map List.length) = some (tblSt t', outs) ∧
          P_C01 e.dev e.stream batch (outs.map (Sum.elim toPacket SrcTec.tAbs)) = true) := by
  obtain ⟨s', frames, h1, _, _, h4⟩ := C01_src_roundtrip e [] batch c v fuel 0 [0] [] hc hmax hne hok hver hdev hstream hq
    tableOk_empty (by intro x hx; cases hx) (by decide) hf hfm
  refine ⟨s', frames, h1, fun hm => ?_⟩
  obtain ⟨t', outs, k1, _, _, _, k5⟩ := h4 (by simp only [List.length_append, List.length_singleton, List.length_nil]; omega)
    (by omega)
  exact ⟨t', outs, k1, k5⟩

/-! ### 3e. … also above 2 GiB -/

/-- THE CONFIGURATIONS ABOVE 2 GiB: for EVERY non-empty batch of the domain, every encoder object and every
    `DataContext` with `2^31 + 8 ≤ min ≤ max < 2^32` (so `25 ≤ max`, `min ≤ max`: inside the property's "every frame-size
    configuration"; e.g. min = max = 2^31 + 8) — every frame is then 2^31 + 8 bytes or longer — the translated encoder is defined
    and returns at least one frame, and the translated decoder, from any table satisfying the invariants, is defined on every one
    of these frames and returns the sent packets.  A `Decoder::decode` that narrows the remaining size to `int` returns NO
    packet at all on these frames (DESIGN.md, repaired findings: `int curSize`); with `std::size_t` nothing distinguishes these
    configurations: the two halves of `C01_src_roundtrip` (`encodeRange_src_struct`, `decode_frames_src`) give it. -/
theorem C01_src_roundtrip_from_2GiB (e : Enc) (t : Table) (batch : List Packet) (c : Ctx) (v fuel N : Nat)
    (pre post : Bytes)
    (hmin : 2 ^ 31 + 8 ≤ c.min) (hmm : c.min ≤ c.max) (hmax : c.max < 2 ^ 32) (hne : batch ≠ [])
    (hok : ∀ p ∈ batch, PacketOk p) (hver : ∀ p ∈ batch, p.version = v)
    (hdev : e.dev < 65536) (hstream : e.stream < 256) (hq : e.seqc < 65536)
    (hT : TableOk t) (hR : TblReg N t) (hpre : 0 < pre.length) (hf : c.max ≤ fuel) :
    c.ok = true ∧
    ∃ s' frames,
      Encoder_encode_range_obj fuel (ofLL e.toLL) (batch.map pktIn) c.min c.max = some (s', frames) ∧
      frames ≠ [] ∧ (∀ b ∈ frames, 2 ^ 31 + 8 ≤ b.length) ∧
      ((pre ++ frames.flatten ++ post).length < 2 ^ 63 → N + frames.flatten.length + 65536 < 2 ^ 64 →
        ∃ t' outs, srcDecodeSeq fuel (SrcTec.tecmpExt fuel) (pre ++ frames.flatten ++ post) (tblSt t) pre.length
              (frames.map List.length) = some (tblSt t', outs) ∧
          TableOk t' ∧ TblReg (N + frames.flatten.length) t' ∧ t'.find (e.dev, e.stream) = none ∧
          P_C01 e.dev e.stream batch (outs.map (Sum.elim toPacket SrcTec.tAbs)) = true) := by
  have hc : c.ok = true := by
    unfold Ctx.ok
    simp only [Bool.and_eq_true, decide_eq_true_eq]
    omega
  refine ⟨hc, ?_⟩
  obtain ⟨s', h1, _⟩ := encodeRange_src_struct e batch c fuel hc hmax (fun p hp => (hok p hp).enc) hq (by omega)
  exact ⟨s', _, h1, encode_frames_ne_nil e batch c v hc hne hok hver hdev hstream,
    fun b hb => by have := frame_sizes e batch c hc b hb; omega,
    fun hmem hN => decode_frames_src e t batch c v fuel N pre post hc hne hok hver hdev hstream hT hR hpre hf _ rfl hmem hN⟩

/-! ### 3f. the record `pktIn p` the encoder theorems take IS what the translated `Packet` getters return -/

theorem PacketOk.fits {p : Packet} (h : PacketOk p) (hd : p.deviceId < 65536) (hs : p.streamId < 256)
    (hq : p.seq < 65536) (hg : p.segType < 256) : p.Fits := by
  obtain ⟨pl, h⟩ := h
  refine ⟨h.version.2, hd, hs, hq, h.ts, h.ifId, h.vendorId, h.flags.1, hg, ?_⟩
  intro pl' hpl'
  rw [h.hasPayload] at hpl'
  cases hpl'
  have := h.code16
  have := h.short
  exact ⟨by omega, by omega⟩

theorem pktIn_of_ok (p : Packet) (h : PacketOk p) (hd : p.deviceId < 65536) (hs : p.streamId < 256)
    (hq : p.seq < 65536) (hg : p.segType < 256) :
    Packet_getMessageType_pv (SrcPv.repr p) = some (SrcPv.repr p, (pktIn p).messageType) ∧
    Packet_getPayloadLength_pv (SrcPv.repr p) = some (SrcPv.repr p, (pktIn p).payloadLength) ∧
    (∃ q, Packet_getPayload_pv (SrcPv.repr p) = some (SrcPv.repr p, q) ∧ q.f_payloadData = (pktIn p).rawPayload) ∧
    Packet_getRawCmpHeader_pv (SrcPv.repr p) = some (SrcPv.repr p, (pktIn p).rawCmpHeader) ∧
    Packet_getRawMessageHeader_pv (SrcPv.repr p) = some (SrcPv.repr p, (pktIn p).rawMsgHeader) := by
  obtain ⟨pl, hpl⟩ := h
  exact SrcPv.pktIn_src p pl (PacketOk.fits ⟨pl, hpl⟩ hd hs hq hg) hpl.hasPayload

/-! ## 4. Instances -/

/-- the decoder model on the frames of the encoder model, computed through the two low-level models (which evaluate in the
    kernel: `Enc.encode` / `walk` recurse on a well-founded measure and do not) -/
theorem model_eval (e : Enc) (batch : List Packet) (c : Ctx) (hc : c.ok = true) (hb : ∀ p ∈ batch, p.Enc)
    (hq : e.seqc < 65536) :
    (decodeAll tecmpDecode DecState.empty (((e.encode batch c).2.map (EFrame.bytes c.min)).map some)).2 =
      (runLL [] ((e.toLL.encode batch c).2.map some)).2 ∧
    (e.encode batch c).2.map (EFrame.bytes c.min) = (e.toLL.encode batch c).2 := by
  have h1 := (C07b.encodeLL_refines e batch c hc hb hq).1
  rw [h1]
  exact ⟨(runLL_refines _).2.2.symm, rfl⟩

/-! ### (i) a capture-module status packet (message type 3, vendor id ≠ 0) cut into 39 one-byte segments at max = 25 -/

def exCmData : Bytes :=
  [0,0,0,0,0,0,0,1, 0,0,0,0,0,0,0,2, 0,0,0,0,0,0,0,3, 0,9,  0,2,0x41,0, 0,0, 0,0, 0,0, 0,1,0x7F]
def exCm : Packet :=
  { payload := some ⟨0x0301, exCmData⟩, version := 1, ts := 0x0102030405060708, vendorId := 0xBEEF, flags := 0x8D, ifId := 77,
    deviceId := 5, streamId := 6, seq := 9, segType := 2 }
/-- an encoder with history: counter about to wrap, last message type 1 -/
def exEnc : Enc := { dev := 0x1234, stream := 7, seqc := 65535, curMt := 1 }
def exCtx25 : Ctx := ⟨0, 25⟩

theorem exCm_ok : PacketOk exCm := (WF_iff_PacketOk exCm).mp (show exCm.wf = true by decide)

/-- the hypotheses of `C01_roundtrip_spec` / `C01_fields` hold of it … -/
example := C01_fields exEnc DecState.empty [exCm] exCtx25 1 (by decide) (by decide)
  (by intro p hp; rw [List.mem_singleton] at hp; subst hp; exact exCm_ok)
  (by intro p hp; rw [List.mem_singleton] at hp; subst hp; rfl) (by decide) (by decide)

/-- the 39 frames on the wire: frame `i` carries the encoder's ids, message type 3 and counter `i` (wrapped from 65535), and
    one message with the packet's header fields, segment type first / intermediary / last, and the `i`-th payload byte -/
def exCmFrames : List Bytes :=
  (List.range 39).map fun i =>
    frameHeader 1 0x1234 3 7 i ++ msgHeader exCm (if i = 0 then 4 else if i = 38 then 12 else 8) 1 ++ [exCmData.getD i 0]

theorem exCm_frames : (exEnc.toLL.encode [exCm] exCtx25).2 = exCmFrames := by decide +kernel

set_option maxRecDepth 100000 in
/-- … the encoder produces 39 frames of 25 bytes (16 + 1 payload byte each), counters 0, 1, … (wrapped) … -/
example : (exEnc.toLL.encode [exCm] exCtx25).2.map (fun b => (b.length, beAt b 6 2, byteAt b 20 &&& 0x0C)) =
    (((0, 4) :: ((List.range 37).map fun i => (i + 1, 8)) ++ [(38, 12)]).map fun (x : Nat × Nat) => (25, x.1, x.2)) := by
  rw [exCm_frames]; decide +kernel

set_option maxRecDepth 100000 in
/-- … and the decoder returns literally this packet: the sent payload, timestamp, vendor id, version; the ENCODER's ids (not the
    packet's 5 / 6); interface id 0; flags 0x8D without the sent segmentation bits, plus "last segment" set by the reassembly -/
example : (runLL [] ((exEnc.toLL.encode [exCm] exCtx25).2.map some)).2 =
    [{ payload := some ⟨0x0301, exCmData⟩, version := 1, deviceId := 0x1234, streamId := 7, seq := 0,
       ts := 0x0102030405060708, ifId := 0, vendorId := 0xBEEF, flags := 0x85, segType := 0 }] := by
  rw [exCm_frames]; decide +kernel

/-! ### (ii) a mixed batch CAN / LIN / capture-module status / Ethernet / generic vendor message, aggregated at max = 1500 -/

def exCanData : Bytes := [0,0, 0,0, 0,0,0,0x12, 0,0,0,0, 0,0, 0,2, 0xAA,0xBB]
def exCan : Packet := { payload := some ⟨0x0101, exCanData⟩, version := 1, ts := 1000, ifId := 3 }
def exLin : Packet := { payload := some ⟨0x0103, [0,0, 0,0, 0x2A, 0, 0x55, 1, 0xC3]⟩, version := 1, ts := 1001, ifId := 4, flags := 0x80 }
def exEth : Packet := { payload := some ⟨0x0108, [0,0, 0,0, 0,3, 1,2,3]⟩, version := 1, ts := 1003, ifId := 5 }
def exGeneric : Packet := { payload := some ⟨0xFF42, [9,8,7]⟩, version := 1, ts := 1004, vendorId := 0x0777 }
def exBatch : List Packet := [exCan, exLin, exCm, exEth, exGeneric]
def exCtx1500 : Ctx := ⟨64, 1500⟩

theorem exBatch_ok : ∀ p ∈ exBatch, PacketOk p := by
  intro p hp
  apply (WF_iff_PacketOk p).mp
  show p.wf = true
  revert p
  decide

example := C01_fields exEnc DecState.empty exBatch exCtx1500 1 (by decide) (by decide) exBatch_ok (by decide) (by decide) (by decide)

/-- the frames on the wire: message type 1, 3, 1, 0xFF (a change of type closes the frame), counters 0 … 3 (wrapped from 65535),
    CAN and LIN together in the first -/
def exBatchFrames : List EFrame :=
  [⟨1, 0x1234, 1, 7, 0, [⟨0, exCan, 0, exCan.data⟩, ⟨1, exLin, 0, exLin.data⟩]⟩,
   ⟨1, 0x1234, 3, 7, 1, [⟨2, exCm, 0, exCmData⟩]⟩,
   ⟨1, 0x1234, 1, 7, 2, [⟨3, exEth, 0, exEth.data⟩]⟩,
   ⟨1, 0x1234, 0xFF, 7, 3, [⟨4, exGeneric, 0, exGeneric.data⟩]⟩]

theorem exBatch_frames : (exEnc.toLL.encode exBatch exCtx1500).2 = exBatchFrames.map (EFrame.bytes 64) := by decide +kernel

/-- four frames (message type 1, 3, 1, 0xFF — a change of type closes the frame), the first holds CAN and LIN together; the
    short ones padded to min = 64 -/
example : (exEnc.toLL.encode exBatch exCtx1500).2.map (fun b => (b.length, byteAt b 4, beAt b 6 2)) =
    [(67, 1, 0), (64, 3, 1), (64, 1, 2), (64, 0xFF, 3)] := by
  rw [exBatch_frames]; decide +kernel

example : P_C01 0x1234 7 exBatch (runLL [] ((exEnc.toLL.encode exBatch exCtx1500).2.map some)).2 = true := by
  rw [exBatch_frames]; decide +kernel

example : (runLL [] ((exEnc.toLL.encode exBatch exCtx1500).2.map some)).2.map
      (fun p => ((p.mt, p.rawType, p.data.length, p.ts), (p.ifId, p.vendorId, p.flags), (p.deviceId, p.streamId))) =
    [((1, 1, 18, 1000), (3, 0, 0), (0x1234, 7)), ((1, 3, 9, 1001), (4, 0, 0x80), (0x1234, 7)),
     ((3, 1, 39, 0x0102030405060708), (0, 0xBEEF, 0x81), (0x1234, 7)), ((1, 8, 9, 1003), (5, 0, 0), (0x1234, 7)),
     ((0xFF, 0x42, 3, 1004), (0, 0x0777, 0), (0x1234, 7))] := by
  rw [exBatch_frames]; decide +kernel

/-! ### (iii) `P_C01` is not constant: one payload byte, the vendor id, the order, or a missing packet makes it false -/

example : P_C01 0x1234 7 [exCm]
    [{ payload := some ⟨0x0301, exCmData.set 38 0x7E⟩, version := 1, deviceId := 0x1234, streamId := 7,
       ts := 0x0102030405060708, vendorId := 0xBEEF, flags := 0x85 }] = false := by decide
example : P_C01 0x1234 7 [exCm]
    [{ payload := some ⟨0x0301, exCmData⟩, version := 1, deviceId := 0x1234, streamId := 7,
       ts := 0x0102030405060708, vendorId := 0xBEEE, flags := 0x85 }] = false := by decide
example : P_C01 0x1234 7 [exCan, exLin] ([exLin, exCan].map (obsSent 0x1234 7)) = false := by decide
example : P_C01 0x1234 7 [exCan, exLin] ([exCan].map (obsSent 0x1234 7)) = false := by decide
example : P_C01 0x1234 7 [exCan, exLin] ([exCan, exLin].map (obsSent 0x1234 7)) = true := by decide

/-! ### (iv) the boundary of "well-formed": error-flagged CAN / Ethernet messages do NOT survive the round trip -/

/-- `exCan` with the lowest error flag (CRC error) set in its flags word: still a complete CAN message (header, data length 2,
    two data bytes) -/
def exCanErr : Packet := { exCan with payload := some ⟨0x0101, [0,1, 0,0, 0,0,0,0x12, 0,0,0,0, 0,0, 0,2, 0xAA,0xBB]⟩ }
def exEthErr : Packet := { exEth with payload := some ⟨0x0108, [0,1, 0,0, 0,3, 1,2,3]⟩ }

/-- it is outside the domain only through the "no error flag" clause of the layout predicate … -/
theorem exCanErr_not_ok : ¬ PacketOk exCanErr ∧
    (16 ≤ exCanErr.data.length ∧ u16 exCanErr.data 12 = 0 ∧ 16 + u8 exCanErr.data 15 ≤ exCanErr.data.length) := by
  refine ⟨fun h => ?_, by decide⟩
  have : exCanErr.wf = true := (WF_iff_PacketOk _).mpr h
  revert this
  decide

/-- … the encoder sends it unchanged, and the decoder model (hence, by `decode_total_src`, the translated `Decoder::decode`)
    returns an INVALID payload: type 0, eighteen zero bytes.  If "well-formed CAN payload" in the property's text is read as
    "a complete CAN message", this is a violation of C01; the registered `C01_roundtrip` excludes the packet because `Packet.WF`
    asks the library's own validator. -/
theorem can_error_flag_lost :
    let decoded := (decodeAll tecmpDecode DecState.empty
      (((exEnc.encode [exCanErr] exCtx1500).2.map (EFrame.bytes exCtx1500.min)).map some)).2
    decoded.map (·.payload) = [some ⟨0, zeros 18⟩] ∧ P_C01 exEnc.dev exEnc.stream [exCanErr] decoded = false ∧
    -- the frame on the wire does carry the message, byte for byte
    ((exEnc.encode [exCanErr] exCtx1500).2.map (EFrame.bytes exCtx1500.min)).map (fun b => slice b 24 18) = [exCanErr.data] := by
  intro decoded
  obtain ⟨h1, h2⟩ := model_eval exEnc [exCanErr] exCtx1500 (by decide) (by
    intro p hp; rw [List.mem_singleton] at hp; subst hp; exact ⟨rfl, by decide⟩) (by decide)
  show (decodeAll tecmpDecode DecState.empty
      (((exEnc.encode [exCanErr] exCtx1500).2.map (EFrame.bytes exCtx1500.min)).map some)).2.map (·.payload) = _ ∧
    P_C01 _ _ _ (decodeAll tecmpDecode DecState.empty
      (((exEnc.encode [exCanErr] exCtx1500).2.map (EFrame.bytes exCtx1500.min)).map some)).2 = false ∧ _
  rw [h1, h2]
  decide +kernel

theorem eth_error_flag_lost :
    let decoded := (decodeAll tecmpDecode DecState.empty
      (((exEnc.encode [exEthErr] exCtx1500).2.map (EFrame.bytes exCtx1500.min)).map some)).2
    decoded.map (·.payload) = [some ⟨0, zeros 9⟩] ∧ P_C01 exEnc.dev exEnc.stream [exEthErr] decoded = false := by
  intro decoded
  obtain ⟨h1, _⟩ := model_eval exEnc [exEthErr] exCtx1500 (by decide) (by
    intro p hp; rw [List.mem_singleton] at hp; subst hp; exact ⟨rfl, by decide⟩) (by decide)
  show (decodeAll tecmpDecode DecState.empty
      (((exEnc.encode [exEthErr] exCtx1500).2.map (EFrame.bytes exCtx1500.min)).map some)).2.map (·.payload) = _ ∧
    P_C01 _ _ _ (decodeAll tecmpDecode DecState.empty
      (((exEnc.encode [exEthErr] exCtx1500).2.map (EFrame.bytes exCtx1500.min)).map some)).2 = false
  rw [h1]
  decide +kernel

/-! ### (v) the hypotheses of the source-level theorems are satisfiable -/

/-- the mixed batch through the translated range overloads and the translated decoder, fresh decoder -/
example := C01_src_roundtrip_fresh exEnc exBatch exCtx1500 1 65536 (by decide) (by decide) (by decide) exBatch_ok
  (by decide) (by decide) (by decide) (by decide) (Nat.le_refl _) (by decide)

/-- the segmented status packet through the single-packet overload, a decoder with a stale reassembly on the SAME endpoint -/
def exTable : Table := [((0x1234, 7), { payload := List.replicate 20 7, segType := 8, ver := 1, mt := 1, seq := 41 })]
theorem exTable_ok : TableOk exTable ∧ TblReg 20 exTable := by
  refine ⟨⟨by decide, ?_⟩, ?_⟩ <;> intro x hx <;> rw [exTable, List.mem_singleton] at hx <;> subst hx <;> decide

example := C01_src_roundtrip_single exEnc exTable exCm exCtx25 65536 20 [0xEE] [0xEE, 0xEE] (by decide) (by decide) exCm_ok
  (by decide) (by decide) (by decide) exTable_ok.1 exTable_ok.2 (by decide) (Nat.le_refl _) (by decide)

example := C01_src_roundtrip exEnc exTable exBatch exCtx1500 1 65536 20 [0xEE] [] (by decide) (by decide) (by decide)
  exBatch_ok (by decide) (by decide) (by decide) (by decide) exTable_ok.1 exTable_ok.2 (by decide) (Nat.le_refl _) (by decide)

/-- `decodeSeq_src` on two literal buffers: a TECMP message, then a CMP frame -/
example := decodeSeq_src 64 [SrcTec.exCanFd, SrcDec.exFrame] exTable [9] [5, 5] 20 exTable_ok.1 exTable_ok.2 (by decide)
  (by decide) (by decide) (by decide)

/-- the configuration min = max = 2^31 + 8 = 2147483656 bytes, for the mixed batch and the decoder with the
    stale reassembly: every hypothesis of `C01_src_roundtrip_from_2GiB` and of `C01_src_roundtrip` itself holds -/
example := C01_src_roundtrip_from_2GiB exEnc exTable exBatch ⟨2 ^ 31 + 8, 2 ^ 31 + 8⟩ 1 (2 ^ 31 + 8) 20 [0xEE] []
  (by decide) (by decide) (by decide) (by decide) exBatch_ok (by decide) (by decide) (by decide) (by decide)
  exTable_ok.1 exTable_ok.2 (by decide) (Nat.le_refl _)
example := C01_src_roundtrip exEnc exTable exBatch ⟨2 ^ 31 + 8, 2 ^ 31 + 8⟩ 1 (2 ^ 31 + 8) 20 [0xEE] [] (by decide) (by decide)
  (by decide) exBatch_ok (by decide) (by decide) (by decide) (by decide) exTable_ok.1 exTable_ok.2 (by decide) (by decide)
  (Nat.le_refl _)
/-- … the largest configuration the encoder theorems reach, max = 2^32 − 1 -/
example := C01_src_roundtrip_fresh exEnc exBatch ⟨0, 2 ^ 32 - 1⟩ 1 (2 ^ 32) (by decide) (by decide) (by decide) exBatch_ok
  (by decide) (by decide) (by decide) (by decide) (by decide) (by decide)
/-- … in agreement with the model-level theorem, which never had a bound -/
example := C01_roundtrip_spec exEnc DecState.empty exBatch ⟨2 ^ 31 + 8, 2 ^ 31 + 8⟩ 1 (by decide) (by decide) exBatch_ok
  (by decide) (by decide) (by decide)

/-! ### (vi) the TRANSLATIONS themselves, evaluated by the kernel on the instances (no theorem involved): translated encoder
  (range overload, single-packet overload) = the frames computed above; translated decoder on those frames = the sent packets -/

def exFrames : List Bytes := (exEnc.toLL.encode exBatch exCtx1500).2

set_option maxRecDepth 100000 in
example : ((srcDecodeSeq 64 (SrcTec.tecmpExt 64) ([0] ++ exFrames.flatten ++ []) Decoder_default 1 (exFrames.map List.length)).map
    fun r => P_C01 0x1234 7 exBatch (r.2.map (Sum.elim toPacket SrcTec.tAbs))) = some true := by
  rw [exFrames, exBatch_frames]; decide +kernel

set_option maxRecDepth 100000 in
example : ((Encoder_encode_range_obj 65536 (ofLL exEnc.toLL) (exBatch.map pktIn) 64 1500).map (·.2)) = some exFrames := by
  rw [exFrames, exBatch_frames]; decide +kernel

set_option maxRecDepth 100000 in
example : ((Encoder_encode_obj 65536 (ofLL exEnc.toLL) (pktIn exCm) 0 25).map (·.2)) = some (exEnc.toLL.encode [exCm] exCtx25).2 := by
  rw [exCm_frames]; decide +kernel
end AsamCmp.C01S
