/-
  Source-level C11 / C12, part B (CAN-FD coverage, LIN, Ethernet, analog): what is checked and what it means is said in SrcFieldsA.lean.
-/
import AsamCmp.GeneratedSrcFields
import AsamCmp.Lemmas.FieldCheckSound
import AsamCmp.Lemmas.BitProgFast
import AsamCmp.Props.SrcFieldsCov
namespace AsamCmp.SrcFields
open AsamCmp AsamCmp.Src.Bit AsamCmp.SrcGen

/-- accessors of protocol-table fields that are NOT covered at source level: none.  The three IEEE-754 fields of the analog
    header are covered as 32-bit patterns (the accessors only move the value: load / store, by-value passing, and the byte permutation
    through `char*` of `swapEndian(float)`, translated as operations on the local's bits; any arithmetic, comparison or conversion on
    a `float` is outside the fragment and would leave the field without an entry, i.e. break `analog_coverage`).  The sample-type
    field's accessors take / return the enumerator, which is the field value in wire byte order (`value << 8` on the host): entries
    with shift 8. -/
def exemptAnalog : List (String × String) := []

theorem canfd_coverage : coverageOk Layout.c_canfd entries_canfd [] = true := C11S.coverage_at 3 rfl

theorem lin_checks : classCheck Layout.c_lin entries_lin = true :=
  classCheck_of_fieldsCheckF (by decide +kernel)
theorem lin_src : ∀ e ∈ entries_lin, ∃ f, Layout.c_lin.find e.field = some f ∧ e.acc.Holds Layout.c_lin.size f :=
  classCheck_sound _ _ lin_checks
theorem lin_coverage : coverageOk Layout.c_lin entries_lin [] = true := C11S.coverage_at 4 rfl

theorem eth_checks : classCheck Layout.c_eth entries_eth = true :=
  classCheck_of_fieldsCheckF (by decide +kernel)
theorem eth_src : ∀ e ∈ entries_eth, ∃ f, Layout.c_eth.find e.field = some f ∧ e.acc.Holds Layout.c_eth.size f :=
  classCheck_sound _ _ eth_checks
theorem eth_coverage : coverageOk Layout.c_eth entries_eth [] = true := C11S.coverage_at 5 rfl

theorem analog_checks : classCheck Layout.c_analog entries_analog = true :=
  classCheck_of_fieldsCheckF (by decide +kernel)
theorem analog_src : ∀ e ∈ entries_analog, ∃ f, Layout.c_analog.find e.field = some f ∧ e.acc.Holds Layout.c_analog.size f :=
  classCheck_sound _ _ analog_checks
theorem analog_coverage : coverageOk Layout.c_analog entries_analog exemptAnalog = true := C11S.coverage_at 6 rfl

end AsamCmp.SrcFields
